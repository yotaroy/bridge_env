import BridgeVerif.Lemmas.RegexMsgClientA
import BridgeVerif.Generated.PyCoreNet
/-!
# The regular expressions with which the bundled client reads a hand ARE the scanners of `Model/Msg.lean`

`Client.parse_cards(content, name)` matches `{name}\'s cards : (.*)`, `Client.parse_hand(content)` matches
`S (.*)\. H (.*)\. D (.*)\. C (.*)\.\s?`, both through `MessageInterface.parse_match_base`
(`re.match(pattern, content, re.IGNORECASE)`).  The generic regular-expression engine of `Model/Regex.lean` (the one the
translated methods call), run with `ic = true` on the pattern texts the generated methods build, captures EXACTLY the
texts the scanner skeletons of `parseCards?` / `parseHand?` compute — for every subject all of whose characters are in a
stated class:

* `agreeCards` / `agreeHand` : the pattern's literal characters compare with the character the same way in the engine
  (`Re.charEq true`, the Unicode folding tables) and in the scanner (`eqCI`: ASCII lower-casing and the four specials).

The pattern letters being ASCII, EVERY character is in both classes (`Lemmas/RegexChars.lean`).  The trailing `\s?` of the second
pattern needs NO restriction: `re.match` does not anchor the end, so whether the optional blank (Unicode-aware in the
engine) is consumed or not changes only group 0, never the four groups — the scanner ignores it altogether.
-/
namespace Bridge.RegexMsgHand
open Bridge Bridge.Re Bridge.RegexPbn Bridge.RegexHands Bridge.RegexConnect Bridge.RegexMsgClient

/-! ## the pattern texts -/
/-- the constant part of the f-string `fr'{player_name}\'s cards : (.*)'` (the raw string keeps the backslash) -/
def CARDS_TAIL : List Char := ['\\', '\'', 's', ' ', 'c', 'a', 'r', 'd', 's', ' ', ':', ' ', '(', '.', '*', ')']
def cardsPattern (name : List Char) : List Char := name ++ CARDS_TAIL
def HANDMSG_PATTERN : List Char := "S (.*)\\. H (.*)\\. D (.*)\\. C (.*)\\.\\s?".toList

open Bridge.Generated.PyCore in
/-- they are literally what the generated methods assign to `pattern` before calling `parse_match_base` -/
theorem patterns_are_generated :
    m_Client_parse_cards.body.take 2 =
      [.assign (.var n_pattern) (.fstr [.var n_player_name, .const (.str CARDS_TAIL)]),
       .assign (.var n_match) (.static n_MessageInterface n_parse_match_base [.var n_pattern, .var n_content])] ∧
    m_Client_parse_hand.body.take 2 =
      [.assign (.var n_pattern) (.const (.str HANDMSG_PATTERN)),
       .assign (.var n_match) (.static n_MessageInterface n_parse_match_base [.var n_pattern, .var n_content])] ∧
    m_MessageInterface_parse_match_base.body.take 1 =
      [.assign (.var n_match) (.builtin .reMatch [.var n_pattern, .var n_content, .const (.bool true),
        .const (.cls n__Match), .const (.int n_texts)])] := by
  -- the characters of a string literal, without decoding it
  rw [show HANDMSG_PATTERN = _ from String.toList_ofList]
  exact ⟨rfl, rfl, rfl⟩

/-! ## `{name}\'s cards : (.*)` -/
/-- the five names the bundled client passes: a seat's formal name, or `Dummy` -/
def cardNames : List (List Char) := ["North".toList, "East".toList, "South".toList, "West".toList, "Dummy".toList]

theorem formal_mem_cardNames (p : Seat) : p.formal ∈ cardNames := by cases p <;> decide

def litCards : List Char := "'s cards : ".toList
def cardsRe (name : List Char) : Re := lits (name ++ litCards) (dotG 1)

theorem parse_cards : ∀ name ∈ cardNames, Re.parse (cardsPattern name) = some (cardsRe name) := by
  rw [cardNames, show "North".toList = _ from String.toList_ofList, show "East".toList = _ from String.toList_ofList,
    show "South".toList = _ from String.toList_ofList, show "West".toList = _ from String.toList_ofList,
    show "Dummy".toList = _ from String.toList_ofList]
  simp only [cardsRe, show litCards = _ from String.toList_ofList]
  decide +kernel
theorem cardsRe_ngroups (name : List Char) : (cardsRe name).ngroups = 1 := by rw [cardsRe, ngroups_lits]; rfl
theorem cardsRe_simple (name : List Char) : simple (cardsRe name) = true := by rw [cardsRe, simple_lits]; rfl

/-- the distinct literal characters of the five patterns -/
def cardsChars : List Char := "NortheEasSuWDmy'cd :".toList
theorem cardsLits_ascii : ∀ name ∈ cardNames, ∀ c ∈ name ++ litCards, c.toNat < 128 := by decide +kernel

def agreeCards (x : Char) : Bool := agreeLit cardsChars x
theorem agreeCards_all (x : Char) : agreeCards x = true := agreeLit_of_ascii cardsChars (by decide +kernel) x
theorem agreeCards_ascii (x : Char) (_ : x.toNat < 128) : agreeCards x = true := agreeCards_all x

/-- a last `(.*)` : the longest run without a line feed -/
theorem greedy_first {α : Type} (s : List Char) (k : List Char → List Char → Option α) (n : Nat) (r : α)
    (h : k (s.take n) (s.drop n) = some r) : greedy s k n = some r := by
  cases n with
  | zero => simpa [greedy] using h
  | succ n => simp only [greedy, h]

theorem dotStar_last (r : List Char) :
    (dotStar r fun g _ => (some ([] : List (List Char))).map fun gs => g :: gs) = some [r.takeWhile (· ≠ '\n')] := by
  unfold dotStar
  apply greedy_first
  rw [take_length_takeWhile]
  rfl

/-- group 1 as `parseCards?` computes it -/
def cardsFields? (name s : List Char) : Option (List (List Char)) := (parseCards? s name).map fun g => [g]

theorem pyMatch_abs_ic (ic : Bool) (pat s : List Char) (re : Re) (hp : Re.parse pat = some re) (hs : simple re = true) :
    (Re.pyMatch ic pat s).map (Option.map (groupTexts s)) =
      absRes s (den ic re (kfin 0 false false) ⟨0, s, List.replicate re.ngroups none⟩) :=
  RegexHands.pyMatch_abs_ic ic pat s re hp hs

theorem den_seq_fun (ic : Bool) (a b : Re) (k : St → Re.Res St) : den ic (.seq a b) k = den ic a (den ic b k) :=
  RegexConnect.den_seq_fun ic a b k

theorem den_lits_fun (ic : Bool) (R : Re) (k : St → Re.Res St) (p : List Char) :
    den ic (lits p R) k = denLits ic p (den ic R k) :=
  RegexConnect.den_lits_fun ic R k p

/-- THE REGULAR EXPRESSION IS THE SCANNER: for each of the five names and every subject whose characters are in the class
`agreeCards`, `re.match(f"{name}\'s cards : (.*)", s, re.IGNORECASE)` matches iff `parseCards? s name` is defined, and
group 1 is that text -/
theorem match_cards (name : List Char) (hn : name ∈ cardNames) (s : List Char) (_ : ∀ x ∈ s, agreeCards x = true) :
    (Re.pyMatch true (cardsPattern name) s).map (Option.map (groupTexts s)) =
      some ((cardsFields? name s).map (·.map some)) := by
  rw [pyMatch_abs_ic true _ s _ (parse_cards name hn) (cardsRe_simple name), cardsRe_ngroups name]
  have r1 := rel_dotStar true s 1 0 (by omega) _ _ (RegexConnect.rel_end s 1)
  have rA := rel_lits_ascii s 1 0 _ _ r1 (name ++ litCards) (cardsLits_ascii name hn)
  have := rA 0 s (List.replicate 1 none) rfl rfl
  simp only [List.take_zero, List.nil_append] at this
  unfold cardsRe
  rw [den_lits_fun, this]
  unfold cardsFields? parseCards?
  have e : "'s cards : ".toList = litCards := rfl
  rw [e]
  cases stripPrefixCI (name ++ litCards) s with
  | none => rfl
  | some r => simp only [Option.bind_some, dotStar_last]; rfl

theorem match_cards_ascii (name : List Char) (hn : name ∈ cardNames) (s : List Char) (hs : ∀ x ∈ s, x.toNat < 128) :
    (Re.pyMatch true (cardsPattern name) s).map (Option.map (groupTexts s)) =
      some ((cardsFields? name s).map (·.map some)) :=
  match_cards name hn s fun x hx => agreeCards_ascii x (hs x hx)

end Bridge.RegexMsgHand
