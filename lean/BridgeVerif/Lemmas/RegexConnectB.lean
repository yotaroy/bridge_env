import BridgeVerif.Lemmas.RegexConnect
/-!
# The class `agree` of `Lemmas/RegexConnect.lean`, for ALL code points

On the pattern's literal characters the engine's comparison (`Re.charEq true`: the Unicode lower-casing and folding
tables of `Model/Regex.lean`) and the scanner's (`eqCI`: ASCII lower-casing plus ſ, K, İ, ı) agree against EVERY character
(`agreeLit_all`, from `Lemmas/RegexChars.lean`).  So the class is exactly "`\d` and the ASCII digit test agree on the
character": the only characters outside it are the non-ASCII Unicode decimal digits.  `match_connect_nodigit` restates the main
theorem with that hypothesis.
-/
namespace Bridge.RegexConnect
open Bridge Bridge.Re

theorem char_eq_of_toNat (x : Char) (n : Nat) (hn : (Char.ofNat n).toNat = n) (h : x.toNat = n) : x = Char.ofNat n :=
  Char.toNat_inj.mp (h.trans hn.symm)

/-- engine and scanner compare the pattern's literal characters alike with EVERY character -/
theorem agreeLit_all (x : Char) : agreeLit patChars x = true := agreeLit_of_ascii patChars patChars_ascii x

/-- a character that is no Unicode decimal digit is in the class -/
theorem agree_of_not_digit (x : Char) (h : Re.isDigit x = false) : agree x = true := by
  by_cases hx : x.toNat < 128
  · exact agree_ascii x hx
  · simp only [agree, agreeLit_all, h, isDigit_big x (by omega), beq_self_eq_true, Bool.and_self]

/-- THE REGULAR EXPRESSION IS THE SCANNER on every subject without a non-ASCII decimal digit -/
theorem match_connect_nodigit (s : List Char) (hs : ∀ x ∈ s, x.toNat < 128 ∨ Re.isDigit x = false) :
    (Re.pyMatch true CONNECT_PATTERN s).map (Option.map (RegexHands.groupTexts s)) =
      some ((connectFields? s).map (·.map some)) :=
  match_connect s fun x hx => by
    rcases hs x hx with h | h
    · exact agree_ascii x h
    · exact agree_of_not_digit x h

end Bridge.RegexConnect
