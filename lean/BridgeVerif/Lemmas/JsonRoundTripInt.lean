import BridgeVerif.Spec.JsonLog
import BridgeVerif.Lemmas.ListLemmas
/-!
# Numbers: `scanInt` undoes `intRepr`  (part of `JsonRoundTrip`)
-/
namespace Bridge

/-- the digit character of `k < 10` -/
def digitChar (k : Nat) : Char := Char.ofNat ('0'.toNat + k)

def isDig (c : Char) : Bool := decide ('0' ≤ c ∧ c ≤ '9')

theorem digitChar_facts_fin : ∀ k : Fin 10,
    isDig (digitChar k.val) = true ∧ (digitChar k.val).toNat - '0'.toNat = k.val ∧
    (digitChar k.val = '0' → k.val = 0) := by decide

theorem isDig_digitChar (k : Nat) (h : k < 10) : isDig (digitChar k) = true := (digitChar_facts_fin ⟨k, h⟩).1
theorem digitChar_val (k : Nat) (h : k < 10) : (digitChar k).toNat - '0'.toNat = k := (digitChar_facts_fin ⟨k, h⟩).2.1
theorem digitChar_zero (k : Nat) (h : k < 10) : digitChar k = '0' → k = 0 := (digitChar_facts_fin ⟨k, h⟩).2.2

@[reducible] def digVal : Nat → Char → Nat := fun n c => n * 10 + (c.toNat - '0'.toNat)

theorem natDigits_succ (fuel n : Nat) (acc : List Char) :
    natDigits (fuel + 1) n acc =
      if n < 10 then digitChar (n % 10) :: acc else natDigits fuel (n / 10) (digitChar (n % 10) :: acc) := rfl

theorem foldl_natDigits (fuel : Nat) : ∀ (n : Nat) (acc : List Char), n < fuel →
    (natDigits fuel n acc).foldl digVal 0 = acc.foldl digVal n := by
  induction fuel with
  | zero => intro n acc h; omega
  | succ fuel ih =>
    intro n acc h
    rw [natDigits_succ]
    split
    · next h10 =>
      simp only [List.foldl_cons, digVal, digitChar_val _ (Nat.mod_lt n (by decide))]
      congr 1; omega
    · next h10 =>
      rw [ih _ _ (by omega)]
      simp only [List.foldl_cons, digVal, digitChar_val _ (Nat.mod_lt n (by decide))]
      congr 1; omega

theorem natDigits_shape (fuel : Nat) : ∀ (n : Nat) (acc : List Char), n < fuel →
    ∃ d ds, natDigits fuel n acc = d :: (ds ++ acc) ∧ isDig d = true ∧ (∀ c ∈ ds, isDig c = true) ∧
      (d = '0' → n = 0 ∧ ds = []) := by
  induction fuel with
  | zero => intro n acc h; omega
  | succ fuel ih =>
    intro n acc h
    rw [natDigits_succ]
    split
    · next h10 =>
      refine ⟨digitChar (n % 10), [], rfl, isDig_digitChar _ (Nat.mod_lt n (by decide)), by simp, ?_⟩
      intro h0
      have := digitChar_zero _ (Nat.mod_lt n (by decide)) h0
      exact ⟨by omega, rfl⟩
    · next h10 =>
      obtain ⟨d, ds, he, hd, hds, h0⟩ := ih (n / 10) (digitChar (n % 10) :: acc) (by omega)
      refine ⟨d, ds ++ [digitChar (n % 10)], by simp [he], hd, ?_, ?_⟩
      · intro c hc
        rcases List.mem_append.1 hc with hc | hc
        · exact hds c hc
        · simp at hc; subst hc; exact isDig_digitChar _ (Nat.mod_lt n (by decide))
      · intro hz
        have := (h0 hz).1
        omega

/-- what may follow a number: not a digit, not a fraction or an exponent -/
def numEnd : List Char → Bool
  | [] => true
  | c :: _ => !isDig c && c != '.' && c != 'e' && c != 'E'

theorem takeWhile_isDig (ds rest : List Char) (hds : ∀ c ∈ ds, isDig c = true) (hr : numEnd rest = true) :
    (ds ++ rest).takeWhile isDig = ds := by
  refine takeWhile_append_of_head hds rest fun c hc => ?_
  cases rest with
  | nil => cases hc
  | cons c' r =>
    cases hc
    simp only [numEnd, Bool.and_eq_true, Bool.not_eq_true'] at hr
    exact hr.1.1.1

theorem isDig_facts (d : Char) (h : isDig d = true) :
    d ≠ '-' ∧ d ≠ '"' ∧ d ≠ '{' ∧ d ≠ '[' ∧ d ≠ 'n' ∧ d ≠ 't' ∧ d ≠ 'f' ∧ d ≠ '.' ∧ d ≠ 'e' ∧ d ≠ 'E' := by
  refine ⟨?_, ?_, ?_, ?_, ?_, ?_, ?_, ?_, ?_, ?_⟩ <;> (rintro rfl; exact absurd h (by decide))

theorem scanInt_digits (neg : Bool) (d : Char) (ds rest : List Char) (hd : isDig d = true)
    (hds : ∀ c ∈ ds, isDig c = true) (h0 : d = '0' → ds = []) (hr : numEnd rest = true) :
    scanInt ((if neg then ['-'] else []) ++ d :: (ds ++ rest)) =
      some (if neg then -(((d :: ds).foldl digVal 0 : Nat) : Int) else ((d :: ds).foldl digVal 0 : Nat), rest) := by
  have hne := (isDig_facts d hd).1
  have htw : (d :: (ds ++ rest)).takeWhile (fun c => decide ('0' ≤ c ∧ c ≤ '9')) = d :: ds :=
    takeWhile_isDig (d :: ds) rest (by intro c hc; simp at hc; rcases hc with rfl | hc; exact hd; exact hds c hc) hr
  unfold scanInt
  split
  next ng s1 heq =>
  obtain ⟨rfl, rfl⟩ : neg = ng ∧ d :: (ds ++ rest) = s1 := by
    cases neg
    · split at heq
      · next r hx => simp at hx; exact absurd hx.1 hne
      · simpa using heq
    · split at heq
      · next r hx => simp at hx; subst hx; simpa using heq
      · next hx => exact absurd rfl (hx _)
  simp only [htw]
  have hdrop : List.drop (d :: ds).length (d :: (ds ++ rest)) = rest := by simp
  have hrest' : (if d = '0' then ds ++ rest else rest) = rest := by
    split
    · next h => simp [h0 h]
    · rfl
  have hds' : (if d = '0' then ['0'] else d :: ds) = d :: ds := by
    split
    · next h => simp [h0 h, h]
    · rfl
  rw [hdrop, hrest', hds']
  cases rest with
  | nil => rfl
  | cons c r =>
    simp [numEnd] at hr
    split
    · next hx => simp at hx; exact absurd hx.1 (by simp [hr])
    · next hx => simp at hx; exact absurd hx.1 (by simp [hr])
    · next hx => simp at hx; exact absurd hx.1 (by simp [hr])
    · rfl

theorem scanInt_intRepr (i : Int) (rest : List Char) (hr : numEnd rest = true) :
    scanInt (intRepr i ++ rest) = some (i, rest) := by
  cases i with
  | ofNat n =>
    obtain ⟨d, ds, he, hd, hds, h0⟩ := natDigits_shape (n + 1) n [] (by omega)
    have hf := foldl_natDigits (n + 1) n [] (by omega)
    simp only [intRepr, natRepr]
    rw [he] at hf ⊢
    simp only [List.append_nil, List.cons_append] at hf ⊢
    exact (scanInt_digits false d ds rest hd hds (fun h => (h0 h).2) hr).trans (by rw [hf]; rfl)
  | negSucc n =>
    obtain ⟨d, ds, he, hd, hds, h0⟩ := natDigits_shape (n + 1 + 1) (n + 1) [] (by omega)
    have hf := foldl_natDigits (n + 1 + 1) (n + 1) [] (by omega)
    simp only [intRepr, natRepr]
    rw [he] at hf ⊢
    simp only [List.append_nil, List.cons_append] at hf ⊢
    exact (scanInt_digits true d ds rest hd hds (fun h => (h0 h).2) hr).trans (by rw [hf]; rfl)

/-- the first character of a number -/
theorem intRepr_head (i : Int) : ∃ c t, intRepr i = c :: t ∧ (c = '-' ∨ isDig c = true) := by
  cases i with
  | ofNat n =>
    obtain ⟨d, ds, he, hd, _, _⟩ := natDigits_shape (n + 1) n [] (by omega)
    exact ⟨d, ds ++ [], by simp only [intRepr, natRepr, he], .inr hd⟩
  | negSucc n => exact ⟨'-', _, rfl, .inl rfl⟩

end Bridge
