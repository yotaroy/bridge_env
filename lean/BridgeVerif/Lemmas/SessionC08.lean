import BridgeVerif.Lemmas.SessionSpec
/-! Helper lemmas for C08: the log of a session and the record of a board against the rules. -/
namespace Bridge

/-! ## only main writes to the log -/
section
variable {Msg Out : Type}

theorem emitsOf_phaseProg_seat (ph : Phase Msg Out) (p : Seat) : emitsOf (phaseProg ph (.seat p)) = [] := by
  cases ph <;>
    simp only [phaseProg, sync, emitsOf_append, emitsOf, apply_ite emitsOf, List.append_nil, ite_self]

theorem emitsOf_phaseProg_client (ph : Phase Msg Out) (p : Seat) : emitsOf (phaseProg ph (.client p)) = [] := by
  cases ph <;>
    simp only [phaseProg, emitsOf_append, emitsOf, apply_ite emitsOf, List.append_nil, ite_self]

theorem emitsOf_progOfPhases_not_main (phs : List (Phase Msg Out)) (t : Tid) (ht : t ≠ .main) :
    emitsOf (progOfPhases phs t) = [] := by
  rw [emitsOf_progOfPhases]
  cases t with
  | main => exact absurd rfl ht
  | seat p => simp [emitsOf_phaseProg_seat]
  | client p => simp [emitsOf_phaseProg_client]
end

theorem session_emits_not_main (sc : Scenario) (t : Tid) (ht : t ≠ .main) :
    emitsOf (sessionProg sc t) = [] :=
  emitsOf_progOfPhases_not_main (sessionPhases sc) t ht

/-! ## the auction: conforming calls are all accepted, and the contract is the Laws' -/

theorem legal_of_append (d : Seat) : ∀ (l h : List Call), Legal d (l ++ h) → Legal d h := by
  intro l
  induction l with
  | nil => intro h hl; exact hl
  | cons c l ih =>
    intro h hl
    cases hl with
    | cons hl' _ _ => exact ih h hl'

theorem accepted_of_legal (d : Seat) : ∀ (cs h : List Call), Legal d (cs.reverse ++ h) →
    accepted d h cs = cs.reverse ++ h := by
  intro cs
  induction cs with
  | nil => intro h _; rfl
  | cons c cs ih =>
    intro h hl
    have e : (c :: cs).reverse ++ h = cs.reverse ++ (c :: h) := by simp
    rw [e] at hl ⊢
    have hl1 := legal_of_append d cs.reverse (c :: h) hl
    cases hl1 with
    | cons _ hov hleg =>
      simp only [accepted, hov, hleg, and_self, if_true]
      exact ih (c :: h) hl

/-- a replica that follows a legal auction accepts the next call, made by the seat on turn -/
theorem ainv_next {d : Seat} {v : Vul} {s : AState} {h l : List Call} {c : Call} (hi : AInv d v s h)
    (hleg : Legal d (l ++ c :: h)) :
    s.active = some (d.rot h.length) ∧
      ∃ s', takeBid s c = .ok (s', if over (c :: h) then .finished else .ongoing) ∧ AInv d v s' (c :: h) := by
  cases legal_of_append d l _ hleg with
  | cons _ hov hc => exact ⟨by simp [hi.act, hov], (take_bid_refines d v s h hi c).2.2 hov hc⟩

theorem conformingAuction_legal {b : BoardSetting} {d : Decisions} (hc : ConformingAuction b d) :
    Legal b.dealer (d.calls.map (·.1)).reverse ∧ over (d.calls.map (·.1)).reverse = true ∧
      d.calls.length ≤ 319 := by
  have hleg := (legal_iff_legalLaw _ _).2 hc.1
  exact ⟨hleg, over_of_ended_law _ hc.2, by simpa using legal_length_le_319 _ _ hleg⟩

theorem contractOfCalls_conforming (b : BoardSetting) (d : Decisions) (hc : ConformingAuction b d) :
    contractOfCalls b (d.calls.map (·.1)) =
      some (specContract b.dealer b.vul (d.calls.map (·.1)).reverse) := by
  obtain ⟨hl, he⟩ := hc
  have hleg := (legal_iff_legalLaw _ _).2 hl
  have hr := reach_run b.dealer b.vul (d.calls.map (·.1))
  rw [accepted_of_legal b.dealer _ [] (by simpa using hleg), List.append_nil] at hr
  exact C03.contract_is_spec _ _ _ _ hr he

theorem boardContract_conforming (b : BoardSetting) (d : Decisions) (hc : ConformingAuction b d) :
    boardContract b d = specContract b.dealer b.vul (d.calls.map (·.1)).reverse := by
  simp [boardContract, contractOfCalls_conforming b d hc]

theorem specContract_vul (d : Seat) (v : Vul) (h : List Call) : (specContract d v h).vul = v := by
  unfold specContract; split <;> rfl

/-- the Laws' contract either is passed out (no bid, no declarer) or has a bid and a declarer -/
theorem specContract_shape (d : Seat) (v : Vul) (h : List Call) :
    ((specContract d v h).finalBid = none ∧ (specContract d v h).declarer = none) ∨
    (∃ i decl, (specContract d v h).finalBid = some i ∧ (specContract d v h).declarer = some decl) := by
  cases hq : lastBid? h with
  | none => left; simp [specContract, hq]
  | some q =>
    obtain ⟨k, j⟩ := q
    obtain ⟨p, hp, _⟩ := C03.declarer_is_first_namer d v h k j hq
    right
    exact ⟨j, p, by simp [specContract, hq], hp⟩

/-! ## the record, case by case -/

theorem recordOf_eq (sc : Scenario) (b : BoardSetting) (d : Decisions) :
    recordOf sc b d =
      match (boardContract b d).finalBid, (boardContract b d).declarer with
      | some _, some decl =>
        let w := playAll (boardContract b d) b.deal (d.cards.map (·.1))
        let tricks : Nat := match w with
          | some w => (match decl.side with | .NS => w.base.takenNS | .EW => w.base.takenEW)
          | none => 0
        let score : Int := (calcScore (boardContract b d) tricks).getD 0
        let hist : List Trick := match w with | some w => w.base.history.reverse | none => []
        { boardId := b.boardId, nsName := sc.nsName, ewName := sc.ewName, dealer := b.dealer, deal := b.deal,
          vul := (boardContract b d).vul, calls := d.calls.map (·.1), contract := boardContract b d,
          play := some hist, tricks := some tricks,
          scoreNS := if decl.side = .NS then score else -score,
          scoreEW := if decl.side = .EW then score else -score, dda := b.dda }
      | _, _ =>
        { boardId := b.boardId, nsName := sc.nsName, ewName := sc.ewName, dealer := b.dealer, deal := b.deal,
          vul := (boardContract b d).vul, calls := d.calls.map (·.1), contract := boardContract b d,
          play := none, tricks := none, scoreNS := 0, scoreEW := 0, dda := b.dda } := rfl

theorem recordOf_passed (sc : Scenario) (b : BoardSetting) (d : Decisions)
    (h : (boardContract b d).finalBid = none ∨ (boardContract b d).declarer = none) :
    recordOf sc b d =
      { boardId := b.boardId, nsName := sc.nsName, ewName := sc.ewName, dealer := b.dealer, deal := b.deal,
        vul := (boardContract b d).vul, calls := d.calls.map (·.1), contract := boardContract b d,
        play := none, tricks := none, scoreNS := 0, scoreEW := 0, dda := b.dda } := by
  rw [recordOf_eq]
  split
  · next hf hd => rcases h with h | h <;> simp_all
  · rfl

theorem recordOf_played (sc : Scenario) (b : BoardSetting) (d : Decisions) (i : Fin 35) (decl : Seat)
    (hf : (boardContract b d).finalBid = some i) (hd : (boardContract b d).declarer = some decl) :
    recordOf sc b d =
      (let w := playAll (boardContract b d) b.deal (d.cards.map (·.1))
       let tricks : Nat := match w with
         | some w => (match decl.side with | .NS => w.base.takenNS | .EW => w.base.takenEW)
         | none => 0
       let score : Int := (calcScore (boardContract b d) tricks).getD 0
       let hist : List Trick := match w with | some w => w.base.history.reverse | none => []
       { boardId := b.boardId, nsName := sc.nsName, ewName := sc.ewName, dealer := b.dealer, deal := b.deal,
         vul := (boardContract b d).vul, calls := d.calls.map (·.1), contract := boardContract b d,
         play := some hist, tricks := some tricks,
         scoreNS := if decl.side = .NS then score else -score,
         scoreEW := if decl.side = .EW then score else -score, dda := b.dda }) := by
  rw [recordOf_eq, hf, hd]

/-! ## the play: when every card is accepted, the full-information model follows `playCard` -/

theorem playsAccepted_spec (cards : List Card) : ∀ (w0 w : WithHands), playsAccepted w0 cards = some w →
    cards.foldl (fun w cd => match w.play cd w.base.active with | .ok w' => w' | .error _ => w) w0 = w ∧
    w.base = runPlay w0.base cards := by
  induction cards with
  | nil =>
    intro w0 w h
    simp [playsAccepted] at h
    subst h
    exact ⟨rfl, rfl⟩
  | cons c cs ih =>
    intro w0 w h
    unfold playsAccepted at h
    rw [List.foldlM_cons] at h
    cases hp : w0.play c w0.base.active with
    | error e => rw [hp] at h; simp at h
    | ok w1 =>
      rw [hp] at h
      obtain ⟨h1, h2⟩ := ih w1 w (by simpa [playsAccepted] using h)
      refine ⟨?_, ?_⟩
      · simp only [List.foldl_cons, hp]; exact h1
      · rw [h2, play_base _ _ _ _ hp]; rfl

theorem conformingPlay_some {b : BoardSetting} {d : Decisions} (hp : ConformingPlay b d) {w0 : WithHands}
    (hw : WithHands.init (boardContract b d) b.deal = some w0) :
    d.cards.length = 52 ∧ (playsAccepted w0 (d.cards.map (·.1))).isSome = true := by
  unfold ConformingPlay at hp
  rwa [hw] at hp

theorem withHands_init_of_init {c : Contract} {s0 : PState} (h0 : PState.init c = some s0) (deal : Hands) :
    WithHands.init c deal = some ⟨s0, deal⟩ := by
  simp [WithHands.init, h0]

/-- with conforming play the model of the full-information game ends in the state reached by `playCard` alone -/
theorem playAll_conforming (b : BoardSetting) (d : Decisions) (hp : ConformingPlay b d) (s0 : PState)
    (h0 : PState.init (boardContract b d) = some s0) :
    d.cards.length = 52 ∧
    ∃ w, playAll (boardContract b d) b.deal (d.cards.map (·.1)) = some w ∧
      w.base = runPlay s0 (d.cards.map (·.1)) := by
  have hw0 := withHands_init_of_init h0 b.deal
  obtain ⟨h52, hacc⟩ := conformingPlay_some hp hw0
  obtain ⟨w, hw⟩ := Option.isSome_iff_exists.1 hacc
  obtain ⟨h1, h2⟩ := playsAccepted_spec _ _ _ hw
  refine ⟨h52, w, ?_, h2⟩
  simp only [playAll, hw0, Option.map_some]
  exact congrArg some h1

/-- `calc_score` of any contract with a bid and a declarer is the duplicate score for declarer's side -/
theorem calcScore_law (c : Contract) (i : Fin 35) (decl : Seat) (hf : c.finalBid = some i)
    (hd : c.declarer = some decl) (t : Nat) (ht : t ≤ 13) :
    calcScore c t = some (dupScore (bidLevel i) (bidDenom i) c.dbl (sideVulnerable c.vul decl) t) := by
  obtain ⟨fb, x, xx, v, dc⟩ := c
  simp only at hf hd
  subst hf hd
  exact C07.calc_score_is_law i x xx v decl t ht

/-- play, trick count and score of the record of a played board with conforming decisions -/
theorem record_rules (sc : Scenario) (b : BoardSetting) (d : Decisions)
    (hc : ConformingAuction b d) (hp : ConformingPlay b d) (decl : Seat) (i : Fin 35)
    (hd : (boardContract b d).declarer = some decl) (hf : (boardContract b d).finalBid = some i) :
    (recordOf sc b d).play = some (tricksOf (bidDenom i) decl.left (d.cards.map (·.1))).1 ∧
    (recordOf sc b d).tricks = some (wonBy (bidDenom i) decl.left decl.side (d.cards.map (·.1))) ∧
    (if decl.side = .NS then (recordOf sc b d).scoreNS else (recordOf sc b d).scoreEW) =
      dupScore (bidLevel i) (bidDenom i) (boardContract b d).dbl (sideVulnerable b.vul decl)
        (wonBy (bidDenom i) decl.left decl.side (d.cards.map (·.1))) := by
  obtain ⟨s0, hs0, hldr, _, _, _, htr, _⟩ := C04.opening_lead_and_dummy (boardContract b d) i decl hf hd
  obtain ⟨h52, w, hw, hwb⟩ := playAll_conforming b d hp s0 hs0
  obtain ⟨t1, t2, t3, _, t5⟩ := C04.history_is_tricksOf _ s0 hs0 (d.cards.map (·.1))
  simp only [← hwb, hldr, htr] at t1 t2 t3 t5
  have hv : (boardContract b d).vul = b.vul := by
    rw [boardContract_conforming b d hc, specContract_vul]
  have hT : (match decl.side with | .NS => w.base.takenNS | .EW => w.base.takenEW) =
      wonBy (bidDenom i) decl.left decl.side (d.cards.map (·.1)) := by
    cases decl.side
    · exact t2
    · exact t3
  have h13 : wonBy (bidDenom i) decl.left decl.side (d.cards.map (·.1)) ≤ 13 := by
    rw [← hT]
    have : (d.cards.map (·.1)).length = 52 := by simpa using h52
    rw [this] at t5
    cases decl.side <;> simp only <;> omega
  have hsc := calcScore_law (boardContract b d) i decl hf hd _ h13
  rw [hv] at hsc
  rw [recordOf_played sc b d i decl hf hd]
  simp only [hw, hT, hsc, Option.getD_some]
  refine ⟨?_, trivial, ?_⟩
  · rw [t1]
  · cases decl.side <;> simp

end Bridge
