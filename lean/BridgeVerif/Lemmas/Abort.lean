import BridgeVerif.Model.Abort
import BridgeVerif.Props.C12
import BridgeVerif.Props.C08
import BridgeVerif.Props.C09
import BridgeVerif.Lemmas.Deal
/-! Helper lemmas for C13: what main has emitted when a session is abandoned, the text in the log file, and the
well-formedness of the records of a session. -/
namespace Bridge

/-! ## what main has emitted when the session is abandoned -/

theorem any_isOpenAct_emits (pre : List (SAct Text LogOp)) (h : pre.any isOpenAct = true) :
    emitsOf pre ≠ [] := by
  induction pre with
  | nil => simp at h
  | cons a pre ih =>
    cases a with
    | emit o => simp [emitsOf]
    | _ => simp only [List.any_cons, isOpenAct, Bool.false_or] at h; simpa [emitsOf] using ih h

theorem any_isCloseAct_iff (pre : List (SAct Text LogOp)) :
    pre.any isCloseAct = true ↔ LogOp.close ∈ emitsOf pre := by
  induction pre with
  | nil => simp [emitsOf]
  | cons a pre ih =>
    cases a with
    | emit o => cases o <;> simp [emitsOf, isCloseAct, ih]
    | _ => simp [emitsOf, isCloseAct, ih]

/-- filtering the writes out of a list of writes keeps everything -/
theorem filter_writes_map {α : Type} (f : α → BoardRecord) (l : List α) :
    ((l.map fun x => LogOp.write (f x)).filter fun o => match o with | .write _ => true | _ => false) =
      l.map fun x => LogOp.write (f x) := by
  induction l with
  | nil => rfl
  | cons x l ih => simp [ih]

theorem close_not_mem_writes {α : Type} (f : α → BoardRecord) (l : List α) :
    LogOp.close ∉ l.map fun x => LogOp.write (f x) := by
  simp

theorem abort_emits (sc : Scenario) (h : sc.boards ≠ []) (pre rest : List (SAct Text LogOp))
    (hp : sessionProg sc .main = pre ++ rest) (ho : pre.any isOpenAct = true) :
    ∃ k, k ≤ sc.boards.length ∧
      emitsOf (abortedMain pre) =
        LogOp.open :: ((sc.boards.take k).map fun bd => LogOp.write (recordOf sc bd.1 bd.2)) ++ [LogOp.close] ∧
      k = ((emitsOf pre).filter fun o => match o with | .write _ => true | _ => false).length := by
  have hlog := C09.log_is_opened_written_closed sc h
  rw [hp, emitsOf_append] at hlog
  have hne := any_isOpenAct_emits pre ho
  -- `emitsOf pre` is a prefix of the whole log
  have htake : emitsOf pre = (emitsOf pre ++ emitsOf rest).take (emitsOf pre).length := by simp
  rw [hlog] at htake
  obtain ⟨m, hm⟩ : ∃ m, (emitsOf pre).length = m + 1 := by
    cases he : emitsOf pre with
    | nil => exact absurd he hne
    | cons x l => exact ⟨l.length, rfl⟩
  rw [hm, List.cons_append, List.take_succ_cons] at htake
  by_cases hk : m ≤ sc.boards.length
  · -- not yet closed
    have hE : emitsOf pre =
        LogOp.open :: (sc.boards.take m).map fun bd => LogOp.write (recordOf sc bd.1 bd.2) := by
      rw [htake, List.take_append_of_le_length (by simpa using hk), List.map_take]
    have hnc : pre.any isCloseAct = false := by
      cases hc : pre.any isCloseAct with
      | false => rfl
      | true =>
        have := (any_isCloseAct_iff pre).1 hc
        rw [hE] at this
        rcases List.mem_cons.1 this with h1 | h1
        · cases h1
        · exact absurd h1 (close_not_mem_writes _ _)
    refine ⟨m, hk, ?_, ?_⟩
    · simp only [abortedMain, ho, hnc, Bool.not_false, Bool.and_self, if_true, emitsOf_append, emitsOf, hE,
        List.cons_append]
    · rw [hE, List.filter_cons]
      simp only [filter_writes_map (fun bd : BoardSetting × Decisions => recordOf sc bd.1 bd.2)]
      simp [Nat.min_eq_left hk]
  · -- already closed
    have hE : emitsOf pre =
        LogOp.open :: (sc.boards.map fun bd => LogOp.write (recordOf sc bd.1 bd.2)) ++ [LogOp.close] := by
      rw [htake, List.take_of_length_le (by simp; omega), List.cons_append]
    have hc : pre.any isCloseAct = true := by
      rw [any_isCloseAct_iff, hE]; simp
    refine ⟨sc.boards.length, Nat.le_refl _, ?_, ?_⟩
    · simp only [abortedMain, ho, hc, Bool.not_true, Bool.and_false, Bool.false_eq_true, if_false, hE,
        List.take_length]
    · rw [hE, List.cons_append, List.filter_cons, List.filter_append]
      simp only [filter_writes_map (fun bd : BoardSetting × Decisions => recordOf sc bd.1 bd.2)]
      simp

/-! ## the text in the file -/

/-- the line `JsonLogWriter.write` produces for a record -/
def recLine (r : BoardRecord) : Str := pyDumps (logJson (entryOf r))

theorem foldl_writes (r : BoardRecord) (rs : List BoardRecord) : ∀ (txt : Str) (first : Bool),
    ((r :: rs).map LogOp.write).foldl writerStep (txt, first) =
      (txt ++ (if first then [] else ",\n".toList) ++ List.intercalate ",\n".toList ((r :: rs).map recLine), false) := by
  induction rs generalizing r with
  | nil =>
    intro txt first
    simp only [List.map_cons, List.map_nil, List.foldl_cons, List.foldl_nil, writerStep, intercalate_one, recLine]
  | cons r' rs ih =>
    intro txt first
    rw [List.map_cons, List.foldl_cons, ih r']
    simp only [writerStep, List.map_cons, intercalate_cons₂, recLine, Bool.false_eq_true, if_false,
      List.append_assoc]

theorem map_entryOf_lines (recs : List BoardRecord) :
    ((recs.map entryOf).map fun e => pyDumps (logJson e)) = recs.map recLine := by
  simp [List.map_map, Function.comp_def, recLine]

/-- the text after `open()` and the given writes (no `close()`) -/
theorem logFileText_unclosed (recs : List BoardRecord) :
    logFileText (LogOp.open :: recs.map LogOp.write) =
      jsonFrame (jkey "logs") ((recs.map entryOf).map fun e => pyDumps (logJson e)) false := by
  rw [map_entryOf_lines]
  cases recs with
  | nil => simp [logFileText, writerStep, jsonFrame, List.intercalate]
  | cons r rs =>
    simp only [logFileText, List.foldl_cons]
    rw [foldl_writes]
    simp [writerStep, jsonFrame]

theorem logFileText_closed (recs : List BoardRecord) :
    logFileText (LogOp.open :: recs.map LogOp.write ++ [LogOp.close]) = logText (recs.map entryOf) := by
  unfold logText
  rw [map_entryOf_lines]
  cases recs with
  | nil => simp [logFileText, writerStep, jsonFrame, List.intercalate]
  | cons r rs =>
    simp only [logFileText, List.cons_append, List.foldl_cons, List.foldl_append, List.foldl_nil]
    rw [foldl_writes]
    simp [writerStep, jsonFrame]

theorem aborted_log_reads (recs : List BoardRecord) (hwf : ∀ r ∈ recs, (entryOf r).WF) :
    jsonLoad (logFileText (LogOp.open :: recs.map LogOp.write ++ [LogOp.close])) = some (logDoc (recs.map entryOf)) ∧
    parseBoardLogs? (logFileText (LogOp.open :: recs.map LogOp.write ++ [LogOp.close])) =
      some ((recs.map entryOf).map LogEntry.readBack) := by
  have h : ∀ e ∈ recs.map entryOf, e.WF := by
    intro e he
    obtain ⟨r, hr, rfl⟩ := List.mem_map.1 he
    exact hwf r hr
  rw [logFileText_closed]
  exact ⟨C12.framed_output_is_json _ h, C12.log_read_back _ h⟩

theorem unclosed_log_not_json (recs : List BoardRecord) (hwf : ∀ r ∈ recs, (entryOf r).WF) :
    jsonLoad (logFileText (LogOp.open :: recs.map LogOp.write)) = none := by
  rw [logFileText_unclosed]
  have := jsonLoad_unclosed (jkey "logs") C12.tag_logs_plain ((recs.map entryOf).map logJson) (by
    intro j hj
    obtain ⟨e, he, rfl⟩ := List.mem_map.1 hj
    obtain ⟨r, hr, rfl⟩ := List.mem_map.1 he
    exact logJson_wf _ (hwf r hr))
  simpa [List.map_map, Function.comp_def] using this

/-! ## the records of a session are well-formed writer arguments -/

theorem ddaTable_wf (f : Seat → Suit → Int) : DdaWF (ddaTable f) := by
  refine ⟨?_, ?_⟩
  · simp [ddaTable, Seat.all]
  · intro row hrow
    simp only [ddaTable, Seat.all, List.map_cons, List.map_nil, List.mem_cons, List.not_mem_nil, or_false] at hrow
    rcases hrow with rfl | rfl | rfl | rfl <;> simp [Suit.all]

/-- every card of a recorded trick is one of the cards played -/
theorem tricksOf_mem (trump : Suit) (ldr : Seat) (cards : List Card) :
    ∀ t ∈ (tricksOf trump ldr cards).1, ∀ c ∈ t.cards, c ∈ cards := by
  fun_induction tricksOf trump ldr cards with
  | case1 ldr a b c d rest r ih =>
    intro t ht x hx
    simp only [List.mem_cons] at ht
    rcases ht with rfl | ht
    · simp only [List.mem_cons, List.not_mem_nil, or_false] at hx
      rcases hx with rfl | rfl | rfl | rfl <;> simp
    · have := ih t ht x hx
      simp [this]
  | case2 ldr rest hne =>
    intro t ht
    simp at ht

/-- every accepted card was held by some seat at the start -/
theorem playsAccepted_mem (cards : List Card) : ∀ (w0 w : WithHands), playsAccepted w0 cards = some w →
    ∀ c ∈ cards, ∃ p, c ∈ w0.hands p := by
  induction cards with
  | nil => intro w0 w _ c hc; simp at hc
  | cons c cs ih =>
    intro w0 w h x hx
    unfold playsAccepted at h
    rw [List.foldlM_cons] at h
    cases hp : w0.play c w0.base.active with
    | error e => rw [hp] at h; simp at h
    | ok w1 =>
      rw [hp] at h
      obtain ⟨_, hmem, rfl⟩ := (play_ok_iff w0 c _ w1).1 hp
      rcases List.mem_cons.1 hx with rfl | hx
      · exact ⟨_, hmem⟩
      · obtain ⟨q, hq⟩ := ih _ w (by simpa [playsAccepted] using h) x hx
        simp only at hq
        split at hq
        · exact ⟨_, List.mem_of_mem_erase hq⟩
        · exact ⟨q, hq⟩

theorem entryOf_recordOf_wf (sc : Scenario) (b : BoardSetting) (d : Decisions)
    (hdeal : PartialDeal b.deal) (hc : ConformingAuction b d) (hp : ConformingPlay b d) :
    (entryOf (recordOf sc b d)).WF := by
  obtain ⟨_, _, hdl, _, _, _, hdda⟩ := C08.deal_logged_is_original sc b d
  obtain ⟨hpo, hnpo⟩ := C08.passed_out_record_shape sc b d hc
  refine ⟨?_, ?_, ?_, ?_, ?_⟩
  · intro p
    show ((recordOf sc b d).deal p).Nodup ∧ ∀ c ∈ (recordOf sc b d).deal p, c.ok = true
    rw [hdl]
    exact ⟨hdeal.nodup_hand p, hdeal.ok p⟩
  · intro t ht
    have ht' : (recordOf sc b d).dda.map ddaTable = some t := ht
    cases hf : (recordOf sc b d).dda with
    | none => rw [hf] at ht'; simp at ht'
    | some f =>
      rw [hf] at ht'
      simp only [Option.map_some, Option.some.injEq] at ht'
      subst ht'
      exact ddaTable_wf f
  · intro hno
    exact (hnpo hno).2.2
  · intro hpo'
    exact (hpo hpo').2.2.2.2
  · intro ts hts t ht c hct
    have hts' : (recordOf sc b d).play = some ts := hts
    have hbc := boardContract_conforming b d hc
    rcases specContract_shape b.dealer b.vul (d.calls.map (·.1)).reverse with ⟨hf, hd⟩ | ⟨i, decl, hf, hd⟩
    · rw [← hbc] at hf hd
      rw [recordOf_passed sc b d (Or.inl hf)] at hts'
      simp at hts'
    · rw [← hbc] at hf hd
      obtain ⟨hplay, _, _⟩ := record_rules sc b d hc hp decl i hd hf
      rw [hplay] at hts'
      simp only [Option.some.injEq] at hts'
      subst hts'
      have hmem := tricksOf_mem _ _ _ t ht c hct
      obtain ⟨s0, hs0, _⟩ := C04.opening_lead_and_dummy (boardContract b d) i decl hf hd
      obtain ⟨w, hw⟩ := Option.isSome_iff_exists.1 (conformingPlay_some hp (withHands_init_of_init hs0 b.deal)).2
      obtain ⟨p, hcp⟩ := playsAccepted_mem _ _ _ hw c hmem
      exact hdeal.ok p c hcp

end Bridge
