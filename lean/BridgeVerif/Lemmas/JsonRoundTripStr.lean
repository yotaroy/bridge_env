import BridgeVerif.Spec.JsonLog
import BridgeVerif.Lemmas.ListLemmas
/-!
# Strings: the reader's `scanString` undoes the writer's `escChar` escaping  (part of `JsonRoundTrip`)

`scanString` cannot be unfolded through its equation lemmas (their generation runs out of recursion depth, and a direct
`rfl` makes the kernel evaluate `u - 0xd800` in unary), so it is unfolded one level by hand: `scanString_stepA` exposes
the `brecOn` functional `scanString._f` applied to an abstract table `B` of recursive results, and the per-character
facts are proved about `scanString._f (fuel + 1) B`.
-/
namespace Bridge

theorem hexVal_hexDigitL_fin : ∀ d : Fin 16, hexVal? (hexDigitL d.val) = some d.val := by decide

theorem hexVal_hexDigitL (d : Nat) (h : d < 16) : hexVal? (hexDigitL d) = some d :=
  hexVal_hexDigitL_fin ⟨d, h⟩

theorem hex4?_hex4 (n : Nat) (h : n < 65536) (r : List Char) : hex4? (hex4 n ++ r) = some (n, r) := by
  simp only [hex4, List.cons_append, List.nil_append, hex4?]
  rw [hexVal_hexDigitL _ (Nat.mod_lt _ (by decide)), hexVal_hexDigitL _ (Nat.mod_lt _ (by decide)),
    hexVal_hexDigitL _ (Nat.mod_lt _ (by decide)), hexVal_hexDigitL _ (Nat.mod_lt _ (by decide))]
  simp only [Option.some.injEq, Prod.mk.injEq, and_true]
  omega

theorem charOfNat?_toNat (c : Char) : charOfNat? c.toNat = some c := by
  unfold charOfNat?
  have h : c.toNat.isValidChar := c.valid
  rw [dif_pos h]
  congr 1
  apply Char.ext
  show UInt32.ofNat c.val.toNat = c.val
  exact UInt32.ofNat_toNat


theorem char_range (c : Char) : c.toNat < 0xd800 ∨ (0xdfff < c.toNat ∧ c.toNat < 0x110000) := c.valid

theorem scanString_stepA (fuel : Nat) (s acc : List Char) :
    scanString (fuel + 1) s acc = scanString._f (fuel + 1) (Nat.brecOn.go fuel scanString._f) s acc := by
  delta scanString Nat.brecOn; rfl

theorem scanString_B (fuel : Nat) : (Nat.brecOn.go fuel scanString._f).1 = scanString fuel := by
  delta scanString Nat.brecOn; rfl

abbrev SBelow (n : Nat) := Nat.below (motive := fun _ => List Char → List Char → Option (List Char × List Char)) n

theorem scanF_quote (fuel : Nat) (B : SBelow (fuel+1)) (r acc : List Char) :
    scanString._f (fuel + 1) B ('"' :: r) acc = some (acc.reverse, r) := by
  simp [scanString._f]

theorem scanF_plain (fuel : Nat) (B : SBelow (fuel+1)) (c : Char) (r acc : List Char) (h1 : c ≠ '"') (h2 : c ≠ '\\') (h3 : ¬ c.toNat < 0x20) :
    scanString._f (fuel + 1) B (c :: r) acc = B.1 r (c :: acc) := by
  simp [scanString._f, h1, h2, h3]

/-- the ten forms of `escChar c`, with what is known of `c` in each (`by_cases`, not `split`: splitting this chain of
character tests is very slow to check) -/
theorem escChar_cases {P : Char → List Char → Prop} (c : Char)
    (quote : P '"' ['\\', '"']) (bslash : P '\\' ['\\', '\\']) (nl : P '\n' ['\\', 'n']) (cr : P '\r' ['\\', 'r'])
    (tab : P '\t' ['\\', 't']) (bs : P (Char.ofNat 8) ['\\', 'b']) (ff : P (Char.ofNat 12) ['\\', 'f'])
    (plain : c ≠ '"' → c ≠ '\\' → 0x20 ≤ c.toNat → P c [c])
    (u4 : c.toNat < 0x20 ∨ 0x7e < c.toNat → c.toNat < 0x10000 → P c ('\\' :: 'u' :: hex4 c.toNat))
    (pair : 0x10000 ≤ c.toNat → P c ('\\' :: 'u' :: hex4 (0xd800 + (c.toNat - 0x10000) / 1024) ++
      '\\' :: 'u' :: hex4 (0xdc00 + (c.toNat - 0x10000) % 1024))) : P c (escChar c) := by
  unfold escChar
  by_cases h1 : c = '"'
  · subst c; exact quote
  rw [if_neg h1]
  by_cases h2 : c = '\\'
  · subst c; exact bslash
  rw [if_neg h2]
  by_cases h : c = '\n'
  · subst c; exact nl
  rw [if_neg h]
  by_cases h : c = '\r'
  · subst c; exact cr
  rw [if_neg h]
  by_cases h : c = '\t'
  · subst c; exact tab
  rw [if_neg h]
  by_cases h : c = Char.ofNat 8
  · subst c; exact bs
  rw [if_neg h]
  by_cases h : c = Char.ofNat 12
  · subst c; exact ff
  rw [if_neg h]
  by_cases h : 0x20 ≤ c.toNat ∧ c.toNat ≤ 0x7e
  · rw [if_pos h]; exact plain h1 h2 h.1
  rw [if_neg h]
  by_cases h' : c.toNat < 0x10000
  · rw [if_pos h']; exact u4 (by omega) h'
  · rw [if_neg h']; exact pair (by omega)
theorem scanF_escChar (c : Char) (fuel : Nat) (B : SBelow (fuel+1)) (rest acc : List Char) :
    scanString._f (fuel + 1) B (escChar c ++ rest) acc = B.1 rest (c :: acc) := by
  have hr := char_range c
  refine escChar_cases (P := fun c l => scanString._f (fuel + 1) B (l ++ rest) acc = B.1 rest (c :: acc)) c
    rfl rfl rfl rfl rfl rfl rfl (fun h1 h2 h3 => scanF_plain _ _ _ _ _ h1 h2 (by omega)) (fun _ h => ?_) fun h => ?_
  · simp only [List.cons_append, scanString._f]
    simp [hex4?_hex4 _ h, charOfNat?_toNat]
    omega
  · have hhi : 0xd800 + (c.toNat - 0x10000) / 1024 < 65536 := by omega
    have hlo : 0xdc00 + (c.toNat - 0x10000) % 1024 < 65536 := by omega
    have hre : 65536 + (c.toNat - 65536) / 1024 * 1024 + (c.toNat - 65536) % 1024 = c.toNat := by omega
    have h1 : 55296 + (c.toNat - 65536) / 1024 ≤ 56319 := by omega
    have h2 : 56320 + (c.toNat - 65536) % 1024 ≤ 57343 := by omega
    simp only [List.cons_append, List.append_assoc, scanString._f]
    simp [hex4?_hex4 _ hhi, hex4?_hex4 _ hlo, hre, charOfNat?_toNat, h1, h2]

theorem scanString_escChar (c : Char) (fuel : Nat) (rest acc : List Char) :
    scanString (fuel + 1) (escChar c ++ rest) acc = scanString fuel rest (c :: acc) := by
  rw [scanString_stepA, ← scanString_B]; exact scanF_escChar _ _ _ _ _

theorem scanString_quote (fuel : Nat) (r acc : List Char) :
    scanString (fuel + 1) ('"' :: r) acc = some (acc.reverse, r) := by
  rw [scanString_stepA]; exact scanF_quote _ _ _ _

theorem scanString_flatMap (s : List Char) : ∀ (fuel : Nat) (rest acc : List Char), s.length < fuel →
    scanString fuel (s.flatMap escChar ++ '"' :: rest) acc = some (acc.reverse ++ s, rest) := by
  induction s with
  | nil =>
    intro fuel rest acc h
    obtain ⟨f, rfl⟩ := exists_succ_of_lt h
    simp [scanString_quote]
  | cons c s ih =>
    intro fuel rest acc h
    obtain ⟨f, rfl⟩ := exists_succ_of_lt h
    rw [List.flatMap_cons, List.append_assoc, scanString_escChar, ih _ _ _ (by simpa using h)]
    simp

theorem escChar_length_pos (c : Char) : 1 ≤ (escChar c).length :=
  escChar_cases (P := fun _ l => 1 ≤ l.length) c (by decide) (by decide) (by decide) (by decide) (by decide)
    (by decide) (by decide) (fun _ _ _ => Nat.le_refl 1) (fun _ _ => Nat.le_add_left 1 _) fun _ => Nat.le_add_left 1 _

theorem length_le_flatMap_escChar (s : List Char) : s.length ≤ (s.flatMap escChar).length := by
  induction s with
  | nil => simp
  | cons c s ih =>
    have := escChar_length_pos c
    simp only [List.flatMap_cons, List.length_append, List.length_cons]; omega

/-- the reader's string scanner, called the way `parseValue` / `parseMembers` call it, undoes `dumpStr` -/
theorem scanString_dumpStr (s rest : List Char) :
    scanString ((s.flatMap escChar ++ '"' :: rest).length + 1) (s.flatMap escChar ++ '"' :: rest) [] = some (s, rest) := by
  have := length_le_flatMap_escChar s
  rw [scanString_flatMap s _ rest [] (by simp only [List.length_append, List.length_cons]; omega)]
  simp

end Bridge
