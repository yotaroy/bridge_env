import BridgeVerif.Model.MainThread
import BridgeVerif.Lemmas.Replica
import BridgeVerif.Lemmas.SessionC08
import BridgeVerif.Lemmas.SessionC10
import BridgeVerif.Props.C03
/-! The reactive main thread (`Model/MainThread.lean`), fed the messages the seat threads forward in a session with
conforming decisions whose texts mean what was decided, performs exactly `sessionProg sc .main`. -/
namespace Bridge

/-! ## what the seat thread of `p` forwards to main during a phase -/
/-- the messages the seat thread of `p` puts on `t2m p` during a phase -/
def t2mOf (p : Seat) (ph : Phase Text LogOp) : List Text := sendsOn (Chan.t2m p) (phaseProg ph (.seat p))

@[simp] theorem t2mOf_seating (p : Seat) (t : Text) (r : Seat → Text) (s : Text) (o : LogOp) :
    t2mOf p (.seating t r s o) = [] := by
  simp [t2mOf, phaseProg, sendsOn, sync]
@[simp] theorem t2mOf_deal (p : Seat) (h : Text) (cards r1 r2 : Seat → Text) :
    t2mOf p (.deal h cards r1 r2) = [] := by
  simp [t2mOf, phaseProg, sendsOn, sync]
@[simp] theorem t2mOf_auctionEnd (p : Seat) (a b : Text) : t2mOf p (.auctionEnd a b) = [] := by
  simp [t2mOf, phaseProg, sendsOn]
@[simp] theorem t2mOf_playStart (p : Seat) (a : Text) : t2mOf p (.playStart a) = [] := by
  simp [t2mOf, phaseProg, sendsOn]
@[simp] theorem t2mOf_nextBoard (p : Seat) (r : LogOp) (a b : Text) : t2mOf p (.nextBoard r a b) = [] := by
  simp [t2mOf, phaseProg, sendsOn]
@[simp] theorem t2mOf_lastBoard (p : Seat) (r c : LogOp) (a : Text) : t2mOf p (.lastBoard r c a) = [] := by
  simp [t2mOf, phaseProg, sendsOn]

theorem t2mOf_call (p a : Seat) (name bid relay : Text) (ready : Seat → Text) :
    t2mOf p (.call a name bid relay ready) = if p = a then [bid] else [] := by
  by_cases h : p = a <;> simp [t2mOf, phaseProg, sendsOn, h]

theorem t2mOf_card (p a d : Seat) (lead opening : Bool) (ln prompt card : Text) (ready rd : Seat → Text)
    (dc : Text) :
    t2mOf p (.card a d lead opening ln prompt card ready rd dc) = if p = cardPlayer a d then [card] else [] := by
  simp only [t2mOf, phaseProg, sendsOn_append, apply_ite (sendsOn (Chan.t2m p)), sendsOn]
  by_cases h2 : p = cardPlayer a d <;> simp [h2]

/-- the stream function `i` starts with what the seat threads forward during `phs` and continues with `rest` -/
def Feeds (i : MainIn) (phs : List (Phase Text LogOp)) (rest : MainIn) : Prop :=
  ∀ p, i p = phs.flatMap (t2mOf p) ++ rest p

theorem feeds_nil {i rest : MainIn} (h : Feeds i [] rest) : i = rest := by
  funext p; simpa using h p

theorem feeds_refl (phs : List (Phase Text LogOp)) (rest : MainIn) :
    Feeds (fun p => phs.flatMap (t2mOf p) ++ rest p) phs rest := fun _ => rfl

theorem feeds_append {i rest : MainIn} {A B : List (Phase Text LogOp)} (h : Feeds i (A ++ B) rest) :
    Feeds i A (fun p => B.flatMap (t2mOf p) ++ rest p) := by
  intro p; rw [h p, List.flatMap_append, List.append_assoc]

/-- a phase during which nothing is forwarded -/
theorem feeds_skip {i rest : MainIn} {ph : Phase Text LogOp} {phs : List (Phase Text LogOp)}
    (hph : ∀ p, t2mOf p ph = []) (h : Feeds i (ph :: phs) rest) : Feeds i phs rest := by
  intro p; rw [h p, List.flatMap_cons, hph p, List.nil_append]

/-- a phase during which exactly seat `a` forwards exactly `m` -/
theorem feeds_get {i rest : MainIn} {a : Seat} {m : Text} {ph : Phase Text LogOp} {phs : List (Phase Text LogOp)}
    (hph : ∀ p, t2mOf p ph = if p = a then [m] else []) (h : Feeds i (ph :: phs) rest) :
    ∃ i', i.get a = some (m, i') ∧ Feeds i' phs rest := by
  have ha : i a = m :: (phs.flatMap (t2mOf a) ++ rest a) := by
    rw [h a, List.flatMap_cons, hph a]; simp
  refine ⟨fun q => if q = a then phs.flatMap (t2mOf a) ++ rest a else i q, ?_, ?_⟩
  · simp only [MainIn.get, ha]
  · intro p
    by_cases hp : p = a
    · subst hp; simp
    · simp only [hp, if_false]
      rw [h p, List.flatMap_cons, hph p]; simp [hp]

theorem progOfPhases_cons {Msg Out : Type} (ph : Phase Msg Out) (phs : List (Phase Msg Out)) (t : Tid) :
    progOfPhases (ph :: phs) t = phaseProg ph t ++ progOfPhases phs t := by
  simp [progOfPhases]

theorem progOfPhases_append {Msg Out : Type} (A B : List (Phase Msg Out)) (t : Tid) :
    progOfPhases (A ++ B) t = progOfPhases A t ++ progOfPhases B t := by
  simp [progOfPhases]

@[simp] theorem progOfPhases_nil {Msg Out : Type} (t : Tid) :
    progOfPhases ([] : List (Phase Msg Out)) t = [] := rfl

/-! ## the auction -/

theorem mainBidding_run (d : Seat) (v : Vul) :
    ∀ (l : List (Call × Text)) (j : Nat) (s : AState) (h : List Call) (fuel : Nat) (i rest : MainIn),
    AInv d v s h → h.length = j →
    Legal d ((l.map (·.1)).reverse ++ h) → over ((l.map (·.1)).reverse ++ h) = true → CallTexts d j l →
    l.length < fuel →
    Feeds i (callPhases d j l) rest →
    ∃ sf, AInv d v sf ((l.map (·.1)).reverse ++ h) ∧
      mainBiddingR fuel s i = some (progOfPhases (callPhases d j l) .main ++
        phaseProg (Phase.auctionEnd MSG_NULL
          (if (specContract d v ((l.map (·.1)).reverse ++ h)).isPassedOut then MSG_PASSED_OUT else MSG_NULL) :
            Phase Text LogOp) .main, sf, rest) := by
  intro l
  induction l with
  | nil =>
    intro j s h fuel i rest hi hj hleg hov _ hfuel hfeed
    simp only [List.map_nil, List.reverse_nil, List.nil_append] at hleg hov ⊢
    obtain ⟨fuel, rfl⟩ : ∃ f, fuel = f + 1 := ⟨fuel - 1, by simp at hfuel; omega⟩
    have hact : s.active = none := by simp [hi.act, hov]
    have hcon := C03.contract_is_spec d v s h ⟨hi, hleg⟩ (ended_law_of_over d h hleg hov)
    refine ⟨s, hi, ?_⟩
    rw [feeds_nil hfeed]
    simp only [mainBiddingR, hact, hcon, callPhases, progOfPhases_nil, List.nil_append, phaseProg]
  | cons x l ih =>
    intro j s h fuel i rest hi hj hleg hov hparse hfuel hfeed
    obtain ⟨c, text⟩ := x
    obtain ⟨fuel, rfl⟩ : ∃ f, fuel = f + 1 := ⟨fuel - 1, by simp at hfuel; omega⟩
    have e : (((c, text) :: l).map (·.1)).reverse ++ h = (l.map (·.1)).reverse ++ (c :: h) := by simp
    rw [e] at hleg hov ⊢
    obtain ⟨hact, s', hE, hi'⟩ := ainv_next hi hleg
    obtain ⟨h0, hparse'⟩ := callTexts_cons hparse
    obtain ⟨i', hget, hfeed'⟩ := feeds_get (a := d.rot j) (m := text)
      (fun p => t2mOf_call p _ _ _ _ _) hfeed
    obtain ⟨sf, hisf, hrec⟩ := ih (j + 1) s' (c :: h) fuel i' rest hi' (by simp [hj]) hleg hov hparse'
      (by simp at hfuel; omega) hfeed'
    refine ⟨sf, hisf, ?_⟩
    simp only [mainBiddingR, hact, hj, hget, Option.bind_eq_bind, Option.bind_some, h0, hE]
    cases over (c :: h) <;>
      simp only [Bool.false_eq_true, if_false, if_true, hrec, Option.bind_some, Option.pure_def, callPhases,
        progOfPhases_cons, phaseProg, putAll, putAllBut, List.append_assoc]

/-! ## the play -/

theorem cardPhases_append (d : Seat) (deal : Hands) : ∀ (l1 l2 : List (Card × Text)) (s : PState) (j : Nat),
    cardPhases d deal s j (l1 ++ l2) =
      cardPhases d deal s j l1 ++ cardPhases d deal (runPlay s (l1.map (·.1))) (j + l1.length) l2 := by
  intro l1
  induction l1 with
  | nil => intro l2 s j; simp [cardPhases]
  | cons x l1 ih =>
    intro l2 s j
    obtain ⟨c, t⟩ := x
    simp only [List.cons_append, cardPhases, ih, List.map_cons, runPlay_cons, List.length_cons]
    rw [show j + 1 + l1.length = j + (l1.length + 1) by omega]

theorem cardTexts_append : ∀ (l1 l2 : List (Card × Text)) (s : PState), CardTexts s (l1 ++ l2) →
    CardTexts s l1 ∧ CardTexts (runPlay s (l1.map (·.1))) l2 := by
  intro l1
  induction l1 with
  | nil => intro l2 s h; exact ⟨cardTexts_nil s, by simpa using h⟩
  | cons x l1 ih =>
    intro l2 s h
    obtain ⟨c, t⟩ := x
    rw [List.cons_append, cardTexts_cons] at h
    obtain ⟨h1, h2⟩ := ih l2 _ h.2
    exact ⟨(cardTexts_cons _ _ _ _).2 ⟨h.1, h1⟩, by simpa using h2⟩

theorem playsAccepted_append : ∀ (l1 l2 : List Card) (w w' : WithHands), playsAccepted w (l1 ++ l2) = some w' →
    ∃ w1, playsAccepted w l1 = some w1 ∧ playsAccepted w1 l2 = some w' := by
  intro l1
  induction l1 with
  | nil => intro l2 w w' h; exact ⟨w, rfl, by simpa using h⟩
  | cons c l1 ih =>
    intro l2 w w' h
    rw [List.cons_append, playsAccepted_cons] at h
    rw [playsAccepted_cons]
    cases hp : w.play c w.base.active with
    | error e => rw [hp] at h; simp at h
    | ok w1 => rw [hp] at h; exact ih l2 w1 w' h

/-- the cards of one trick from the `idx`-th on -/
theorem mainTrick_run (decl : Seat) (deal : Hands) (k : Nat) (hk : 1 ≤ k) :
    ∀ (l : List (Card × Text)) (idx j : Nat) (w w' : WithHands) (i rest : MainIn),
    idx + l.length = 4 → j = 4 * (k - 1) + idx → PInv w.base j →
    CardTexts w.base l → playsAccepted w (l.map (·.1)) = some w' →
    Feeds i (cardPhases decl deal w.base j l) rest →
    ∃ X, mainTrickR decl (cardsMsg "Dummy".toList (deal decl.partner)) (decide (k = 1)) idx w i =
        some (X, w', rest) ∧
      progOfPhases (cardPhases decl deal w.base j l) .main =
        (if idx = 0 then putAll w.base.leader.formal else []) ++ X := by
  intro l
  induction l with
  | nil =>
    intro idx j w w' i rest hidx hj hpi hct hacc hfeed
    have : idx = 4 := by simpa using hidx
    subst this
    have hw : w = w' := by simpa [playsAccepted] using hacc
    subst hw
    refine ⟨[], ?_, ?_⟩
    · rw [mainTrickR.eq_1, feeds_nil hfeed]
    · simp [cardPhases]
  | cons x l ih =>
    intro idx j w w' i rest hidx hj hpi hct hacc hfeed
    obtain ⟨c, text⟩ := x
    have hidx4 : idx < 4 := by simp at hidx; omega
    obtain ⟨h1, h2⟩ := (cardTexts_cons _ _ _ _).1 hct
    rw [List.map_cons, playsAccepted_cons] at hacc
    cases hp : w.play c w.base.active with
    | error e => rw [hp] at hacc; simp at hacc
    | ok w1 =>
      rw [hp] at hacc
      have hb := play_base _ _ _ _ hp
      obtain ⟨i', hget, hfeed'⟩ := feeds_get (a := cardPlayer w.base.active decl) (m := text)
        (fun p => t2mOf_card p _ _ _ _ _ _ _ _ _ _) hfeed
      rw [← hb] at hfeed' h2
      obtain ⟨X, hX, hprog⟩ := ih (idx + 1) (j + 1) w1 w' i' rest (by simp at hidx; omega) (by omega)
        (by rw [hb]; exact pinv_step hpi c) h2 hacc hfeed'
      have hget' : i.get (if w.base.active = decl.partner then decl else w.base.active) = some (text, i') := hget
      refine ⟨?X, ?hrun, ?hprog⟩
      case hrun =>
        rw [mainTrickR.eq_2 _ _ _ _ _ _ (by omega)]
        simp only [if_neg (show ¬ idx > 4 by omega), hget', Option.bind_eq_bind, Option.bind_some, h1, hp, hX,
          Option.pure_def]
        rfl
      · have hlen : w.base.trick.length = idx := by rw [hpi.len]; omega
        have hlead : (w.base.trick = []) ↔ idx = 0 := by
          rw [← hlen]; exact List.length_eq_zero_iff.symm
        have hopen : (j = 0) ↔ (k = 1 ∧ idx = 0) := by omega
        rw [hb] at hprog
        simp only [cardPhases, progOfPhases_cons, phaseProg, hprog, hlead, hopen, putAll, putAllBut, cardPlayer,
          decide_eq_true_eq, Nat.add_one_ne_zero, if_false, List.nil_append, List.append_assoc]
        rfl

/-- `n` whole tricks, the first of them trick number `k` -/
theorem mainTricks_run (decl : Seat) (deal : Hands) :
    ∀ (n k : Nat) (l : List (Card × Text)) (w w' : WithHands) (i rest : MainIn),
    1 ≤ k → l.length = 4 * n → PInv w.base (4 * (k - 1)) →
    CardTexts w.base l → playsAccepted w (l.map (·.1)) = some w' →
    Feeds i (cardPhases decl deal w.base (4 * (k - 1)) l) rest →
    mainPlayingR.tricks decl (cardsMsg "Dummy".toList (deal decl.partner)) n k w i =
      some (progOfPhases (cardPhases decl deal w.base (4 * (k - 1)) l) .main, w', rest) := by
  intro n
  induction n with
  | zero =>
    intro k l w w' i rest hk hl hpi hct hacc hfeed
    have : l = [] := List.eq_nil_of_length_eq_zero (by omega)
    subst this
    have hw : w = w' := by simpa [playsAccepted] using hacc
    subst hw
    rw [mainPlayingR.tricks, feeds_nil hfeed]
    simp [cardPhases]
  | succ n ih =>
    intro k l w w' i rest hk hl hpi hct hacc hfeed
    have hsplit : l = l.take 4 ++ l.drop 4 := (List.take_append_drop 4 l).symm
    have hl1 : (l.take 4).length = 4 := by rw [List.length_take]; omega
    have hl2 : (l.drop 4).length = 4 * n := by rw [List.length_drop]; omega
    generalize l.take 4 = l1 at hsplit hl1
    generalize l.drop 4 = l2 at hsplit hl2
    subst hsplit
    obtain ⟨hct1, hct2⟩ := cardTexts_append l1 l2 _ hct
    rw [List.map_append] at hacc
    obtain ⟨w1, hacc1, hacc2⟩ := playsAccepted_append _ _ _ _ hacc
    have hb1 : w1.base = runPlay w.base (l1.map (·.1)) := (playsAccepted_spec _ _ _ hacc1).2
    rw [cardPhases_append] at hfeed ⊢
    rw [← hb1, hl1, show 4 * (k - 1) + 4 = 4 * (k + 1 - 1) by omega] at hfeed ⊢
    rw [← hb1] at hct2
    obtain ⟨X, hX, hprog⟩ := mainTrick_run decl deal k hk l1 0 (4 * (k - 1)) w w1 i _ (by omega) (by omega) hpi
      hct1 hacc1 (feeds_append hfeed)
    have hpi1 : PInv w1.base (4 * (k + 1 - 1)) := by
      have := pinv_run hpi (l1.map (·.1))
      rw [← hb1, List.length_map, hl1] at this
      rw [show 4 * (k + 1 - 1) = 4 * (k - 1) + 4 by omega]; exact this
    have hrec := ih (k + 1) l2 w1 w' _ rest (by omega) hl2 hpi1 hct2 hacc2 (feeds_refl _ rest)
    rw [mainPlayingR.tricks]
    simp only [hX, hrec, Option.bind_eq_bind, Option.bind_some, Option.pure_def, progOfPhases_append, hprog,
      if_true, List.append_assoc]

theorem mainPlaying_run (decl : Seat) (deal : Hands) (l : List (Card × Text)) (w w' : WithHands) (i rest : MainIn)
    (hl : l.length = 52) (hpi : PInv w.base 0) (hct : CardTexts w.base l)
    (hacc : playsAccepted w (l.map (·.1)) = some w')
    (hfeed : Feeds i (Phase.playStart decl.formal :: cardPhases decl deal w.base 0 l) rest) :
    mainPlayingR decl (cardsMsg "Dummy".toList (deal decl.partner)) w i =
      some (progOfPhases (Phase.playStart decl.formal :: cardPhases decl deal w.base 0 l) .main, w', rest) := by
  have h := mainTricks_run decl deal 13 1 l w w' i rest (by omega) (by omega) hpi hct hacc
    (feeds_skip (fun p => t2mOf_playStart p _) hfeed)
  simp only [mainPlayingR, h, Option.bind_eq_bind, Option.bind_some, Option.pure_def, progOfPhases_cons, phaseProg,
    putAll]

/-! ## the record -/

theorem recordFrom_passed (sc : Scenario) (b : BoardSetting) (d : Decisions)
    (hf : (boardContract b d).finalBid = none) :
    recordFrom sc b (d.calls.map (·.1)) (boardContract b d) none = recordOf sc b d := by
  rw [recordOf_passed sc b d (Or.inl hf)]
  simp only [recordFrom, hf]

theorem recordFrom_played (sc : Scenario) (b : BoardSetting) (d : Decisions) (i : Fin 35) (decl : Seat)
    (w0 w : WithHands) (hf : (boardContract b d).finalBid = some i) (hd : (boardContract b d).declarer = some decl)
    (hw0 : WithHands.init (boardContract b d) b.deal = some w0)
    (hacc : playsAccepted w0 (d.cards.map (·.1)) = some w) :
    recordFrom sc b (d.calls.map (·.1)) (boardContract b d) (some w) = recordOf sc b d := by
  have hpa : playAll (boardContract b d) b.deal (d.cards.map (·.1)) = some w := by
    simp only [playAll, hw0, Option.map_some]
    exact congrArg some (playsAccepted_spec _ _ _ hacc).1
  rw [recordOf_played sc b d i decl hf hd]
  simp only [recordFrom, hf, hd, hpa]
  rfl

/-! ## one board -/

theorem t2mOf_final (sc : Scenario) (last : Bool) (b : BoardSetting) (d : Decisions) (p : Seat) :
    t2mOf p (clFinalPhase sc last b d) = [] := by
  cases last <;> simp [clFinalPhase]

theorem final_rest (sc : Scenario) (last : Bool) (b : BoardSetting) (d : Decisions) (rest : MainIn) :
    (fun p => List.flatMap (t2mOf p) [clFinalPhase sc last b d] ++ rest p) = rest := by
  funext p; simp [t2mOf_final]

/-- the auction of a board -/
theorem mainBoard_bid (b : BoardSetting) (d : Decisions) (hca : ConformingAuction b d) (htx : TextsConform b d)
    (i rest : MainIn) (tail : List (Phase Text LogOp))
    (hfeed : Feeds i (callPhases b.dealer 0 d.calls ++ tail) rest) :
    ∃ sf i2, sf.contract = some (boardContract b d) ∧ sf.history.reverse = d.calls.map (·.1) ∧
      Feeds i2 tail rest ∧
      mainBiddingR (320 + 1) (AState.init b.dealer b.vul) i =
        some (progOfPhases (callPhases b.dealer 0 d.calls) .main ++
          phaseProg (Phase.auctionEnd MSG_NULL
            (if (boardContract b d).isPassedOut then MSG_PASSED_OUT else MSG_NULL) : Phase Text LogOp) .main,
          sf, i2) := by
  have hbc := boardContract_conforming b d hca
  obtain ⟨hleg, hov, hlen⟩ := conformingAuction_legal hca
  obtain ⟨sf, hisf, hbid⟩ := mainBidding_run b.dealer b.vul d.calls 0 (AState.init b.dealer b.vul) [] (320 + 1) i _
    (ainv_init _ _) rfl (by simpa using hleg) (by simpa using hov) (callTexts_of_conform htx) (by omega)
    (feeds_append hfeed)
  simp only [List.append_nil] at hisf hbid
  rw [← hbc] at hbid
  refine ⟨sf, _, ?_, ?_, feeds_refl tail rest, hbid⟩
  · rw [hbc]; exact C03.contract_is_spec _ _ _ _ ⟨hisf, hleg⟩ hca.2
  · rw [hisf.hist, List.reverse_reverse]

theorem mainBoard_run (sc : Scenario) (k : Nat) (last : Bool) (b : BoardSetting) (d : Decisions)
    (hca : ConformingAuction b d) (hcp : ConformingPlay b d) (htx : TextsConform b d) (i rest : MainIn)
    (hfeed : Feeds i (boardPhases sc k last b d) rest) :
    mainBoardR sc k last b i = some (progOfPhases (boardPhases sc k last b d) .main, rest) := by
  have hbc := boardContract_conforming b d hca
  rw [cl_boardPhases_eq] at hfeed ⊢
  have hfeed1 := feeds_skip (fun p => t2mOf_deal p _ _ _ _) hfeed
  rcases specContract_shape b.dealer b.vul (d.calls.map (·.1)).reverse with ⟨hf, hd⟩ | ⟨bi, decl, hf, hd⟩
  · rw [← hbc] at hf hd
    have hpo : (boardContract b d).isPassedOut = true := by simp [Contract.isPassedOut, hf]
    have hinit : PState.init (boardContract b d) = none := by simp [PState.init, hf]
    simp only [clPlayPhases, hinit, List.nil_append] at hfeed1 ⊢
    obtain ⟨sf, i2, hcon, hhist, hfeed2, hbid⟩ := mainBoard_bid b d hca htx i rest _ hfeed1
    have hi2 : i2 = rest := feeds_nil
      (feeds_skip (t2mOf_final sc last b d) (feeds_skip (fun p => t2mOf_auctionEnd p _ _) hfeed2))
    subst hi2
    unfold mainBoardR
    rw [hbid]
    simp only [Option.bind_eq_bind, Option.bind_some, hcon, hhist, hpo, if_true, Option.pure_def,
      recordFrom_passed sc b d hf]
    cases last <;>
      simp [progOfPhases_cons, progOfPhases_append, phaseProg, mainDealR, putAll, clFinalPhase]
  · rw [← hbc] at hf hd
    have hpo : (boardContract b d).isPassedOut = false := by simp [Contract.isPassedOut, hf]
    obtain ⟨s0, hs0, -⟩ := C04.opening_lead_and_dummy (boardContract b d) bi decl hf hd
    have hw0 := withHands_init_of_init hs0 b.deal
    have hct := cardTexts_of_conform b d htx _ hw0
    obtain ⟨h52, hacc⟩ := conformingPlay_some hcp hw0
    obtain ⟨w', hw'⟩ := Option.isSome_iff_exists.1 hacc
    simp only [clPlayPhases, hs0, hd] at hfeed1 ⊢
    obtain ⟨sf, i2, hcon, hhist, hfeed2, hbid⟩ := mainBoard_bid b d hca htx i rest _ hfeed1
    have hplay := mainPlaying_run decl b.deal d.cards ⟨s0, b.deal⟩ w' _ _ h52 (pinv_init hs0) hct hw'
      (feeds_append (feeds_skip (fun p => t2mOf_auctionEnd p _ _) hfeed2))
    rw [final_rest] at hplay
    unfold mainBoardR
    rw [hbid]
    simp only [Option.bind_eq_bind, Option.bind_some, hcon, hhist, hpo, hd, hw0, hplay, Option.pure_def,
      recordFrom_played sc b d bi decl _ w' hf hd hw0 hw']
    cases last <;>
      simp [progOfPhases_cons, progOfPhases_append, phaseProg, mainDealR, putAll, clFinalPhase]

/-! ## the boards, the session -/

theorem mainBoards_run (sc : Scenario) : ∀ (boards : List (BoardSetting × Decisions)) (k : Nat) (i : MainIn),
    (∀ bd ∈ boards, ConformingAuction bd.1 bd.2 ∧ ConformingPlay bd.1 bd.2 ∧ TextsConform bd.1 bd.2) →
    Feeds i (boardsPhases sc k boards) (fun _ => []) →
    mainBoardsR sc k (boards.map (·.1)) i = some (progOfPhases (boardsPhases sc k boards) .main) := by
  intro boards
  induction boards with
  | nil => intro k i _ _; rfl
  | cons x r ih =>
    intro k i hc hfeed
    obtain ⟨b, d⟩ := x
    obtain ⟨h1, h2, h3⟩ := hc (b, d) List.mem_cons_self
    cases r with
    | nil =>
      simp only [boardsPhases] at hfeed ⊢
      simp only [List.map_cons, List.map_nil, mainBoardsR, mainBoard_run sc k true b d h1 h2 h3 i _ hfeed,
        Option.map_some]
    | cons y r' =>
      rw [boardsPhases_cons₂] at hfeed ⊢
      have hb := mainBoard_run sc k false b d h1 h2 h3 i _ (feeds_append hfeed)
      have hr := ih (k + 1) _ (fun bd hbd => hc bd (List.mem_cons_of_mem _ hbd)) (feeds_refl _ _)
      rw [List.map_cons, List.map_cons, mainBoardsR.eq_3 _ _ _ _ _ (by simp), hb]
      rw [List.map_cons] at hr
      simp only [Option.bind_eq_bind, Option.bind_some, hr, Option.pure_def, progOfPhases_append]

/-- fed the messages the seat threads forward to it in a session whose decisions are conforming and whose texts mean
what was decided, the reactive main thread performs exactly the straight-line program of the session model — the
records it writes included -/
theorem mainReactive_session (sc : Scenario) (h : sc.boards ≠ [])
    (hc : ∀ bd ∈ sc.boards, ConformingAuction bd.1 bd.2 ∧ ConformingPlay bd.1 bd.2 ∧ TextsConform bd.1 bd.2) :
    mainReactive sc (sc.boards.map (·.1)) (fun p => sendsOn (Chan.t2m p) (sessionProg sc (.seat p)))
      = some (sessionProg sc .main) := by
  have _ := h   -- not needed: with no board both sides are the seating phase alone
  have hfeed : Feeds (fun p => sendsOn (Chan.t2m p) (sessionProg sc (.seat p))) (boardsPhases sc 1 sc.boards)
      (fun _ => []) := by
    intro p
    show sendsOn (Chan.t2m p) (sessionProg sc (.seat p)) = _
    unfold sessionProg sessionPhases
    rw [sendsOn_progOfPhases, List.flatMap_cons]
    show t2mOf p _ ++ List.flatMap (t2mOf p) _ = _
    simp
  unfold mainReactive
  rw [mainBoards_run sc sc.boards 1 _ hc hfeed]
  simp only [Option.map_some, sessionProg, sessionPhases, progOfPhases_cons, phaseProg]

end Bridge
