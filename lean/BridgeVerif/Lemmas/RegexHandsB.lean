import BridgeVerif.Lemmas.RegexHandsA
/-!
# `HAND_PATTERN` = `([2-9TJQKA]*).([2-9TJQKA]*).([2-9TJQKA]*).([2-9TJQKA]*)` is `matchGroups 3`  (Appendix F, R1, part B)
-/
namespace Bridge.RegexHands
open Bridge Bridge.Re Bridge.RegexPbn

def starR : Re := .rep 0 none (.cls false rankItems)
def handRe : Re :=
  .seq (.group 1 starR) (.seq .any (.seq (.group 2 starR) (.seq .any (.seq (.group 3 starR) (.seq .any
    (.group 4 starR))))))

theorem parse_hand : Re.parse HAND_PATTERN = some handRe := by
  rw [show HAND_PATTERN = _ from String.toList_ofList]
  decide +kernel

theorem den_group_star (j : Nat) (k : St → Re.Res St) (pos : Nat) (rest : List Char) (caps : Caps) :
    den false (.group (j + 1) starR) k ⟨pos, rest, caps⟩ =
      repDen isRankChar 0 none (fun st' => k { st' with caps := st'.caps.set j (some (pos, st'.pos)) })
        caps 0 pos rest := by
  simp only [den, starR, charPred, rank_pred, setCap]

/-- `(R*).` followed by `K'` is `tryLen` over the scanner of `K'` -/
theorem rel_star_any (s : List Char) (hnl : '\n' ∉ s) (N j : Nat) (hj : j < N) (K' : St → Re.Res St)
    (cont : List Char → Option (List (List Char))) (h : Rel s N (j + 1) K' cont) :
    Rel s N j (den false (.group (j + 1) starR) (den false .any K'))
      (fun r => tryLen cont r (r.takeWhile isRankChar).length) := by
  intro pos rest caps hd hl
  rw [den_group_star]
  have hk : ∀ m, absRes s ((fun st' : St => den false .any K'
        { st' with caps := st'.caps.set j (some (pos, st'.pos)) }) ⟨pos + m, rest.drop m, caps⟩)
      = some ((tryAt cont rest m).map fun gs => (texts s caps).take j ++ gs.map some) := by
    intro m
    simp only [den, stepChar, tryAt]
    cases hdm : rest.drop m with
    | nil => simp [absRes]
    | cons x xs =>
      have hx : x ≠ '\n' := by
        intro e
        apply hnl
        have h1 : x ∈ rest.drop m := by rw [hdm]; simp
        have h2 : x ∈ rest := List.mem_of_mem_drop h1
        rw [← hd] at h2
        rw [← e]
        exact List.mem_of_mem_drop h2
      have hdrop : s.drop (pos + m + 1) = xs := by
        apply drop_succ_of_cons s (pos + m) x xs
        rw [← List.drop_drop, hd, hdm]
      have := h (pos + m + 1) xs (caps.set j (some (pos, pos + m))) hdrop (by simp [hl])
      simp only [hx, bne_iff_ne, ne_eq, not_false_eq_true, if_true]
      rw [this, texts_set s caps j pos m (by omega), hd]
      cases cont xs <;> simp
  have h1 := star_scanUp s (fun gs => (texts s caps).take j ++ gs.map some) isRankChar
    (fun st' : St => den false .any K' { st' with caps := st'.caps.set j (some (pos, st'.pos)) }) caps pos rest
    (tryAt cont rest) hk rest 0 0 rfl
  have e := tryLen_eq_scanUp isRankChar cont rest rest 0
  simp only [Nat.zero_add, tryBelow, Option.or_none] at e
  rw [← e] at h1
  exact h1

/-- the last `(R*)` -/
theorem rel_star_last (s : List Char) (j : Nat) :
    Rel s (j + 1) j (den false (.group (j + 1) starR) (kfin 0 false false)) (matchGroups 0) := by
  intro pos rest caps hd hl
  rw [den_group_star]
  have hk : ∀ m, absRes s ((fun st' : St => kfin 0 false false
        { st' with caps := st'.caps.set j (some (pos, st'.pos)) }) ⟨pos + m, rest.drop m, caps⟩)
      = some ((some [rest.take m]).map fun gs => (texts s caps).take j ++ gs.map some) := by
    intro m
    have e : (texts s (caps.set j (some (pos, pos + m))))
        = (texts s (caps.set j (some (pos, pos + m)))).take (j + 1) := by
      rw [List.take_of_length_le]
      simp [texts]; omega
    simp only [kfin, Bool.false_and, Bool.or_false, Bool.false_eq_true, if_false, absRes]
    rw [e, texts_set s caps j pos m (by omega), hd]
    simp
  have h1 := star_scanUp s (fun gs => (texts s caps).take j ++ gs.map some) isRankChar
    (fun st' : St => kfin 0 false false { st' with caps := st'.caps.set j (some (pos, st'.pos)) }) caps pos rest
    (fun m => some [rest.take m]) hk rest 0 0 rfl
  rw [scanUp_first isRankChar (fun m => some [rest.take m]) rest 0 rfl] at h1
  simp only [Nat.zero_add, take_length_takeWhile] at h1
  exact h1

theorem handRe_ngroups : handRe.ngroups = 4 := by decide
theorem handRe_simple : simple handRe = true := by decide

theorem match_hand (f : List Char) (hnl : '\n' ∉ f) :
    (Re.pyMatch false HAND_PATTERN f).map (Option.map (groupTexts f)) = some ((matchGroups 3 f).map (·.map some)) := by
  rw [pyMatch_abs HAND_PATTERN f handRe parse_hand handRe_simple, handRe_ngroups]
  have r3 := rel_star_last f 3
  have r2 := rel_star_any f hnl 4 2 (by omega) _ _ r3
  have r1 := rel_star_any f hnl 4 1 (by omega) _ _ r2
  have r0 := rel_star_any f hnl 4 0 (by omega) _ _ r1
  have := r0 0 f (List.replicate 4 none) rfl rfl
  simp only [List.take_zero, List.nil_append] at this
  exact this

end Bridge.RegexHands
