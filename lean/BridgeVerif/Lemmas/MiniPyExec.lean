import BridgeVerif.Lemmas.MiniPyTable
import BridgeVerif.Lemmas.MiniPyAttr

/-!
# Running the MiniPy interpreter on a program text, for ANY program `P`

What a proof by symbolic execution needs, once: one level of fuel = one level of the interpreter (`eval_succ` …),
the evaluation order of `simp` on interpreter terms (`bind_congr_arg`, `ite_congr_cond`), calls and statement lists,
the shapes of values on which a builtin computes without looking at the program, environments read through updates
(`lookup_update_same/ne`), the loops (`forF_inv`, `forF_fold`, `loopF_*`), and the glue between the two fuel forms
(`callFn_of_callF`).  The simp set is the attribute `pyexec` (Lemmas/MiniPyAttr.lean):
`simp -implicitDefEqProofs +decide only [pyexec, body, lemmas about the nested calls]`.
-/
namespace Bridge.Py

/-! ## one level of fuel unfolds one level of the interpreter -/
section unfold
variable {P : Program} (f : Nat)
theorem eval_succ (env : Env) (e : Expr) : (mkRec P (f+1)).eval env e = evalF (mkRec P f) P env e := rfl
theorem exec_succ (env : Env) (ss : List Stmt) : (mkRec P (f+1)).exec env ss = execF (mkRec P f) P env ss := rfl
theorem call_succ (fd : FuncDef) (args : List Val) : (mkRec P (f+1)).call fd args = callF (mkRec P f) fd args := rfl
theorem loop_succ (env : Env) (c : Expr) (b : List Stmt) :
    (mkRec P (f+1)).loop env c b = loopF (mkRec P f) env c b := rfl
end unfold

theorem bind_ok {α β} (a : α) (g : α → R β) : (Except.ok a >>= g) = g a := rfl
theorem bind_err {α β} (e : Err) (g : α → R β) : ((Except.error e : R α) >>= g) = .error e := rfl
theorem pure_eq {α} (a : α) : (pure a : R α) = .ok a := rfl
theorem throw_eq {α} (e : Err) : (throw e : R α) = .error e := rfl

/-! ## evaluation order of `simp` on interpreter terms

As congruence rules of `simp` (for every file that imports this one) these two make it
rewrite `x` in `x >>= g` and the condition of an `if` ONLY: the continuation and the branches are visited after
`bind_ok` / `reduceIte` has put the value in, that is once, on a concrete environment.  Without them `simp` first
executes every continuation and both branches on a symbolic environment.  `simp` gives such a rule up when the steps
that rewrite `x` leave no proof term (a `rfl` lemma applied implicitly, a definition unfolded by name), hence
`-implicitDefEqProofs` and the equations `f.eq_n` in `pyexec`; and when `x` is not rewritten at all: a run
that is stuck at a call executes what follows it symbolically, so the lemma about a nested call belongs in the same run. -/
theorem bind_congr_arg {α β} {x x' : R α} (g : α → R β) (h : x = x') : (x >>= g) = (x' >>= g) := h ▸ rfl
theorem ite_congr_cond {α} {c c' : Prop} [Decidable c] [Decidable c'] (t e : α) (h : c = c') :
    ite c t e = ite c' t e := by
  subst h; congr
attribute [congr] bind_congr_arg ite_congr_cond

/-- The same cure as a rewrite rule: given as `↓R_bind_match` in a simp list, it turns a bind into a `match` before simp
descends, and simp reduces a `match` on its discriminant first.  Unlike the congruence rules it also rewrites a bind whose
first part stays stuck, so a statement that keeps such a bind wants the congruence rules. -/
theorem R_bind_match {α β : Type} (x : R α) (f : α → R β) :
    (x >>= f) = match x with
      | .ok a => f a
      | .error e => .error e := by
  cases x <;> rfl

/-! ## values of a known shape: what the interpreter does with them in every program -/

/-! `Val.beq` (mutual with `beqL`, `beqF` over a nested inductive) is irreducible: these are the equations `simp` is given
in its place, and where a body compares values `rfl` has to be `with_unfolding_all rfl`. -/
theorem beq_int (a b : Int) : (Val.int a).beq (.int b) = (a == b) := by simp only [Val.beq]
theorem beq_str (a b : List Char) : (Val.str a).beq (.str b) = (a == b) := by simp only [Val.beq]
theorem beq_enum (c d : Id) (a b : Int) : (Val.enum c a).beq (.enum d b) = (c == d && a == b) := by simp only [Val.beq]
theorem beq_none_none : Val.none.beq .none = true := by simp only [Val.beq]
theorem beq_int_none (n : Int) : (Val.int n).beq .none = false := by simp only [Val.beq]
theorem beq_str_none (s : List Char) : (Val.str s).beq .none = false := by simp only [Val.beq]
theorem beq_enum_none (c : Id) (n : Int) : (Val.enum c n).beq .none = false := by simp only [Val.beq]
theorem beq_tuple_none (xs : List Val) : (Val.tuple xs).beq .none = false := by simp only [Val.beq]
theorem beq_obj_none (c : Id) (fs : List (Id × Val)) : (Val.obj c fs).beq .none = false := by simp only [Val.beq]
theorem beq_str_decide (a b : List Char) : (Val.str a).beq (.str b) = decide (a = b) := by
  rw [beq_str, Bool.beq_eq_decide_eq]
theorem ofNat_beq_zero (n : Nat) : (Val.int (Int.ofNat n)).beq (.int 0) = decide (n = 0) := by
  simp only [Val.beq]
  rw [Bool.eq_iff_iff]; simp only [beq_iff_eq, decide_eq_true_eq, Int.ofNat_eq_natCast]; omega
theorem ofNat_succ_beq_zero (n : Nat) : (Val.int (Int.ofNat (n + 1))).beq (.int 0) = false := by
  rw [ofNat_beq_zero]; simp
theorem ofNat_zero_beq_zero : (Val.int (Int.ofNat 0)).beq (.int 0) = true := by
  rw [ofNat_beq_zero]; simp

theorem truthy_bool (b : Bool) : truthy (.bool b) = b := rfl
theorem asInt_int (n : Int) : asInt? (.int n) = some n := rfl
theorem normIndex_zero_succ (n : Nat) : normIndex (n+1) 0 = some 0 := by simp [normIndex]
theorem sliceList_tail {α} (x : α) (xs : List α) : sliceList (x :: xs) (some 1) none = xs := by
  simp [sliceList, clampIndex]

section shapes
variable (r : Rec) {P : Program}
theorem getAttr_obj (c : Id) (fs : List (Id × Val)) (a : Id) :
    getAttrF r P (.obj c fs) a =
      if a = K.class__ then .ok (.cls c) else
      match lookup fs a with
      | some x => .ok x
      | none => (callMethod r P c a [.obj c fs] (.exc K.AttributeError)) >>= fun x => .ok x.1 := rfl
theorem getAttr_enum_value (c : Id) (n : Int) : getAttrF r P (.enum c n) K.value = .ok (.int n) := rfl
theorem meth_obj (c : Id) (fs : List (Id × Val)) (m : Id) (args : List Val) :
    methF r P (.obj c fs) m args = callMethod r P c m (.obj c fs :: args) (.exc K.AttributeError) := rfl
theorem index_dict (kvs : List (Val × Val)) (iv : Val) :
    indexF r P (.dict kvs) iv = match lookupD kvs iv with
      | some v => .ok v
      | none => .error (.exc K.KeyError) := rfl
theorem index_tuple (xs : List Val) (iv : Val) :
    indexF r P (.tuple xs) iv = match asInt? iv with
      | some n => (match normIndex xs.length n with
        | some k => .ok (xs.getD k .none)
        | none => .error (.exc K.IndexError))
      | none => .error (.exc K.TypeError) := rfl
theorem index_zero (x : Val) (xs : List Val) : indexF r P (.tuple (x :: xs)) (.int 0) = .ok x := rfl
theorem compare_int (op : CmpOp) (a b : Int) :
    compareF r P op (.int a) (.int b) = match op with
      | .lt => .ok (decide (a < b)) | .le => .ok (decide (a ≤ b))
      | .gt => .ok (decide (a > b)) | .ge => .ok (decide (a ≥ b))
      | _ => .error (.stuck 8) := rfl
theorem builtin_len_tuple (xs : List Val) : builtinF r P .len [.tuple xs] = .ok (.int (Int.ofNat xs.length)) := rfl
theorem builtin_tuple_nil : builtinF r P .tuple [] = .ok (.tuple []) := rfl
theorem strOf_str (s : List Char) : strOfF r P (.str s) = .ok s := rfl
theorem strOf_int (n : Int) : strOfF r P (.int n) = .ok (intStr n) := rfl
end shapes

/-! ## environments: a variable written and read back -/
theorem lookup_update_same (env : Env) (x : Id) (v : Val) : lookup (update env x v) x = some v := by
  induction env with
  | nil => simp [update, lookup]
  | cons a r ih =>
    obtain ⟨k, w⟩ := a
    by_cases h : k = x <;> simp [update, lookup, h, ih]
theorem lookup_update_ne (env : Env) (x y : Id) (v : Val) (h : x ≠ y) : lookup (update env x v) y = lookup env y := by
  induction env with
  | nil => simp [update, lookup, h]
  | cons a r ih =>
    obtain ⟨k, w⟩ := a
    by_cases h1 : k = x
    · subst h1; simp [update, lookup, h]
    · have h1' : ¬ x = k := fun e => h1 e.symm
      by_cases h2 : k = y
      · subst h2; simp [update, lookup, h1]
      · simp [update, lookup, h1, h2, ih]

/-! ## calls and statement lists -/
theorem callF_def (r : Rec) (fd : FuncDef) (args : List Val) : callF r fd args =
  match bindParams fd.params fd.defaults args with
  | none => .error (.exc K.TypeError)
  | some env => r.exec env fd.body >>= fun x =>
    match x.2 with
    | .ret v => .ok (v, match fd.params with | p :: _ => (lookup x.1 p).getD .none | [] => .none)
    | _ => .ok (.none, match fd.params with | p :: _ => (lookup x.1 p).getD .none | [] => .none) := by
  unfold callF
  cases bindParams fd.params fd.defaults args with
  | none => rfl
  | some env =>
    simp only
    cases r.exec env fd.body with
    | error e => rfl
    | ok x => obtain ⟨e, fl⟩ := x; cases fl <;> rfl

theorem execF_append_next {r : Rec} {P : Program} {env env' : Env} {a : List Stmt} (b : List Stmt)
    (h : execF r P env a = .ok (env', .next)) : execF r P env (a ++ b) = execF r P env' b := by
  induction a generalizing env with
  | nil => cases h; rfl
  | cons s a ih =>
    simp only [execF, List.cons_append] at h ⊢
    cases hs : execStmtF r P env s with
    | error e => rw [hs] at h; cases h
    | ok x =>
      obtain ⟨e1, fl⟩ := x
      rw [hs] at h
      cases fl <;> simp only [bind_ok] at h ⊢
      · exact ih h
      all_goals cases h

theorem execF_cons_next {r : Rec} {P : Program} {env env' : Env} {s : Stmt} (ss : List Stmt)
    (h : execStmtF r P env s = .ok (env', .next)) : execF r P env (s :: ss) = execF r P env' ss := by
  simp only [execF, h, bind_ok]

/-- `C(args)` for a plain class: `__init__` runs on an empty instance; the instance it leaves is the result -/
theorem construct_of_init {P : Program} {c c' : Id} {cd : ClassDef} {fd : FuncDef} {args : List Val} {env env' : Env}
    {self : Id} {ps : List Id} (f : Nat)
    (hc : P.cls? c = some cd) (he : cd.isEnum = false) (hd : cd.isDataclass = false)
    (hm : P.method? classDepth c K.init = some (c', fd)) (hp : fd.params = self :: ps)
    (hb : bindParams fd.params fd.defaults (.obj c [] :: args) = some env)
    (hx : execF (mkRec P f) P env fd.body = .ok (env', .next)) :
    constructF (mkRec P (f+2)) P c args = .ok ((lookup env' self).getD .none) := by
  have e : constructF (mkRec P (f+2)) P c args
      = (callF (mkRec P (f+1)) fd (.obj c [] :: args) >>= fun x => pure x.2) := by
    simp only [constructF, hc, he, hd, hm, Bool.false_eq_true, if_false]; rfl
  have e' : (mkRec P (f+1)).exec env fd.body = execF (mkRec P f) P env fd.body := rfl
  rw [e, callF_def, hb]
  simp only [e', hx, hp, bind_ok]
  rfl

/-! ## the two fuel forms

A helper is stated as `callF (mkRec P (f+K)) fd args = x` for every `f`: `simp` peels `K` levels with `eval_succ` … and
never sees an inequality.  An end result says `∀ f, K+1 ≤ f → callFn P f fd args = x`. -/
theorem callFn_of_callF {P : Program} {K : Nat} {fd : FuncDef} {args : List Val} {x : R (Val × Val)}
    (h : ∀ f, callF (mkRec P (f+K)) fd args = x) (f : Nat) (hf : K + 1 ≤ f) : callFn P f fd args = x := by
  obtain ⟨g, rfl⟩ : ∃ g, f = g + K + 1 := ⟨f - K - 1, by omega⟩
  exact h g
/-- the way back, for a lemma that uses an end result about a nested call -/
theorem callF_of_callFn {P : Program} {K : Nat} {fd : FuncDef} {args : List Val} {x : R (Val × Val)}
    (h : ∀ f, K ≤ f → callFn P f fd args = x) (f : Nat) : callF (mkRec P (f + K)) fd args = x :=
  h (f + K + 1) (by omega)
/-- a fuel known to be large, written as a sum: `obtain ⟨g, rfl⟩ := fuel_split hf` -/
theorem fuel_split {K f : Nat} (hf : K ≤ f) : ∃ g, f = g + K := ⟨f - K, by omega⟩

/-- … and for a use at a fuel that is not written as a sum -/
theorem callF_of_ge {P : Program} {K : Nat} {fd : FuncDef} {args : List Val} {x : R (Val × Val)}
    (h : ∀ f, callF (mkRec P (f+K)) fd args = x) (g : Nat) (hg : K ≤ g) : callF (mkRec P g) fd args = x := by
  obtain ⟨f, rfl⟩ := fuel_split hg
  exact h f

/-! ## loops: the whole loop from one turn of its body, by one induction -/

/-- `for x in items` whose body, entered with the invariant `I` at the items still to come, goes on (`next` or
`continue`) and leaves `I` at the rest: the loop ends normally with `I []`.  The invariant carries whatever the caller
tracks (operations performed so far, an `Env.Has`, a `Frame` from the start). -/
theorem forF_inv (r : Rec) (x : Id) (body : List Stmt) (I : List Val → Env → Prop)
    (hbody : ∀ it rest env, I (it :: rest) env →
      ∃ env' fl, r.exec (update env x it) body = .ok (env', fl) ∧ (fl = .next ∨ fl = .cont) ∧ I rest env') :
    ∀ (items : List Val) (env : Env), I items env → ∃ env', forF r [x] body env items = .ok (env', .next) ∧ I [] env' := by
  intro items
  induction items with
  | nil => intro env h; exact ⟨env, rfl, h⟩
  | cons it rest ih =>
    intro env h
    obtain ⟨e1, fl, h1, hfl, hI⟩ := hbody it rest env h
    obtain ⟨e2, h2, hI2⟩ := ih e1 hI
    refine ⟨e2, ?_, hI2⟩
    rcases hfl with rfl | rfl <;> simp only [forF, pure_eq, bind_ok, h1, h2]

/-- `for x in map enc as`: a body that takes the invariant from state `s` to `step s a` and goes on makes the loop a
`foldl` -/
theorem forF_fold {α σ : Type} (r : Rec) (x : Id) (body : List Stmt) (enc : α → Val) (I : σ → Env → Prop) (step : σ → α → σ)
    (hbody : ∀ s a env, I s env →
      ∃ env' fl, r.exec (update env x (enc a)) body = .ok (env', fl) ∧ (fl = .next ∨ fl = .cont) ∧ I (step s a) env') :
    ∀ (as : List α) (s : σ) (env : Env), I s env →
      ∃ env', forF r [x] body env (as.map enc) = .ok (env', .next) ∧ I (as.foldl step s) env' := by
  intro as
  induction as with
  | nil => intro s env h; exact ⟨env, rfl, h⟩
  | cons a as ih =>
    intro s env h
    obtain ⟨e1, fl, h1, hfl, hI⟩ := hbody s a env h
    obtain ⟨e2, h2, hI2⟩ := ih (step s a) e1 hI
    refine ⟨e2, ?_, hI2⟩
    rcases hfl with rfl | rfl <;> simp only [List.map_cons, forF, pure_eq, bind_ok, h1, h2]

/-- one turn of a `while` whose condition holds and whose body goes on -/
theorem loopF_next {P : Program} {f : Nat} {env env' : Env} {c : Expr} {body : List Stmt} {v : Val} {fl : Flow}
    (hc : evalF (mkRec P f) P env c = .ok v) (ht : truthy v = true)
    (hb : execF (mkRec P f) P env body = .ok (env', fl)) (hfl : fl = .next ∨ fl = .cont) :
    loopF (mkRec P (f+1)) env c body = (mkRec P (f+1)).loop env' c body := by
  rcases hfl with rfl | rfl <;> simp only [loopF, eval_succ, exec_succ, hc, hb, bind_ok, ht, ↓reduceIte]
/-- … whose body breaks -/
theorem loopF_brk {P : Program} {f : Nat} {env env' : Env} {c : Expr} {body : List Stmt} {v : Val}
    (hc : evalF (mkRec P f) P env c = .ok v) (ht : truthy v = true)
    (hb : execF (mkRec P f) P env body = .ok (env', .brk)) :
    loopF (mkRec P (f+1)) env c body = .ok (env', .next) := by
  simp only [loopF, eval_succ, exec_succ, hc, hb, bind_ok, ht, ↓reduceIte, pure_eq]
/-- … whose body returns -/
theorem loopF_ret {P : Program} {f : Nat} {env env' : Env} {c : Expr} {body : List Stmt} {v w : Val}
    (hc : evalF (mkRec P f) P env c = .ok v) (ht : truthy v = true)
    (hb : execF (mkRec P f) P env body = .ok (env', .ret w)) :
    loopF (mkRec P (f+1)) env c body = .ok (env', .ret w) := by
  simp only [loopF, eval_succ, exec_succ, hc, hb, bind_ok, ht, ↓reduceIte, pure_eq]
/-- the condition fails -/
theorem loopF_done {P : Program} {f : Nat} {env : Env} {c : Expr} {body : List Stmt} {v : Val}
    (hc : evalF (mkRec P f) P env c = .ok v) (ht : truthy v = false) :
    loopF (mkRec P (f+1)) env c body = .ok (env, .next) := by
  simp only [loopF, eval_succ, hc, bind_ok, ht, Bool.false_eq_true, ↓reduceIte, pure_eq]

/-! one turn of `while True:` -/
section while_true
variable {P : Program} (g : Nat) (env env' : Env) (body : List Stmt)
theorem while_true_next (h : (mkRec P (g+1)).exec env body = .ok (env', .next)) :
    (mkRec P (g+2)).loop env (.const (.bool true)) body = (mkRec P (g+1)).loop env' (.const (.bool true)) body := by
  rw [loop_succ]
  simp only [loopF, eval_succ, evalF, pure_eq, bind_ok, truthy, h, if_true]
theorem while_true_brk (h : (mkRec P (g+1)).exec env body = .ok (env', .brk)) :
    (mkRec P (g+2)).loop env (.const (.bool true)) body = .ok (env', .next) := by
  rw [loop_succ]
  simp only [loopF, eval_succ, evalF, pure_eq, bind_ok, truthy, h, if_true]
theorem while_true_ret (v : Val) (h : (mkRec P (g+1)).exec env body = .ok (env', .ret v)) :
    (mkRec P (g+2)).loop env (.const (.bool true)) body = .ok (env', .ret v) := by
  rw [loop_succ]
  simp only [loopF, eval_succ, evalF, pure_eq, bind_ok, truthy, h, if_true]
end while_true

/-- one element of a `for` whose body goes on -/
theorem forF_cons_next (r : Rec) (x : Id) (body : List Stmt) (env env' : Env) (it : Val) (items : List Val)
    (h : r.exec (update env x it) body = .ok (env', .next)) :
    forF r [x] body env (it :: items) = forF r [x] body env' items := by
  simp only [forF, pure_eq, bind_ok, h]

/-! ## the simp set -/
attribute [pyexec] execStmtF.eq_1 execStmtF.eq_2 execStmtF.eq_3 execStmtF.eq_4 execStmtF.eq_5 execStmtF.eq_6
  execStmtF.eq_7 execStmtF.eq_8 execStmtF.eq_9 execStmtF.eq_10 execStmtF.eq_11 execStmtF.eq_12 execStmtF.eq_13
  execStmtF.eq_14 execStmtF.eq_15 execStmtF.eq_16 execStmtF.eq_17 execF.eq_1 execF.eq_2 assignToF.eq_1 assignToF.eq_2
  assignToF.eq_3 mutF.eq_1 mutF.eq_2 mutF.eq_3 optIntF.eq_1 optIntF.eq_2 mapR.eq_1 mapR.eq_2 callMethod.eq_1
  Target.toExpr.eq_1 Target.toExpr.eq_2 Target.toExpr.eq_3
  eval_succ exec_succ call_succ evalF lookup bind_ok bind_err pure_eq throw_eq getAttr_obj getAttr_enum_value meth_obj
  index_dict truthy_bool asInt_int assignAllF setField update bindParams cmpF binopVal Option.map Option.getD_some
  Option.isNone_some Option.isNone_none Option.isSome_some Option.isSome_none Bool.false_eq_true beq_none_none
  Bool.not_true Bool.not_false List.cons_append List.nil_append lookup_update_same compare_int Bool.not_eq_true'
  decide_eq_true_eq decide_eq_false_iff_not List.length_cons List.length_nil List.zip_cons_cons List.zip_nil_right
  List.foldl_cons List.foldl_nil lookup_update_ne ne_eq not_false_eq_true
attribute [pyexec] strOf_str strOf_int beq_str_none
attribute [pyworld] builtin_len_tuple ofNat_succ_beq_zero ofNat_zero_beq_zero sliceList_tail index_tuple normIndex_zero_succ truthy
  List.getD_cons_zero List.map_cons List.map_nil
attribute [pyexec_proc] reduceIte reduceCtorEq Int.reduceSub Int.reduceAdd Int.reduceNeg
attribute [pyexec_proc ↓] reduceIte

end Bridge.Py

/-- THE SYMBOLIC EXECUTION: `simp` with the interpreter's equations (`pyexec`) and the lemmas given; a thread proof adds
`pyworld`.  Calls are not entered: give `callF_def`, or a lemma about the call.  `-implicitDefEqProofs`: every rewriting
step by a lemma is recorded in the proof term; otherwise the kernel has to re-discover the whole execution as one
definitional-equality problem (exponential in the number of statements of a body). -/
macro "ppsimp" "[" ls:Lean.Parser.Tactic.simpLemma,* "]" : tactic =>
  `(tactic| simp -implicitDefEqProofs +decide only [pyexec, $ls,*])
