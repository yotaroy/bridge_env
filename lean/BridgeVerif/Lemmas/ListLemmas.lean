/-! Lemmas shared by the record, PBN and message proofs: `mapM` in `Option`, `takeWhile` over an append, lookup by key
in an association list with distinct keys; and `exists_succ_of_lt`, by which a fuel bound `a < b` is written `b = f + 1`. -/
namespace Bridge

theorem exists_succ_of_lt {a b : Nat} (h : a < b) : ∃ f, b = f + 1 :=
  Nat.exists_eq_add_one_of_ne_zero (Nat.ne_zero_of_lt h)

theorem mapM_eq_map {α β : Type} (f : α → Option β) (g : α → β) :
    ∀ l : List α, (∀ x ∈ l, f x = some (g x)) → l.mapM f = some (l.map g) := by
  intro l
  induction l with
  | nil => intro _; rfl
  | cons a r ih =>
    intro h
    rw [List.mapM_cons, h a List.mem_cons_self, ih fun x hx => h x (List.mem_cons_of_mem _ hx)]
    rfl

theorem mapM_map_some_json {α β : Type} (f : α → β) (g : β → Option α) (l : List α)
    (h : ∀ x ∈ l, g (f x) = some x) : (l.map f).mapM g = some l := by
  rw [List.mapM_map, mapM_eq_map (g ∘ f) id l h, List.map_id]

theorem mapM_cons_some {α β : Type} {f : α → Option β} {x : α} {r : List α} {out : List β}
    (h : (x :: r).mapM f = some out) : ∃ b bs, f x = some b ∧ r.mapM f = some bs ∧ out = b :: bs := by
  rw [List.mapM_cons] at h
  cases hx : f x with
  | none => simp [hx] at h
  | some b =>
    cases hr : r.mapM f with
    | none => simp [hx, hr] at h
    | some bs => exact ⟨b, bs, rfl, rfl, by simpa [hx, hr] using h.symm⟩

theorem mapM_length {α β : Type} {f : α → Option β} : ∀ {l : List α} {out : List β},
    l.mapM f = some out → out.length = l.length
  | [], out, h => by cases h; rfl
  | x :: r, out, h => by
    obtain ⟨b, bs, -, hr, rfl⟩ := mapM_cons_some h
    rw [List.length_cons, List.length_cons, mapM_length hr]

theorem mapM_getElem {α β : Type} {f : α → Option β} : ∀ {l : List α} {out : List β},
    l.mapM f = some out → ∀ i (h₁ : i < l.length) (h₂ : i < out.length), f l[i] = some out[i]
  | [], out, h, i, h₁, _ => by cases h₁
  | x :: r, out, h, i, h₁, h₂ => by
    obtain ⟨b, bs, hx, hr, rfl⟩ := mapM_cons_some h
    cases i with
    | zero => exact hx
    | succ j => exact mapM_getElem hr j (Nat.lt_of_succ_lt_succ h₁) (Nat.lt_of_succ_lt_succ h₂)

theorem mapM_mem_some {α β : Type} {f : α → Option β} {l : List α} {out : List β}
    (h : l.mapM f = some out) (y : β) (hy : y ∈ out) : ∃ x ∈ l, f x = some y := by
  obtain ⟨i, hi, rfl⟩ := List.getElem_of_mem hy
  have hl : i < l.length := mapM_length h ▸ hi
  exact ⟨l[i], List.getElem_mem hl, mapM_getElem h i hl hi⟩

theorem mapM_getElem_rel {α β γ : Type} {f : α → Option β} {R : β → γ → Prop} : ∀ {l : List α} {bs : List γ},
    l.length = bs.length → (∀ i (h₁ : i < l.length) (h₂ : i < bs.length), ∃ r, f l[i] = some r ∧ R r bs[i]) →
    ∃ rs, l.mapM f = some rs ∧ rs.length = bs.length ∧
      ∀ i (h₁ : i < rs.length) (h₂ : i < bs.length), R rs[i] bs[i]
  | [], [], _, _ => ⟨[], rfl, rfl, fun i h => absurd h (Nat.not_lt_zero i)⟩
  | [], _ :: _, hl, _ => nomatch hl
  | _ :: _, [], hl, _ => nomatch hl
  | a :: l, b :: bs, hl, h => by
    obtain ⟨r, (hr : f a = some r), hrb⟩ := h 0 (Nat.zero_lt_succ _) (Nat.zero_lt_succ _)
    obtain ⟨rs, hrs, hlen, hi⟩ := mapM_getElem_rel (l := l) (bs := bs) (Nat.succ.inj hl)
      fun i h₁ h₂ => h (i + 1) (Nat.succ_lt_succ h₁) (Nat.succ_lt_succ h₂)
    refine ⟨r :: rs, by rw [List.mapM_cons, hr, hrs]; rfl, by rw [List.length_cons, List.length_cons, hlen],
      fun i h₁ h₂ => ?_⟩
    cases i with
    | zero => exact hrb
    | succ i => exact hi i (Nat.lt_of_succ_lt_succ h₁) (Nat.lt_of_succ_lt_succ h₂)

theorem takeWhile_append_of_head {α : Type} {p : α → Bool} {l : List α} (hl : ∀ x ∈ l, p x = true) (r : List α)
    (hr : ∀ x ∈ r.head?, p x = false) : (l ++ r).takeWhile p = l := by
  rw [List.takeWhile_append_of_pos hl]
  cases r with
  | nil => simp
  | cons c r => simp [hr c (by simp)]

theorem find?_key_of_nodup {β : Type} {l : List (List Char × β)} (hl : (l.map (·.1)).Nodup) {k : List Char} {v : β}
    (h : (k, v) ∈ l) : (l.find? fun kv => kv.1 == k).map (·.2) = some v := by
  induction l with
  | nil => cases h
  | cons kv r ih =>
    obtain ⟨k', v'⟩ := kv
    rw [List.map_cons, List.nodup_cons] at hl
    rw [List.find?_cons]
    rcases List.mem_cons.1 h with e | hr
    · cases e; rw [beq_self_eq_true]; rfl
    · have hne : (k' == k) = false :=
        beq_eq_false_iff_ne.2 fun e => hl.1 (e ▸ List.mem_map_of_mem (f := (·.1)) hr)
      rw [hne]
      exact ih hl.2 hr

end Bridge
