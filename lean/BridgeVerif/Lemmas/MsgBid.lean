import BridgeVerif.Lemmas.Msg
import BridgeVerif.Props.C15
/-! Helper lemmas for C19: call and card messages in any letter case, alert suffix. -/
namespace Bridge

theorem eqCI_lowerA_left (c a : Char) : eqCI (lowerA c) a = eqCI c a := by
  simp only [eqCI, foldC_lowerA]

theorem takeWhile_lowerS (r : List Char) :
    (lowerS r).takeWhile (· ≠ '\n') = lowerS (r.takeWhile (· ≠ '\n')) := by
  unfold lowerS
  rw [List.takeWhile_map]
  congr 2
  funext c
  simp [lowerA_eq_nl]

theorem upperS_lowerS (s : List Char) : upperS (lowerS s) = upperS s := by
  simp [upperS, lowerS, upperA_lowerA]

/-! ### calls -/
def bidSuit (rest : List Char) : Option Suit :=
  match rest with
  | c :: r =>
    if eqCI c 'C' then some .C else if eqCI c 'D' then some .D else if eqCI c 'H' then some .H
    else if eqCI c 'S' then some .S
    else if eqCI c 'N' then (match r with | t :: _ => if eqCI t 'T' then some .NT else none | [] => none)
    else none
  | [] => none

def bidAs (name content : List Char) : Option (Option Call) :=
  match stripPrefixCI (name ++ " bids ".toList) content with
  | some (d :: rest) =>
    if isDigit d then
      (bidSuit rest).map fun su => levelSuitToCall? (d.toNat - '0'.toNat : Nat) su
    else none
  | _ => none

def bidWord (name content : List Char) : Option Call :=
  match stripPrefixCI (name ++ [' ']) content with
  | none => none
  | some r =>
    let w := lowerS (r.takeWhile (· ≠ '\n'))
    if w = "passes".toList then some .pass else if w = "doubles".toList then some .dbl
    else if w = "redoubles".toList then some .rdbl else none

theorem parseBid_eq (content name : List Char) :
    parseBid? content name =
      match bidAs name content with
      | some r => r
      | none => bidWord name content := rfl

theorem bidSuit_lowerS (rest : List Char) : bidSuit (lowerS rest) = bidSuit rest := by
  cases rest with
  | nil => rfl
  | cons c r =>
    cases r with
    | nil => simp only [lowerS, List.map_cons, List.map_nil, bidSuit, eqCI_lowerA_left]
    | cons t r => simp only [lowerS, List.map_cons, bidSuit, eqCI_lowerA_left]

theorem bidAs_lowerS (name m : List Char) : bidAs name (lowerS m) = bidAs name m := by
  unfold bidAs
  rw [strip_lowerS]
  cases stripPrefixCI (name ++ " bids ".toList) m with
  | none => rfl
  | some r =>
    cases r with
    | nil => rfl
    | cons d rest =>
      simp only [Option.map_some]
      show (if isDigit (lowerA d) then _ else _) = _
      rw [isDigit_lowerA]
      by_cases hd : isDigit d = true
      · simp only [hd, if_true, lowerA_of_isDigit hd]
        show Option.map _ (bidSuit (lowerS rest)) = _
        rw [bidSuit_lowerS]
      · simp [hd]

theorem bidWord_lowerS (name m : List Char) : bidWord name (lowerS m) = bidWord name m := by
  unfold bidWord
  rw [strip_lowerS]
  cases stripPrefixCI (name ++ [' ']) m with
  | none => rfl
  | some r => simp only [Option.map_some, takeWhile_lowerS, lowerS_lowerS]

theorem parseBid_lowerS (m name : List Char) : parseBid? (lowerS m) name = parseBid? m name := by
  rw [parseBid_eq, parseBid_eq, bidAs_lowerS, bidWord_lowerS]

theorem parseBid_canonical :
    ∀ c ∈ Call.all, ∀ p ∈ Seat.all, parseBid? (lowerS (bidMsg c p.formal)) p.formal = some c := by
  decide +kernel

theorem seat_mem_all (p : Seat) : p ∈ Seat.all := by cases p <;> decide

theorem call_mem_all (c : Call) : c ∈ Call.all := C15.calls_complete.2 c

/-! ### cards -/
theorem parseCard_lowerS (m : List Char) (p : Seat) : parseCard? (lowerS m) p = parseCard? m p := by
  unfold parseCard?
  rw [strip_lowerS]
  cases stripPrefixCI (p.formal ++ " plays ".toList) m with
  | none => rfl
  | some r => simp only [Option.map_some, takeWhile_lowerS, upperS_lowerS]

theorem parseCard_canonical :
    ∀ c ∈ Card.deck, ∀ p ∈ Seat.all, ∀ b : Bool, parseCard? (lowerS (playMsg p c b)) p = some c := by
  intro c hc p _ b
  rw [parseCard_lowerS, parseCard?, playMsg, strip_self]
  revert c b
  decide +kernel

/-! ### alert suffix -/
/-- every white-space character is followed by a character that is neither white space nor an `A` -/
def alertSafe : List Char → Bool
  | [] => true
  | c :: r =>
    (if isWs c then (match r with | [] => false | x :: _ => !isWs x && !eqCI 'A' x) else true) && alertSafe r

theorem alertSafe_lowerS (m : List Char) : alertSafe (lowerS m) = alertSafe m := by
  induction m with
  | nil => rfl
  | cons c r ih =>
    simp only [lowerS, List.map_cons] at ih ⊢
    cases r with
    | nil => simp only [List.map_nil, alertSafe, isWs_lowerA]
    | cons x r' =>
      simp only [List.map_cons] at ih ⊢
      rw [alertSafe, ih]
      conv => rhs; rw [alertSafe]
      simp only [isWs_lowerA, eqCI_lowerA]

theorem alertSafe_canonical :
    ∀ c ∈ Call.all, ∀ p ∈ Seat.all, alertSafe (lowerS (bidMsg c p.formal)) = true := by
  decide +kernel

theorem removeAlertAux_nil (fuel : Nat) : removeAlertAux fuel [] = [] := by
  cases fuel <;> rfl

theorem removeAlertAux_safe (m rest : List Char) (fuel : Nat) (hs : alertSafe m = true)
    (hf : m.length ≤ fuel) :
    removeAlertAux fuel (m ++ rest) = m ++ removeAlertAux (fuel - m.length) rest := by
  induction m generalizing fuel with
  | nil => simp
  | cons c r ih =>
    obtain ⟨f, rfl⟩ : ∃ f, fuel = f + 1 := ⟨fuel - 1, by simp at hf; omega⟩
    simp only [alertSafe, Bool.and_eq_true] at hs
    have ih' := ih f hs.2 (by simp at hf; omega)
    simp only [List.cons_append, removeAlertAux, List.length_cons, Nat.add_sub_add_right]
    by_cases hc : isWs c = true
    · simp only [hc, if_true] at hs ⊢
      cases r with
      | nil => simp at hs
      | cons x r' =>
        have hx := hs.1
        simp only [Bool.and_eq_true, Bool.not_eq_eq_eq_not, Bool.not_true] at hx
        have hd : (c :: (x :: r' ++ rest)).dropWhile isWs = x :: (r' ++ rest) := by
          simp [hc, hx.1]
        rw [hd, show "Alert.".toList = 'A' :: "lert.".toList from rfl]
        simp only [stripPrefixCI, hx.2]
        rw [ih']
        rfl
    · simp only [hc]
      rw [ih']
      rfl

theorem dropWhile_ws (ws rest : List Char) (h : AllWs ws) (hr : ∀ c ∈ rest.head?, isWs c = false) :
    (ws ++ rest).dropWhile isWs = rest := by
  induction ws with
  | nil =>
    cases rest with
    | nil => rfl
    | cons c rest => simp [hr c (by simp)]
  | cons c ws ih =>
    have hc : isWs c = true := h c (by simp)
    simp only [List.cons_append, List.dropWhile_cons, hc, if_true]
    exact ih fun x hx => h x (List.mem_cons_of_mem _ hx)

theorem removeAlertAux_suffix (ws1 al ws2 : List Char) (h1 : ws1 ≠ [] ∧ AllWs ws1)
    (hal : CaseVariant al "Alert.".toList) (h2 : AllWs ws2) (fuel : Nat) (hf : 0 < fuel) :
    removeAlertAux fuel (ws1 ++ al ++ ws2) = [] := by
  obtain ⟨f, rfl⟩ := exists_succ_of_lt hf
  obtain ⟨hne, hws⟩ := h1
  cases ws1 with
  | nil => exact absurd rfl hne
  | cons c w =>
    have hc : isWs c = true := hws c (by simp)
    have hd : (c :: w ++ al ++ ws2).dropWhile isWs = al ++ ws2 := by
      rw [List.append_assoc]
      apply dropWhile_ws _ _ hws
      intro a ha
      cases al with
      | nil => simp [CaseVariant] at hal
      | cons a' al' =>
        simp only [List.cons_append, List.head?_cons, Option.mem_def, Option.some.injEq] at ha
        subst ha
        have : lowerA a' = 'a' := by
          have := hal
          simp only [CaseVariant, List.map_cons] at this
          exact (List.cons.inj this).1
        rw [← isWs_lowerA, this]; decide
    have hw2 : ws2.dropWhile isWs = [] := by simpa using dropWhile_ws ws2 [] h2 (by simp)
    show removeAlertAux (f + 1) (c :: (w ++ al ++ ws2)) = []
    simp only [removeAlertAux, hc, if_true]
    rw [show c :: (w ++ al ++ ws2) = c :: w ++ al ++ ws2 from rfl, hd, strip_variant ws2 hal]
    simp only [hw2, removeAlertAux_nil]

theorem containsSub_mid (n a b : List Char) : containsSub n (a ++ (n ++ b)) = true := by
  unfold containsSub
  rw [List.any_eq_true]
  refine ⟨a.length, by simp; omega, ?_⟩
  rw [List.drop_left, List.isPrefixOf_iff_prefix]
  exact List.prefix_append n b

theorem preprocessBid_alert (c : Call) (p : Seat) (m ws1 al ws2 : List Char)
    (hm : CaseVariant m (bidMsg c p.formal)) (h1 : ws1 ≠ [] ∧ AllWs ws1)
    (hal : CaseVariant al "Alert.".toList) (h2 : AllWs ws2) :
    preprocessBid (m ++ ws1 ++ al ++ ws2) = m := by
  have hsafe : alertSafe m = true := by
    rw [← alertSafe_lowerS, hm.lowerS_eq]
    exact alertSafe_canonical c (call_mem_all c) p (seat_mem_all p)
  have hcont : containsSub "alert".toList (lowerS (m ++ ws1 ++ al ++ ws2)) = true := by
    have : lowerS (m ++ ws1 ++ al ++ ws2) =
        lowerS (m ++ ws1) ++ ("alert".toList ++ ('.' :: lowerS ws2)) := by
      rw [lowerS_append, lowerS_append, hal.lowerS_eq, List.append_assoc]
      rfl
    rw [this]
    exact containsSub_mid _ _ _
  unfold preprocessBid
  rw [if_pos hcont, removeAlert]
  have := removeAlertAux_safe m (ws1 ++ al ++ ws2) ((m ++ ws1 ++ al ++ ws2).length + 1) hsafe
    (by simp; omega)
  simp only [List.append_assoc] at this ⊢
  rw [this]
  have h3 := removeAlertAux_suffix ws1 al ws2 h1 hal h2
    ((m ++ (ws1 ++ (al ++ ws2))).length + 1 - m.length) (by simp; omega)
  simp only [List.append_assoc] at h3
  rw [h3, List.append_nil]

end Bridge
