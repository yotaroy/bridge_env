import BridgeVerif.Lemmas.PbnExport
import BridgeVerif.Lemmas.PbnImport
/-! Export ∘ import: what `PbnWriter` writes, read by `PbnParser` (C18). -/
namespace Bridge

theorem resultGame_tagList (tags : List (Str × Str)) : (resultGame tags).tagList = tags := by
  simp [resultGame, GameL.tagList, List.filterMap_map, Function.comp_def]

/-- the board a written result stands for -/
def PbnResult.board (r : PbnResult) : SettingEntry :=
  ⟨intRepr r.boardNum, r.dealer, r.deal, r.contract.vul, none⟩

theorem vulPbn_spelling (v : Vul) : vulPbn v ∈ vulSpellings v := by cases v <;> decide

theorem resultGame_describes (r : PbnResult) (h : r.WF) (tags : List (Str × Str)) (ht : resultTags? r = some tags) :
    (resultGame tags).Describes r.board := by
  have hn : (tags.map (·.1)).Nodup := by rw [resultTags_names r tags ht]; decide +kernel
  obtain ⟨s, hs, _⟩ := C14.pbn_round_trip r.deal h.deal r.dealer
  have hs' : toPbn? r.board.deal r.dealer = some s := hs
  have hf : ∀ i {k v}, tags[i]? = some (k, v) → (resultGame tags).firstTag? k = some v := fun i _ _ hi => by
    rw [firstTag_eq, resultGame_tagList]
    exact find?_key_of_nodup hn (List.mem_of_getElem? hi)
  cases resultTags_values r tags ht
  exact ⟨⟨r.dealer, by rw [hf 10 rfl, hs, hs']; rfl, by rw [hs']; rfl⟩, hf 8 rfl, ⟨_, vulPbn_spelling _, hf 9 rfl⟩,
    hf 3 rfl⟩

theorem export_settings (rs : List PbnResult) (h : ∀ r ∈ rs, r.WF) :
    ∃ css ss, rs.mapM writeBoardResult? = some css ∧ pbnBoardSettings? (pyLines css.flatten.flatten) = some ss ∧
      ss.length = rs.length ∧
      ∀ i (h₁ : i < ss.length) (h₂ : i < rs.length), SameBoard ss[i] rs[i].board := by
  obtain ⟨tagss, css, h1, h2, h3, h4⟩ := export_is_layout rs h
  have htext : css.flatten.flatten = (exportFile tagss).text := by rw [h3]; rfl
  have hlen : tagss.length = rs.length := mapM_length h1
  obtain ⟨ss, hs1, hs2, hs3⟩ := pbnBoardSettings_layout_getElem (exportFile tagss) h4 (rs.map PbnResult.board)
    (by simp [exportFile, hlen])
    (by
      intro i h₁ h₂
      have hi : i < rs.length := by simpa using h₂
      have hi' : i < tagss.length := by omega
      have := mapM_getElem h1 i hi hi'
      simp only [exportFile, List.getElem_map]
      exact resultGame_describes rs[i] (h _ (List.getElem_mem hi)) _ this)
    (by
      intro b hb
      obtain ⟨r, hr, rfl⟩ := List.mem_map.1 hb
      exact (h r hr).deal)
  refine ⟨css, ss, h2, ?_, by simpa using hs2, ?_⟩
  · rw [htext, pyLines_text _ h4]; exact hs1
  · intro i h₁ h₂
    have := hs3 i h₁ (by simpa using h₂)
    simpa using this

end Bridge
