import BridgeVerif.Spec.PbnLayout
import BridgeVerif.Props.C14
import BridgeVerif.Props.C15
import BridgeVerif.Lemmas.ListLemmas
/-!
# The PBN reader on admissible layouts (C17)

`pyLines_text`, `pyLines_universal` : the file object yields the rendered lines.
`parseStream_layout` : one game per rendered game, each the dictionary of its tag pairs, first occurrence winning.
`pbnBoardSettings_layout_getElem` : every rendering of a list of boards is read back as those boards.
-/
namespace Bridge

/-! ## characters -/
theorem isLetter_ne {c k : Char} (h : isLetter c = true) (hk : isLetter k = false) : c ≠ k := by
  rintro rfl
  simp [h] at hk

theorem isUpper_isLetter {c : Char} (h : isUpper c = true) : isLetter c = true := by
  simp only [isUpper] at h
  simp [isLetter, h]

theorem isPbnWs_ne {c k : Char} (h : isPbnWs c = true) (hk : isPbnWs k = false) : c ≠ k := by
  rintro rfl
  simp [h] at hk

theorem notWs_ne {c k : Char} (h : isPbnWs c = false) (hk : isPbnWs k = true) : c ≠ k := by
  rintro rfl
  simp [h] at hk

theorem isLetter_notWs {c : Char} (h : isLetter c = true) : isPbnWs c = false := by
  simp only [isPbnWs, Bool.or_eq_false_iff, beq_eq_false_iff_ne]
  exact ⟨⟨⟨isLetter_ne h (by decide), isLetter_ne h (by decide)⟩, isLetter_ne h (by decide)⟩,
    isLetter_ne h (by decide)⟩

theorem isBlank_mem {s : Str} (h : isBlank s = true) {c : Char} (hc : c ∈ s) : c = ' ' ∨ c = '\t' := by
  simp only [isBlank, List.all_eq_true, Bool.or_eq_true, beq_iff_eq] at h
  exact h c hc

theorem isBlank_ws {s : Str} (h : isBlank s = true) {c : Char} (hc : c ∈ s) : isPbnWs c = true := by
  rcases isBlank_mem h hc with rfl | rfl <;> decide

/-- the two line ends -/
def IsEol (e : Str) : Prop := e = ['\n'] ∨ e = ['\r', '\n']

theorem IsEol.ws {e : Str} (h : IsEol e) {c : Char} (hc : c ∈ e) : isPbnWs c = true := by
  rcases h with rfl | rfl
  · simp at hc; subst hc; decide
  · simp at hc; rcases hc with rfl | rfl <;> decide

theorem IsEol.ne_nil {e : Str} (h : IsEol e) : e ≠ [] := by
  rcases h with rfl | rfl <;> simp

/-! ## `find2` -/
/-- no adjacent pair `a b` -/
def noPair (a b : Char) : Str → Bool
  | x :: y :: r => !(x == a && y == b) && noPair a b (y :: r)
  | _ => true

theorem find2_none_iff (a b : Char) (l : Str) (i : Nat) : find2 a b l i = none ↔ noPair a b l = true := by
  induction l generalizing i with
  | nil => simp [find2, noPair]
  | cons x r ih =>
    cases r with
    | nil => simp [find2, noPair]
    | cons y r =>
      simp only [find2, noPair]
      by_cases h : x = a ∧ y = b
      · simp [h]
      · rw [if_neg h, ih]
        have : (x == a && y == b) = false := by
          simpa [Bool.and_eq_false_iff] using h
        simp [this]

theorem noPair_cons_ne {a b c : Char} (h : c ≠ a) (l : Str) : noPair a b (c :: l) = noPair a b l := by
  cases l with
  | nil => simp [noPair]
  | cons y r =>
    have : (c == a) = false := by simpa using h
    rw [noPair]; simp [this]

theorem noPair_append_free {a b : Char} {x : Str} (hx : ∀ c ∈ x, c ≠ a) (y : Str) :
    noPair a b (x ++ y) = noPair a b y := by
  induction x with
  | nil => rfl
  | cons c x ih =>
    rw [List.cons_append, noPair_cons_ne (hx c (by simp)), ih fun d hd => hx d (by simp [hd])]

theorem noPair_append_cons {a b c : Char} {v : Str} (hv : noPair a b v = true) (hc : c ≠ b) (y : Str) :
    noPair a b (v ++ c :: y) = noPair a b (c :: y) := by
  induction v with
  | nil => rfl
  | cons x v ih =>
    cases v with
    | nil =>
      have : (c == b) = false := by simpa using hc
      simp [noPair, this]
    | cons z v =>
      simp only [noPair, Bool.and_eq_true] at hv
      have := ih hv.2
      simp only [List.cons_append] at this ⊢
      rw [noPair, this, hv.1, Bool.true_and]

/-- `v` without the pair, followed by a character that is not `b` and then only characters that are not `a` -/
theorem noPair_body {a b c : Char} {pre v post : Str} (hpre : ∀ d ∈ pre, d ≠ a) (hv : noPair a b v = true)
    (hc : c ≠ b) (hca : c ≠ a) (hpost : ∀ d ∈ post, d ≠ a) : noPair a b (pre ++ (v ++ c :: post)) = true := by
  rw [noPair_append_free hpre, noPair_append_cons hv hc, noPair_cons_ne hca]
  have := noPair_append_free (b := b) hpost []
  simpa [noPair] using this

/-! ## the shape of an admissible line -/
theorem validTagName_cases {n : Str} (h : validTagName n = true) :
    ∃ c m, n = c :: m ∧ isUpper c = true ∧ m ≠ [] ∧ ∀ x ∈ m, isLetter x = true := by
  cases n with
  | nil => simp [validTagName] at h
  | cons c m =>
    simp only [validTagName, Bool.and_eq_true, Bool.not_eq_true', List.all_eq_true] at h
    refine ⟨c, m, rfl, h.1.1, ?_, h.2⟩
    intro hm
    simp [hm] at h

theorem validTagName_letters {n : Str} (h : validTagName n = true) : ∀ x ∈ n, isLetter x = true := by
  obtain ⟨c, m, rfl, hc, _, hm⟩ := validTagName_cases h
  intro x hx
  rcases List.mem_cons.1 hx with rfl | hx
  · exact isUpper_isLetter hc
  · exact hm x hx

theorem plainText_iff {s : Str} : plainText s = true ↔
    noPair ';' ' ' s = true ∧ noPair '{' ' ' s = true ∧ ∀ c ∈ s, c ≠ '"' ∧ c ≠ '\n' ∧ c ≠ '\r' := by
  simp only [plainText, Bool.and_eq_true, Option.isNone_iff_eq_none, find2_none_iff, List.all_eq_true,
    bne_iff_ne, ne_eq, and_assoc]

/-- the text of a tag line, with what follows it -/
def chunk (n v : Str) (so sc : Bool) (rest : Str) : Str :=
  '[' :: (if so then [' '] else []) ++ n ++ ' ' :: '"' :: v ++ '"' :: (if sc then [' '] else []) ++ ']' :: rest

theorem tag_text_append (n v : Str) (so sc : Bool) (tr rest : Str) :
    (PbnItem.tag n v so sc tr).text ++ rest = chunk n v so sc (tr ++ rest) := by
  simp [PbnItem.text, chunk]

theorem chunk_eq (n v : Str) (so sc : Bool) (rest : Str) :
    chunk n v so sc rest =
      '[' :: ((if so then [' '] else []) ++ (n ++ ' ' :: '"' :: (v ++ '"' :: ((if sc then [' '] else []) ++ ']' :: rest)))) := by
  simp [chunk]

theorem noPair_chunk {a : Char} (hal : isLetter a = false) (haw : isPbnWs a = false) (ha1 : a ≠ '[') (ha2 : a ≠ '"')
    (ha3 : a ≠ ']') {n v : Str} {so sc : Bool} {rest : Str} (hn : validTagName n = true)
    (hv : noPair a ' ' v = true) (hrest : ∀ c ∈ rest, isPbnWs c = true) :
    noPair a ' ' (chunk n v so sc rest) = true := by
  have hsp : ' ' ≠ a := isPbnWs_ne (by decide) haw
  have key := noPair_body (a := a) (b := ' ') (c := '"')
    (pre := '[' :: (if so then [' '] else []) ++ n ++ [' ', '"']) (v := v)
    (post := (if sc then [' '] else []) ++ ']' :: rest) ?_ hv (by decide) (Ne.symm ha2) ?_
  · simpa [chunk] using key
  · intro d hd
    simp only [List.cons_append, List.mem_cons, List.mem_append, List.not_mem_nil, or_false] at hd
    rcases hd with rfl | (hd | hd) | rfl | rfl
    · exact Ne.symm ha1
    · cases so <;> simp at hd
      subst hd; exact hsp
    · exact isLetter_ne (validTagName_letters hn d hd) hal
    · exact hsp
    · exact Ne.symm ha2
  · intro d hd
    simp only [List.mem_cons, List.mem_append] at hd
    rcases hd with hd | rfl | hd
    · cases sc <;> simp at hd
      subst hd; exact hsp
    · exact Ne.symm ha3
    · exact isPbnWs_ne (hrest d hd) haw

theorem noPair_row {a : Char} (haw : isPbnWs a = false) {t e : Str} (ht : noPair a ' ' t = true) (he : IsEol e) :
    noPair a ' ' (t ++ e) = true := by
  rcases he with rfl | rfl
  · simpa using noPair_body (a := a) (b := ' ') (c := '\n') (pre := []) (v := t) (post := []) (by simp) ht
      (by decide) (isPbnWs_ne (by decide) haw) (by simp)
  · simpa using noPair_body (a := a) (b := ' ') (c := '\r') (pre := []) (v := t) (post := ['\n']) (by simp) ht
      (by decide) (isPbnWs_ne (by decide) haw) (by simpa using isPbnWs_ne (by decide) haw)

theorem ws_append {x y : Str} (hx : ∀ c ∈ x, isPbnWs c = true) (hy : ∀ c ∈ y, isPbnWs c = true) :
    ∀ c ∈ x ++ y, isPbnWs c = true := by
  intro c hc
  rcases List.mem_append.1 hc with h | h
  · exact hx c h
  · exact hy c h

/-- what the reader needs to know about a line of a game -/
structure ItemLine (l : Str) : Prop where
  notSemi : semiEmpty l = false
  notPct : l.head? ≠ some '%'
  noSemi : find2 ';' ' ' l 0 = none
  noBrace : find2 '{' ' ' l 0 = none
  ne : l ≠ []

theorem semiEmpty_false_of_mem {l : Str} {c : Char} (hc : c ∈ l) (hw : isPbnWs c = false) : semiEmpty l = false := by
  simp only [semiEmpty, Bool.and_eq_false_iff]
  right
  apply Bool.eq_false_iff.2
  intro h
  rw [List.all_eq_true] at h
  simp [h c hc] at hw

theorem itemLine {i : PbnItem} {e : Str} (hi : i.ok = true) (he : IsEol e) : ItemLine (i.text ++ e) := by
  cases i with
  | tag n v so sc tr =>
    simp only [PbnItem.ok, Bool.and_eq_true] at hi
    obtain ⟨⟨hn, hv⟩, htr⟩ := hi
    obtain ⟨hv1, hv2, _⟩ := plainText_iff.1 hv
    have hrest : ∀ c ∈ tr ++ e, isPbnWs c = true := ws_append (fun c hc => isBlank_ws htr hc) fun c hc => he.ws hc
    rw [tag_text_append]
    refine ⟨semiEmpty_false_of_mem (c := '[') (by simp [chunk]) (by decide), by simp [chunk], ?_, ?_, by simp [chunk]⟩
    · exact (find2_none_iff _ _ _ _).2
        (noPair_chunk (by decide) (by decide) (by decide) (by decide) (by decide) hn hv1 hrest)
    · exact (find2_none_iff _ _ _ _).2
        (noPair_chunk (by decide) (by decide) (by decide) (by decide) (by decide) hn hv2 hrest)
  | row t =>
    simp only [PbnItem.ok, Bool.and_eq_true, Bool.not_eq_true', bne_iff_ne, ne_eq] at hi
    obtain ⟨⟨⟨ht, hb⟩, _⟩, hp⟩ := hi
    obtain ⟨ht1, ht2, ht3⟩ := plainText_iff.1 ht
    simp only [PbnItem.text]
    obtain ⟨c, hc, hcb⟩ : ∃ c ∈ t, ¬ (c = ' ' ∨ c = '\t') := by simpa [isBlank] using hb
    have hcw : isPbnWs c = false := by
      have := ht3 c hc
      simp only [isPbnWs, Bool.or_eq_false_iff, beq_eq_false_iff_ne]
      exact ⟨⟨⟨fun h => hcb (Or.inl h), fun h => hcb (Or.inr h)⟩, this.2.2⟩, this.2.1⟩
    have hne : t ≠ [] := List.ne_nil_of_mem hc
    refine ⟨semiEmpty_false_of_mem (c := c) (by simp [hc]) hcw, ?_, ?_, ?_, by simp [hne]⟩
    · cases t with
      | nil => exact absurd rfl hne
      | cons x t => simpa using hp
    · exact (find2_none_iff _ _ _ _).2 (noPair_row (by decide) ht1 he)
    · exact (find2_none_iff _ _ _ _).2 (noPair_row (by decide) ht2 he)

/-! ## `streamStep` line by line -/
theorem streamStep_item {l : Str} (hl : ItemLine l) (buf : List Str) (gs : List Game) :
    streamStep (⟨false, buf⟩, gs) l = (⟨false, l :: buf⟩, gs) := by
  have hne : l.isEmpty = false := by simpa using hl.ne
  simp [streamStep, hl.notSemi, hl.notPct, extractContent, hl.noSemi, hl.noBrace, hne, PbnSt.push]

theorem streamStep_header {l : Str} (h1 : l.head? = some '%') (buf : List Str) (gs : List Game) :
    streamStep (⟨false, buf⟩, gs) l = (⟨false, buf⟩, gs) := by
  have : semiEmpty l = false := by
    cases l with
    | nil => simp at h1
    | cons c r =>
      simp only [List.head?_cons, Option.some.injEq] at h1
      subst h1
      exact semiEmpty_false_of_mem (c := '%') (by simp) (by decide)
  simp [streamStep, this, h1]

theorem semiEmpty_blank {s e : Str} (hs : isBlank s = true) (he : IsEol e) : semiEmpty (s ++ e) = true := by
  simp only [semiEmpty, Bool.and_eq_true, Bool.not_eq_true', List.all_eq_true]
  refine ⟨by simp [he.ne_nil], ws_append (fun c hc => isBlank_ws hs hc) fun c hc => he.ws hc⟩

theorem streamStep_blank_empty {l : Str} (hl : semiEmpty l = true) (gs : List Game) :
    streamStep (⟨false, []⟩, gs) l = (⟨false, []⟩, gs) := by
  simp [streamStep, hl]

theorem streamStep_blank_cons {l : Str} (hl : semiEmpty l = true) (x : Str) (buf : List Str) (gs : List Game) :
    streamStep (⟨false, x :: buf⟩, gs) l = (⟨false, []⟩, parseBoard (x :: buf).reverse :: gs) := by
  simp [streamStep, hl]

theorem foldl_items {e : Str} (he : IsEol e) (its : List PbnItem) (hok : ∀ i ∈ its, i.ok = true)
    (buf : List Str) (gs : List Game) :
    (its.map fun i => i.text ++ e).foldl streamStep (⟨false, buf⟩, gs) =
      (⟨false, (its.map fun i => i.text ++ e).reverse ++ buf⟩, gs) := by
  induction its generalizing buf with
  | nil => rfl
  | cons i its ih =>
    rw [List.map_cons, List.foldl_cons, streamStep_item (itemLine (hok i (by simp)) he),
      ih (fun j hj => hok j (by simp [hj]))]
    simp

theorem foldl_blank_empty {e : Str} (he : IsEol e) (ss : List Str) (hss : ∀ s ∈ ss, isBlank s = true)
    (gs : List Game) :
    (ss.map (· ++ e)).foldl streamStep (⟨false, []⟩, gs) = (⟨false, []⟩, gs) := by
  induction ss with
  | nil => rfl
  | cons s ss ih =>
    rw [List.map_cons, List.foldl_cons, streamStep_blank_empty (semiEmpty_blank (hss s (by simp)) he),
      ih fun t ht => hss t (by simp [ht])]

theorem foldl_headers {e : Str} (hs : List Str) (hh : ∀ h ∈ hs, h.head? = some '%') (buf : List Str)
    (gs : List Game) :
    (hs.map (· ++ e)).foldl streamStep (⟨false, buf⟩, gs) = (⟨false, buf⟩, gs) := by
  induction hs with
  | nil => rfl
  | cons h hs ih =>
    have h1 : (h ++ e).head? = some '%' := by
      have := hh h (by simp)
      cases h <;> simp_all
    rw [List.map_cons, List.foldl_cons, streamStep_header h1, ih fun t ht => hh t (by simp [ht])]

theorem streamStep_blank_ne {l : Str} (hl : semiEmpty l = true) {buf : List Str} (hb : buf ≠ []) (gs : List Game) :
    streamStep (⟨false, buf⟩, gs) l = (⟨false, []⟩, parseBoard buf.reverse :: gs) := by
  cases buf with
  | nil => exact absurd rfl hb
  | cons x buf => exact streamStep_blank_cons hl x buf gs

/-! ## game by game -/
def itemLines (e : Str) (g : GameL) : List Str := g.items.map fun i => i.text ++ e

/-- the end of `parseStream` -/
def finish (acc : PbnSt × List Game) : List Game :=
  (if acc.1.buffer.isEmpty then acc.2 else parseBoard acc.1.buffer.reverse :: acc.2).reverse

theorem parseStream_eq_finish (lines : List Str) :
    parseStream lines = finish (lines.foldl streamStep (⟨false, []⟩, [])) := by
  cases h : lines.foldl streamStep (⟨false, []⟩, []) with
  | mk st games =>
    have h' : List.foldl streamStep ({ }, []) lines = (st, games) := h
    simp [parseStream, finish, h']

theorem foldl_game {e : Str} (he : IsEol e) (g : GameL) {last : Bool} (hg : g.Admissible last) (gs : List Game) :
    (g.lines e).foldl streamStep (⟨false, []⟩, gs) =
      if g.seps = [] then (⟨false, (itemLines e g).reverse⟩, gs)
      else (⟨false, []⟩, parseBoard (itemLines e g) :: gs) := by
  rw [GameL.lines, List.foldl_append, foldl_items he _ hg.items_ok, List.append_nil]
  cases hs : g.seps with
  | nil => simp [itemLines]
  | cons s ss =>
    have hne : (g.items.map fun i => i.text ++ e).reverse ≠ [] := by
      obtain ⟨n, v, so, sc, tr, rest, hi⟩ := hg.starts_with_tag
      simp [hi]
    have hb : ∀ t ∈ s :: ss, isBlank t = true := by
      intro t ht
      exact hg.seps_blank t (by rw [hs]; exact ht)
    rw [List.map_cons, List.foldl_cons, streamStep_blank_ne (semiEmpty_blank (hb s (by simp)) he) hne,
      foldl_blank_empty he ss fun t ht => hb t (by simp [ht])]
    simp [itemLines]

theorem finish_games {e : Str} (he : IsEol e) : ∀ (gl : List GameL), gamesAdmissible gl → ∀ gs : List Game,
    finish ((gl.flatMap (GameL.lines e)).foldl streamStep (⟨false, []⟩, gs)) =
      gs.reverse ++ gl.map fun g => parseBoard (itemLines e g)
  | [], _, gs => by simp [finish]
  | [g], hg, gs => by
    have hg' : g.Admissible true := hg
    rw [List.flatMap_cons, List.flatMap_nil, List.append_nil, foldl_game he g hg']
    have hne : itemLines e g ≠ [] := by
      obtain ⟨n, v, so, sc, tr, rest, hi⟩ := hg'.starts_with_tag
      simp [itemLines, hi]
    by_cases hs : g.seps = []
    · simp [hs, finish, hne]
    · simp [hs, finish]
  | g :: g' :: r, hg, gs => by
    have hg' : g.Admissible false ∧ gamesAdmissible (g' :: r) := hg
    rw [List.flatMap_cons, List.foldl_append, foldl_game he g hg'.1, if_neg (hg'.1.separated rfl),
      finish_games he (g' :: r) hg'.2]
    simp

/-! ## `collapseWs` without fuel -/
theorem collapseWs_nil (f : Nat) : collapseWs f [] = [] := by
  cases f <;> rfl

theorem collapseWs_fuel : ∀ (n : Nat) (s : Str) (f1 f2 : Nat), s.length ≤ n → s.length ≤ f1 → s.length ≤ f2 →
    collapseWs f1 s = collapseWs f2 s := by
  intro n
  induction n with
  | zero =>
    intro s f1 f2 h _ _
    have : s = [] := List.length_eq_zero_iff.1 (by omega)
    subst this
    rw [collapseWs_nil, collapseWs_nil]
  | succ n ih =>
    intro s f1 f2 hn h1 h2
    cases s with
    | nil => rw [collapseWs_nil, collapseWs_nil]
    | cons c r =>
      simp only [List.length_cons] at hn h1 h2
      obtain ⟨g1, rfl⟩ : ∃ g, f1 = g + 1 := ⟨f1 - 1, by omega⟩
      obtain ⟨g2, rfl⟩ : ∃ g, f2 = g + 1 := ⟨f2 - 1, by omega⟩
      simp only [collapseWs]
      split
      · split
        · rename_i rest hrest
          have hl := congrArg List.length hrest
          simp only [List.length_drop, List.length_cons] at hl
          rw [ih rest g1 g2 (by omega) (by omega) (by omega)]
        · rw [ih r g1 g2 (by omega) (by omega) (by omega)]
      · have hd : (r.dropWhile isPbnWs).length ≤ r.length := (List.dropWhile_sublist _).length_le
        split
        · rw [ih _ g1 g2 (by omega) (by omega) (by omega)]
        · rw [ih r g1 g2 (by omega) (by omega) (by omega)]

/-- the collapse, with exactly enough fuel -/
def cw (s : Str) : Str := collapseWs s.length s

theorem collapseWs_eq_cw {f : Nat} {s : Str} (h : s.length ≤ f) : collapseWs f s = cw s :=
  collapseWs_fuel s.length s f s.length (Nat.le_refl _) h (Nat.le_refl _)

theorem cw_nil : cw [] = [] := rfl

theorem cw_cons_plain {c : Char} (hq : c ≠ '"') (hw : isPbnWs c = false) (r : Str) : cw (c :: r) = c :: cw r := by
  simp [cw, collapseWs, hq, hw]

theorem cw_cons_ws {c : Char} (hw : isPbnWs c = true) (r : Str) :
    cw (c :: r) = ' ' :: cw (r.dropWhile isPbnWs) := by
  have hq : c ≠ '"' := isPbnWs_ne hw (by decide)
  have hd : (r.dropWhile isPbnWs).length ≤ r.length := (List.dropWhile_sublist _).length_le
  simp [cw, collapseWs, hq, hw, collapseWs_eq_cw hd]

theorem takeWhile_append_stop {p : Char → Bool} {m : Str} (hm : ∀ x ∈ m, p x = true) {z : Char} (hz : p z = false)
    (r : Str) : (m ++ z :: r).takeWhile p = m :=
  takeWhile_append_of_head hm _ (by rintro _ ⟨⟩; exact hz)

theorem cw_quote {v : Str} (hv : ∀ c ∈ v, c ≠ '"') (rest : Str) :
    cw ('"' :: (v ++ '"' :: rest)) = '"' :: (v ++ '"' :: cw rest) := by
  have ht : (v ++ '"' :: rest).takeWhile (fun c => decide (c ≠ '"')) = v :=
    takeWhile_append_stop (by simpa using hv) (by simp) rest
  have hl : rest.length ≤ (v ++ '"' :: rest).length := by simp; omega
  simp only [cw, List.length_cons, collapseWs, if_true, ht, List.drop_left]
  rw [collapseWs_eq_cw hl]
  rfl

theorem cw_append_plain {p : Str} (hp : ∀ c ∈ p, c ≠ '"' ∧ isPbnWs c = false) (r : Str) :
    cw (p ++ r) = p ++ cw r := by
  induction p with
  | nil => rfl
  | cons c p ih =>
    rw [List.cons_append, cw_cons_plain (hp c (by simp)).1 (hp c (by simp)).2, ih fun d hd => hp d (by simp [hd])]
    rfl

/-- one space in front of a visible character stays one space -/
theorem cw_space_before {c : Char} (hw : isPbnWs c = false) (r : Str) : cw (' ' :: c :: r) = ' ' :: cw (c :: r) := by
  rw [cw_cons_ws (by decide), List.dropWhile_cons_of_neg (by simp [hw])]

theorem cw_optSpace {c : Char} (hw : isPbnWs c = false) (b : Bool) (r : Str) :
    cw ((if b then [' '] else []) ++ c :: r) = (if b then [' '] else []) ++ cw (c :: r) := by
  cases b
  · rfl
  · exact cw_space_before hw r

theorem cw_chunk {n v : Str} (hn : validTagName n = true) (hv : ∀ c ∈ v, c ≠ '"') (so sc : Bool) (rest : Str) :
    cw (chunk n v so sc rest) = chunk n v so sc (cw rest) := by
  obtain ⟨c, m, rfl, hc, _, hm⟩ := validTagName_cases hn
  have hcl := isUpper_isLetter hc
  have hplain : ∀ d ∈ c :: m, d ≠ '"' ∧ isPbnWs d = false := by
    intro d hd
    have hdl : isLetter d = true := by
      rcases List.mem_cons.1 hd with rfl | hd
      · exact hcl
      · exact hm d hd
    exact ⟨isLetter_ne hdl (by decide), isLetter_notWs hdl⟩
  rw [chunk_eq, chunk_eq, cw_cons_plain (by decide) (by decide), List.cons_append (a := c) (as := m),
    cw_optSpace (isLetter_notWs hcl), ← List.cons_append (a := c) (as := m), cw_append_plain hplain, cw_space_before (by decide),
    cw_quote hv, cw_optSpace (by decide), cw_cons_plain (by decide) (by decide)]

/-- text between tags: no bracket, no quote -/
def Junk (p : Str) : Prop := ∀ c ∈ p, c ≠ '[' ∧ c ≠ '"'

theorem Junk.append {p q : Str} (hp : Junk p) (hq : Junk q) : Junk (p ++ q) := by
  intro c hc
  rcases List.mem_append.1 hc with h | h
  · exact hp c h
  · exact hq c h

theorem junk_of_ws {p : Str} (hp : ∀ c ∈ p, isPbnWs c = true) : Junk p := fun c hc =>
  ⟨isPbnWs_ne (hp c hc) (by decide), isPbnWs_ne (hp c hc) (by decide)⟩

/-- the collapse of junk in front of a tag (or of the end) is junk in front of the collapse -/
theorem cw_junk {x : Str} (hx : x.dropWhile isPbnWs = x) : ∀ (n : Nat) (p : Str), p.length ≤ n → Junk p →
    ∃ p', (∀ c ∈ p', c ≠ '[') ∧ cw (p ++ x) = p' ++ cw x := by
  intro n
  induction n with
  | zero =>
    intro p hl _
    have : p = [] := List.length_eq_zero_iff.1 (by omega)
    subst this
    exact ⟨[], by simp, rfl⟩
  | succ n ih =>
    intro p hl hp
    cases p with
    | nil => exact ⟨[], by simp, rfl⟩
    | cons c p =>
      have hc := hp c (by simp)
      have hp1 : Junk p := fun d hd => hp d (by simp [hd])
      simp only [List.length_cons] at hl
      by_cases hw : isPbnWs c = true
      · have hd : ((p ++ x).dropWhile isPbnWs) = p.dropWhile isPbnWs ++ x := by
          rw [List.dropWhile_append]
          split
          · rename_i he
            rw [hx, List.isEmpty_iff.1 he, List.nil_append]
          · rfl
        have hsub := List.dropWhile_sublist (l := p) isPbnWs
        obtain ⟨p', hp', he⟩ := ih (p.dropWhile isPbnWs) (by have := hsub.length_le; omega)
          (fun d hd => hp1 d (hsub.subset hd))
        refine ⟨' ' :: p', ?_, ?_⟩
        · intro d hd
          rcases List.mem_cons.1 hd with rfl | hd
          · decide
          · exact hp' d hd
        · rw [List.cons_append, cw_cons_ws hw, hd, he]
          rfl
      · have hw' : isPbnWs c = false := by simpa using hw
        obtain ⟨p', hp', he⟩ := ih p (by omega) hp1
        refine ⟨c :: p', ?_, ?_⟩
        · intro d hd
          rcases List.mem_cons.1 hd with rfl | hd
          · exact hc.1
          · exact hp' d hd
        · rw [List.cons_append, cw_cons_plain hc.2 hw', he]
          rfl

/-! ## `matchTagAt`, `findTags` -/
theorem matchTagAt_ne {c : Char} (hc : c ≠ '[') (r : Str) : matchTagAt (c :: r) = none := by
  unfold matchTagAt
  split
  · rename_i h
    simp only [List.cons.injEq] at h
    exact absurd h.1 hc
  · rfl

theorem matchTagAt_chunk {n v : Str} (hn : validTagName n = true) (hv : ∀ c ∈ v, c ≠ '"') (so sc : Bool)
    (rest : Str) : matchTagAt (chunk n v so sc rest) = some (n, v, rest) := by
  obtain ⟨c, m, rfl, hc, hmne, hm⟩ := validTagName_cases hn
  have hcl := isUpper_isLetter hc
  have hcsp : c ≠ ' ' := isLetter_ne hcl (by decide)
  rw [chunk_eq]
  have htw : ∀ r, (m ++ ' ' :: r).takeWhile isLetter = m := fun r => takeWhile_append_stop hm (by decide) r
  have hvw : ∀ r, (v ++ '"' :: r).takeWhile (fun x => !decide (x = '"')) = v := fun r =>
    takeWhile_append_stop (by simpa using hv) (by simp) r
  have hme : m.isEmpty = false := by simpa using hmne
  cases so <;> cases sc <;>
    simp [matchTagAt, hc, htw, hvw, hme, hcsp]

theorem findTags_nil (f : Nat) : findTags f [] = [] := by
  cases f <;> rfl

theorem findTags_skip {p : Str} (hp : ∀ c ∈ p, c ≠ '[') (y : Str) (fuel : Nat) (hf : (p ++ y).length ≤ fuel) :
    findTags fuel (p ++ y) = findTags (fuel - p.length) y := by
  induction p generalizing fuel with
  | nil => rfl
  | cons c p ih =>
    simp only [List.cons_append, List.length_cons] at hf ⊢
    obtain ⟨g, rfl⟩ : ∃ g, fuel = g + 1 := ⟨fuel - 1, by omega⟩
    rw [findTags, matchTagAt_ne (hp c (by simp))]
    simp only
    rw [ih (fun d hd => hp d (by simp [hd])) g (by omega)]
    congr 1
    omega

theorem findTags_chunk {n v : Str} (hn : validTagName n = true) (hv : ∀ c ∈ v, c ≠ '"') (so sc : Bool)
    (rest : Str) (fuel : Nat) : findTags (fuel + 1) (chunk n v so sc rest) = (n, v) :: findTags fuel rest := by
  have h := matchTagAt_chunk hn hv so sc rest
  rw [chunk_eq] at h ⊢
  rw [findTags, h]

theorem chunk_length (n v : Str) (so sc : Bool) (rest : Str) : rest.length + 1 ≤ (chunk n v so sc rest).length := by
  rw [chunk_eq]
  simp only [List.length_cons, List.length_append]
  omega

/-- the tag pairs of a list of items -/
def tagsOf (its : List PbnItem) : List (Str × Str) :=
  its.filterMap fun i => match i with
    | .tag n v _ _ _ => some (n, v)
    | .row _ => none

theorem tagList_eq (g : GameL) : g.tagList = tagsOf g.items := rfl

theorem findTags_items {e : Str} (he : IsEol e) : ∀ (its : List PbnItem), (∀ i ∈ its, i.ok = true) →
    ∀ (p : Str), Junk p → ∀ fuel, (cw (p ++ (its.map fun i => i.text ++ e).flatten)).length ≤ fuel →
      findTags fuel (cw (p ++ (its.map fun i => i.text ++ e).flatten)) = tagsOf its := by
  have hej : Junk e := junk_of_ws fun c hc => he.ws hc
  intro its
  induction its with
  | nil =>
    intro _ p hp fuel hf
    obtain ⟨p', hp', heq⟩ := cw_junk (x := []) rfl p.length p (Nat.le_refl _) hp
    simp only [List.map_nil, List.flatten_nil] at hf ⊢
    rw [heq, cw_nil] at hf ⊢
    rw [findTags_skip hp' [] fuel hf, findTags_nil]
    rfl
  | cons i its ih =>
    intro hok p hp fuel hf
    have hok' : ∀ j ∈ its, j.ok = true := fun j hj => hok j (by simp [hj])
    have hi := hok i (by simp)
    cases i with
    | row t =>
      simp only [PbnItem.ok, Bool.and_eq_true, Bool.not_eq_true', bne_iff_ne, ne_eq, List.all_eq_true] at hi
      obtain ⟨⟨⟨ht, _⟩, hbr⟩, _⟩ := hi
      have htj : Junk t := fun c hc => ⟨hbr c hc, ((plainText_iff.1 ht).2.2 c hc).1⟩
      have hre : p ++ ((PbnItem.row t :: its).map fun i => i.text ++ e).flatten =
          (p ++ (t ++ e)) ++ (its.map fun i => i.text ++ e).flatten := by
        simp [PbnItem.text]
      rw [hre] at hf ⊢
      rw [ih hok' _ (hp.append (htj.append hej)) fuel hf]
      rfl
    | tag n v so sc tr =>
      simp only [PbnItem.ok, Bool.and_eq_true] at hi
      obtain ⟨⟨hn, hv⟩, htr⟩ := hi
      have hvq : ∀ c ∈ v, c ≠ '"' := fun c hc => ((plainText_iff.1 hv).2.2 c hc).1
      have hre : ((PbnItem.tag n v so sc tr :: its).map fun i => i.text ++ e).flatten =
          chunk n v so sc ((tr ++ e) ++ (its.map fun i => i.text ++ e).flatten) := by
        rw [List.map_cons, List.flatten_cons, List.append_assoc, tag_text_append, List.append_assoc]
      have hx : (chunk n v so sc ((tr ++ e) ++ (its.map fun i => i.text ++ e).flatten)).dropWhile isPbnWs =
          chunk n v so sc ((tr ++ e) ++ (its.map fun i => i.text ++ e).flatten) := by
        rw [chunk_eq, List.dropWhile_cons_of_neg (by decide)]
      obtain ⟨p', hp', heq⟩ := cw_junk hx p.length p (Nat.le_refl _) hp
      rw [hre] at hf ⊢
      rw [heq, cw_chunk hn hvq] at hf ⊢
      have hlen := chunk_length n v so sc (cw ((tr ++ e) ++ (its.map fun i => i.text ++ e).flatten))
      rw [List.length_append] at hf
      rw [findTags_skip hp' _ fuel (by rw [List.length_append]; exact hf)]
      obtain ⟨k, hk⟩ : ∃ k, fuel - p'.length = k + 1 := ⟨fuel - p'.length - 1, by omega⟩
      rw [hk, findTags_chunk hn hvq,
        ih hok' _ (junk_of_ws (ws_append (fun c hc => isBlank_ws htr hc) fun c hc => he.ws hc)) k (by omega)]
      rfl

theorem parseBoard_items {e : Str} (he : IsEol e) (its : List PbnItem) (hok : ∀ i ∈ its, i.ok = true) :
    parseBoard (its.map fun i => i.text ++ e) = firstWins (tagsOf its) [] := by
  have h := findTags_items he its hok [] (fun _ h => by simp at h)
  simp only [List.nil_append] at h
  simp only [parseBoard]
  rw [collapseWs_eq_cw (Nat.le_succ _), h _ (Nat.le_succ _)]

theorem gamesAdmissible_mem : ∀ {gl : List GameL}, gamesAdmissible gl → ∀ g ∈ gl, ∃ last, g.Admissible last
  | [], _, g, hg => by simp at hg
  | [g0], h, g, hg => by
    have h' : g0.Admissible true := h
    simp only [List.mem_singleton] at hg
    subst hg
    exact ⟨true, h'⟩
  | g0 :: g1 :: r, h, g, hg => by
    have h' : g0.Admissible false ∧ gamesAdmissible (g1 :: r) := h
    rcases List.mem_cons.1 hg with rfl | hg
    · exact ⟨false, h'.1⟩
    · exact gamesAdmissible_mem h'.2 g hg

/-- MAIN LEMMA: an admissible file is read as one game per rendered game, in order; each game is the dictionary of
its tag pairs in file order, first occurrence of a name winning -/
theorem parseStream_layout (f : FileL) (hf : f.Admissible) :
    parseStream f.lines = f.games.map fun g => firstWins g.tagList [] := by
  have he : IsEol f.eol := hf.eol
  rw [parseStream_eq_finish, FileL.lines, List.foldl_append, List.foldl_append,
    foldl_headers _ (fun h hh => (hf.header h hh).1), foldl_blank_empty he _ hf.leading,
    finish_games he _ hf.games, List.reverse_nil, List.nil_append]
  apply List.map_congr_left
  intro g hg
  obtain ⟨last, hl⟩ := gamesAdmissible_mem hf.games g hg
  rw [tagList_eq, itemLines, parseBoard_items he _ hl.items_ok]

/-! ## the dictionary of a game -/
theorem find_firstWins (name : Str) (tags acc : List (Str × Str)) :
    (firstWins tags acc).find? (fun kv => kv.1 == name) = (acc.reverse ++ tags).find? fun kv => kv.1 == name := by
  induction tags generalizing acc with
  | nil => simp [firstWins]
  | cons kv tags ih =>
    obtain ⟨k, v⟩ := kv
    rw [firstWins]
    split
    · rename_i hany
      rw [ih, List.find?_append, List.find?_append, List.find?_cons]
      by_cases hk : k = name
      · subst hk
        obtain ⟨x, hx, hxk⟩ := List.any_eq_true.1 hany
        have : (acc.reverse.find? fun kv => kv.1 == k).isSome = true := by
          rw [List.find?_isSome]
          exact ⟨x, by simpa using hx, hxk⟩
        obtain ⟨y, hy⟩ := Option.isSome_iff_exists.1 this
        simp [hy]
      · have : ((k, v).1 == name) = false := by simpa using hk
        simp [this]
    · rw [ih]
      simp

theorem gameGet_firstWins (tags : List (Str × Str)) (name : Str) :
    gameGet? (firstWins tags []) name = (tags.find? fun kv => kv.1 == name).map (·.2) := by
  rw [gameGet?, find_firstWins]
  rfl

theorem firstTag_eq (g : GameL) (name : Str) :
    g.firstTag? name = (g.tagList.find? fun kv => kv.1 == name).map (·.2) := by
  rw [GameL.firstTag?, GameL.tagList]
  induction g.items with
  | nil => rfl
  | cons i its ih =>
    cases i with
    | row t => simpa using ih
    | tag n v so sc tr =>
      by_cases hn : n = name
      · simp [hn]
      · simp [hn, ih]

/-! ## boards -/
theorem gameGet_layout (g : GameL) (name : Str) : gameGet? (firstWins g.tagList []) name = g.firstTag? name := by
  rw [gameGet_firstWins, firstTag_eq]

theorem strToVul_spelling {v : Vul} {sp : Str} (h : sp ∈ vulSpellings v) : strToVul? sp = some v := by
  cases v <;> simp only [vulSpellings, List.mem_cons, List.not_mem_nil, or_false] at h
  · rcases h with rfl | rfl | rfl | rfl <;> decide
  · subst h; decide
  · subst h; decide
  · rcases h with rfl | rfl | rfl <;> decide

theorem settingOfGame_describes {g : GameL} {b : SettingEntry} (hd : g.Describes b) (hw : PartialDeal b.deal) :
    ∃ r, settingOfGame? (firstWins g.tagList []) = some r ∧ SameBoard r b := by
  obtain ⟨⟨first, hdeal, _⟩, hdealer, ⟨sp, hsp, hvul⟩, hboard⟩ := hd
  obtain ⟨s, hs, h', hconv, hsame⟩ := C14.pbn_round_trip b.deal hw first
  refine ⟨{ boardId := b.boardId, dealer := b.dealer, deal := h', vul := b.vul, dda := none }, ?_,
    rfl, rfl, rfl, hsame, rfl⟩
  simp only [settingOfGame?, gameGet_layout, hdeal, hs, hdealer, hvul, hboard]
  simp [hconv, seatOfName_name, strToVul_spelling hsp]

/-- every rendering of a list of boards is read back as those boards, in order -/
theorem pbnBoardSettings_layout_getElem (f : FileL) (hf : f.Admissible) (bs : List SettingEntry)
    (hlen : f.games.length = bs.length)
    (hd : ∀ i (h₁ : i < f.games.length) (h₂ : i < bs.length), f.games[i].Describes bs[i])
    (hw : ∀ b ∈ bs, PartialDeal b.deal) :
    ∃ rs, pbnBoardSettings? f.lines = some rs ∧ rs.length = bs.length ∧
      ∀ i (h₁ : i < rs.length) (h₂ : i < bs.length), SameBoard rs[i] bs[i] := by
  rw [pbnBoardSettings?, parseStream_layout f hf]
  refine mapM_getElem_rel (by rw [List.length_map]; exact hlen) fun i h₁ h₂ => ?_
  rw [List.getElem_map]
  exact settingOfGame_describes (hd i (by simpa using h₁) h₂) (hw _ (List.getElem_mem h₂))

/-- the lines without their line ends -/
def GameL.bodies (g : GameL) : List Str := g.items.map (·.text) ++ g.seps
def FileL.bodies (f : FileL) : List Str := f.header ++ f.leading ++ f.games.flatMap GameL.bodies

theorem GameL.lines_eq_bodies (e : Str) (g : GameL) : g.lines e = g.bodies.map (· ++ e) := by
  simp [GameL.lines, GameL.bodies]

theorem FileL.lines_eq_bodies (f : FileL) : f.lines = f.bodies.map (· ++ f.eol) := by
  simp only [FileL.lines, FileL.bodies, List.map_append, List.map_flatMap]
  have : GameL.lines f.eol = fun g => g.bodies.map (· ++ f.eol) := funext fun g => g.lines_eq_bodies f.eol
  rw [this]

/-- no line-end character -/
def NoNl (x : Str) : Prop := ∀ c ∈ x, c ≠ '\n' ∧ c ≠ '\r'

theorem noNl_of_ws_blank {s : Str} (h : isBlank s = true) : NoNl s := by
  intro c hc
  rcases isBlank_mem h hc with rfl | rfl <;> decide

theorem noNl_item {i : PbnItem} (hi : i.ok = true) : NoNl i.text := by
  cases i with
  | row t =>
    simp only [PbnItem.ok, Bool.and_eq_true] at hi
    intro c hc
    exact ((plainText_iff.1 hi.1.1.1).2.2 c hc).2
  | tag n v so sc tr =>
    simp only [PbnItem.ok, Bool.and_eq_true] at hi
    obtain ⟨⟨hn, hv⟩, htr⟩ := hi
    have h := tag_text_append n v so sc tr []
    rw [List.append_nil, List.append_nil, chunk_eq] at h
    rw [h]
    intro c hc
    simp only [List.mem_cons, List.mem_append] at hc
    rcases hc with rfl | hc | hc | rfl | rfl | hc | rfl | hc | rfl | hc
    · decide
    · cases so <;> simp at hc
      subst hc; decide
    · have := validTagName_letters hn c hc
      exact ⟨isLetter_ne this (by decide), isLetter_ne this (by decide)⟩
    · decide
    · decide
    · exact ((plainText_iff.1 hv).2.2 c hc).2
    · decide
    · cases sc <;> simp at hc
      subst hc; decide
    · decide
    · exact noNl_of_ws_blank htr c hc

theorem bodies_noNl {f : FileL} (hf : f.Admissible) : ∀ x ∈ f.bodies, NoNl x := by
  intro x hx
  simp only [FileL.bodies, List.mem_append, List.mem_flatMap, GameL.bodies, List.mem_map] at hx
  rcases hx with (hx | hx) | ⟨g, hg, ⟨i, hi, rfl⟩ | hx⟩
  · have := (hf.header x hx).2
    simp only [List.all_eq_true, Bool.and_eq_true, bne_iff_ne, ne_eq] at this
    exact this
  · exact noNl_of_ws_blank (hf.leading x hx)
  · obtain ⟨last, hl⟩ := gamesAdmissible_mem hf.games g hg
    exact noNl_item (hl.items_ok i hi)
  · obtain ⟨last, hl⟩ := gamesAdmissible_mem hf.games g hg
    exact noNl_of_ws_blank (hl.seps_blank x hx)

theorem pyLinesAux_line {x : Str} (hx : ∀ c ∈ x, c ≠ '\n') (rest cur : Str) :
    pyLinesAux (x ++ '\n' :: rest) cur = (cur.reverse ++ x ++ ['\n']) :: pyLinesAux rest [] := by
  induction x generalizing cur with
  | nil => simp [pyLinesAux]
  | cons c x ih =>
    rw [List.cons_append, pyLinesAux, if_neg (hx c (by simp)), ih fun d hd => hx d (by simp [hd])]
    simp

theorem pyLines_bodies {e : Str} (he : IsEol e) (bodies : List Str) (hb : ∀ x ∈ bodies, NoNl x) :
    pyLines (bodies.map (· ++ e)).flatten = bodies.map (· ++ e) := by
  rw [pyLines]
  induction bodies with
  | nil => rfl
  | cons x bodies ih =>
    have hx := hb x (by simp)
    have ih' := ih fun y hy => hb y (by simp [hy])
    rw [List.map_cons, List.flatten_cons]
    rcases he with rfl | rfl
    · rw [List.append_assoc, List.singleton_append, pyLinesAux_line (fun c hc => (hx c hc).1), ih']
      simp
    · have h1 : x ++ ['\r', '\n'] ++ (bodies.map (· ++ ['\r', '\n'])).flatten =
          (x ++ ['\r']) ++ '\n' :: (bodies.map (· ++ ['\r', '\n'])).flatten := by simp
      have h2 : ∀ c ∈ x ++ ['\r'], c ≠ '\n' := by
        intro c hc
        rcases List.mem_append.1 hc with h | h
        · exact (hx c h).1
        · simp at h; subst h; decide
      rw [h1, pyLinesAux_line h2, ih']
      simp

/-- the file object yields exactly the rendered lines (io.StringIO) … -/
theorem pyLines_text (f : FileL) (hf : f.Admissible) : pyLines f.text = f.lines := by
  rw [FileL.text, f.lines_eq_bodies, pyLines_bodies hf.eol _ (bodies_noNl hf)]

theorem universalNewlines_cons {c : Char} (hc : c ≠ '\r') (r : Str) :
    universalNewlines (c :: r) = c :: universalNewlines r := by
  rw [universalNewlines]
  · intro _ h _; exact hc h
  · intro h; exact hc h

theorem universalNewlines_lf {x : Str} (hx : ∀ c ∈ x, c ≠ '\r') (rest : Str) :
    universalNewlines (x ++ '\n' :: rest) = x ++ '\n' :: universalNewlines rest := by
  induction x with
  | nil => exact universalNewlines_cons (by decide) rest
  | cons c x ih =>
    rw [List.cons_append, universalNewlines_cons (hx c (by simp)), ih fun d hd => hx d (by simp [hd])]
    rfl

theorem universalNewlines_crlf {x : Str} (hx : ∀ c ∈ x, c ≠ '\r') (rest : Str) :
    universalNewlines (x ++ '\r' :: '\n' :: rest) = x ++ '\n' :: universalNewlines rest := by
  induction x with
  | nil => rw [List.nil_append, universalNewlines]; rfl
  | cons c x ih =>
    rw [List.cons_append, universalNewlines_cons (hx c (by simp)), ih fun d hd => hx d (by simp [hd])]
    rfl

theorem universalNewlines_bodies {e : Str} (he : IsEol e) (bodies : List Str) (hb : ∀ x ∈ bodies, NoNl x) :
    universalNewlines (bodies.map (· ++ e)).flatten = (bodies.map (· ++ ['\n'])).flatten := by
  induction bodies with
  | nil => rfl
  | cons x bodies ih =>
    have hx := hb x (by simp)
    have ih' := ih fun y hy => hb y (by simp [hy])
    rw [List.map_cons, List.flatten_cons, List.map_cons, List.flatten_cons]
    rcases he with rfl | rfl
    · rw [List.append_assoc, List.singleton_append, universalNewlines_lf (fun c hc => (hx c hc).2), ih']
    · have h1 : x ++ ['\r', '\n'] ++ (bodies.map (· ++ ['\r', '\n'])).flatten =
          x ++ '\r' :: '\n' :: (bodies.map (· ++ ['\r', '\n'])).flatten := by simp
      rw [h1, universalNewlines_crlf (fun c hc => (hx c hc).2), ih']
      simp

theorem admissible_lf (f : FileL) (hf : f.Admissible) : ({ f with eol := ['\n'] } : FileL).Admissible :=
  ⟨Or.inl rfl, hf.header, hf.leading, hf.games⟩

/-- … and through open() (universal newlines) the same lines with LF line ends -/
theorem pyLines_universal (f : FileL) (hf : f.Admissible) :
    pyLines (universalNewlines f.text) = ({ f with eol := ['\n'] } : FileL).lines := by
  have h : ({ f with eol := ['\n'] } : FileL).lines = f.bodies.map (· ++ ['\n']) :=
    FileL.lines_eq_bodies { f with eol := ['\n'] }
  rw [h, FileL.text, f.lines_eq_bodies, universalNewlines_bodies hf.eol _ (bodies_noNl hf),
    pyLines_bodies (Or.inl rfl) _ (bodies_noNl hf)]

/-! ## the behaviour before the repairs, on concrete files -/
theorem old_parser_rejects_leading_blank_line :
    pbnBoardSettingsOld? ["\n".toList, "[Deal \"N:- - - -\"]\n".toList, "[Dealer \"N\"]\n".toList,
      "[Vulnerable \"None\"]\n".toList, "[Board \"1\"]\n".toList] = none ∧
    (pbnBoardSettings? ["\n".toList, "[Deal \"N:- - - -\"]\n".toList, "[Dealer \"N\"]\n".toList,
      "[Vulnerable \"None\"]\n".toList, "[Board \"1\"]\n".toList]).isSome = true := by
  decide +kernel

theorem old_parser_changes_value :
    parseStreamOld ["[Board \"2  x\"]\n".toList] = [[("Board".toList, "2 x".toList)]] ∧
    parseStream ["[Board \"2  x\"]\n".toList] = [[("Board".toList, "2  x".toList)]] := by
  decide +kernel

end Bridge
