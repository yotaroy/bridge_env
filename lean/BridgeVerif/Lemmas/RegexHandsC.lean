import BridgeVerif.Lemmas.RegexHandsA
/-!
# `DEAL_PATTERN` = `([NESW]):(H) (H) (H) (H)`, `H` = `[2-9TJQKA\.]{16}|-`, is `dealFields?`  (Appendix F, R1, part C)
-/
namespace Bridge.RegexHands
open Bridge Bridge.Re Bridge.RegexPbn

def fieldRe : Re := .alt (.rep 16 (some 16) (.cls false handItems)) (.lit '-')
def seatRe : Re := .cls false [.ch 'N', .ch 'E', .ch 'S', .ch 'W']
def dealTail : Re :=
  .seq (.group 2 fieldRe) (.seq (.lit ' ') (.seq (.group 3 fieldRe)
    (.seq (.lit ' ') (.seq (.group 4 fieldRe) (.seq (.lit ' ') (.group 5 fieldRe))))))
def dealRe : Re := .seq (.group 1 seatRe) (.seq (.lit ':') dealTail)

theorem parse_deal : Re.parse DEAL_PATTERN = some dealRe := by
  rw [show DEAL_PATTERN = _ from String.toList_ofList]
  decide +kernel

theorem takeHandField_split (rest h r : List Char) (e : takeHandField? rest = some (h, r)) : rest = h ++ r := by
  unfold takeHandField? at e
  split at e
  · cases e; exact (List.take_append_drop 16 rest).symm
  · split at e
    · cases e; rfl
    · cases e

theorem not_dash_of_hand (x : Char) (h : isHandChar x = true) : ('-' == x) = false := by
  cases hx : ('-' == x) with
  | false => rfl
  | true =>
    have : '-' = x := eq_of_beq hx
    subst this
    revert h; decide

theorem charEq_false (c x : Char) : charEq false c x = (c == x) := by
  simp [charEq]

/-- one hand field `(H)` -/
theorem den_field (j : Nat) (k : St → Re.Res St) (pos : Nat) (rest : List Char) (caps : Caps) :
    den false (.group (j + 1) fieldRe) k ⟨pos, rest, caps⟩ =
      match takeHandField? rest with
      | some (h, r) => k ⟨pos + h.length, r, caps.set j (some (pos, pos + h.length))⟩
      | none => .fail := by
  simp only [den, fieldRe, charPred, hand_pred, setCap]
  rw [repExact isHandChar 16 _ caps 16 0 pos rest (by omega)]
  by_cases hc : (rest.take 16).length = 16 ∧ (rest.take 16).all isHandChar = true
  · have e : takeHandField? rest = some (rest.take 16, rest.drop 16) := by
      unfold takeHandField?; rw [if_pos hc]
    rw [e, if_pos hc]
    have hfail : stepChar (charEq false '-') ⟨pos, rest, caps⟩
        (fun st' => k { st' with caps := st'.caps.set j (some (pos, st'.pos)) }) = .fail := by
      cases rest with
      | nil => rfl
      | cons x xs =>
        have hx : isHandChar x = true := by
          have := hc.2
          simp only [List.take_succ_cons, List.all_cons, Bool.and_eq_true] at this
          exact this.1
        simp [stepChar, charEq_false, not_dash_of_hand x hx]
    rw [hfail, orFail_self_fail]
    simp only [hc.1]
  · rw [if_neg hc, orFail_fail]
    cases rest with
    | nil =>
      have e : takeHandField? [] = none := by unfold takeHandField?; rw [if_neg hc]
      rw [e]; rfl
    | cons x xs =>
      by_cases hx : x = '-'
      · subst hx
        have e : takeHandField? ('-' :: xs) = some (['-'], xs) := by
          unfold takeHandField?; rw [if_neg hc]; rfl
        rw [e]
        simp [stepChar, charEq_false]
      · have e : takeHandField? (x :: xs) = none := by
          unfold takeHandField?; rw [if_neg hc]
          split
          · rename_i heq; cases heq; exact absurd rfl hx
          · rfl
        have hne : ('-' == x) = false := beq_eq_false_iff_ne.mpr (Ne.symm hx)
        rw [e]
        simp [stepChar, charEq_false, hne]

/-- "one field, a blank, the rest" in the scanner -/
def fieldThen (cont : List Char → Option (List (List Char))) (r : List Char) : Option (List (List Char)) :=
  match takeHandField? r with
  | some (h, ' ' :: r') => (cont r').map fun gs => h :: gs
  | _ => none

def fieldLast (r : List Char) : Option (List (List Char)) :=
  (takeHandField? r).map fun hr => [hr.1]

theorem rel_field_blank (s : List Char) (N j : Nat) (hj : j < N) (K' : St → Re.Res St)
    (cont : List Char → Option (List (List Char))) (h : Rel s N (j + 1) K' cont) :
    Rel s N j (den false (.group (j + 1) fieldRe) (den false (.lit ' ') K')) (fieldThen cont) := by
  intro pos rest caps hd hl
  rw [den_field]
  unfold fieldThen
  cases hf : takeHandField? rest with
  | none => rfl
  | some hr =>
    obtain ⟨fld, r⟩ := hr
    have hsplit := takeHandField_split rest fld r hf
    cases r with
    | nil => rfl
    | cons c r' =>
      by_cases hc : c = ' '
      · subst hc
        have hdrop : s.drop (pos + fld.length + 1) = r' := by
          apply drop_succ_of_cons s (pos + fld.length) ' ' r'
          rw [← List.drop_drop, hd, hsplit]; simp
        have := h (pos + fld.length + 1) r' (caps.set j (some (pos, pos + fld.length))) hdrop (by simp [hl])
        simp only [den, stepChar, charEq_false, beq_self_eq_true, if_true]
        rw [this, texts_set s caps j pos fld.length (by omega), hd, hsplit]
        cases cont r' <;> simp
      · have hne : (' ' == c) = false := beq_eq_false_iff_ne.mpr (Ne.symm hc)
        have hm : (match some (fld, c :: r') with
          | some (h, ' ' :: r') => (cont r').map fun gs => h :: gs
          | _ => none) = none := by
          split
          · rename_i heq; cases heq; exact absurd rfl hc
          · rfl
        rw [hm]
        simp only [den, stepChar, charEq_false, hne, Bool.false_eq_true, if_false]
        rfl

theorem rel_field_last (s : List Char) (j : Nat) :
    Rel s (j + 1) j (den false (.group (j + 1) fieldRe) (kfin 0 false false)) fieldLast := by
  intro pos rest caps hd hl
  rw [den_field]
  unfold fieldLast
  cases hf : takeHandField? rest with
  | none => simp [absRes]
  | some hr =>
    obtain ⟨fld, r⟩ := hr
    have hsplit := takeHandField_split rest fld r hf
    have e : (texts s (caps.set j (some (pos, pos + fld.length))))
        = (texts s (caps.set j (some (pos, pos + fld.length)))).take (j + 1) := by
      rw [List.take_of_length_le]
      simp [texts]; omega
    simp only [kfin, Bool.false_and, Bool.or_false, Bool.false_eq_true, if_false, absRes]
    rw [e, texts_set s caps j pos fld.length (by omega), hd, hsplit]
    simp

/-! ### `dealFields?` in terms of `fieldThen` / `fieldLast` -/
def fieldThenG {α : Type} (G : List Char → List Char → Option α) (r : List Char) : Option α :=
  match takeHandField? r with
  | some (h, ' ' :: r') => G h r'
  | _ => none

theorem fieldThen_eq_G (cont : List Char → Option (List (List Char))) (r : List Char) :
    fieldThen cont r = fieldThenG (fun h r' => (cont r').map fun gs => h :: gs) r := rfl

theorem map_fieldThenG {α β : Type} (φ : α → β) (G : List Char → List Char → Option α) (r : List Char) :
    (fieldThenG G r).map φ = fieldThenG (fun h r' => (G h r').map φ) r := by
  unfold fieldThenG
  split <;> rfl

theorem dealFields_cons (f : Char) (r0 : List Char) :
    dealFields? (f :: ':' :: r0) =
      if f = 'N' ∨ f = 'E' ∨ f = 'S' ∨ f = 'W' then
        fieldThenG (fun h0 r1 => fieldThenG (fun h1 r2 => fieldThenG (fun h2 r3 =>
          match takeHandField? r3 with
          | some (h3, _) => some [[f], h0, h1, h2, h3]
          | none => none) r2) r1) r0
      else none := rfl

theorem dealFields_cons_ok (f : Char) (r0 : List Char) (hf : f = 'N' ∨ f = 'E' ∨ f = 'S' ∨ f = 'W') :
    dealFields? (f :: ':' :: r0) =
      (fieldThen (fieldThen (fieldThen fieldLast)) r0).map fun gs => [f] :: gs := by
  rw [dealFields_cons, if_pos hf]
  simp only [fieldThen_eq_G, map_fieldThenG, Option.map_map]
  refine congrArg (fun c => fieldThenG c r0) (funext fun h0 => funext fun r1 => ?_)
  refine congrArg (fun c => fieldThenG c r1) (funext fun h1 => funext fun r2 => ?_)
  refine congrArg (fun c => fieldThenG c r2) (funext fun h2 => funext fun r3 => ?_)
  unfold fieldLast
  cases takeHandField? r3 <;> rfl

theorem dealFields_ne (f c : Char) (r0 : List Char) (hc : c ≠ ':') : dealFields? (f :: c :: r0) = none := by
  unfold dealFields?
  split
  · rename_i heq; cases heq; exact absurd rfl hc
  · rfl

theorem seat_test (f : Char) :
    (classTest false f [.ch 'N', .ch 'E', .ch 'S', .ch 'W'] != false) = decide (f = 'N' ∨ f = 'E' ∨ f = 'S' ∨ f = 'W') := by
  rw [Bool.eq_iff_iff]
  simp only [classTest, ClassItem.test, charEq_false, Bool.or_false, bne_iff_ne, ne_eq, Bool.not_eq_false,
    Bool.or_eq_true, beq_iff_eq, decide_eq_true_eq]
  constructor
  · rintro (h | h | h | h) <;> simp [← h]
  · rintro (h | h | h | h) <;> simp [h]

theorem dealRe_ngroups : dealRe.ngroups = 5 := by decide
theorem dealRe_simple : simple dealRe = true := by decide

/-- the head `([NESW]):` -/
theorem den_head (R : Re) (K : St → Re.Res St) (caps : Caps) (s : List Char) :
    den false (.seq (.group 1 seatRe) (.seq (.lit ':') R)) K ⟨0, s, caps⟩ =
      match s with
      | [] => .fail
      | f :: t =>
        if f = 'N' ∨ f = 'E' ∨ f = 'S' ∨ f = 'W' then
          match t with
          | [] => .fail
          | c :: r0 => if c = ':' then den false R K ⟨2, r0, caps.set 0 (some (0, 1))⟩ else .fail
        else .fail := by
  cases s with
  | nil => rfl
  | cons f t =>
    by_cases hf : f = 'N' ∨ f = 'E' ∨ f = 'S' ∨ f = 'W'
    · cases t with
      | nil => simp only [den, seatRe, stepChar, seat_test, hf, decide_true, if_true]
      | cons c r0 =>
        by_cases hc : c = ':'
        · subst hc
          simp only [den, seatRe, stepChar, seat_test, hf, decide_true, if_true, charEq_false,
            beq_self_eq_true, setCap]
        · have hne : (':' == c) = false := beq_eq_false_iff_ne.mpr (Ne.symm hc)
          simp only [den, seatRe, stepChar, seat_test, hf, decide_true, if_true, charEq_false, hne, hc,
            Bool.false_eq_true, if_false]
    · simp only [den, seatRe, stepChar, seat_test, hf, decide_false, Bool.false_eq_true, if_false]

theorem match_deal (s : List Char) :
    (Re.pyMatch false DEAL_PATTERN s).map (Option.map (groupTexts s)) = some ((dealFields? s).map (·.map some)) := by
  rw [pyMatch_abs DEAL_PATTERN s dealRe parse_deal dealRe_simple, dealRe_ngroups]
  have r4 := rel_field_last s 4
  have r3 := rel_field_blank s 5 3 (by omega) _ _ r4
  have r2 := rel_field_blank s 5 2 (by omega) _ _ r3
  have r1 := rel_field_blank s 5 1 (by omega) _ _ r2
  unfold dealRe
  rw [den_head]
  cases s with
  | nil => rfl
  | cons f t =>
    by_cases hf : f = 'N' ∨ f = 'E' ∨ f = 'S' ∨ f = 'W'
    · simp only [if_pos hf]
      cases t with
      | nil => rfl
      | cons c r0 =>
        by_cases hc : c = ':'
        · subst hc
          rw [dealFields_cons_ok f r0 hf]
          have := r1 2 r0 ((List.replicate 5 none).set 0 (some (0, 1))) rfl (by simp)
          have ht : (texts (f :: ':' :: r0) ((List.replicate 5 none).set 0 (some (0, 1)))).take 1 = [some [f]] := rfl
          rw [ht] at this
          simp only [if_true]
          refine this.trans ?_
          cases fieldThen (fieldThen (fieldThen fieldLast)) r0 <;> rfl
        · simp only [if_neg hc, dealFields_ne f c r0 hc]
          rfl
    · simp only [if_neg hf]
      have e : dealFields? (f :: t) = none := by
        cases t with
        | nil => rfl
        | cons c r0 =>
          by_cases hc : c = ':'
          · subst hc; rw [dealFields_cons, if_neg hf]
          · exact dealFields_ne f c r0 hc
      rw [e]; rfl

end Bridge.RegexHands
