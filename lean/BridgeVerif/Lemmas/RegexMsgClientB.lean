import BridgeVerif.Lemmas.RegexMsgClient
import BridgeVerif.Lemmas.RegexConnectB
/-!
# The classes of `Lemmas/RegexMsgClient.lean` hold EVERY character (up to non-ASCII digits for the board header)

`Lemmas/RegexChars.lean` proves from the folding tables that for ASCII pattern letters the engine's `Re.charEq true` and
the scanner's `eqCI` agree on EVERY subject character, so
* `match_lead_all`, `match_teams_all` : the regular expression IS the scanner on EVERY subject;
* `match_board_nodigit` : … on every subject without a non-ASCII decimal digit (`\d` is Unicode-aware in `re`).
-/
namespace Bridge.RegexMsgClient
open Bridge Bridge.Re Bridge.RegexPbn Bridge.RegexHands Bridge.RegexConnect

/-- the pattern characters are ASCII and fold inside ASCII, in the engine and in the scanner -/
def smallOK (ps : List Char) : Bool :=
  ps.all fun p => decide (foldNat p.toNat < 128) && decide ((foldC p).toNat < 128) && decide (p.toNat < 128)

/-- engine and scanner compare ASCII pattern characters alike with EVERY character -/
theorem agreeLit_all_of (ps : List Char) (hsmall : smallOK ps = true)
    (hspec : agreeLit ps (Char.ofNat 0x17F) = true ∧ agreeLit ps (Char.ofNat 0x212A) = true ∧
      agreeLit ps (Char.ofNat 0x130) = true ∧ agreeLit ps (Char.ofNat 0x131) = true)
    (hascii : ∀ x : Char, x.toNat < 128 → agreeLit ps x = true) (x : Char) : agreeLit ps x = true :=
  -- the last component of `smallOK` is enough
  (fun _ _ => agreeLit_of_ascii ps (fun p hp => by
    have := List.all_eq_true.mp hsmall p hp
    simp only [Bool.and_eq_true, decide_eq_true_eq] at this
    exact this.2) x) hspec hascii

/-- a character that is no Unicode decimal digit is in the class -/
theorem agreeBoard_of_not_digit (x : Char) (h : Re.isDigit x = false) : agreeBoard x = true := by
  by_cases hx : x.toNat < 128
  · exact agreeBoard_ascii x hx
  · simp only [agreeBoard, agreeBoard_lit_all, h, isDigit_big x (by omega), beq_self_eq_true, Bool.and_self]

/-- `(.*) to lead` IS the scanner of `parseLeader?` on EVERY subject -/
theorem match_lead_all (s : List Char) :
    (Re.pyMatch true LEAD_PATTERN s).map (Option.map (groupTexts s)) = some ((leadFields? s).map (·.map some)) :=
  match_lead s fun x _ => agreeLead_all x

/-- `Teams : N/S : "(.*)".? E/W : "(.*)"` IS the scanner `parseTeamNames?` on EVERY subject -/
theorem match_teams_all (s : List Char) :
    (Re.pyMatch true TEAMS_PATTERN s).map (Option.map (groupTexts s)) = some ((teamFields? s).map (·.map some)) :=
  match_teams s fun x _ => agreeTeams_all x

/-- `Board number (\d+)\. Dealer (.*)\. (.*) vulnerable\.` IS the scanner of `parseBoard?` on every subject without a
non-ASCII decimal digit -/
theorem match_board_nodigit (s : List Char) (hs : ∀ x ∈ s, x.toNat < 128 ∨ Re.isDigit x = false) :
    (Re.pyMatch true BOARD_PATTERN s).map (Option.map (groupTexts s)) = some ((boardFields? s).map (·.map some)) :=
  match_board s fun x hx => by
    rcases hs x hx with h | h
    · exact agreeBoard_ascii x h
    · exact agreeBoard_of_not_digit x h

/-- the restriction is necessary: Arabic-Indic digits are `\d` for `re` but not for the scanner -/
example : (Re.pyMatch true BOARD_PATTERN "Board number ١٨. Dealer North. Both vulnerable.".toList).map
      (Option.map (groupTexts "Board number ١٨. Dealer North. Both vulnerable.".toList)) ≠
    some ((boardFields? "Board number ١٨. Dealer North. Both vulnerable.".toList).map (·.map some)) := by
  rw [show "Board number ١٨. Dealer North. Both vulnerable.".toList = _ from String.toList_ofList,
    show BOARD_PATTERN = _ from String.toList_ofList]
  decide +kernel

end Bridge.RegexMsgClient
