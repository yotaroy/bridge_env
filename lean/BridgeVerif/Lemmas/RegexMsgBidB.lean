import BridgeVerif.Lemmas.RegexMsgBidA
/-!
# The regular expressions of the table manager's message parsers, part B: `re.sub(r'\s+Alert\.\s*', '', m, IGNORECASE)`

`sub_alert` : for EVERY subject whose characters are in the class `agreeWs` — the pattern letters compare alike in the
engine and in the scanner, and `\s` (Python: `str.isspace`) agrees with the scanner's ASCII `isWs` — the generic engine's
`re.sub` with the empty replacement returns `removeAlert` of `Model/Msg.lean`.  The class holds every ASCII character
EXCEPT U+001C..U+001F (the four "information separators" are white space for Python and not for the model: on
`"a\x1cAlert."` the two differ, see the example at the end).
-/
namespace Bridge.RegexMsgBid
open Bridge Bridge.Re Bridge.RegexPbn Bridge.RegexHands Bridge.RegexConnect

/-- the pattern text of `Server.remove_alert_word` -/
def ALERT_PATTERN : List Char := "\\s+Alert\\.\\s*".toList
def wsItem : Re := .cls false [.space false]
def alertLit : List Char := "Alert.".toList
def alertRe : Re := .seq (.rep 1 none wsItem) (lits alertLit (.rep 0 none wsItem))

theorem parse_alert : Re.parse ALERT_PATTERN = some alertRe := by
  rw [show ALERT_PATTERN = _ from String.toList_ofList, alertRe, show alertLit = _ from String.toList_ofList]
  decide +kernel
theorem alertRe_simple : simple alertRe = true := by decide

/-- the class of subject characters for the alert pattern -/
def agreeWs (x : Char) : Bool := agree x && (Re.isSpace x == Bridge.isWs x)

/-- every ASCII character except U+001C..U+001F is in the class -/
theorem agreeWs_ascii (x : Char) (h : x.toNat < 128) (h2 : ¬ (0x1C ≤ x.toNat ∧ x.toNat ≤ 0x1F)) : agreeWs x = true := by
  simp only [agreeWs, agree_all, isSpace_ascii x h h2, beq_self_eq_true, Bool.and_self]

theorem space_pred (ic : Bool) : (fun x => classTest ic x [.space false] != false) = Re.isSpace := by
  funext x
  simp only [classTest, ClassItem.test, Bool.or_false]
  cases Re.isSpace x <;> rfl

/-! ### list facts -/
theorem strip_spec : ∀ (lit s r : List Char), stripPrefixCI lit s = some r →
    s.drop lit.length = r ∧ s.length = lit.length + r.length := by
  intro lit
  induction lit with
  | nil => intro s r h; simp only [stripPrefixCI, Option.some.injEq] at h; subst h; simp
  | cons c lit ih =>
    intro s r h
    cases s with
    | nil => simp [stripPrefixCI] at h
    | cons x xs =>
      simp only [stripPrefixCI] at h
      split at h
      · have := ih xs r h
        simp only [List.length_cons, List.drop_succ_cons]
        exact ⟨this.1, by omega⟩
      · cases h

/-! ### the pieces of the matcher -/
/-- a greedy star whose continuation refuses every character of the class never gives a character back -/
theorem repDen_commit (p : Char → Bool) (K : St → Re.Res St) (caps : Caps)
    (hK : ∀ pos x xs, p x = true → K ⟨pos, x :: xs, caps⟩ = .fail) (rest : List Char) (count pos : Nat) :
    repDen p 0 none K caps count pos rest = K ⟨pos + (rest.takeWhile p).length, rest.dropWhile p, caps⟩ := by
  rw [repDen_star p 0 K caps rest count pos (Nat.zero_le _), star_of_fail_on_p p K caps hK, drop_tw]

/-- a greedy star whose continuation accepts everything takes the longest run -/
theorem repDen_greedy_ok (p : Char → Bool) (K : St → Re.Res St) (caps : Caps) (q : Nat)
    (hK : ∀ pos' rest', q ≤ pos' → K ⟨pos', rest', caps⟩ = .ok ⟨pos', rest', caps⟩)
    (rest : List Char) (count pos : Nat) (hq : q ≤ pos) :
    repDen p 0 none K caps count pos rest = .ok ⟨pos + (rest.takeWhile p).length, rest.dropWhile p, caps⟩ := by
  have e := hK (pos + (rest.takeWhile p).length) (rest.drop (rest.takeWhile p).length) (by omega)
  rw [repDen_star p 0 K caps rest count pos (Nat.zero_le _), star_greedy p K caps rest pos (by rw [e]; simp), e, drop_tw]

/-- a run of ASCII literals is `stripPrefixCI` -/
theorem denLits_strip (K : St → Re.Res St) (caps : Caps) : ∀ (lit : List Char), (∀ c ∈ lit, c.toNat < 128) →
    ∀ (rest : List Char) (pos : Nat),
      denLits true lit K ⟨pos, rest, caps⟩ =
        match stripPrefixCI lit rest with
        | none => .fail
        | some r => K ⟨pos + lit.length, r, caps⟩ := by
  intro lit
  induction lit with
  | nil => intro _ rest pos; simp [denLits, stripPrefixCI]
  | cons c lit ih =>
    intro hl rest pos
    cases rest with
    | nil => simp [denLits, stepChar, stripPrefixCI]
    | cons x xs =>
      simp only [denLits, stepChar, stripPrefixCI, charEq_eqCI c x (hl c (by simp))]
      by_cases he : eqCI c x = true
      · simp only [he, if_true]
        rw [ih (fun c' hc' => hl c' (by simp [hc'])) xs (pos + 1)]
        simp only [List.length_cons]
        rw [show pos + 1 + lit.length = pos + (lit.length + 1) by omega]
      · simp [he]

/-! ### the anchored match -/
/-- the scanner at one position: a white-space character, the rest of the white space, `Alert.`, the white space after
it — the number of characters consumed and what is left (this is the test inside `removeAlertAux`) -/
def alertAt : List Char → Option (Nat × List Char)
  | [] => none
  | c :: r0 =>
    if Bridge.isWs c then
      match stripPrefixCI alertLit (r0.dropWhile Bridge.isWs) with
      | some r => some (1 + (r0.takeWhile Bridge.isWs).length + 6 + (r.takeWhile Bridge.isWs).length,
          r.dropWhile Bridge.isWs)
      | none => none
    else none

theorem alertAt_spec (rest t : List Char) (k : Nat) (h : alertAt rest = some (k, t)) :
    0 < k ∧ k + t.length = rest.length ∧ rest.drop k = t := by
  cases rest with
  | nil => cases h
  | cons c r0 =>
    simp only [alertAt] at h
    split at h
    · split at h
      · rename_i r hr
        simp only [Option.some.injEq, Prod.mk.injEq] at h
        obtain ⟨hk, ht⟩ := h
        obtain ⟨h1, h2⟩ := strip_spec _ _ _ hr
        have l1 := len_tw Bridge.isWs r0
        have l2 := len_tw Bridge.isWs r
        have e6 : alertLit.length = 6 := rfl
        rw [e6] at h1 h2
        refine ⟨by omega, ?_, ?_⟩
        · simp only [List.length_cons]; rw [← ht]; omega
        · rw [← hk, ← ht, show 1 + (r0.takeWhile Bridge.isWs).length + 6 + (r.takeWhile Bridge.isWs).length
              = ((r0.takeWhile Bridge.isWs).length + (6 + (r.takeWhile Bridge.isWs).length)) + 1 by omega,
            List.drop_succ_cons, ← List.drop_drop, drop_tw, ← List.drop_drop, h1, drop_tw]
      · cases h
    · cases h

theorem ws_not_A (x : Char) (h : Bridge.isWs x = true) : charEq true 'A' x = false := by
  simp only [Bridge.isWs, Bool.or_eq_true, beq_iff_eq] at h
  rcases h with ((((rfl | rfl) | rfl) | rfl) | rfl) | rfl <;> decide +kernel

theorem matchCore_alert (fuel pos : Nat) (rest : List Char) (mustAdv : Bool) (hf : alertRe.size + rest.length ≤ fuel)
    (hs : ∀ x ∈ rest, agreeWs x = true) :
    matchCore true alertRe fuel pos rest false mustAdv =
      match alertAt rest with
      | none => .fail
      | some (k, _) => .ok { span := (pos, pos + k), groups := [] } := by
  have hsp : ∀ x ∈ rest, Re.isSpace x = Bridge.isWs x := fun x hx => by
    have := hs x hx; simp only [agreeWs, Bool.and_eq_true] at this; exact eq_of_beq this.2
  rw [matchCore_eq_den true alertRe alertRe_simple fuel pos rest false mustAdv hf]
  have hden : den true alertRe (kfin pos false mustAdv) ⟨pos, rest, List.replicate alertRe.ngroups none⟩ =
      repDen Bridge.isWs 1 none (denLits true alertLit (fun st =>
        repDen Re.isSpace 0 none (kfin pos false mustAdv) st.caps 0 st.pos st.rest)) [] 0 pos rest := by
    show den true (.seq (.rep 1 none wsItem) (lits alertLit (.rep 0 none wsItem))) _ _ = _
    simp only [den, charPred, wsItem, space_pred, den_lits_fun]
    exact repDen_pred _ _ _ _ _ _ rest 0 pos hsp
  rw [hden]
  cases rest with
  | nil => simp [repDen, alertAt]
  | cons c r0 =>
    by_cases hc : Bridge.isWs c = true
    · have hK : ∀ pos' x xs, Bridge.isWs x = true → denLits true alertLit (fun st =>
          repDen Re.isSpace 0 none (kfin pos false mustAdv) st.caps 0 st.pos st.rest) ⟨pos', x :: xs, []⟩ = .fail := by
        intro pos' x xs hx
        simp [alertLit, denLits, stepChar, ws_not_A x hx]
      simp only [repDen, Nat.lt_add_one, if_true, hc, Nat.zero_add]
      rw [repDen_min _ 1 _ _ r0 1 (pos + 1) (Nat.le_refl _), repDen_commit Bridge.isWs _ [] hK r0 1 (pos + 1),
        denLits_strip _ [] alertLit (by decide) _ _]
      simp only [alertAt, hc, if_true]
      cases hr : stripPrefixCI alertLit (r0.dropWhile Bridge.isWs) with
      | none => rfl
      | some r =>
        have hmem : ∀ x ∈ r, x ∈ c :: r0 := by
          intro x hx
          have := (strip_spec _ _ _ hr).1
          rw [← this] at hx
          simp [mem_dw _ _ _ (List.mem_of_mem_drop hx)]
        simp only
        rw [repDen_pred Re.isSpace Bridge.isWs 0 none _ [] r 0 _ (fun x hx => hsp x (hmem x hx)),
          repDen_greedy_ok Bridge.isWs _ [] (pos + 1) (by
            intro pos' rest' hq
            have : (pos' == pos) = false := by simp; omega
            simp [kfin, this]) r 0 _ (by omega)]
        simp only
        congr 3
        have e6 : alertLit.length = 6 := rfl
        rw [e6]; omega
    · simp only [Bool.not_eq_true] at hc
      simp [repDen, hc, alertAt]

end Bridge.RegexMsgBid
