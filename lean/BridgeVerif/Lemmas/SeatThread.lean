import BridgeVerif.Lemmas.SeatThreadStreams
/-!
# The reactive seat thread (`Model/SeatThread.lean`) performs the straight-line seat program of the session model

Phase by phase: what main queues for seat `p` (`qOf`), what `p`'s client sends (`cOf`) and the seat program (`sOf`)
are computed in `Lemmas/SeatThreadStreams.lean`; here each reactive function (`seatDealR`, `seatBiddingR`,
`seatTrickR`, `seatPlayingR`, `seatBoardsR`) is shown to consume exactly the streams of its phases and to emit exactly
their seat programs, leaving the rest of the streams untouched.
-/
namespace Bridge

@[simp] theorem getQ_cons (m : Text) (r c : List Text) :
    SeatIn.getQ { q := m :: r, c := c } = some (m, { q := r, c := c }) := rfl
@[simp] theorem getC_cons (m : Text) (q r : List Text) :
    SeatIn.getC { q := q, c := m :: r } = some (m, { q := q, c := r }) := rfl

theorem seatOfFormal_formal (a : Seat) : seatOfFormal? a.formal = some a := by cases a <;> decide
theorem formal_ne_null (a : Seat) : a.formal ≠ MSG_NULL := by cases a <;> decide

/-! ## deal -/
theorem seatDealR_phase (p : Seat) (h : Text) (cards r1 r2 : Seat → Text) (q' c' : List Text) :
    seatDealR p { q := qOf p (.deal h cards r1 r2) ++ q', c := cOf p (.deal h cards r1 r2) ++ c' } =
      some (sOf p (.deal h cards r1 r2), { q := q', c := c' }) := by
  simp [qOf_deal, cOf_deal, seatDealR, sOf, phaseProg]

/-! ## auction -/
theorem seatBiddingR_calls (p dealer : Seat) (q' c' : List Text) : ∀ (calls : List (Call × Text)) (j fuel : Nat),
    calls.length < fuel →
    seatBiddingR p fuel { q := (callPhases dealer j calls).flatMap (qOf p) ++ MSG_NULL :: q',
                          c := (callPhases dealer j calls).flatMap (cOf p) ++ c' } =
      some ((callPhases dealer j calls).flatMap (sOf p) ++ [.recv (.m2t p)], { q := q', c := c' }) := by
  intro calls
  induction calls with
  | nil =>
    intro j fuel hf
    obtain ⟨f, rfl⟩ : ∃ f, fuel = f + 1 := ⟨fuel - 1, by simp at hf; omega⟩
    simp [callPhases, seatBiddingR]
  | cons x r ih =>
    intro j fuel hf
    obtain ⟨cl, text⟩ := x
    obtain ⟨f, rfl⟩ : ∃ f, fuel = f + 1 := ⟨fuel - 1, by simp at hf; omega⟩
    have ih := ih (j + 1) f (by simp at hf; omega)
    simp only [callPhases, List.flatMap_cons, qOf_call, cOf_call, sOf, phaseProg, List.append_assoc,
      List.cons_append]
    rw [seatBiddingR]
    by_cases h : p = dealer.rot j
    · subst h
      simp [formal_ne_null, seatOfFormal_formal, ih]
    · simp [h, formal_ne_null, seatOfFormal_formal, ih]

/-! ## one card -/
theorem cardPlayer_cases (p a d : Seat) :
    (p = cardPlayer a d ∧ ((p = a ∧ p ≠ d.partner) ∨ (¬ (p = a ∧ p ≠ d.partner) ∧ p = d ∧ a = d.partner))) ∨
    (p ≠ cardPlayer a d ∧ ¬ (p = a ∧ p ≠ d.partner) ∧ ¬ (p = d ∧ a = d.partner)) := by
  cases p <;> cases a <;> cases d <;> decide

set_option linter.unusedSimpArgs false in
theorem seatTrickR_step (p d a : Seat) (first : Bool) (idx : Nat) (hidx : idx < 4) (lead op : Bool)
    (hlead : lead = true ↔ idx = 0) (hop : op = true ↔ (first = true ∧ idx = 0))
    (card dc rdy rdd : Text) (q' c' : List Text) :
    seatTrickR p d first idx a { q := cardQ p d a op card dc ++ q', c := cardC p d a op card rdy rdd ++ c' } =
      (seatTrickR p d first (idx + 1) a.left { q := q', c := c' }).map fun r =>
        (cardS p d a lead op (if a = d.partner then "Dummy to lead".toList else a.formal ++ " to lead".toList)
          card dc ++ r.1, r.2) := by
  rw [seatTrickR.eq_2 _ _ _ _ _ _ (by omega)]
  have h4 : ¬ idx > 4 := by omega
  have hoeq : (first = true ∧ idx = 0 ∧ p ≠ d.partner) ↔ (op = true ∧ p ≠ d.partner) := by
    rw [hop, and_assoc]
  simp only [hoeq, if_neg h4]
  generalize seatTrickR p d first (idx + 1) a.left = K
  have hl : lead = decide (idx = 0) := by
    cases lead <;> simp_all
  subst hl
  rcases cardPlayer_cases p a d with ⟨h1, h2 | ⟨h2, h3⟩⟩ | ⟨h1, h2, h3⟩
  · have ha : a ≠ d.partner := fun e => h2.2 (h2.1.trans e)
    simp only [cardQ, cardC, cardS, if_pos h1, if_pos h2, if_neg ha]
    have hpa := h2.1
    subst hpa
    by_cases ho : op = true ∧ p ≠ d.partner <;> by_cases hi : idx = 0 <;>
      (first | simp only [if_pos ho] | simp only [if_neg ho]) <;> simp [hi] <;>
      cases K { q := q', c := c' } <;> simp
  · simp only [cardQ, cardC, cardS, if_pos h1, if_neg h2, if_pos h3, if_pos h3.2]
    by_cases ho : op = true ∧ p ≠ d.partner <;> by_cases hi : idx = 0 <;>
      (first | simp only [if_pos ho] | simp only [if_neg ho]) <;> simp [hi] <;>
      cases K { q := q', c := c' } <;> simp
  · simp only [cardQ, cardC, cardS, if_neg h1, if_neg h2, if_neg h3]
    by_cases ho : op = true ∧ p ≠ d.partner <;> by_cases hi : idx = 0 <;>
      (first | simp only [if_pos ho] | simp only [if_neg ho]) <;> simp [hi] <;>
      cases K { q := q', c := c' } <;> simp

/-! ## one trick -/
theorem playCard_mid (s : PState) (x : Card) (h : s.trick.length < 3) :
    (playCard s x).trick = s.trick ++ [x] ∧ (playCard s x).active = s.active.left ∧
      (playCard s x).leader = s.leader := by
  rw [playCard_incomplete s x (by omega)]; simp
theorem playCard_last (s : PState) (x : Card) (h : s.trick.length = 3) :
    (playCard s x).trick = [] ∧ (playCard s x).active = (playCard s x).leader := by
  rw [playCard_complete s x h]; simp

theorem one_trick (p d : Seat) (deal : Hands) (s : PState) (j : Nat) (first : Bool) (hf : first = true ↔ j = 0)
    (ht : s.trick = []) (ha : s.active = s.leader) (x1 x2 x3 x4 : Card × Text) (rest : List (Card × Text)) :
    ∃ (s4 : PState) (Q C : List Text) (S : SeatActs),
      (cardPhases d deal s j (x1 :: x2 :: x3 :: x4 :: rest)).flatMap (qOf p) =
        s.leader.formal :: Q ++ (cardPhases d deal s4 (j + 4) rest).flatMap (qOf p) ∧
      (cardPhases d deal s j (x1 :: x2 :: x3 :: x4 :: rest)).flatMap (cOf p) =
        C ++ (cardPhases d deal s4 (j + 4) rest).flatMap (cOf p) ∧
      (cardPhases d deal s j (x1 :: x2 :: x3 :: x4 :: rest)).flatMap (sOf p) =
        Act.recv (.m2t p) :: S ++ (cardPhases d deal s4 (j + 4) rest).flatMap (sOf p) ∧
      (∀ q' c', seatTrickR p d first 0 s.leader { q := Q ++ q', c := C ++ c' } = some (S, { q := q', c := c' })) ∧
      s4.trick = [] ∧ s4.active = s4.leader := by
  obtain ⟨c1, t1⟩ := x1
  obtain ⟨c2, t2⟩ := x2
  obtain ⟨c3, t3⟩ := x3
  obtain ⟨c4, t4⟩ := x4
  obtain ⟨e1t, e1a, e1l⟩ := playCard_mid s c1 (by simp [ht])
  obtain ⟨e2t, e2a, e2l⟩ := playCard_mid (playCard s c1) c2 (by simp [e1t, ht])
  obtain ⟨e3t, e3a, e3l⟩ := playCard_mid (playCard (playCard s c1) c2) c3 (by simp [e2t, e1t, ht])
  obtain ⟨e4t, e4a⟩ := playCard_last (playCard (playCard (playCard s c1) c2) c3) c4 (by simp [e3t, e2t, e1t, ht])
  refine ⟨playCard (playCard (playCard (playCard s c1) c2) c3) c4, ?_⟩
  simp only [cardPhases, List.flatMap_cons, qOf_card, cOf_card, sOf_card, e1t, e2t, e3t, ht, e1a, e2a, e3a,
    e1l, e2l, e3l, ha]
  have hj : j + 1 + 1 + 1 + 1 = j + 4 := rfl
  simp only [hj, decide_true, if_true, List.nil_append, List.cons_append, List.cons_ne_nil, decide_false,
    Bool.false_eq_true, if_false]
  refine ⟨?Q, ?C, ?S, ?hq, ?hc, ?hs, ?hrun, e4t, e4a⟩
  case hq => simp only [← List.append_assoc]; rfl
  case hc => simp only [← List.append_assoc]; rfl
  case hs => simp only [← List.append_assoc]; rfl
  intro q' c'
  simp only [List.append_assoc]
  rw [seatTrickR_step p d s.leader first 0 (by omega) true (decide (j = 0)) (by simp) (by simp [hf])]
  simp only [Nat.zero_add]
  rw [seatTrickR_step p d s.leader.left first 1 (by omega) false (decide (j + 1 = 0)) (by simp) (by simp)]
  simp only [Nat.reduceAdd]
  rw [seatTrickR_step p d s.leader.left.left first 2 (by omega) false (decide (j + 1 + 1 = 0)) (by simp) (by simp)]
  simp only [Nat.reduceAdd]
  rw [seatTrickR_step p d s.leader.left.left.left first 3 (by omega) false (decide (j + 1 + 1 + 1 = 0)) (by simp)
    (by simp)]
  simp only [Nat.reduceAdd]
  rw [seatTrickR.eq_1]
  simp only [Option.map_some, List.append_nil]

/-! ## the tricks of a board -/
theorem tricks_play (p d : Seat) (deal : Hands) (q' c' : List Text) :
    ∀ (n : Nat) (cards : List (Card × Text)) (s : PState) (k : Nat), cards.length = 4 * n →
      s.trick = [] → s.active = s.leader →
      seatPlayingR.tricks p d n (k + 1)
          { q := (cardPhases d deal s (4 * k) cards).flatMap (qOf p) ++ q',
            c := (cardPhases d deal s (4 * k) cards).flatMap (cOf p) ++ c' } =
        some ((cardPhases d deal s (4 * k) cards).flatMap (sOf p), { q := q', c := c' }) := by
  intro n
  induction n with
  | zero =>
    intro cards s k hl _ _
    have : cards = [] := List.eq_nil_of_length_eq_zero (by simpa using hl)
    subst this
    simp [cardPhases, seatPlayingR.tricks]
  | succ n ih =>
    intro cards s k hl ht ha
    match cards, hl with
    | x1 :: x2 :: x3 :: x4 :: rest, hl =>
      obtain ⟨s4, Q, C, S, hq, hc, hs, hrun, ht4, ha4⟩ :=
        one_trick p d deal s (4 * k) (decide (k + 1 = 1)) (by simp; omega) ht ha x1 x2 x3 x4 rest
      have ih := ih rest s4 (k + 1) (by simp at hl; omega) ht4 ha4
      rw [show 4 * (k + 1) = 4 * k + 4 from by omega] at ih
      rw [hq, hc, hs, seatPlayingR.tricks]
      simp only [List.cons_append, List.append_assoc, getQ_cons, Option.bind_eq_bind, Option.bind_some,
        seatOfFormal_formal, hrun, ih]
      simp

/-! ## the contract of a finished auction with a bid has a declarer -/
theorem contractOfCalls_declarer (b : BoardSetting) (calls : List Call) (c : Contract)
    (hc : contractOfCalls b calls = some c) (hb : c.isPassedOut = false) : ∃ decl, c.declarer = some decl := by
  unfold contractOfCalls at hc
  have hr := reach_run b.dealer b.vul calls
  by_cases he : EndedLaw (accepted b.dealer [] calls)
  · rw [C03.contract_is_spec _ _ _ _ hr he] at hc
    cases hc
    cases hq : lastBid? (accepted b.dealer [] calls) with
    | none => simp [specContract, hq, Contract.isPassedOut] at hb
    | some kj =>
      obtain ⟨k, j⟩ := kj
      obtain ⟨pl, hpl, _⟩ := C03.declarer_is_first_namer b.dealer b.vul _ k j hq
      exact ⟨pl, hpl⟩
  · rw [C03.contract_none_before_end _ _ _ _ hr he] at hc
    cases hc

/-! ## one board -/
/-- a board whose auction ends in a contract is played to the end: thirteen tricks -/
def BoardPlayable (b : BoardSetting) (d : Decisions) : Prop :=
  ∀ c, contractOfCalls b (d.calls.map (·.1)) = some c → c.isPassedOut = false → d.cards.length = 52

theorem callPhases_q_length (p dealer : Seat) : ∀ (calls : List (Call × Text)) (j : Nat),
    calls.length ≤ ((callPhases dealer j calls).flatMap (qOf p)).length := by
  intro calls
  induction calls with
  | nil => intro j; simp
  | cons x r ih =>
    intro j
    obtain ⟨cl, text⟩ := x
    have := ih (j + 1)
    simp only [callPhases, List.flatMap_cons, qOf_call, List.length_append, List.length_cons]
    omega

/-- the contract main computes for a board (the default when the auction is not finished is "passed out") -/
def boardContractOf (b : BoardSetting) (d : Decisions) : Contract :=
  (contractOfCalls b (d.calls.map (·.1))).getD ⟨none, false, false, b.vul, none⟩

/-- the phases of the play of a board -/
def playPhases (b : BoardSetting) (d : Decisions) : List (Phase Text LogOp) :=
  match PState.init (boardContractOf b d), (boardContractOf b d).declarer with
  | some s0, some decl => Phase.playStart decl.formal :: cardPhases decl b.deal s0 0 d.cards
  | _, _ => []

theorem boardPhases_eq (sc : Scenario) (k : Nat) (last : Bool) (b : BoardSetting) (d : Decisions) :
    boardPhases sc k last b d =
      [Phase.deal (boardHeader k b.dealer b.vul) (fun p => cardsMsg p.formal (b.deal p))
        (fun p => readyFor p "deal".toList) (fun p => readyFor p "cards".toList)] ++
      callPhases b.dealer 0 d.calls ++
      [Phase.auctionEnd MSG_NULL (if (boardContractOf b d).isPassedOut then MSG_PASSED_OUT else MSG_NULL)] ++
      playPhases b d ++
      [if last then Phase.lastBoard (LogOp.write (recordOf sc b d)) LogOp.close MSG_END
       else Phase.nextBoard (LogOp.write (recordOf sc b d)) MSG_NEXT MSG_START] := by
  rfl

/-- the play of a board as the reactive thread performs it -/
theorem seatPlay_board (p : Seat) (b : BoardSetting) (d : Decisions) (hp : BoardPlayable b d) (q' c' : List Text) :
    (if (boardContractOf b d).isPassedOut then
        some (([] : SeatActs), ({ q := (playPhases b d).flatMap (qOf p) ++ q',
                                  c := (playPhases b d).flatMap (cOf p) ++ c' } : SeatIn))
     else seatPlayingR p { q := (playPhases b d).flatMap (qOf p) ++ q',
                           c := (playPhases b d).flatMap (cOf p) ++ c' }) =
      some ((playPhases b d).flatMap (sOf p), { q := q', c := c' }) := by
  cases hpo : (boardContractOf b d).isPassedOut with
  | true =>
    have : PState.init (boardContractOf b d) = none := by
      simp only [Contract.isPassedOut, Option.isNone_iff_eq_none] at hpo
      simp [PState.init, hpo]
    simp [playPhases, this]
  | false =>
    cases hcc : contractOfCalls b (d.calls.map (·.1)) with
    | none => simp [boardContractOf, hcc, Contract.isPassedOut] at hpo
    | some c =>
      have hc : boardContractOf b d = c := by simp [boardContractOf, hcc]
      rw [hc] at hpo
      obtain ⟨decl, hdecl⟩ := contractOfCalls_declarer b _ c hcc hpo
      have hlen := hp c hcc hpo
      obtain ⟨bid, hbid⟩ : ∃ bid, c.finalBid = some bid := by
        cases hf : c.finalBid with
        | none => simp [Contract.isPassedOut, hf] at hpo
        | some bid => exact ⟨bid, rfl⟩
      let s0 : PState :=
          { trump := bidDenom bid, declarer := decl, dummy := decl.partner, leader := decl.left,
            active := decl.left, trick := [], trickNum := 1, history := [], used := [], takenNS := 0,
            takenEW := 0 }
      have hplay : playPhases b d = Phase.playStart decl.formal :: cardPhases decl b.deal s0 (4 * 0) d.cards := by
        simp [playPhases, hc, PState.init, hbid, hdecl, s0]
      rw [hplay]
      have ht := tricks_play p decl b.deal q' c' 13 d.cards s0 0 hlen rfl rfl
      simp only [Bool.false_eq_true, if_false, List.flatMap_cons, qOf_playStart, cOf_playStart, seatPlayingR,
        List.cons_append, List.nil_append, getQ_cons, Option.bind_eq_bind, Option.bind_some,
        seatOfFormal_formal]
      rw [ht]
      simp [sOf, phaseProg]

theorem msg_facts : MSG_PASSED_OUT ≠ MSG_NULL ∧ MSG_NEXT ≠ MSG_END ∧ MSG_NULL ≠ MSG_PASSED_OUT := by decide

theorem seatBoardsR_board (sc : Scenario) (p : Seat) (k : Nat) (last : Bool) (b : BoardSetting) (d : Decisions)
    (hp : BoardPlayable b d) (fuel : Nat) (q' c' : List Text) :
    seatBoardsR p (fuel + 1)
        { q := (boardPhases sc k last b d).flatMap (qOf p) ++ q',
          c := (boardPhases sc k last b d).flatMap (cOf p) ++ c' } =
      if last then some ((boardPhases sc k last b d).flatMap (sOf p), { q := q', c := c' })
      else (seatBoardsR p fuel { q := q', c := c' }).map fun r =>
        ((boardPhases sc k last b d).flatMap (sOf p) ++ r.1, r.2) := by
  have hplay := seatPlay_board p b d hp
  rw [boardPhases_eq]
  generalize boardContractOf b d = contract at hplay ⊢
  generalize playPhases b d = play at hplay ⊢
  generalize hst : (if last = true then Phase.lastBoard (LogOp.write (recordOf sc b d)) LogOp.close MSG_END
                  else Phase.nextBoard (LogOp.write (recordOf sc b d)) MSG_NEXT MSG_START) = status
  generalize hdl : Phase.deal (boardHeader k b.dealer b.vul) (fun p => cardsMsg p.formal (b.deal p))
                          (fun p => readyFor p "deal".toList) (fun p => readyFor p "cards".toList) = dealPh
  simp only [List.flatMap_append, List.flatMap_cons, List.flatMap_nil, List.append_nil, List.append_assoc]
  rw [seatBoardsR]
  subst hdl
  simp only [Option.bind_eq_bind, seatDealR_phase, Option.bind_some]
  simp only [qOf_auctionEnd, cOf_auctionEnd, List.cons_append, List.nil_append]
  generalize hbf : (List.flatMap (qOf p) (callPhases b.dealer 0 d.calls) ++ _).length + 1 = bf
  have hlt : d.calls.length < bf := by
    have := callPhases_q_length p b.dealer d.calls 0
    rw [← hbf, List.length_append]; omega
  rw [seatBiddingR_calls p b.dealer _ _ d.calls 0 bf hlt]
  simp only [Option.bind_some, getQ_cons]
  clear hbf hlt
  generalize sOf p (Phase.deal _ _ _ _) = SD
  generalize List.flatMap (sOf p) (callPhases b.dealer 0 d.calls) = SC
  have hplay := hplay (qOf p status ++ q') (cOf p status ++ c')
  obtain ⟨m1, m2, m3⟩ := msg_facts
  cases hpo : contract.isPassedOut <;> simp only [hpo, Bool.false_eq_true, if_false, if_true] at hplay <;>
    simp only [Bool.false_eq_true, if_false, if_neg m3, if_true, Option.pure_def, hplay, Option.bind_some] <;>
    subst hst <;> cases last <;>
    simp only [Bool.false_eq_true, if_false, if_true, qOf_nextBoard, cOf_nextBoard, qOf_lastBoard, cOf_lastBoard,
      List.cons_append, List.nil_append, getQ_cons, Option.bind_some, if_neg m2.symm] <;>
    cases seatBoardsR p fuel { q := q', c := c' } <;> simp [sOf, phaseProg]

/-! ## the boards of a session -/
/-- a stream to which every deal phase contributes has at least as many messages as there are boards (a bound for
the fuel of the board loops) -/
theorem boardsPhases_length_le {α : Type} (sc : Scenario) (f : Phase Text LogOp → List α)
    (hf : ∀ h cards r1 r2, 1 ≤ (f (.deal h cards r1 r2)).length) :
    ∀ (boards : List (BoardSetting × Decisions)) (k : Nat),
    boards.length ≤ ((boardsPhases sc k boards).flatMap f).length := by
  have hb : ∀ k last b d, 1 ≤ ((boardPhases sc k last b d).flatMap f).length := by
    intro k last b d
    have := hf (boardHeader k b.dealer b.vul) (fun p => cardsMsg p.formal (b.deal p))
      (fun p => readyFor p "deal".toList) (fun p => readyFor p "cards".toList)
    rw [boardPhases_eq]
    simp only [List.flatMap_append, List.flatMap_cons, List.flatMap_nil, List.length_append]
    omega
  intro boards
  induction boards with
  | nil => intro k; simp
  | cons x r ih =>
    intro k
    obtain ⟨b, d⟩ := x
    cases r with
    | nil => simpa [boardsPhases] using hb k true b d
    | cons y r' =>
      have h1 := ih (k + 1)
      have h2 := hb k false b d
      rw [boardsPhases_cons₂, List.flatMap_append, List.length_append]
      simp only [List.length_cons] at h1 ⊢; omega

theorem boardsPhases_q_length (sc : Scenario) (p : Seat) : ∀ (boards : List (BoardSetting × Decisions)) (k : Nat),
    boards.length ≤ ((boardsPhases sc k boards).flatMap (qOf p)).length :=
  boardsPhases_length_le sc (qOf p) fun h cards r1 r2 => by simp [qOf_deal]

theorem seatBoardsR_boards (sc : Scenario) (p : Seat) (q' c' : List Text) :
    ∀ (boards : List (BoardSetting × Decisions)) (k fuel : Nat), boards ≠ [] →
      (∀ bd ∈ boards, BoardPlayable bd.1 bd.2) → boards.length ≤ fuel →
      seatBoardsR p fuel { q := (boardsPhases sc k boards).flatMap (qOf p) ++ q',
                           c := (boardsPhases sc k boards).flatMap (cOf p) ++ c' } =
        some ((boardsPhases sc k boards).flatMap (sOf p), { q := q', c := c' }) := by
  intro boards
  induction boards with
  | nil => intro k fuel h; exact absurd rfl h
  | cons x r ih =>
    intro k fuel _ hp hf
    obtain ⟨b, d⟩ := x
    obtain ⟨f, rfl⟩ : ∃ f, fuel = f + 1 := ⟨fuel - 1, by simp at hf; omega⟩
    have hbd : BoardPlayable b d := hp (b, d) List.mem_cons_self
    cases r with
    | nil =>
      simp only [boardsPhases]
      rw [seatBoardsR_board sc p k true b d hbd]
      simp
    | cons y r' =>
      have ih := ih (k + 1) f (by simp) (fun bd h => hp bd (List.mem_cons_of_mem _ h))
        (by simp at hf ⊢; omega)
      rw [boardsPhases_cons₂]
      simp only [List.flatMap_append, List.append_assoc]
      rw [seatBoardsR_board sc p k false b d hbd, ih]
      simp

/-! ## the session -/
/-- every board of the scenario whose auction reaches a contract is played to the end (52 cards: thirteen tricks);
nothing is asked of a passed-out board or of an unfinished auction (the model plays no card there), and nothing of
the texts -/
def ScenarioPlayable (sc : Scenario) : Prop :=
  ∀ b d, (b, d) ∈ sc.boards → ∀ c, contractOfCalls b (d.calls.map (·.1)) = some c → c.isPassedOut = false →
    d.cards.length = 52

/-- fed the messages the main thread queues for it and the messages its client sends in a session, the reactive seat
thread performs exactly the straight-line program of the session model -/
theorem seatReactive_session (sc : Scenario) (h : sc.boards ≠ []) (hw : ScenarioPlayable sc) (p : Seat) :
    seatReactive p (teamsMsg sc.nsName sc.ewName)
        (sendsOn (Chan.m2t p) (sessionProg sc .main))
        (sendsOn (Chan.c2s p) (sessionProg sc (.client p)))
      = some (sessionProg sc (.seat p)) := by
  have hq : sendsOn (Chan.m2t p) (sessionProg sc .main) = (boardsPhases sc 1 sc.boards).flatMap (qOf p) := by
    unfold sessionProg sessionPhases
    rw [sendsOn_progOfPhases, List.flatMap_cons]
    show qOf p _ ++ List.flatMap (qOf p) _ = _
    rw [qOf_seating]; rfl
  have hc : sendsOn (Chan.c2s p) (sessionProg sc (.client p)) =
      (p.formal ++ " ready to start".toList) :: (boardsPhases sc 1 sc.boards).flatMap (cOf p) := by
    unfold sessionProg sessionPhases
    rw [sendsOn_progOfPhases, List.flatMap_cons]
    show cOf p _ ++ List.flatMap (cOf p) _ = _
    rw [cOf_seating]; rfl
  have hs : sessionProg sc (.seat p) =
      sync ++ [.send (.s2c p) (teamsMsg sc.nsName sc.ewName), .recv (.c2s p), .send (.s2c p) MSG_START] ++
        (boardsPhases sc 1 sc.boards).flatMap (sOf p) := by
    unfold sessionProg sessionPhases progOfPhases
    rw [List.flatMap_cons]
    rfl
  have hrun := seatBoardsR_boards sc p [] [] sc.boards 1
    (((boardsPhases sc 1 sc.boards).flatMap (qOf p)).length + 1) h (fun bd hbd => hw bd.1 bd.2 hbd)
    (by have := boardsPhases_q_length sc p sc.boards 1; omega)
  simp only [List.append_nil] at hrun
  rw [hq, hc, hs]
  simp only [seatReactive, getC_cons, Option.bind_eq_bind, Option.bind_some, hrun, Option.pure_def]

end Bridge
