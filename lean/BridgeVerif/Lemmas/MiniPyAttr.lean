import Lean.Meta.Tactic.Simp.RegisterCommand
import Lean.Meta.Tactic.Simp.BuiltinSimprocs

/-- the equations by which `simp` runs the MiniPy interpreter on a program text: `simp only [pyexec, …]` -/
register_simp_attr pyexec

/-- the methods of the `_World` class and of the thread classes on an encoded world, as equations about their calls:
`simp only [pyexec, pyworld, …]` answers such a call instead of entering it -/
register_simp_attr pyworld
