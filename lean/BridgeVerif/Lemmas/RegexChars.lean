import BridgeVerif.Model.Regex
import BridgeVerif.Model.Msg
/-!
# Characters: where the engine of `Model/Regex.lean` and the scanners of `Model/Msg.lean` test alike

Case-insensitive comparison: the engine uses `Re.charEq true` (the Unicode lower-casing and folding tables), the scanners
`eqCI` (ASCII lower-casing plus ſ, K, İ, ı).  From the tables, above ASCII only those four characters fold into ASCII
(`foldNat_ge`, `foldC_big`); on ASCII and on the four, `foldC` is `foldNat` (`fold_ascii`, `fold_specials`).  Hence an ASCII
pattern character is compared alike with EVERY character (`charEq_eqCI`).

Classes: `\d` is the ASCII digit test on ASCII, and no character above ASCII is an ASCII digit; `\s` is the scanners' `isWs`
on ASCII except U+001C..U+001F.
-/
namespace Bridge.RegexConnect
open Bridge Bridge.Re

/-! ### the tables send nothing but İ, K (lower-casing) and ı, ſ (folding) below U+0080 -/
def lowOK (T : List (Nat × Nat × Nat × Nat)) : Bool :=
  T.all fun e => Nat.ble 128 e.2.2.2 || Nat.blt e.2.1 128 || (e.1 == e.2.1 && (e.1 == 0x130 || e.1 == 0x212A))

theorem lowerLookup_small : ∀ T, lowOK T = true → ∀ n, 128 ≤ n → lowerLookup n T < 128 → n = 0x130 ∨ n = 0x212A := by
  intro T
  induction T with
  | nil => intro _ n h1 h2; simp only [lowerLookup] at h2; omega
  | cons e t ih =>
    obtain ⟨lo, hi, st, img⟩ := e
    intro hok n h1 h2
    simp only [lowOK, List.all_cons, Bool.and_eq_true] at hok
    simp only [lowerLookup] at h2
    split at h2
    · omega
    · split at h2
      · rename_i hlo hin
        simp only [Bool.and_eq_true, Nat.ble_eq] at hin
        have h3 := hok.1
        simp only [Bool.or_eq_true, Nat.ble_eq, Nat.blt_eq, Bool.and_eq_true, beq_iff_eq] at h3
        rcases h3 with (h3 | h3) | ⟨h3, h4⟩
        · omega
        · omega
        · have : n = lo := by omega
          rcases h4 with h4 | h4 <;> omega
      · exact ih hok.2 n h1 h2

def foldOK (T : List (Nat × Nat)) : Bool := T.all fun e => Nat.ble 128 e.2 || e.1 == 0x131 || e.1 == 0x17F

theorem foldLookup_small : ∀ T, foldOK T = true → ∀ n, 128 ≤ n → foldLookup n T < 128 → n = 0x131 ∨ n = 0x17F := by
  intro T
  induction T with
  | nil => intro _ n h1 h2; simp only [foldLookup] at h2; omega
  | cons e t ih =>
    obtain ⟨a, b⟩ := e
    intro hok n h1 h2
    simp only [foldOK, List.all_cons, Bool.and_eq_true] at hok
    simp only [foldLookup] at h2
    split at h2
    · omega
    · split at h2
      · rename_i _ heq
        simp only [beq_iff_eq] at heq
        have h3 := hok.1
        simp only [Bool.or_eq_true, Nat.ble_eq, beq_iff_eq] at h3
        rcases h3 with (h3 | h3) | h3 <;> omega
      · exact ih hok.2 n h1 h2

/-- no run of the lower-casing table has `v` among its images -/
def missOK (v : Nat) (T : List (Nat × Nat × Nat × Nat)) : Bool :=
  T.all fun e => Nat.blt v e.2.2.2 || Nat.blt (e.2.2.2 + (e.2.1 - e.1)) v

theorem lowerLookup_miss (v : Nat) : ∀ T, missOK v T = true → ∀ n, lowerLookup n T = v → n = v := by
  intro T
  induction T with
  | nil => intro _ n h; exact h
  | cons e t ih =>
    obtain ⟨lo, hi, st, img⟩ := e
    intro hok n h
    simp only [missOK, List.all_cons, Bool.and_eq_true] at hok
    simp only [lowerLookup] at h
    split at h
    · exact h
    · split at h
      · rename_i hlo hin
        simp only [Bool.and_eq_true, Nat.ble_eq] at hin
        have h3 := hok.1
        simp only [Bool.or_eq_true, Nat.blt_eq] at h3
        omega
      · exact ih hok.2 n h

theorem lowOK_table : lowOK lowerTable = true := by decide +kernel
theorem foldOK_table : foldOK foldTable = true := by decide +kernel
theorem miss131 : missOK 0x131 lowerTable = true := by decide +kernel
theorem miss17F : missOK 0x17F lowerTable = true := by decide +kernel

theorem lowerNat_small (n : Nat) (h : 128 ≤ n) (hl : lowerNat n < 128) : n = 0x130 ∨ n = 0x212A := by
  unfold lowerNat at hl
  rw [if_neg (by omega)] at hl
  split at hl
  · omega
  · exact lowerLookup_small _ lowOK_table n h hl

theorem lowerNat_miss (v : Nat) (hv : missOK v lowerTable = true) (n : Nat) (h : 128 ≤ n)
    (hl : lowerNat n = v) : n = v := by
  unfold lowerNat at hl
  rw [if_neg (by omega)] at hl
  split at hl
  · exact hl
  · exact lowerLookup_miss v _ hv n hl

/-- above ASCII only ſ, K, İ, ı fold into ASCII -/
theorem foldNat_ge (n : Nat) (h : 128 ≤ n) (h1 : n ≠ 0x17F) (h2 : n ≠ 0x212A) (h3 : n ≠ 0x130) (h4 : n ≠ 0x131) :
    128 ≤ foldNat n := by
  unfold foldNat
  simp only
  split
  · rename_i hl
    have := lowerNat_small n h hl
    omega
  · rename_i hl
    apply Nat.le_of_not_lt
    intro hlt
    rcases foldLookup_small _ foldOK_table (lowerNat n) (by omega) hlt with e | e
    · have := lowerNat_miss 0x131 miss131 n h e; omega
    · have := lowerNat_miss 0x17F miss17F n h e; omega

theorem foldC_big (x : Char) (h : 128 ≤ x.toNat) (h1 : x.toNat ≠ 0x17F) (h2 : x.toNat ≠ 0x212A) (h3 : x.toNat ≠ 0x130)
    (h4 : x.toNat ≠ 0x131) : foldC x = x := by
  have n1 : x ≠ Char.ofNat 0x17F := fun e => h1 (by rw [e]; rfl)
  have n2 : x ≠ Char.ofNat 0x212A := fun e => h2 (by rw [e]; rfl)
  have n3 : x ≠ Char.ofNat 0x130 := fun e => h3 (by rw [e]; rfl)
  have n4 : x ≠ Char.ofNat 0x131 := fun e => h4 (by rw [e]; rfl)
  unfold foldC
  rw [if_neg n1, if_neg n2, if_neg n3, if_neg n4]
  unfold lowerA
  rw [if_neg]
  intro hc
  have := hc.2
  simp only [Char.le_def, UInt32.le_iff_toNat_le] at this
  have e : x.toNat = x.val.toNat := rfl
  have e2 : ('Z' : Char).val.toNat = 90 := rfl
  omega


/-! ### `foldC` is `foldNat` on ASCII and on the four -/
theorem fold_ascii : ∀ n : Fin 128, (foldC (Char.ofNat n.val)).toNat = foldNat n.val ∧ foldNat n.val < 128 := by
  decide +kernel

theorem fold_specials : ∀ n ∈ [0x17F, 0x212A, 0x130, 0x131], (foldC (Char.ofNat n)).toNat = foldNat n := by
  decide +kernel

/-- engine and scanner compare an ASCII pattern character alike with EVERY character -/
theorem charEq_eqCI (p x : Char) (hp : p.toNat < 128) : charEq true p x = eqCI p x := by
  have hP := fold_ascii ⟨p.toNat, hp⟩
  simp only [Char.ofNat_toNat] at hP
  have key : (foldC x).toNat = foldNat x.toNat → charEq true p x = eqCI p x := by
    intro hX
    have e : (foldNat p.toNat == foldNat x.toNat) = eqCI p x := by
      rw [← hP.1, ← hX, eqCI, Bool.eq_iff_iff]
      simp only [beq_iff_eq]
      exact Char.toNat_inj
    rw [charEq, Bool.true_and, e]
    cases hpx : p == x with
    | false => rfl
    | true => rw [eq_of_beq hpx]; simp [eqCI]
  by_cases h : x.toNat < 128 ∨ x.toNat ∈ [0x17F, 0x212A, 0x130, 0x131]
  · refine key ?_
    rcases h with h | h
    · have := (fold_ascii ⟨x.toNat, h⟩).1; rwa [Char.ofNat_toNat] at this
    · have := fold_specials _ h; rwa [Char.ofNat_toNat] at this
  simp only [List.mem_cons, List.not_mem_nil, or_false, not_or] at h
  obtain ⟨h, h1, h2, h3, h4⟩ := h
  have hf := foldNat_ge x.toNat (by omega) h1 h2 h3 h4
  have hc := foldC_big x (by omega) h1 h2 h3 h4
  have e1 : (p == x) = false := beq_eq_false_iff_ne.mpr fun e => by rw [e] at hp; omega
  have e2 : (foldNat p.toNat == foldNat x.toNat) = false := beq_eq_false_iff_ne.mpr fun e => by omega
  have e3 : eqCI p x = false := by
    rw [eqCI, hc]
    exact beq_eq_false_iff_ne.mpr fun e => by rw [← e] at h; omega
  rw [charEq, e1, e2, e3]; rfl

/-! ### `\d` and `\s` -/
theorem isDigit_ascii (x : Char) (h : x.toNat < 128) : Re.isDigit x = Bridge.isDigit x := by
  have e : x.val.toNat = x.toNat := rfl
  have h' : x.toNat < 0x80 := h
  simp only [Re.isDigit, isDigitNat, Bridge.isDigit, Char.le_def, UInt32.le_iff_toNat_le, e, h', if_true]
  rw [Bool.eq_iff_iff]
  simp only [Bool.and_eq_true, Nat.ble_eq, decide_eq_true_eq]
  exact Iff.rfl

theorem isDigit_big (x : Char) (h : 128 ≤ x.toNat) : Bridge.isDigit x = false := by
  have e : x.val.toNat = x.toNat := rfl
  simp only [Bridge.isDigit, decide_eq_false_iff_not, Char.le_def, UInt32.le_iff_toNat_le, e]
  intro hc
  have e2 : ('9' : Char).val.toNat = 57 := rfl
  omega

theorem isSpace_ofNat : ∀ n : Fin 128, (0x1C ≤ n.val ∧ n.val ≤ 0x1F) ∨
    Re.isSpace (Char.ofNat n.val) = Bridge.isWs (Char.ofNat n.val) := by decide +kernel

theorem isSpace_ascii (x : Char) (h : x.toNat < 128) (h2 : ¬ (0x1C ≤ x.toNat ∧ x.toNat ≤ 0x1F)) :
    Re.isSpace x = Bridge.isWs x := by
  have := isSpace_ofNat ⟨x.toNat, h⟩
  simp only [Char.ofNat_toNat] at this
  exact this.resolve_left h2

end Bridge.RegexConnect
