import BridgeVerif.Lemmas.Admission
import BridgeVerif.Lemmas.CheckMessage
import BridgeVerif.Lemmas.MsgHeader
/-!
# The accept loop as the code writes it (`Admission.acceptLoopR`) is the fold `serve` — used by C20
-/
namespace Bridge

theorem CaseVariant.refl (m : List Char) : CaseVariant m m := rfl

theorem checkMessage_ready_self (p : Seat) :
    checkMessage (p.formal ++ " ready for teams".toList) (p.formal ++ " ready for teams".toList) = true := by
  cases p <;> decide

/-- one connection thread, for a well-formed request followed by the expected acknowledgement -/
theorem connectR_wellFormed (t : Table) (r : Request) (hn : NameOK r.team) :
    ∃ ops b,
      Admission.connectR t (connectMsg r.team r.seat.formal r.version) (r.seat.formal ++ " ready for teams".toList) =
        some (ops, (admitReq t r).1, b) ∧
      ((admitReq t r).2 = .seated → ∃ reply, ops = [.recv, .send reply, .recv, .signal]) ∧
      ((admitReq t r).2 ≠ .seated → ∃ reply, ops = [.recv, .send reply, .close, .signal]) := by
  have hp := parseConnect_ok r.team hn r.seat r.seat.formal (CaseVariant.refl _) r.version
  have hr : (⟨r.team, r.seat, r.version⟩ : Request) = r := rfl
  have htab := (admit_table t r).1
  unfold Admission.connectR
  rw [hp]
  simp only [hr, checkMessage_ready_self, if_true]
  cases h : admitReq t r with
  | mk t' v =>
    rw [h] at htab
    cases v with
    | seated => exact ⟨_, _, rfl, fun _ => ⟨_, rfl⟩, fun hne => absurd rfl hne⟩
    | _ =>
      have ht : t' = t := htab (by simp)
      subst ht
      exact ⟨_, _, rfl, fun he => (by cases he), fun _ => ⟨_, rfl⟩⟩

theorem acceptLoop_serve_gen (reqs : List Request) (hn : ∀ r ∈ reqs, NameOK r.team) : ∀ t : Table,
    ∃ opss mops,
      Admission.acceptLoopR t
          (reqs.map fun r => (connectMsg r.team r.seat.formal r.version, r.seat.formal ++ " ready for teams".toList)) =
        some (opss, mops, (serve t reqs).1) ∧
      opss.length = (serve t reqs).2.length ∧
      mops = (List.replicate (serve t reqs).2.length Admission.acceptRound).flatten ∧
      ∀ i (h₁ : i < opss.length) (h₂ : i < (serve t reqs).2.length),
        ((serve t reqs).2[i] = .seated →
            ∃ reply, opss[i] = [.recv, .send reply, .recv, .signal]) ∧
        ((serve t reqs).2[i] ≠ .seated →
            ∃ reply, opss[i] = [.recv, .send reply, .close, .signal]) := by
  induction reqs with
  | nil =>
    intro t
    refine ⟨[], [], ?_, ?_, ?_, ?_⟩
    · simp [Admission.acceptLoopR, serve]
    · simp [serve]
    · simp [serve]
    · intro i h₁; simp at h₁
  | cons r rs ih =>
    intro t
    cases hf : t.full with
    | true =>
      rw [(serve_step t r rs).2 hf]
      refine ⟨[], [], ?_, ?_, ?_, ?_⟩
      · simp [Admission.acceptLoopR, hf]
      · simp
      · simp
      · intro i h₁; simp at h₁
    | false =>
      rw [(serve_step t r rs).1 hf]
      obtain ⟨ops, b, hc, hs, hns⟩ := connectR_wellFormed t r (hn r (List.mem_cons_self ..))
      obtain ⟨opss, mops, hl, hlen, hm, hi⟩ :=
        ih (fun r' hr' => hn r' (List.mem_cons_of_mem _ hr')) (admitReq t r).1
      refine ⟨ops :: opss, Admission.acceptRound ++ mops, ?_, ?_, ?_, ?_⟩
      · simp only [List.map_cons, Admission.acceptLoopR, hf, hc, hl]
        simp
      · simp [hlen]
      · simp [hm, List.replicate_succ]
      · intro i h₁ h₂
        cases i with
        | zero => simpa using ⟨hs, hns⟩
        | succ i =>
          simp only [List.length_cons] at h₁ h₂
          simpa using hi i (by omega) (by omega)

theorem acceptLoop_serve (reqs : List Request) (hn : ∀ r ∈ reqs, NameOK r.team) :
    let conns := reqs.map fun r => (connectMsg r.team r.seat.formal r.version, r.seat.formal ++ " ready for teams".toList)
    ∃ opss mops,
      Admission.acceptLoopR Table.empty conns = some (opss, mops, (serve Table.empty reqs).1) ∧
      opss.length = (serve Table.empty reqs).2.length ∧
      mops = (List.replicate (serve Table.empty reqs).2.length Admission.acceptRound).flatten ∧
      ∀ i (h₁ : i < opss.length) (h₂ : i < (serve Table.empty reqs).2.length),
        ((serve Table.empty reqs).2[i] = .seated →
            ∃ reply, opss[i] = [.recv, .send reply, .recv, .signal]) ∧
        ((serve Table.empty reqs).2[i] ≠ .seated →
            ∃ reply, opss[i] = [.recv, .send reply, .close, .signal]) :=
  acceptLoop_serve_gen reqs hn Table.empty

end Bridge
