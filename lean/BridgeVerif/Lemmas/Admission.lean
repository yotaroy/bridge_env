import BridgeVerif.Model.Admission
/-!
# Lemmas about admission (`admitReq`, `serve`) — used by C20
-/
namespace Bridge

/-! ## seats -/

theorem Seat.partner_partner (p : Seat) : p.partner.partner = p := by cases p <;> rfl

theorem Seat.partner_ne (p : Seat) : p.partner ≠ p := by cases p <;> decide

theorem Seat.partner_eq_iff (p q : Seat) : p.partner = q ↔ p = q.partner := by
  cases p <;> cases q <;> decide

theorem Table.full_iff (t : Table) : t.full = true ↔ ∀ p, (t p).isSome = true := by
  constructor
  · intro h p
    simp [Table.full, Seat.all] at h
    cases p <;> simp [h]
  · intro h
    simp [Table.full, Seat.all, h]

theorem Table.set_self (t : Table) (p : Seat) (n : List Char) : t.set p n p = some n := by
  simp [Table.set]

theorem Table.set_ne (t : Table) (p q : Seat) (n : List Char) (h : q ≠ p) : t.set p n q = t q := by
  simp [Table.set, h]

/-! ## `admitReq` -/

theorem admit_seated_iff (t : Table) (r : Request) :
    (admitReq t r).2 = .seated ↔
      r.version = PROTOCOL_VERSION ∧ t r.seat = none ∧ (t r.seat.partner = none ∨ t r.seat.partner = some r.team) := by
  by_cases hv : r.version = PROTOCOL_VERSION
  · cases hs : t r.seat with
    | some x => simp [admitReq, hv, hs]
    | none =>
      cases hp : t r.seat.partner with
      | none => simp [admitReq, hv, hs, hp]
      | some pt => by_cases hpt : pt = r.team <;> simp [admitReq, hv, hs, hp, hpt]
  · simp [admitReq, hv]

theorem admit_errors (t : Table) (r : Request) :
    ((admitReq t r).2 = .badVersion ↔ r.version ≠ PROTOCOL_VERSION) ∧
    ((admitReq t r).2 = .seatTaken ↔ r.version = PROTOCOL_VERSION ∧ (t r.seat).isSome = true) ∧
    ((admitReq t r).2 = .teamMismatch ↔ r.version = PROTOCOL_VERSION ∧ t r.seat = none ∧
        ∃ pt, t r.seat.partner = some pt ∧ pt ≠ r.team) := by
  by_cases hv : r.version = PROTOCOL_VERSION
  · cases hs : t r.seat with
    | some x => simp [admitReq, hv, hs]
    | none =>
      cases hp : t r.seat.partner with
      | none => simp [admitReq, hv, hs, hp]
      | some pt => by_cases hpt : pt = r.team <;> simp [admitReq, hv, hs, hp, hpt]
  · simp [admitReq, hv]

theorem admit_table (t : Table) (r : Request) :
    ((admitReq t r).2 ≠ .seated → (admitReq t r).1 = t) ∧
    ((admitReq t r).2 = .seated → (admitReq t r).1 = t.set r.seat r.team ∧ ∀ q, q ≠ r.seat → (admitReq t r).1 q = t q) := by
  by_cases hv : r.version = PROTOCOL_VERSION
  · cases hs : t r.seat with
    | some x => simp [admitReq, hv, hs]
    | none =>
      cases hp : t r.seat.partner with
      | none =>
        simp [admitReq, hv, hs, hp]
        intro q hq; exact Table.set_ne t _ q _ hq
      | some pt =>
        by_cases hpt : pt = r.team
        · simp [admitReq, hv, hs, hp, hpt]
          intro q hq; exact Table.set_ne t _ q _ hq
        · simp [admitReq, hv, hs, hp, hpt]
  · simp [admitReq, hv]

/-! ## `serve` -/

theorem serve_nil (t : Table) : serve t [] = (t, []) := by simp [serve]

theorem serve_step (t : Table) (r : Request) (rs : List Request) :
    (t.full = false → serve t (r :: rs) = ((serve (admitReq t r).1 rs).1, (admitReq t r).2 :: (serve (admitReq t r).1 rs).2)) ∧
    (t.full = true → serve t (r :: rs) = (t, [])) := by
  constructor <;> intro h <;> simp [serve, h]

/-- the invariant of the accept loop: partners share the team name; the occupied seats are exactly the seats of
the requests seated so far (each under its request's team name), and those seats are pairwise different -/
structure TableInv (t : Table) (acc : List Request) : Prop where
  partners : ∀ p a b, t p = some a → t p.partner = some b → a = b
  nodup : (acc.map (·.seat)).Nodup
  holds : ∀ r ∈ acc, t r.seat = some r.team
  occ : ∀ p, (t p).isSome = true → ∃ r ∈ acc, r.seat = p

theorem TableInv.empty : TableInv Table.empty [] := by
  constructor <;> simp [Table.empty]

theorem TableInv.admit_seated {t : Table} {acc : List Request} (r : Request) (hi : TableInv t acc)
    (hs : (admitReq t r).2 = .seated) : TableInv (t.set r.seat r.team) (acc ++ [r]) := by
  obtain ⟨_, hfree, hpart⟩ := (admit_seated_iff t r).1 hs
  have hfresh : ∀ r' ∈ acc, r'.seat ≠ r.seat := by
    intro r' hr' he
    have := hi.holds r' hr'
    rw [he, hfree] at this
    cases this
  constructor
  · intro p a b ha hb
    by_cases hp : p = r.seat
    · subst hp
      rw [Table.set_self] at ha
      rw [Table.set_ne _ _ _ _ (Seat.partner_ne _)] at hb
      cases hpart with
      | inl h => rw [h] at hb; cases hb
      | inr h => rw [h] at hb; cases ha; cases hb; rfl
    · rw [Table.set_ne _ _ _ _ hp] at ha
      by_cases hq : p.partner = r.seat
      · rw [hq, Table.set_self] at hb
        have hp' : p = r.seat.partner := (Seat.partner_eq_iff _ _).1 hq
        rw [hp'] at ha
        cases hpart with
        | inl h => rw [h] at ha; cases ha
        | inr h => rw [h] at ha; cases ha; cases hb; rfl
      · rw [Table.set_ne _ _ _ _ hq] at hb
        exact hi.partners p a b ha hb
  · rw [List.map_append, List.nodup_append]
    refine ⟨hi.nodup, by simp, ?_⟩
    intro a ha b hb
    simp at hb
    subst hb
    obtain ⟨r', hr', rfl⟩ := List.mem_map.1 ha
    exact hfresh r' hr'
  · intro r' hr'
    rcases List.mem_append.1 hr' with h | h
    · rw [Table.set_ne _ _ _ _ (hfresh r' h)]
      exact hi.holds r' h
    · simp at h
      subst h
      exact Table.set_self _ _ _
  · intro p hp
    by_cases hps : p = r.seat
    · exact ⟨r, by simp, hps.symm⟩
    · rw [Table.set_ne _ _ _ _ hps] at hp
      obtain ⟨r', hr', he⟩ := hi.occ p hp
      exact ⟨r', by simp [hr'], he⟩

theorem serve_inv (rs : List Request) : ∀ (t : Table) (acc : List Request), TableInv t acc →
    TableInv (serve t rs).1 (acc ++ seatedRequests rs (serve t rs).2) := by
  induction rs with
  | nil => intro t acc hi; simpa [serve, seatedRequests] using hi
  | cons r rs ih =>
    intro t acc hi
    cases hf : t.full with
    | true =>
      rw [(serve_step t r rs).2 hf]
      simpa [seatedRequests] using hi
    | false =>
      rw [(serve_step t r rs).1 hf]
      by_cases hs : (admitReq t r).2 = .seated
      · have h1 := (admit_table t r).2 hs
        have hi' := hi.admit_seated r hs
        rw [← h1.1] at hi'
        have := ih _ _ hi'
        simpa [seatedRequests, hs] using this
      · have h1 := (admit_table t r).1 hs
        have := ih t acc hi
        simpa [seatedRequests, hs, h1] using this

theorem serve_inv_empty (rs : List Request) :
    TableInv (serve Table.empty rs).1 (seatedRequests rs (serve Table.empty rs).2) := by
  simpa using serve_inv rs Table.empty [] TableInv.empty

theorem serve_one_per_seat (rs : List Request) :
    let res := serve Table.empty rs
    ((seatedRequests rs res.2).map (·.seat)).Nodup ∧
    ∀ p, (res.1 p).isSome = true ↔ ∃ r ∈ seatedRequests rs res.2, r.seat = p ∧ res.1 p = some r.team := by
  intro res
  have hi := serve_inv_empty rs
  refine ⟨hi.nodup, ?_⟩
  intro p
  constructor
  · intro hp
    obtain ⟨r, hr, he⟩ := hi.occ p hp
    refine ⟨r, hr, he, ?_⟩
    have := hi.holds r hr
    rw [he] at this
    exact this
  · rintro ⟨r, _, _, h⟩
    show ((serve Table.empty rs).1 p).isSome = true
    rw [h]; rfl

theorem serve_partners (rs : List Request) (p : Seat) (a b : List Char)
    (ha : (serve Table.empty rs).1 p = some a) (hb : (serve Table.empty rs).1 p.partner = some b) : a = b :=
  (serve_inv_empty rs).partners p a b ha hb

theorem serve_teams (rs : List Request) (h : (serve Table.empty rs).1.full = true) :
    ∃ ns ew, (∀ p, p.side = .NS → (serve Table.empty rs).1 p = some ns) ∧
             (∀ p, p.side = .EW → (serve Table.empty rs).1 p = some ew) ∧
             teamsOfTable (serve Table.empty rs).1 = teamsMsg ns ew := by
  have hall := (Table.full_iff _).1 h
  obtain ⟨ns, hN⟩ := Option.isSome_iff_exists.1 (hall .N)
  obtain ⟨ew, hE⟩ := Option.isSome_iff_exists.1 (hall .E)
  obtain ⟨s, hS⟩ := Option.isSome_iff_exists.1 (hall .S)
  obtain ⟨w, hW⟩ := Option.isSome_iff_exists.1 (hall .W)
  have e1 : ns = s := serve_partners rs .N ns s hN hS
  have e2 : ew = w := serve_partners rs .E ew w hE hW
  subst e1; subst e2
  refine ⟨ns, ew, ?_, ?_, ?_⟩
  · intro p hp
    cases p <;> simp_all [Seat.side]
  · intro p hp
    cases p <;> simp_all [Seat.side]
  · simp [teamsOfTable, hN, hE]

theorem serve_lengths_gen (rs : List Request) : ∀ t : Table,
    (serve t rs).2.length ≤ rs.length ∧ ((serve t rs).1.full = false → (serve t rs).2.length = rs.length) := by
  induction rs with
  | nil => intro t; simp [serve]
  | cons r rs ih =>
    intro t
    cases hf : t.full with
    | true =>
      rw [(serve_step t r rs).2 hf]
      simp [hf]
    | false =>
      rw [(serve_step t r rs).1 hf]
      have := ih (admitReq t r).1
      simp only [List.length_cons]
      exact ⟨by omega, fun h => by have := this.2 h; omega⟩

theorem serve_lengths (rs : List Request) :
    (serve Table.empty rs).2.length ≤ rs.length ∧
    ((serve Table.empty rs).1.full = false → (serve Table.empty rs).2.length = rs.length) :=
  serve_lengths_gen rs Table.empty

end Bridge
