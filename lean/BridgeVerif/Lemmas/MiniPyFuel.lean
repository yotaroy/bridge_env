import BridgeVerif.Lemmas.MiniPyFuelA

/-!
# MiniPy: results do not depend on the fuel once there is enough of it

`mkRec P f` is refined by `mkRec P g` for `f ≤ g`: every definite outcome (a value, a Python exception, `stuck`) of
the interpreter with fuel `f` is the outcome with any larger fuel; in particular with `topFuel`, which is what
`Program.runFn` / `runMethod` / `runNew` use.
-/
namespace Bridge.Py

/-- `r'` refines `r`: wherever `r` gives a definite outcome (a value, a Python exception, or `stuck`) — anything but
running out of fuel — `r'` gives the same outcome -/
def Rec.le (r r' : Rec) : Prop :=
  (∀ env e x, r.eval env e = x → x ≠ .error .fuel → r'.eval env e = x) ∧
  (∀ env ss x, r.exec env ss = x → x ≠ .error .fuel → r'.exec env ss = x) ∧
  (∀ fd args x, r.call fd args = x → x ≠ .error .fuel → r'.call fd args = x) ∧
  (∀ env c b x, r.loop env c b = x → x ≠ .error .fuel → r'.loop env c b = x)

theorem RLe.elim {α} {x y : R α} (h : RLe (· = .fuel) x y) (z : R α) (hx : x = z) (hne : z ≠ .error .fuel) : y = z := by
  subst hx
  exact (RLe.iff _ _).1 h hne

theorem RLe.intro {α} {x y : R α} (h : ∀ z, x = z → z ≠ .error .fuel → y = z) : RLe (· = .fuel) x y :=
  (RLe.iff _ _).2 fun hne => h x rfl hne

/-- the two formulations of refinement are the same -/
theorem Rec.le_iff_Le (r r' : Rec) : r.le r' ↔ r.Le (· = .fuel) r' := by
  constructor
  · intro ⟨h1, h2, h3, h4⟩
    exact ⟨fun env e => RLe.intro (h1 env e), fun env ss => RLe.intro (h2 env ss),
      fun fd args => RLe.intro (h3 fd args), fun env c b => RLe.intro (h4 env c b)⟩
  · intro h
    exact ⟨fun env e => (h.eval env e).elim, fun env ss => (h.exec env ss).elim,
      fun fd args => (h.call fd args).elim, fun env c b => (h.loop env c b).elim⟩

theorem Rec.Le.refl {p : Err → Prop} (r : Rec) : r.Le p r := ⟨fun _ _ => .refl _, fun _ _ => .refl _, fun _ _ => .refl _, fun _ _ _ => .refl _⟩

theorem Rec.Le.trans {p : Err → Prop} {r₁ r₂ r₃ : Rec} (h : r₁.Le p r₂) (h' : r₂.Le p r₃) : r₁.Le p r₃ :=
  ⟨fun env e => (h.eval env e).trans (h'.eval env e), fun env ss => (h.exec env ss).trans (h'.exec env ss),
    fun fd args => (h.call fd args).trans (h'.call fd args), fun env c b => (h.loop env c b).trans (h'.loop env c b)⟩

theorem Rec.le_refl (r : Rec) : r.le r := (Rec.le_iff_Le r r).2 (.refl r)

theorem Rec.le_trans {r₁ r₂ r₃ : Rec} (h : r₁.le r₂) (h' : r₂.le r₃) : r₁.le r₃ :=
  (Rec.le_iff_Le _ _).2 (((Rec.le_iff_Le _ _).1 h).trans ((Rec.le_iff_Le _ _).1 h'))

/-! ## every helper is monotone, in the hypothesis/conclusion form -/

section helpers
variable {r r' : Rec} (h : r.le r')
include h

theorem evalF_le (P : Program) (env : Env) (e : Expr) (x : R Val)
    (hx : evalF r P env e = x) (hne : x ≠ .error .fuel) : evalF r' P env e = x :=
  (evalF_mono ((Rec.le_iff_Le _ _).1 h) P env e).elim x hx hne

theorem execStmtF_le (P : Program) (env : Env) (s : Stmt) (x : R (Env × Flow))
    (hx : execStmtF r P env s = x) (hne : x ≠ .error .fuel) : execStmtF r' P env s = x :=
  (execStmtF_mono ((Rec.le_iff_Le _ _).1 h) P env s).elim x hx hne

theorem execF_le (P : Program) (env : Env) (ss : List Stmt) (x : R (Env × Flow))
    (hx : execF r P env ss = x) (hne : x ≠ .error .fuel) : execF r' P env ss = x :=
  (execF_mono ((Rec.le_iff_Le _ _).1 h) P env ss).elim x hx hne

theorem callF_le (fd : FuncDef) (args : List Val) (x : R (Val × Val))
    (hx : callF r fd args = x) (hne : x ≠ .error .fuel) : callF r' fd args = x :=
  (callF_mono ((Rec.le_iff_Le _ _).1 h) fd args).elim x hx hne

theorem loopF_le (env : Env) (c : Expr) (body : List Stmt) (x : R (Env × Flow))
    (hx : loopF r env c body = x) (hne : x ≠ .error .fuel) : loopF r' env c body = x :=
  (loopF_mono ((Rec.le_iff_Le _ _).1 h) env c body).elim x hx hne

theorem constructF_le (P : Program) (c : Id) (args : List Val) (x : R Val)
    (hx : constructF r P c args = x) (hne : x ≠ .error .fuel) : constructF r' P c args = x :=
  (constructF_mono ((Rec.le_iff_Le _ _).1 h) P c args).elim x hx hne

theorem callMethod_le (P : Program) (c m : Id) (args : List Val) (missing : Err) (x : R (Val × Val))
    (hx : callMethod r P c m args missing = x) (hne : x ≠ .error .fuel) : callMethod r' P c m args missing = x :=
  (callMethod_mono ((Rec.le_iff_Le _ _).1 h) P c m args missing).elim x hx hne

end helpers

/-! ## the interpreter is monotone in the fuel -/

theorem mkRec_Le_succ (P : Program) (f : Nat) : (mkRec P f).Le (· = .fuel) (mkRec P (f + 1)) := by
  induction f with
  | zero => exact ⟨fun _ _ => .ofFuel _, fun _ _ => .ofFuel _, fun _ _ => .ofFuel _, fun _ _ _ => .ofFuel _⟩
  | succ f ih =>
    exact ⟨fun env e => evalF_mono ih P env e, fun env ss => execF_mono ih P env ss,
      fun fd args => callF_mono ih fd args, fun env c b => loopF_mono ih env c b⟩

theorem mkRec_Le (P : Program) {f g : Nat} (h : f ≤ g) : (mkRec P f).Le (· = .fuel) (mkRec P g) := by
  induction g with
  | zero =>
    have : f = 0 := by omega
    subst this
    exact .refl _
  | succ g ih =>
    by_cases hfg : f = g + 1
    · subst hfg
      exact .refl _
    · exact (ih (by omega)).trans (mkRec_Le_succ P g)

theorem mkRec_mono_succ (P : Program) (f : Nat) : (mkRec P f).le (mkRec P (f + 1)) :=
  (Rec.le_iff_Le _ _).2 (mkRec_Le_succ P f)

theorem mkRec_mono (P : Program) {f g : Nat} (h : f ≤ g) : (mkRec P f).le (mkRec P g) :=
  (Rec.le_iff_Le _ _).2 (mkRec_Le P h)

/-! ## the user-facing forms -/

theorem callFn_fuel_mono (P : Program) {f g : Nat} (h : f ≤ g) (fd : FuncDef) (args : List Val) (x : R (Val × Val))
    (hx : callFn P f fd args = x) (hne : x ≠ .error .fuel) : callFn P g fd args = x :=
  (mkRec_mono P h).2.2.1 fd args x hx hne

theorem eval_fuel_mono (P : Program) {f g : Nat} (h : f ≤ g) (env : Env) (e : Expr) (x : R Val)
    (hx : eval P f env e = x) (hne : x ≠ .error .fuel) : eval P g env e = x :=
  (mkRec_mono P h).1 env e x hx hne

theorem exec_fuel_mono (P : Program) {f g : Nat} (h : f ≤ g) (env : Env) (ss : List Stmt) (x : R (Env × Flow))
    (hx : exec P f env ss = x) (hne : x ≠ .error .fuel) : exec P g env ss = x :=
  (mkRec_mono P h).2.1 env ss x hx hne

theorem construct_fuel_mono (P : Program) {f g : Nat} (h : f ≤ g) (c : Id) (args : List Val) (x : R Val)
    (hx : construct P f c args = x) (hne : x ≠ .error .fuel) : construct P g c args = x :=
  constructF_le (mkRec_mono P h) P c args x hx hne

/-- two fuels that both suffice give the same outcome -/
theorem callFn_fuel_unique (P : Program) (f g : Nat) (fd : FuncDef) (args : List Val)
    (hf : callFn P f fd args ≠ .error .fuel) (hg : callFn P g fd args ≠ .error .fuel) :
    callFn P f fd args = callFn P g fd args := by
  cases Nat.le_total f g with
  | inl h => exact (callFn_fuel_mono P h fd args _ rfl hf).symm
  | inr h => exact callFn_fuel_mono P h fd args _ rfl hg

theorem eval_fuel_unique (P : Program) (f g : Nat) (env : Env) (e : Expr)
    (hf : eval P f env e ≠ .error .fuel) (hg : eval P g env e ≠ .error .fuel) :
    eval P f env e = eval P g env e := by
  cases Nat.le_total f g with
  | inl h => exact (eval_fuel_mono P h env e _ rfl hf).symm
  | inr h => exact eval_fuel_mono P h env e _ rfl hg

/-- a definite outcome of a method body at some fuel `f ≤ topFuel` is the outcome of `Program.runMethod` -/
theorem runMethod_independent_of_fuel (P : Program) (c m : Id) (args : List Val) (c' : Id) (fd : FuncDef)
    (hm : P.method? classDepth c m = some (c', fd)) {f : Nat} (hf : f ≤ topFuel) (x : R (Val × Val))
    (hx : (mkRec P f).call fd args = x) (hne : x ≠ .error .fuel) : P.runMethod c m args = x := by
  unfold Program.runMethod
  rw [hm]
  exact callFn_fuel_mono P hf fd args x hx hne

/-- a definite outcome of a module-level function at some fuel `f ≤ topFuel` is the outcome of `Program.runFn` -/
theorem runFn_independent_of_fuel (P : Program) (fn : Id) (args : List Val) (fd : FuncDef)
    (hfn : findFunc P.funcs fn = some fd) {f : Nat} (hf : f ≤ topFuel) (x : R (Val × Val))
    (hx : (mkRec P f).call fd args = x) (hne : x ≠ .error .fuel) : P.runFn fn args = x.map (·.1) := by
  unfold Program.runFn
  rw [hfn]
  show (callFn P topFuel fd args).map (·.1) = x.map (·.1)
  rw [callFn_fuel_mono P hf fd args x hx hne]

/-- a definite outcome of a construction at some fuel `f ≤ topFuel` is the outcome of `Program.runNew` -/
theorem runNew_independent_of_fuel (P : Program) (c : Id) (args : List Val) {f : Nat} (hf : f ≤ topFuel) (x : R Val)
    (hx : constructF (mkRec P f) P c args = x) (hne : x ≠ .error .fuel) : P.runNew c args = x :=
  construct_fuel_mono P hf c args x hx hne

end Bridge.Py
