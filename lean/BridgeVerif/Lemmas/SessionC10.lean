import BridgeVerif.Lemmas.SessionSpec
/-! Helper lemmas for C10: what the seat thread of `p` sends on `p`'s connection, phase by phase, against the
declarative list of events `seatEvents`; entitlements read off `callEvents` / `cardEvents` / `boardEvents`. -/
namespace Bridge

/-- what the seat thread of `p` sends to its client during a phase -/
def s2cOf (p : Seat) (ph : Phase Text LogOp) : List Text := sendsOn (Chan.s2c p) (phaseProg ph (.seat p))

theorem senderOf_eq_cardPlayer (d a : Seat) : senderOf d a = cardPlayer a d := rfl

theorem callPhases_s2c (p dealer : Seat) (l : List (Call × Text)) : ∀ j,
    (callPhases dealer j l).flatMap (s2cOf p) = (callEvents p dealer j l).map (SEvent.render p) := by
  induction l with
  | nil => intro j; rfl
  | cons x r ih =>
    intro j
    obtain ⟨c, text⟩ := x
    simp only [callPhases, callEvents, List.flatMap_cons, List.map_append, ih]
    congr 1
    by_cases h : p = dealer.rot j
    · subst h
      simp [s2cOf, phaseProg, sendsOn]
    · have h' : ¬ dealer.rot j = p := fun e => h e.symm
      simp [s2cOf, phaseProg, sendsOn, h, h', SEvent.render]

theorem s2cOf_card (p a d : Seat) (lead opening : Bool) (ln prompt card : Text) (ready rd : Seat → Text)
    (dc : Text) :
    s2cOf p (.card a d lead opening ln prompt card ready rd dc) =
      (if cardPlayer a d = p then (if lead then [prompt] else []) else [card]) ++
      (if opening ∧ p ≠ d.partner then [dc] else []) := by
  have h2' : (p = cardPlayer a d) = (cardPlayer a d = p) := propext eq_comm
  have h4' : (p = d.partner) = (d.partner = p) := propext eq_comm
  cases lead <;> cases opening <;> by_cases h2 : cardPlayer a d = p <;> by_cases h4 : d.partner = p <;>
    simp [s2cOf, phaseProg, sendsOn, h2, h2', h4, h4']

theorem cardPhases_s2c (p d : Seat) (deal : Hands) (l : List (Card × Text)) : ∀ s j,
    (cardPhases d deal s j l).flatMap (s2cOf p) =
      (cardEvents p d (deal d.partner) s j l).map (SEvent.render p) := by
  induction l with
  | nil => intro s j; rfl
  | cons x r ih =>
    intro s j
    obtain ⟨c, text⟩ := x
    simp only [cardPhases, cardEvents, List.flatMap_cons, List.map_append, ih, List.append_assoc]
    rw [← List.append_assoc, ← List.append_assoc, ← List.append_assoc]
    congr 1
    rw [s2cOf_card, senderOf_eq_cardPlayer]
    generalize cardPlayer s.active d = pl
    congr 1
    · by_cases h1 : s.trick = [] <;> by_cases h2 : pl = p <;> by_cases h5 : s.active = d.partner <;>
        simp [h1, h2, h5, SEvent.render]
    · by_cases h3 : j = 0 <;> by_cases h4 : p = d.partner <;> simp [h3, h4, SEvent.render]

@[simp] theorem s2cOf_deal (p : Seat) (h : Text) (cards r1 r2 : Seat → Text) :
    s2cOf p (.deal h cards r1 r2) = [h, cards p] := by
  simp [s2cOf, phaseProg, sendsOn, sync]
@[simp] theorem s2cOf_auctionEnd (p : Seat) (a b : Text) : s2cOf p (.auctionEnd a b) = [] := by
  simp [s2cOf, phaseProg, sendsOn]
@[simp] theorem s2cOf_playStart (p : Seat) (a : Text) : s2cOf p (.playStart a) = [] := by
  simp [s2cOf, phaseProg, sendsOn]
@[simp] theorem s2cOf_nextBoard (p : Seat) (r : LogOp) (a b : Text) : s2cOf p (.nextBoard r a b) = [b] := by
  simp [s2cOf, phaseProg, sendsOn]
@[simp] theorem s2cOf_lastBoard (p : Seat) (r c : LogOp) (a : Text) : s2cOf p (.lastBoard r c a) = [a] := by
  simp [s2cOf, phaseProg, sendsOn]
@[simp] theorem s2cOf_seating (p : Seat) (t : Text) (r : Seat → Text) (s : Text) (o : LogOp) :
    s2cOf p (.seating t r s o) = [t, s] := by
  simp [s2cOf, phaseProg, sendsOn, sync]

/-! ## the phases of a board, the play and the last phase named -/

/-- the last phase of a board -/
def clFinalPhase (sc : Scenario) (last : Bool) (b : BoardSetting) (d : Decisions) : Phase Text LogOp :=
  if last then Phase.lastBoard (LogOp.write (recordOf sc b d)) LogOp.close MSG_END
  else Phase.nextBoard (LogOp.write (recordOf sc b d)) MSG_NEXT MSG_START

/-- the phases of the play of a board -/
def clPlayPhases (b : BoardSetting) (d : Decisions) : List (Phase Text LogOp) :=
  match PState.init (boardContract b d), (boardContract b d).declarer with
  | some s0, some decl => Phase.playStart decl.formal :: cardPhases decl b.deal s0 0 d.cards
  | _, _ => []

theorem cl_boardPhases_eq (sc : Scenario) (k : Nat) (last : Bool) (b : BoardSetting) (d : Decisions) :
    boardPhases sc k last b d =
      Phase.deal (boardHeader k b.dealer b.vul) (fun p => cardsMsg p.formal (b.deal p))
        (fun p => readyFor p "deal".toList) (fun p => readyFor p "cards".toList) ::
      (callPhases b.dealer 0 d.calls ++
      (Phase.auctionEnd MSG_NULL (if (boardContract b d).isPassedOut then MSG_PASSED_OUT else MSG_NULL) ::
      (clPlayPhases b d ++ [clFinalPhase sc last b d]))) := by
  simp only [boardPhases, boardContract, clFinalPhase, clPlayPhases, List.append_assoc, List.cons_append,
    List.nil_append]
  rfl

theorem s2cOf_clFinal (sc : Scenario) (p : Seat) (last : Bool) (b : BoardSetting) (d : Decisions) :
    s2cOf p (clFinalPhase sc last b d) = [if last then MSG_END else MSG_START] := by
  cases last <;> simp [clFinalPhase]
theorem boardPhases_s2c (sc : Scenario) (p : Seat) (k : Nat) (last : Bool) (b : BoardSetting) (d : Decisions) :
    (boardPhases sc k last b d).flatMap (s2cOf p) = (boardEvents p k last b d).map (SEvent.render p) := by
  unfold boardPhases boardEvents boardContract
  generalize (contractOfCalls b (d.calls.map (·.1))).getD ⟨none, false, false, b.vul, none⟩ = contract
  simp only [List.flatMap_append, List.map_append, callPhases_s2c]
  generalize PState.init contract = o1
  generalize contract.declarer = o2
  cases o1 <;> cases o2 <;> cases last <;> simp [cardPhases_s2c, SEvent.render]

theorem boardsPhases_s2c (sc : Scenario) (p : Seat) (boards : List (BoardSetting × Decisions)) : ∀ k,
    (boardsPhases sc k boards).flatMap (s2cOf p) = (boardsEvents p k boards).map (SEvent.render p) := by
  induction boards with
  | nil => intro k; rfl
  | cons x r ih =>
    intro k
    obtain ⟨b, d⟩ := x
    cases r with
    | nil => simp only [boardsPhases, boardsEvents, boardPhases_s2c]
    | cons y r' =>
      rw [boardsPhases_cons₂, boardsEvents, List.flatMap_append, List.map_append, boardPhases_s2c, ih (k + 1)]
      simp

theorem session_s2c (sc : Scenario) (p : Seat) :
    sendsOn (Chan.s2c p) (sessionProg sc (.seat p)) = seatStream sc p := by
  unfold sessionProg sessionPhases seatStream seatEvents
  rw [sendsOn_progOfPhases]
  show List.flatMap (s2cOf p) _ = _
  rw [List.flatMap_cons, boardsPhases_s2c, List.map_append]
  congr 1
  simp [SEvent.render]

/-! ## schedule independence -/
theorem session_hist_prefix (sc : Scenario) (us : List Tid) (n : Net Tid Chan Text LogOp)
    (hr : Run parties (Net.init (sessionProg sc)) us n) (p : Seat) :
    (∃ rest, n.hist (Chan.s2c p) ++ rest = seatStream sc p) ∧
    (Stuck parties n → n.hist (Chan.s2c p) = seatStream sc p) := by
  constructor
  · have h := run_hist (C09.session_disciplined sc) hr (Chan.s2c p)
    exact ⟨_, by rw [h]; exact session_s2c sc p⟩
  · intro hs
    obtain ⟨_, _, hh, _⟩ := C09.never_deadlocks sc us n hr hs
    rw [hh (Chan.s2c p)]
    exact session_s2c sc p

/-! ## entitlements -/
theorem callEvents_mem (p dealer : Seat) (l : List (Call × Text)) : ∀ j e,
    e ∈ callEvents p dealer j l → ∃ a t, e = SEvent.relayCall a t := by
  induction l with
  | nil => intro j e h; simp [callEvents] at h
  | cons x r ih =>
    intro j e h
    obtain ⟨c, text⟩ := x
    simp only [callEvents, List.mem_append] at h
    rcases h with h | h
    · split at h
      · simp at h
      · simp at h; exact ⟨_, _, h⟩
    · exact ih _ _ h

theorem cardEvents_mem (p decl : Seat) (dh : List Card) (l : List (Card × Text)) : ∀ s j e,
    e ∈ cardEvents p decl dh s j l →
      (∃ a t, e = SEvent.relayCard a t) ∨ (∃ a b, e = SEvent.leadPrompt a b) ∨
      (e = SEvent.dummyCards dh ∧ j = 0 ∧ p ≠ decl.partner) := by
  induction l with
  | nil => intro s j e h; simp [cardEvents] at h
  | cons x r ih =>
    intro s j e h
    obtain ⟨c, text⟩ := x
    simp only [cardEvents, List.mem_append] at h
    rcases h with ((h | h) | h) | h
    · split at h
      · simp at h; exact Or.inr (Or.inl ⟨_, _, h⟩)
      · simp at h
    · split at h
      · simp at h
      · simp at h; exact Or.inl ⟨_, _, h⟩
    · split at h
      · next hc => simp at h; exact Or.inr (Or.inr ⟨h, hc.1, hc.2⟩)
      · simp at h
    · rcases ih _ _ _ h with h' | h' | h'
      · exact Or.inl h'
      · exact Or.inr (Or.inl h')
      · exact absurd h'.2.1 (by omega)

theorem cardEvents_no_dummy_later (p decl : Seat) (dh : List Card) (s : PState) (j : Nat)
    (cs : List (Card × Text)) (h : List Card) (hj : 0 < j) :
    SEvent.dummyCards h ∉ cardEvents p decl dh s j cs := by
  intro hm
  rcases cardEvents_mem p decl dh cs s j _ hm with ⟨_, _, h'⟩ | ⟨_, _, h'⟩ | h'
  · cases h'
  · cases h'
  · omega

theorem boardEvents_own_cards (p : Seat) (k : Nat) (last : Bool) (b : BoardSetting) (d : Decisions) :
    ∃ rest, boardEvents p k last b d = SEvent.header k b.dealer b.vul :: SEvent.ownCards (b.deal p) :: rest ∧
      (∀ h, SEvent.ownCards h ∉ rest) ∧
      (∀ n dl v, SEvent.header n dl v ∉ rest) ∧
      (∀ h, SEvent.dummyCards h ∈ rest →
        ∃ decl, (boardContract b d).declarer = some decl ∧ h = b.deal decl.partner ∧ p ≠ decl.partner) := by
  refine ⟨callEvents p b.dealer 0 d.calls ++
    (match PState.init (boardContract b d), (boardContract b d).declarer with
     | some s0, some decl => cardEvents p decl (b.deal decl.partner) s0 0 d.cards
     | _, _ => []) ++
    [if last then SEvent.endOfSession else SEvent.startOfBoard], rfl, ?_⟩
  generalize hr : (_ ++ _ : List SEvent) = rest
  have hmem : ∀ e ∈ rest, (∃ a t, e = .relayCall a t) ∨ (∃ a t, e = .relayCard a t) ∨ (∃ a t, e = .leadPrompt a t) ∨
      (∃ decl, (boardContract b d).declarer = some decl ∧ e = .dummyCards (b.deal decl.partner) ∧
        p ≠ decl.partner) ∨ e = .endOfSession ∨ e = .startOfBoard := by
    intro e hm
    simp only [← hr, List.mem_append] at hm
    rcases hm with (hm | hm) | hm
    · exact .inl (callEvents_mem _ _ _ _ _ hm)
    · split at hm
      · next s0 decl hs hd =>
        rcases cardEvents_mem _ _ _ _ _ _ _ hm with h' | h' | ⟨h', _, hp⟩
        · exact .inr (.inl h')
        · exact .inr (.inr (.inl h'))
        · exact .inr (.inr (.inr (.inl ⟨decl, hd, h', hp⟩)))
      · simp at hm
    · cases last <;> simp at hm <;> simp [hm]
  refine ⟨fun h hm => ?_, fun n dl v hm => ?_, fun h hm => ?_⟩
  · rcases hmem _ hm with ⟨_, _, e⟩ | ⟨_, _, e⟩ | ⟨_, _, e⟩ | ⟨_, _, e, _⟩ | e | e <;> cases e
  · rcases hmem _ hm with ⟨_, _, e⟩ | ⟨_, _, e⟩ | ⟨_, _, e⟩ | ⟨_, _, e, _⟩ | e | e <;> cases e
  · rcases hmem _ hm with ⟨_, _, e⟩ | ⟨_, _, e⟩ | ⟨_, _, e⟩ | ⟨decl, hd, e, hp⟩ | e | e <;> cases e
    exact ⟨decl, hd, rfl, hp⟩

theorem callEvents_eq_filter (p dealer : Seat) (calls : List (Call × Text)) : ∀ j,
    callEvents p dealer j calls =
      ((calls.zipIdx j).filter fun x => decide (dealer.rot x.2 ≠ p)).map
        fun x => SEvent.relayCall (dealer.rot x.2) (preprocessBid x.1.2) := by
  induction calls with
  | nil => intro j; rfl
  | cons x r ih =>
    intro j
    obtain ⟨c, text⟩ := x
    simp only [callEvents, List.zipIdx_cons, ih (j + 1), List.filter_cons]
    by_cases h : dealer.rot j = p <;> simp [h]

/-- generic shape of the two "exactly once, in order" statements about the play -/
theorem cardEvents_filterMap {β : Type} (p decl : Seat) (dh : List Card) (F : SEvent → Option β)
    (G : PState → Text → Option β)
    (hF : ∀ s j c text rest, (cardEvents p decl dh s j ((c, text) :: rest)).filterMap F =
      (G s text).toList ++ (cardEvents p decl dh (playCard s c) (j + 1) rest).filterMap F)
    (cards : List (Card × Text)) : ∀ s j,
    (cardEvents p decl dh s j cards).filterMap F =
      (cards.zipIdx).filterMap fun x => G (runPlay s ((cards.take x.2).map (·.1))) x.1.2 := by
  induction cards with
  | nil => intro s j; rfl
  | cons x r ih =>
    intro s j
    obtain ⟨c, text⟩ := x
    rw [hF, ih (playCard s c) (j + 1), List.zipIdx_cons, List.filterMap_cons]
    have hz : r.zipIdx (0 + 1) = (r.zipIdx 0).map fun x => (x.1, x.2 + 1) := by
      rw [List.zipIdx_succ]
    rw [hz, List.filterMap_map]
    simp only [List.take_zero, List.map_nil, runPlay_nil]
    cases hG : G s text <;> simp [Function.comp_def]

theorem cardEvents_relays (p decl : Seat) (dh : List Card) (s0 : PState) (j : Nat) (cards : List (Card × Text)) :
    (cardEvents p decl dh s0 j cards).filterMap (fun e => match e with | .relayCard a t => some (a, t) | _ => none) =
      ((cards.zipIdx).filterMap fun x =>
        let a := (runPlay s0 ((cards.take x.2).map (·.1))).active
        if senderOf decl a = p then none else some (a, x.1.2)) := by
  refine cardEvents_filterMap p decl dh _
    (fun s t => if senderOf decl s.active = p then none else some (s.active, t)) ?_ cards s0 j
  intro s j c text rest
  simp only [cardEvents, List.filterMap_append]
  congr 1
  have h4' : (p = decl.partner) = (decl.partner = p) := propext eq_comm
  by_cases h1 : s.trick = [] <;> by_cases h2 : senderOf decl s.active = p <;>
    by_cases h3 : j = 0 <;> by_cases h4 : decl.partner = p <;> simp [h1, h2, h3, h4, h4']

theorem cardEvents_prompts (p decl : Seat) (dh : List Card) (s0 : PState) (j : Nat) (cards : List (Card × Text)) :
    (cardEvents p decl dh s0 j cards).filterMap
        (fun e => match e with | .leadPrompt a b => some (a, b) | _ => none) =
      ((cards.zipIdx).filterMap fun x =>
        let s := runPlay s0 ((cards.take x.2).map (·.1))
        if s.trick = [] ∧ senderOf decl s.active = p then some (s.active, decide (s.active = decl.partner)) else none) := by
  refine cardEvents_filterMap p decl dh _
    (fun s _ => if s.trick = [] ∧ senderOf decl s.active = p then
      some (s.active, decide (s.active = decl.partner)) else none) ?_ cards s0 j
  intro s j c text rest
  simp only [cardEvents, List.filterMap_append]
  congr 1
  have h4' : (p = decl.partner) = (decl.partner = p) := propext eq_comm
  by_cases h1 : s.trick = [] <;> by_cases h2 : senderOf decl s.active = p <;>
    by_cases h3 : j = 0 <;> by_cases h4 : decl.partner = p <;> simp [h1, h2, h3, h4, h4']

theorem cardEvents_first (p decl : Seat) (dh : List Card) (s0 : PState)
    (c : Card) (text : Text) (rest : List (Card × Text)) :
    cardEvents p decl dh s0 0 ((c, text) :: rest) =
      (if s0.trick = [] ∧ senderOf decl s0.active = p then [SEvent.leadPrompt s0.active (decide (s0.active = decl.partner))] else []) ++
      (if senderOf decl s0.active = p then [] else [SEvent.relayCard s0.active text]) ++
      (if p ≠ decl.partner then [SEvent.dummyCards dh] else []) ++
      cardEvents p decl dh (playCard s0 c) 1 rest := by
  simp [cardEvents]

end Bridge
