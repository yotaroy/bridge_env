import BridgeVerif.Model.Notation
/-! The text of a contract with a final bid is read back by `strToContract?`: the flags come back as the doubling
status (`x` is set whenever `xx` is), vulnerability and declarer are handed through unread. -/
namespace Bridge

theorem strToContract?_passes_through (s : List Char) (hs : s ≠ "Passed_out".toList) (v : Vul) (d : Option Seat) :
    strToContract? s v d = (strToContract? s .none none).map fun c => ⟨c.finalBid, c.x, c.xx, v, d⟩ := by
  unfold strToContract?
  simp only [if_neg hs]
  repeat' split
  all_goals rfl

theorem strToContract?_contractStr_bid (b : Fin 35) (x xx : Bool) (v : Vul) (d : Option Seat) :
    strToContract? (contractStr ⟨some b, x, xx, v, d⟩) v d = some ⟨some b, x || xx, xx, v, d⟩ := by
  have key : ∀ b : Fin 35, ∀ x xx : Bool,
      contractStr ⟨some b, x, xx, .none, none⟩ ≠ "Passed_out".toList ∧
      strToContract? (contractStr ⟨some b, x, xx, .none, none⟩) .none none = some ⟨some b, x || xx, xx, .none, none⟩ := by
    decide +kernel
  have hs : contractStr ⟨some b, x, xx, v, d⟩ = contractStr ⟨some b, x, xx, .none, none⟩ := rfl
  rw [hs, strToContract?_passes_through _ (key b x xx).1, (key b x xx).2]
  rfl

end Bridge
