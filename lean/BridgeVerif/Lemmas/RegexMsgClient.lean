import BridgeVerif.Lemmas.RegexMsgClientA
import BridgeVerif.Lemmas.RegexConnect
import BridgeVerif.Generated.PyCoreNet
/-!
# The three regular expressions of the bundled client ARE the scanners of `Model/Msg.lean`

The generic regular-expression engine of `Model/Regex.lean` (the one the translated
`MessageInterface.parse_match_base` calls through `re.match(pattern, content, re.IGNORECASE)`), run with `ic = true` on the
pattern texts the generated `Client.parse_leader_message`, `Client.parse_board`, `Client.parse_team_names` pass, captures
EXACTLY the texts the hand-written scanners of `parseLeader?`, `parseBoard?`, `parseTeamNames?` compute — for every subject
all of whose characters are in a stated class:

* `agreeLead` / `agreeTeams` : the pattern's literal characters compare with the character the same way in the engine
  (`Re.charEq true`, the Unicode folding tables) and in the scanner (`eqCI`: ASCII lower-casing and the four specials);
* `agreeBoard` : the same, and `\d` (Unicode decimal digit) agrees with the scanner's ASCII `isDigit` on it.

The pattern letters being ASCII, `agreeLead` and `agreeTeams` hold of EVERY character (`Lemmas/RegexChars.lean`), and
`agreeBoard` of every character on which `\d` and the ASCII digit test agree — every ASCII character among them.
-/
namespace Bridge.RegexMsgClient
open Bridge Bridge.Re Bridge.RegexPbn Bridge.RegexHands Bridge.RegexConnect

/-! ## the pattern texts -/
def LEAD_PATTERN : List Char := "(.*) to lead".toList
def BOARD_PATTERN : List Char := "Board number (\\d+)\\. Dealer (.*)\\. (.*) vulnerable\\.".toList
def TEAMS_PATTERN : List Char := "Teams : N/S : \"(.*)\".? E/W : \"(.*)\"".toList

open Bridge.Generated.PyCore in
/-- they are literally what the generated methods assign to `pattern` before calling `parse_match_base` -/
theorem patterns_are_generated :
    m_Client_parse_leader_message.body.take 2 =
      [.assign (.var n_pattern) (.const (.str LEAD_PATTERN)),
       .assign (.var n_match) (.static n_MessageInterface n_parse_match_base [.var n_pattern, .var n_content])] ∧
    m_Client_parse_board.body.take 2 =
      [.assign (.var n_pattern) (.const (.str BOARD_PATTERN)),
       .assign (.var n_match) (.static n_MessageInterface n_parse_match_base [.var n_pattern, .var n_content])] ∧
    m_Client_parse_team_names.body.take 2 =
      [.assign (.var n_pattern) (.const (.str TEAMS_PATTERN)),
       .assign (.var n_match) (.static n_MessageInterface n_parse_match_base [.var n_pattern, .var n_content])] ∧
    m_MessageInterface_parse_match_base.body.take 1 =
      [.assign (.var n_match) (.builtin .reMatch [.var n_pattern, .var n_content, .const (.bool true),
        .const (.cls n__Match), .const (.int n_texts)])] := by
  -- the characters of a string literal, without decoding it
  rw [show LEAD_PATTERN = _ from String.toList_ofList, show BOARD_PATTERN = _ from String.toList_ofList,
    show TEAMS_PATTERN = _ from String.toList_ofList]
  exact ⟨rfl, rfl, rfl, rfl⟩

/-! ## `(.*) to lead` -/
def litL0 : List Char := " to lea".toList
def litL : List Char := " to lead".toList
def leadRe : Re := .seq (dotG 1) (lits litL0 (.lit 'd'))

theorem parse_lead : Re.parse LEAD_PATTERN = some leadRe := by
  rw [show LEAD_PATTERN = _ from String.toList_ofList, leadRe, show litL0 = _ from String.toList_ofList]
  decide +kernel
theorem leadRe_ngroups : leadRe.ngroups = 1 := by
  simp only [leadRe, ngroups_lits, Re.ngroups]; rfl
theorem leadRe_simple : simple leadRe = true := by
  simp only [leadRe, simple_lits, simple]; rfl

def leadChars : List Char := " tolead".toList
def agreeLead (x : Char) : Bool := agreeLit leadChars x

theorem agreeLead_all (x : Char) : agreeLead x = true := agreeLit_of_ascii leadChars (by decide +kernel) x
theorem agreeLead_ascii (x : Char) (_ : x.toNat < 128) : agreeLead x = true := agreeLead_all x

/-- the inner `g` of `parseLeader?`, copied -/
def leadGroup? (s : List Char) : Option (List Char) :=
  dotStar s fun g t => (stripPrefixCI " to lead".toList t).map fun _ => g

/-- `[player name text]` -/
def leadFields? (s : List Char) : Option (List (List Char)) := (leadGroup? s).map fun g => [g]

theorem parseLeader_eq_group (s : List Char) (dummy : Seat) :
    parseLeader? s dummy = (leadGroup? s).bind fun g =>
      if g = "Dummy".toList then some dummy else seatOfFormal? g := by
  unfold parseLeader? leadGroup?
  simp only
  split <;> rename_i h <;> rw [h] <;> rfl

def scanLead : List Char → Option (List (List Char)) :=
  fun r => dotStar r fun g t => ((stripPrefixCI (litL0 ++ ['d']) t).bind fun _ => some []).map fun gs => g :: gs

theorem leadFields_eq_scan (s : List Char) : leadFields? s = scanLead s := by
  unfold leadFields? leadGroup? scanLead
  rw [dotStar_map]
  refine congrArg (dotStar s) (funext fun g => funext fun t => ?_)
  rw [show litL0 ++ ['d'] = " to lead".toList by
    rw [show litL0 = _ from String.toList_ofList, show " to lead".toList = _ from String.toList_ofList]
    rfl]
  cases stripPrefixCI " to lead".toList t <;> rfl

/-- `re.match("(.*) to lead", s, re.IGNORECASE)` matches iff the scanner of `parseLeader?` finds its text, and group 1 is
that text -/
theorem match_lead (s : List Char) (_ : ∀ x ∈ s, agreeLead x = true) :
    (Re.pyMatch true LEAD_PATTERN s).map (Option.map (groupTexts s)) =
      some ((leadFields? s).map (·.map some)) := by
  rw [pyMatch_abs_ic true LEAD_PATTERN s leadRe parse_lead leadRe_simple, leadRe_ngroups, leadFields_eq_scan]
  have rE := rel_end s 1
  have rL := rel_lits_ascii s 1 1 _ _ rE (litL0 ++ ['d'])
    (by rw [show litL0 = _ from String.toList_ofList]; decide)
  have r1 := rel_dotStar true s 1 0 (by omega) _ _ rL
  have := r1 0 s (List.replicate 1 none) rfl rfl
  simp only [List.take_zero, List.nil_append] at this
  unfold leadRe
  rw [den_seq_fun, den_lits_last]
  exact this

theorem match_lead_ascii (s : List Char) (hs : ∀ x ∈ s, x.toNat < 128) :
    (Re.pyMatch true LEAD_PATTERN s).map (Option.map (groupTexts s)) =
      some ((leadFields? s).map (·.map some)) :=
  match_lead s fun x hx => agreeLead_ascii x (hs x hx)

/-! ## `Board number (\d+)\. Dealer (.*)\. (.*) vulnerable\.` -/
def litBA : List Char := "Board number ".toList
def litBB : List Char := ". Dealer ".toList
def litBC : List Char := ". ".toList
def litBD0 : List Char := " vulnerable".toList
def boardRe : Re :=
  lits litBA (.seq (digG 1) (lits litBB (.seq (dotG 2) (lits litBC (.seq (dotG 3) (lits litBD0 (.lit '.')))))))

theorem parse_board : Re.parse BOARD_PATTERN = some boardRe := by
  rw [show BOARD_PATTERN = _ from String.toList_ofList, boardRe, show litBA = _ from String.toList_ofList,
    show litBB = _ from String.toList_ofList, show litBC = _ from String.toList_ofList,
    show litBD0 = _ from String.toList_ofList]
  decide +kernel
theorem boardRe_ngroups : boardRe.ngroups = 3 := by
  simp only [boardRe, ngroups_lits, Re.ngroups]; rfl
theorem boardRe_simple : simple boardRe = true := by
  simp only [boardRe, simple_lits, simple]; rfl
theorem boardLits_ascii : (∀ c ∈ litBA, c.toNat < 128) ∧ (∀ c ∈ litBB, c.toNat < 128) ∧ (∀ c ∈ litBC, c.toNat < 128) ∧
    ∀ c ∈ litBD0 ++ ['.'], c.toNat < 128 := by
  rw [show litBA = _ from String.toList_ofList, show litBB = _ from String.toList_ofList,
    show litBC = _ from String.toList_ofList, show litBD0 = _ from String.toList_ofList]
  decide

def boardChars : List Char := "Board numbe.Dlv".toList
def agreeBoard (x : Char) : Bool := agreeLit boardChars x && (Re.isDigit x == Bridge.isDigit x)

theorem agreeBoard_lit_all (x : Char) : agreeLit boardChars x = true :=
  agreeLit_of_ascii boardChars (by decide +kernel) x
theorem agreeBoard_ascii (x : Char) (h : x.toNat < 128) : agreeBoard x = true := by
  simp only [agreeBoard, agreeBoard_lit_all, isDigit_ascii x h, beq_self_eq_true, Bool.and_self]

/-- the inner `g` of `parseBoard?`, copied -/
def boardTail? (r1 : List Char) : Option (List Char × List Char) :=
  dotStar r1 fun gd t1 => (stripPrefixCI ". ".toList t1).bind fun r2 =>
  dotStar r2 fun gv t2 => (stripPrefixCI " vulnerable.".toList t2).map fun _ => (gd, gv)

/-- `[digit text, dealer text, vulnerability text]` -/
def boardFields? (s : List Char) : Option (List (List Char)) :=
  (stripPrefixCI "Board number ".toList s).bind fun r0 =>
    digitsThen (fun r => (stripPrefixCI ". Dealer ".toList r).bind fun r1 =>
      (boardTail? r1).map fun y => [y.1, y.2]) r0

/-- what `parse_board` does with the three texts: `int`, `Player.convert_formal_name`, the vulnerability word -/
def decodeBoard : List (List Char) → Option (Nat × Seat × Vul)
  | [ds, gd, gv] =>
    match decimal? ds, seatOfFormal? gd, vulOfWord? gv with
    | some n, some d, some v => some (n, d, v)
    | _, _, _ => none
  | _ => none

theorem decimal_takeWhile (r : List Char) (h : r.takeWhile Bridge.isDigit ≠ []) :
    decimal? (r.takeWhile Bridge.isDigit) =
      some ((r.takeWhile Bridge.isDigit).foldl (fun n c => n * 10 + (c.toNat - '0'.toNat)) 0) := by
  unfold decimal?
  rw [if_neg]
  intro hh
  rcases hh with hh | hh
  · exact h hh
  · exact hh List.all_takeWhile

theorem parseBoard_eq_fields (s : List Char) : parseBoard? s = (boardFields? s).bind decodeBoard := by
  unfold parseBoard? boardFields?
  cases stripPrefixCI "Board number ".toList s with
  | none => rfl
  | some r0 =>
    simp only [Option.bind_some]
    unfold digitsThen
    by_cases hds : r0.takeWhile Bridge.isDigit = []
    · simp [hds, decimal?]
    · simp only [decimal_takeWhile r0 hds, hds, if_false]
      cases stripPrefixCI ". Dealer ".toList (r0.drop (r0.takeWhile Bridge.isDigit).length) with
      | none => rfl
      | some r1 =>
        simp only [Option.bind_some]
        show (match boardTail? r1 with
          | none => none
          | some (gd, gv) => (match seatOfFormal? gd, vulOfWord? gv with
            | some d, some v => some (_, d, v)
            | _, _ => none)) = _
        cases boardTail? r1 with
        | none => rfl
        | some y =>
          obtain ⟨gd, gv⟩ := y
          simp only [Option.map_some, Option.bind_some, decodeBoard, decimal_takeWhile r0 hds]
          cases seatOfFormal? gd <;> cases vulOfWord? gv <;> rfl

/-- the shape of the fields: three texts, the first a non-empty ASCII digit string -/
theorem boardFields_shape (s : List Char) (fl : List (List Char)) (h : boardFields? s = some fl) :
    ∃ ds gd gv, fl = [ds, gd, gv] ∧ ds ≠ [] ∧ ds.all Bridge.isDigit = true := by
  unfold boardFields? at h
  cases h0 : stripPrefixCI "Board number ".toList s with
  | none => rw [h0] at h; cases h
  | some r0 =>
    rw [h0] at h
    simp only [Option.bind_some, digitsThen] at h
    split at h
    · cases h
    · rename_i hds
      cases h1 : stripPrefixCI ". Dealer ".toList (r0.drop (r0.takeWhile Bridge.isDigit).length) with
      | none => rw [h1] at h; cases h
      | some r1 =>
        rw [h1] at h
        simp only [Option.bind_some] at h
        cases h2 : boardTail? r1 with
        | none => rw [h2] at h; cases h
        | some y =>
          rw [h2] at h
          simp only [Option.map_some, Option.some.injEq] at h
          exact ⟨_, _, _, h.symm, hds, List.all_takeWhile⟩

def scanBD : List Char → Option (List (List Char)) :=
  fun r => (stripPrefixCI (litBD0 ++ ['.']) r).bind fun _ => some []
def scanBC : List Char → Option (List (List Char)) :=
  fun r => (stripPrefixCI litBC r).bind fun r2 => dotStar r2 fun g t => (scanBD t).map fun gs => g :: gs
def scanBB : List Char → Option (List (List Char)) :=
  fun r => (stripPrefixCI litBB r).bind fun r1 => dotStar r1 fun g t => (scanBC t).map fun gs => g :: gs
def scanBA : List Char → Option (List (List Char)) :=
  fun r => (stripPrefixCI litBA r).bind (digitsThen scanBB)

theorem boardFields_eq_scan (s : List Char) : boardFields? s = scanBA s := by
  unfold boardFields? scanBA
  show (stripPrefixCI litBA s).bind _ = _
  refine congrArg (Option.bind _) (funext fun r0 => congrArg (fun c => digitsThen c r0) (funext fun r => ?_))
  unfold scanBB
  show (stripPrefixCI litBB r).bind _ = _
  refine congrArg (Option.bind _) (funext fun r1 => ?_)
  unfold boardTail? scanBC
  rw [dotStar_map]
  refine congrArg (dotStar r1) (funext fun gd => funext fun t1 => ?_)
  show Option.map _ ((stripPrefixCI litBC t1).bind _) = Option.map _ ((stripPrefixCI litBC t1).bind _)
  simp only [Option.map_bind, Function.comp_def, dotStar_map]
  refine congrArg (Option.bind _) (funext fun r2 => congrArg (dotStar r2) (funext fun gv => funext fun t2 => ?_))
  unfold scanBD
  rw [show litBD0 ++ ['.'] = " vulnerable.".toList by
    rw [show litBD0 = _ from String.toList_ofList, show " vulnerable.".toList = _ from String.toList_ofList]
    rfl]
  cases stripPrefixCI " vulnerable.".toList t2 <;> rfl

theorem isDigit_dot_ascii : ∀ n : Fin 128, Bridge.isDigit (Char.ofNat n.val) = true → eqCI '.' (Char.ofNat n.val) = false := by
  decide +kernel

/-- no ASCII digit is read as the `.` that follows the board number -/
theorem isDigit_not_dot (x : Char) (h : Bridge.isDigit x = true) : eqCI '.' x = false := by
  have hx : x.toNat < 128 := by
    simp only [Bridge.isDigit, decide_eq_true_eq] at h
    have : x.toNat ≤ 57 := h.2
    omega
  have := isDigit_dot_ascii ⟨x.toNat, hx⟩
  simp only [Char.ofNat_toNat] at this
  exact this h

/-- `re.match(BOARD_PATTERN, s, re.IGNORECASE)` matches iff the scanner of `parseBoard?` finds its three texts, and groups
1, 2, 3 are those texts -/
theorem match_board (s : List Char) (hs : ∀ x ∈ s, agreeBoard x = true) :
    (Re.pyMatch true BOARD_PATTERN s).map (Option.map (groupTexts s)) =
      some ((boardFields? s).map (·.map some)) := by
  have hdig : ∀ x ∈ s, Re.isDigit x = Bridge.isDigit x := fun x hx => by
    have := hs x hx; simp only [agreeBoard, Bool.and_eq_true] at this; exact eq_of_beq this.2
  rw [pyMatch_abs_ic true BOARD_PATTERN s boardRe parse_board boardRe_simple, boardRe_ngroups, boardFields_eq_scan]
  have rE := rel_end s 3
  have rD := rel_lits_ascii s 3 3 _ _ rE (litBD0 ++ ['.']) boardLits_ascii.2.2.2
  have r3 := rel_dotStar true s 3 2 (by omega) _ _ rD
  have rC := rel_lits_ascii s 3 2 _ _ r3 litBC boardLits_ascii.2.2.1
  have r2 := rel_dotStar true s 3 1 (by omega) _ _ rC
  have rB := rel_lits_ascii s 3 1 _ _ r2 litBB boardLits_ascii.2.1
  have r1 := rel_digits_mid true s hdig 3 0 (by omega) _ _ rB (fun x xs hx => by
    show (stripPrefixCI litBB (x :: xs)).bind _ = none
    rw [show litBB = _ from String.toList_ofList]
    simp only [stripPrefixCI, isDigit_not_dot x hx]
    rfl)
  have rA := rel_lits_ascii s 3 0 _ _ r1 litBA boardLits_ascii.1
  have := rA 0 s (List.replicate 3 none) rfl rfl
  simp only [List.take_zero, List.nil_append] at this
  unfold boardRe
  rw [den_lits_fun, den_seq_fun, den_lits_fun, den_seq_fun, den_lits_fun, den_seq_fun, den_lits_last]
  exact this

theorem match_board_ascii (s : List Char) (hs : ∀ x ∈ s, x.toNat < 128) :
    (Re.pyMatch true BOARD_PATTERN s).map (Option.map (groupTexts s)) =
      some ((boardFields? s).map (·.map some)) :=
  match_board s fun x hx => agreeBoard_ascii x (hs x hx)

/-! ## `Teams : N/S : "(.*)".? E/W : "(.*)"` -/
def litTA : List Char := "Teams : N/S : \"".toList
def litTC : List Char := " E/W : \"".toList
def teamsRe : Re :=
  lits litTA (.seq (dotG 1) (lits ['"'] (.seq optAnyRe (lits litTC (.seq (dotG 2) (lits [] (.lit '"')))))))

theorem parse_teams : Re.parse TEAMS_PATTERN = some teamsRe := by
  rw [show TEAMS_PATTERN = _ from String.toList_ofList, teamsRe, show litTA = _ from String.toList_ofList,
    show litTC = _ from String.toList_ofList]
  decide +kernel
theorem teamsRe_ngroups : teamsRe.ngroups = 2 := by
  simp only [teamsRe, ngroups_lits, Re.ngroups]; rfl
theorem teamsRe_simple : simple teamsRe = true := by
  simp only [teamsRe, simple_lits, simple]; rfl
theorem teamsLits_ascii : (∀ c ∈ litTA, c.toNat < 128) ∧ ∀ c ∈ litTC, c.toNat < 128 := by
  rw [show litTA = _ from String.toList_ofList, show litTC = _ from String.toList_ofList]
  decide

def teamsChars : List Char := "Teams :N/S\"EW".toList
def agreeTeams (x : Char) : Bool := agreeLit teamsChars x

theorem agreeTeams_all (x : Char) : agreeTeams x = true := agreeLit_of_ascii teamsChars (by decide +kernel) x
theorem agreeTeams_ascii (x : Char) (_ : x.toNat < 128) : agreeTeams x = true := agreeTeams_all x

/-- `[N/S name, E/W name]` -/
def teamFields? (s : List Char) : Option (List (List Char)) :=
  (parseTeamNames? s).map fun x => [x.1, x.2]

/-- the local `after` of `parseTeamNames?` -/
def afterQ (g1 t : List Char) : Option (List Char × List Char) :=
  (stripPrefixCI " E/W : \"".toList t).bind fun r1 =>
    dotStar r1 fun g2 t3 => match t3 with | '"' :: _ => some (g1, g2) | _ => none

theorem parseTeamNames_unfold (s : List Char) : parseTeamNames? s =
    match stripPrefixCI "Teams : N/S : \"".toList s with
    | none => none
    | some r0 =>
      dotStar r0 fun g1 t1 =>
        match t1 with
        | '"' :: t2 =>
          (match t2 with
          | c :: t2' =>
            if c ≠ '\n' then
              match afterQ g1 t2' with
              | some r => some r
              | none => afterQ g1 t2
            else afterQ g1 t2
          | [] => afterQ g1 t2)
        | _ => none := rfl

def scanTD : List Char → Option (List (List Char)) :=
  fun r => (stripPrefixCI ([] ++ ['"']) r).bind fun _ => some []
def scanTC : List Char → Option (List (List Char)) :=
  fun r => (stripPrefixCI litTC r).bind fun r1 => dotStar r1 fun g t => (scanTD t).map fun gs => g :: gs
def scanTB : List Char → Option (List (List Char)) :=
  fun r => (stripPrefixCI ['"'] r).bind (optAny scanTC)
def scanTA : List Char → Option (List (List Char)) :=
  fun r => (stripPrefixCI litTA r).bind fun r0 => dotStar r0 fun g t => (scanTB t).map fun gs => g :: gs

/-- the tail after a double quote -/
def quoteTail (t : List Char) : Option (List Char) := match t with | '"' :: t2 => some t2 | _ => none

theorem strip_quote (t : List Char) : stripPrefixCI ['"'] t = quoteTail t := stripPrefixCI_quote t

theorem quoteTail_none (t : List Char) (h : ∀ tail, t = '"' :: tail → False) : quoteTail t = none := by
  unfold quoteTail
  split
  · exact absurd rfl (h _)
  · rfl

theorem afterQ_scan (g1 t : List Char) :
    (afterQ g1 t).map (fun x => [x.1, x.2]) = (scanTC t).map fun gs => g1 :: gs := by
  unfold afterQ scanTC
  show Option.map _ ((stripPrefixCI litTC t).bind _) = Option.map _ ((stripPrefixCI litTC t).bind _)
  simp only [Option.map_bind, Function.comp_def, dotStar_map]
  refine congrArg (Option.bind _) (funext fun r1 => congrArg (dotStar r1) (funext fun g2 => funext fun t3 => ?_))
  unfold scanTD
  show _ = Option.map _ (Option.map _ ((stripPrefixCI ['"'] t3).bind _))
  rw [strip_quote]
  split
  · rfl
  · rename_i hne
    rw [quoteTail_none _ hne]; rfl

theorem teamFields_eq_scan (s : List Char) : teamFields? s = scanTA s := by
  unfold teamFields? scanTA
  rw [parseTeamNames_unfold]
  show Option.map _ (match stripPrefixCI litTA s with | none => none | some r0 => _) = _
  cases stripPrefixCI litTA s with
  | none => rfl
  | some r0 =>
    simp only [Option.bind_some]
    rw [dotStar_map]
    refine congrArg (dotStar r0) (funext fun g1 => funext fun t1 => ?_)
    unfold scanTB
    rw [strip_quote]
    split
    · rename_i t2
      simp only [quoteTail, Option.bind_some]
      have e1 := afterQ_scan g1 t2
      cases t2 with
      | nil => exact e1
      | cons c t2' =>
        have e2 := afterQ_scan g1 t2'
        unfold optAny
        by_cases hc : c = '\n'
        · simp only [ne_eq, hc, not_true_eq_false, if_false]
          rw [hc] at e1
          exact e1
        · simp only [ne_eq, hc, not_false_eq_true, if_true]
          cases ha : afterQ g1 t2' with
          | none =>
            rw [ha] at e2
            cases hb : scanTC t2' with
            | none => simpa using e1
            | some v => rw [hb] at e2; cases e2
          | some r =>
            rw [ha] at e2
            cases hb : scanTC t2' with
            | none => rw [hb] at e2; cases e2
            | some v => rw [hb] at e2; simpa using e2
    · rename_i hne
      rw [quoteTail_none _ hne]; rfl

/-- `re.match(TEAMS_PATTERN, s, re.IGNORECASE)` matches iff the scanner `parseTeamNames?` finds the two names, and groups
1, 2 are those names -/
theorem match_teams (s : List Char) (_ : ∀ x ∈ s, agreeTeams x = true) :
    (Re.pyMatch true TEAMS_PATTERN s).map (Option.map (groupTexts s)) =
      some ((teamFields? s).map (·.map some)) := by
  rw [pyMatch_abs_ic true TEAMS_PATTERN s teamsRe parse_teams teamsRe_simple, teamsRe_ngroups, teamFields_eq_scan]
  have rE := rel_end s 2
  have rD := rel_lits_ascii s 2 2 _ _ rE ([] ++ ['"']) (by decide)
  have r2 := rel_dotStar true s 2 1 (by omega) _ _ rD
  have rC := rel_lits_ascii s 2 1 _ _ r2 litTC teamsLits_ascii.2
  have rO := rel_optAny true s 2 1 _ _ rC
  have rB := rel_lits_ascii s 2 1 _ _ rO ['"'] (by decide)
  have r1 := rel_dotStar true s 2 0 (by omega) _ _ rB
  have rA := rel_lits_ascii s 2 0 _ _ r1 litTA teamsLits_ascii.1
  have := rA 0 s (List.replicate 2 none) rfl rfl
  simp only [List.take_zero, List.nil_append] at this
  unfold teamsRe
  rw [den_lits_fun, den_seq_fun, den_lits_fun, den_seq_fun, den_lits_fun, den_seq_fun, den_lits_last]
  exact this

theorem match_teams_ascii (s : List Char) (hs : ∀ x ∈ s, x.toNat < 128) :
    (Re.pyMatch true TEAMS_PATTERN s).map (Option.map (groupTexts s)) =
      some ((teamFields? s).map (·.map some)) :=
  match_teams s fun x hx => agreeTeams_ascii x (hs x hx)

end Bridge.RegexMsgClient
