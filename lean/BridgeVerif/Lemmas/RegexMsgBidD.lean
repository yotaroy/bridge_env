import BridgeVerif.Lemmas.RegexMsgBidA
/-!
# The regular expressions of the table manager's message parsers, part D: `"{name} bids (\d)(C|D|H|S|NT)"`

`match_bids` : for every seat name and EVERY subject of the class `agreeBid` (the pattern letters compare alike in the engine
and in the scanner, and `\d` agrees with the ASCII `isDigit`; every ASCII character is in the class),
`re.match(f'{name} bids (\d)(C|D|H|S|NT)', s, re.IGNORECASE)` matches iff `stripPrefixCI (name ++ " bids ") s` succeeds and
`bidTail` reads a digit and a denomination (ordered alternation: `C`, `D`, `H`, `S`, then `NT`) — groups 1 and 2 are those
texts.  `bidTail` is the scanner inside `parseBid?` (`parseBid_asBid`).
-/
namespace Bridge.RegexMsgBid
open Bridge Bridge.Re Bridge.RegexPbn Bridge.RegexHands Bridge.RegexConnect

def agreeBid (x : Char) : Bool := agree x && (Re.isDigit x == Bridge.isDigit x)

theorem agreeBid_ascii (x : Char) (h : x.toNat < 128) : agreeBid x = true := by
  simp only [agreeBid, agree_all, isDigit_ascii x h, beq_self_eq_true, Bool.and_self]

/-- the digit and the denomination after `"{name} bids "` : the texts of groups 1 and 2 -/
def bidTail : List Char → Option (List (List Char))
  | d :: c :: r =>
    if Bridge.isDigit d then
      if eqCI 'C' c || eqCI 'D' c || eqCI 'H' c || eqCI 'S' c then some [[d], [c]]
      else if eqCI 'N' c then
        (match r with
         | t :: _ => if eqCI 'T' t then some [[d], [c, t]] else none
         | [] => none)
      else none
    else none
  | _ => none

def denomRe : Re := .alt (.lit 'C') (.alt (.lit 'D') (.alt (.lit 'H') (.alt (.lit 'S') (.seq (.lit 'N') (.lit 'T')))))
def bidTailRe : Re := .seq (.group 1 (.cls false [.digit false])) (.group 2 denomRe)

def bidsPat (name : List Char) : List Char := name ++ " bids (\\d)(C|D|H|S|NT)".toList

theorem parse_bids (p : Seat) : Re.parse (bidsPat p.formal) = some (lits (p.formal ++ " bids ".toList) bidTailRe) := by
  rw [bidsPat, show " bids (\\d)(C|D|H|S|NT)".toList = _ from String.toList_ofList,
    show " bids ".toList = _ from String.toList_ofList]
  cases p <;> rw [Seat.formal, show (_ : String).toList = _ from String.toList_ofList] <;> decide +kernel

theorem digit_test (ic : Bool) (x : Char) : (classTest ic x [.digit false] != false) = Re.isDigit x := by
  simp only [classTest, ClassItem.test, Bool.or_false]
  cases Re.isDigit x <;> rfl

theorem slice1 (s : List Char) (pos : Nat) (d : Char) (r : List Char) (h : s.drop pos = d :: r) :
    Re.slice s pos (pos + 1) = [d] := by
  simp [Re.slice, h]
theorem slice2 (s : List Char) (pos : Nat) (c t : Char) (r : List Char) (h : s.drop pos = c :: t :: r) :
    Re.slice s pos (pos + 2) = [c, t] := by
  simp [Re.slice, h]

theorem rel_bidTail (s : List Char) (hs : ∀ x ∈ s, agreeBid x = true) :
    Rel s 2 0 (den true bidTailRe (kfin 0 false false)) bidTail := by
  intro pos rest caps hd hl
  have hmem : ∀ x ∈ rest, x ∈ s := fun x hx => by rw [← hd] at hx; exact List.mem_of_mem_drop hx
  have hdig : ∀ x ∈ rest, Re.isDigit x = Bridge.isDigit x := fun x hx => by
    have := hs x (hmem x hx)
    simp only [agreeBid, Bool.and_eq_true] at this
    exact eq_of_beq this.2
  match caps, hl with
  | [c1, c2], _ =>
  cases rest with
  | nil => simp [bidTailRe, den, stepChar, bidTail, absRes]
  | cons d r1 =>
    have hd1 : s.drop (pos + 1) = r1 := drop_succ_of_cons s pos d r1 hd
    cases r1 with
    | nil => simp [bidTailRe, denomRe, den, stepChar, bidTail, absRes]
    | cons c r2 =>
      have hd2 : s.drop (pos + 1 + 1) = r2 := drop_succ_of_cons s (pos + 1) c r2 hd1
      have eC := charEq_eqCI 'C' c (by decide)
      have eD := charEq_eqCI 'D' c (by decide)
      have eH := charEq_eqCI 'H' c (by decide)
      have eS := charEq_eqCI 'S' c (by decide)
      have eN := charEq_eqCI 'N' c (by decide)
      have s1 := slice1 s pos d (c :: r2) hd
      have s2 := slice1 s (pos + 1) c r2 hd1
      simp only [bidTailRe, denomRe, den, stepChar, bidTail, digit_test, hdig d (by simp), eC, eD, eH, eS, eN, setCap]
      by_cases hdd : Bridge.isDigit d = true
      · simp only [hdd, if_true]
        by_cases hC : eqCI 'C' c = true
        · simp [hC, kfin, absRes, texts, s1, s2]
        · by_cases hD : eqCI 'D' c = true
          · simp [hC, hD, kfin, absRes, texts, s1, s2]
          · by_cases hH : eqCI 'H' c = true
            · simp [hC, hD, hH, kfin, absRes, texts, s1, s2]
            · by_cases hS : eqCI 'S' c = true
              · simp [hC, hD, hH, hS, kfin, absRes, texts, s1, s2]
              · by_cases hN : eqCI 'N' c = true
                · cases r2 with
                  | nil => simp [hC, hD, hH, hS, hN, absRes]
                  | cons t r3 =>
                    have eT := charEq_eqCI 'T' t (by decide)
                    have s3 := slice2 s (pos + 1) c t r3 hd1
                    by_cases hT : eqCI 'T' t = true
                    · simp [hC, hD, hH, hS, hN, eT, hT, kfin, absRes, texts, s1, s3]
                    · simp [hC, hD, hH, hS, hN, eT, hT, absRes]
                · simp [hC, hD, hH, hS, hN, absRes]
      · simp [hdd, absRes]

/-- THE BID PATTERN IS THE SCANNER, on every subject of the class -/
theorem match_bids (p : Seat) (s : List Char) (hs : ∀ x ∈ s, agreeBid x = true) :
    (Re.pyMatch true (bidsPat p.formal) s).map (Option.map (groupTexts s)) =
      some (((stripPrefixCI (p.formal ++ " bids ".toList) s).bind bidTail).map (·.map some)) := by
  have hsim : simple (lits (p.formal ++ " bids ".toList) bidTailRe) = true := by rw [simple_lits]; rfl
  have hng : (lits (p.formal ++ " bids ".toList) bidTailRe).ngroups = 2 := by rw [ngroups_lits]; rfl
  rw [pyMatch_abs_ic true _ s _ (parse_bids p) hsim, hng, den_lits_fun]
  have rT := rel_bidTail s hs
  have rA := rel_lits_ascii s 2 0 _ _ rT (p.formal ++ " bids ".toList) (by cases p <;> decide)
  have := rA 0 s (List.replicate 2 none) rfl rfl
  rw [this]
  simp only [List.take_zero, List.nil_append]

theorem match_bids_ascii (p : Seat) (s : List Char) (hs : ∀ x ∈ s, x.toNat < 128) :
    (Re.pyMatch true (bidsPat p.formal) s).map (Option.map (groupTexts s)) =
      some (((stripPrefixCI (p.formal ++ " bids ".toList) s).bind bidTail).map (·.map some)) :=
  match_bids p s fun x hx => agreeBid_ascii x (hs x hx)

end Bridge.RegexMsgBid
