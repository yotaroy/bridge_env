import BridgeVerif.Lemmas.RegexHandsFacts
import BridgeVerif.Lemmas.RegexPbnA
/-!
# The regular expressions of `hands.py` : general tools  (Appendix F, R1, part A)

Both patterns are "simple" (every repetition is over a character class), so `Lemmas/RegexPbnA.lean` gives a
fuel-free denotation `den`.  This file adds
* the two character classes as the scanners' predicates (`rank_test`, `hand_test`);
* `absRes` : the group TEXTS of a result, `Rel` : "the regex continuation `K` computes what the scanner
  continuation `cont` computes" (texts of the groups from index `j` on);
* `scanUp` : the greedy star written forwards, `tryLen_eq_scanUp` : it is `tryLen` (which is written backwards);
* `star_rel` : a `(R*)` group followed by a continuation, `repExact` : `R{n}`.
-/
namespace Bridge.RegexHands
open Bridge Bridge.Re Bridge.RegexPbn

/-! ### the character classes -/
def rankItems : List ClassItem :=
  [.range '2' '9', .ch 'T', .ch 'J', .ch 'Q', .ch 'K', .ch 'A']
def handItems : List ClassItem :=
  [.range '2' '9', .ch 'T', .ch 'J', .ch 'Q', .ch 'K', .ch 'A', .ch '.']

theorem char_beq_nat (a b : Char) : (a == b) = (a.toNat == b.toNat) := by
  rw [Bool.eq_iff_iff]; simp [Char.toNat_inj]

theorem rank_test (x : Char) : classTest false x rankItems = isRankChar x := by
  simp only [classTest, ClassItem.test, charEq, isRankChar, rankItems, Bool.false_and, Bool.or_false,
    char_beq_nat]
  generalize x.toNat = n
  rw [Bool.eq_iff_iff]
  simp
  omega

theorem classTest_append (ic : Bool) (x : Char) : ∀ a b : List ClassItem,
    classTest ic x (a ++ b) = (classTest ic x a || classTest ic x b) := by
  intro a b
  induction a with
  | nil => rfl
  | cons i a ih => simp only [List.cons_append, classTest, ih, Bool.or_assoc]

theorem hand_test (x : Char) : classTest false x handItems = isHandChar x := by
  rw [show handItems = rankItems ++ [.ch '.'] from rfl, classTest_append, rank_test]
  simp only [classTest, ClassItem.test, charEq, isHandChar, Bool.false_and, Bool.or_false]
  rw [show ('.' == x) = (x == '.') from BEq.comm]

theorem rank_pred : (fun x => classTest false x rankItems != false) = isRankChar := by
  funext x; rw [rank_test]; cases isRankChar x <;> rfl

theorem hand_pred : (fun x => classTest false x handItems != false) = isHandChar := by
  funext x; rw [hand_test]; cases isHandChar x <;> rfl

/-! ### texts of the groups -/
def texts (s : List Char) (caps : Caps) : List (Option (List Char)) :=
  caps.map fun g => g.map fun be => Re.slice s be.1 be.2

def absRes (s : List Char) : Re.Res St → Option (Option (List (Option (List Char))))
  | .ok st => some (some (texts s st.caps))
  | .fail => some none
  | .oof => none

theorem fuel_ok (a n : Nat) : a + n ≤ (a + 1) * (n + 2) * 4 + 64 := by
  have h1 : a + 1 ≤ (a + 1) * (n + 2) := Nat.le_mul_of_pos_right _ (by omega)
  have h2 : n + 2 ≤ (a + 1) * (n + 2) := Nat.le_mul_of_pos_left _ (by omega)
  omega

theorem pyMatch_abs_ic (ic : Bool) (pat s : List Char) (re : Re) (hp : Re.parse pat = some re) (hs : simple re = true) :
    (Re.pyMatch ic pat s).map (Option.map (groupTexts s)) =
      absRes s (den ic re (kfin 0 false false) ⟨0, s, List.replicate re.ngroups none⟩) := by
  unfold Re.pyMatch
  simp only [hp]
  rw [matchCore_eq_den ic re hs _ 0 s false false (RegexPbn.fuel_ok _ _ _ (Nat.le_refl _))]
  cases den ic re (kfin 0 false false) ⟨0, s, List.replicate re.ngroups none⟩ <;> rfl

theorem pyMatch_abs (pat s : List Char) (re : Re) (hp : Re.parse pat = some re) (hs : simple re = true) :
    (Re.pyMatch false pat s).map (Option.map (groupTexts s)) =
      absRes s (den false re (kfin 0 false false) ⟨0, s, List.replicate re.ngroups none⟩) :=
  pyMatch_abs_ic false pat s re hp hs

theorem take_set_succ {α : Type} (a : α) : ∀ (l : List α) (j : Nat), j < l.length →
    (l.set j a).take (j + 1) = l.take j ++ [a] := by
  intro l
  induction l with
  | nil => intro j h; simp at h
  | cons x xs ih =>
    intro j h
    cases j with
    | zero => simp
    | succ j =>
      simp only [List.length_cons] at h
      simp only [List.set_cons_succ, List.take_succ_cons, List.cons_append, ih j (by omega)]

theorem texts_set (s : List Char) (caps : Caps) (j b m : Nat) (h : j < caps.length) :
    (texts s (caps.set j (some (b, b + m)))).take (j + 1)
      = (texts s caps).take j ++ [some ((s.drop b).take m)] := by
  unfold texts
  rw [List.map_set, take_set_succ _ _ _ (by simpa using h)]
  simp [Re.slice]

/-- the regex continuation `K` computes (on suffixes of `s`, with `N` groups) the texts of the groups from
index `j` on as the scanner continuation `cont` does, and keeps the earlier groups -/
def Rel (s : List Char) (N j : Nat) (K : St → Re.Res St) (cont : List Char → Option (List (List Char))) : Prop :=
  ∀ pos rest caps, s.drop pos = rest → caps.length = N →
    absRes s (K ⟨pos, rest, caps⟩) = some ((cont rest).map fun gs => (texts s caps).take j ++ gs.map some)

theorem absRes_orFail {α : Type} (s : List Char) (F : α → List (Option (List Char))) (a b : Re.Res St) (x y : Option α)
    (ha : absRes s a = some (x.map F)) (hb : absRes s b = some (y.map F)) :
    absRes s (orFail a b) = some ((x.or y).map F) := by
  cases a with
  | ok st =>
    cases x with
    | none => simp [absRes] at ha
    | some x' => simpa using ha
  | fail =>
    cases x with
    | none => simpa using hb
    | some x' => simp [absRes] at ha
  | oof => simp [absRes] at ha

/-! ### the greedy star, forwards -/
/-- `g m` = what the continuation yields after a run of `m` characters; the star at offset `m` with `rest`
ahead tries the longest run first -/
def scanUp {α : Type} (p : Char → Bool) (g : Nat → Option α) : Nat → List Char → Option α
  | m, [] => g m
  | m, x :: xs => if p x then (scanUp p g (m + 1) xs).or (g m) else g m

theorem drop_succ_of_cons {α : Type} (l : List α) (m : Nat) (x : α) (xs : List α) (h : l.drop m = x :: xs) :
    l.drop (m + 1) = xs := by
  have : l.drop (m + 1) = (l.drop m).drop 1 := by rw [List.drop_drop]
  rw [this, h]; rfl

/-- the star of a group over a class, in terms of `scanUp` -/
theorem star_scanUp {α : Type} (s : List Char) (F : α → List (Option (List Char))) (p : Char → Bool)
    (kg : St → Re.Res St) (caps0 : Caps) (pos0 : Nat) (r0 : List Char) (g : Nat → Option α)
    (hk : ∀ m, absRes s (kg ⟨pos0 + m, r0.drop m, caps0⟩) = some ((g m).map F)) :
    ∀ (rest : List Char) (m count : Nat), r0.drop m = rest →
      absRes s (repDen p 0 none kg caps0 count (pos0 + m) rest) = some ((scanUp p g m rest).map F) := by
  intro rest
  induction rest with
  | nil =>
    intro m count hd
    have := hk m
    rw [hd] at this
    simpa [repDen, scanUp] using this
  | cons x xs ih =>
    intro m count hd
    have h0 := hk m
    rw [hd] at h0
    have h1 := ih (m + 1) (count + 1) (drop_succ_of_cons r0 m x xs hd)
    simp only [repDen, Nat.not_lt_zero, if_false, mxOk, if_true, scanUp]
    by_cases hp : p x = true
    · simp only [hp, if_true]
      exact absRes_orFail s F _ _ _ _ h1 h0
    · simp only [hp]
      exact h0

/-- one attempt of `tryLen` -/
def tryAt (cont : List Char → Option (List (List Char))) (r0 : List Char) (m : Nat) : Option (List (List Char)) :=
  match r0.drop m with
  | [] => none
  | _ :: rest => (cont rest).map fun gs => r0.take m :: gs

def tryBelow (cont : List Char → Option (List (List Char))) (r0 : List Char) : Nat → Option (List (List Char))
  | 0 => none
  | m + 1 => tryLen cont r0 m

theorem tryLen_eq (cont : List Char → Option (List (List Char))) (r0 : List Char) (m : Nat) :
    tryLen cont r0 m = (tryAt cont r0 m).or (tryBelow cont r0 m) := by
  cases m with
  | zero =>
    cases r0 with
    | nil => rfl
    | cons x xs => simp [tryLen, tryAt, tryBelow]
  | succ m =>
    simp only [tryLen, tryAt, tryBelow]
    cases r0.drop (m + 1) with
    | nil => simp
    | cons y ys =>
      simp only
      cases cont ys <;> simp

theorem tryLen_eq_scanUp (p : Char → Bool) (cont : List Char → Option (List (List Char))) (r0 : List Char) :
    ∀ (rest : List Char) (m : Nat),
      tryLen cont r0 (m + (rest.takeWhile p).length) = (scanUp p (tryAt cont r0) m rest).or (tryBelow cont r0 m) := by
  intro rest
  induction rest with
  | nil => intro m; simpa [scanUp] using tryLen_eq cont r0 m
  | cons x xs ih =>
    intro m
    by_cases hp : p x = true
    · have e : m + ((x :: xs).takeWhile p).length = (m + 1) + (xs.takeWhile p).length := by
        simp [List.takeWhile, hp]; omega
      rw [e, ih (m + 1)]
      simp only [scanUp, hp, if_true, tryBelow, tryLen_eq cont r0 m, Option.or_assoc]
    · simp only [Bool.not_eq_true] at hp
      simp only [List.takeWhile, hp, List.length_nil, Nat.add_zero, scanUp]
      simpa using tryLen_eq cont r0 m

/-- the longest run wins if the continuation accepts it -/
theorem scanUp_first {α : Type} (p : Char → Bool) (g : Nat → Option α) :
    ∀ (rest : List Char) (m : Nat), (g (m + (rest.takeWhile p).length)).isSome = true →
      scanUp p g m rest = g (m + (rest.takeWhile p).length) := by
  intro rest
  induction rest with
  | nil => intro m _; simp [scanUp]
  | cons x xs ih =>
    intro m hg
    by_cases hp : p x = true
    · have e : m + ((x :: xs).takeWhile p).length = m + 1 + (xs.takeWhile p).length := by
        simp [List.takeWhile, hp]; omega
      rw [e] at hg ⊢
      simp only [scanUp, hp, if_true, ih (m + 1) hg]
      cases hv : g (m + 1 + (xs.takeWhile p).length) with
      | none => rw [hv] at hg; cases hg
      | some v => rfl
    · simp only [Bool.not_eq_true] at hp
      simp [scanUp, hp, List.takeWhile]

/-- … and also if the continuation refuses every shorter one -/
theorem scanUp_last {α : Type} (p : Char → Bool) (g : Nat → Option α) : ∀ (rest : List Char) (m : Nat),
    (∀ i, i < (rest.takeWhile p).length → g (m + i) = none) →
    scanUp p g m rest = g (m + (rest.takeWhile p).length) := by
  intro rest
  induction rest with
  | nil => intro m _; simp [scanUp]
  | cons x xs ih =>
    intro m h
    by_cases hp : p x = true
    · have e : ((x :: xs).takeWhile p) = x :: xs.takeWhile p := by simp [List.takeWhile, hp]
      rw [e] at h ⊢
      have h0 : g m = none := by simpa using h 0 (by simp)
      have h1 := ih (m + 1) (fun i hi => by
        have := h (i + 1) (by simp; omega)
        rw [show m + 1 + i = m + (i + 1) by omega]; exact this)
      simp only [scanUp, hp, if_true, h1, h0, Option.or_none, List.length_cons]
      congr 1; omega
    · simp only [Bool.not_eq_true] at hp
      simp [scanUp, hp, List.takeWhile]

/-! ### `R{n}` -/
theorem repExact (p : Char → Bool) (n : Nat) (k : St → Re.Res St) (caps : Caps) :
    ∀ (d count pos : Nat) (rest : List Char), count + d = n →
      repDen p n (some n) k caps count pos rest =
        if (rest.take d).length = d ∧ (rest.take d).all p = true then k ⟨pos + d, rest.drop d, caps⟩ else .fail := by
  intro d
  induction d with
  | zero =>
    intro count pos rest h
    have : count = n := by omega
    subst this
    cases rest <;> simp [repDen, mxOk]
  | succ d ih =>
    intro count pos rest h
    have hlt : count < n := by omega
    cases rest with
    | nil => simp [repDen, hlt]
    | cons x xs =>
      simp only [repDen, hlt, if_true, ih (count + 1) (pos + 1) xs (by omega)]
      by_cases hp : p x = true
      · simp [hp, Nat.add_assoc, Nat.add_comm 1 d]
      · simp [hp]

end Bridge.RegexHands
