import BridgeVerif.Lemmas.RegexHandsA
import BridgeVerif.Lemmas.RegexChars
/-!
# The regular expression of `PlayerThread.parse_connection_info` : general tools  (part A)

`Connecting "(.*)" as (.*) using protocol version (\d+)` with `re.IGNORECASE` is a right-nested sequence of literals,
two greedy `(.*)` groups and a final `(\d+)`.  This file relates, in the `Rel` framework of `Lemmas/RegexHandsA.lean`
(which does not depend on the `ic` flag),
* a run of literals compared with `Re.charEq true` to `stripPrefixCI` (`rel_lits`), on subjects whose characters
  satisfy `agreeOn` for the literals;
* a `(.*)` group to `dotStar` / `greedy` of `Model/Msg.lean` (`rel_dotStar`);
* a final `(\d+)` group to `takeWhile isDigit` (`rel_digits_last`).
-/
namespace Bridge.RegexConnect
open Bridge Bridge.Re Bridge.RegexPbn Bridge.RegexHands

/-! ### literals -/
/-- `c₁c₂…cₙR` as the parser builds it -/
def lits (p : List Char) (R : Re) : Re := p.foldr (fun c r => .seq (.lit c) r) R

/-- the continuation of a run of literals -/
def denLits (ic : Bool) : List Char → (St → Re.Res St) → St → Re.Res St
  | [], K => K
  | c :: p, K => fun st => stepChar (charEq ic c) st (denLits ic p K)

theorem den_lits (ic : Bool) (R : Re) (k : St → Re.Res St) : ∀ (p : List Char) (st : St),
    den ic (lits p R) k st = denLits ic p (den ic R k) st := by
  intro p
  induction p with
  | nil => intro st; rfl
  | cons c p ih =>
    intro st
    show den ic (.seq (.lit c) (lits p R)) k st = _
    simp only [den, denLits]
    congr 1
    funext st'
    exact ih st'

theorem simple_lits (R : Re) : ∀ p : List Char, simple (lits p R) = simple R := by
  intro p
  induction p with
  | nil => rfl
  | cons c p ih => show (simple (.lit c) && simple (lits p R)) = _; rw [ih]; rfl

theorem ngroups_lits (R : Re) : ∀ p : List Char, (lits p R).ngroups = R.ngroups := by
  intro p
  induction p with
  | nil => rfl
  | cons c p ih => show Nat.max 0 (lits p R).ngroups = _; rw [ih]; exact Nat.zero_max _

theorem den_lits_fun (ic : Bool) (R : Re) (k : St → Re.Res St) (p : List Char) :
    den ic (lits p R) k = denLits ic p (den ic R k) := by
  funext st; exact den_lits ic R k p st

theorem den_seq_fun (ic : Bool) (a b : Re) (k : St → Re.Res St) : den ic (.seq a b) k = den ic a (den ic b k) := by
  funext st; rfl

/-- at the end of a `re.match` pattern with `N` groups nothing more is asked -/
theorem rel_end (s : List Char) (N : Nat) : Rel s N N (kfin 0 false false) (fun _ => some []) := by
  intro pos rest caps _ hl
  have e : (texts s caps).take N = texts s caps := by
    rw [List.take_of_length_le]; simp [texts, hl]
  simp [kfin, absRes, e]

/-- the engine and the scanner agree on the pattern characters `ps` against the subject character `x` -/
def agreeLit (ps : List Char) (x : Char) : Bool := ps.all fun p => charEq true p x == eqCI p x

/-- … which they do on ASCII pattern characters, whatever the subject character -/
theorem agreeLit_of_ascii (ps : List Char) (hps : ∀ p ∈ ps, p.toNat < 128) (x : Char) : agreeLit ps x = true := by
  simp only [agreeLit, List.all_eq_true, beq_iff_eq]
  exact fun p hp => charEq_eqCI p x (hps p hp)

theorem rel_lits (s : List Char) (ps : List Char) (hs : ∀ x ∈ s, agreeLit ps x = true) (N j : Nat)
    (K : St → Re.Res St) (cont : List Char → Option (List (List Char))) (h : Rel s N j K cont) :
    ∀ p : List Char, (∀ c ∈ p, c ∈ ps) →
      Rel s N j (denLits true p K) (fun r => (stripPrefixCI p r).bind cont) := by
  intro p
  induction p with
  | nil =>
    intro _ pos rest caps hd hl
    simpa [denLits, stripPrefixCI] using h pos rest caps hd hl
  | cons c p ih =>
    intro hp pos rest caps hd hl
    cases rest with
    | nil => simp [denLits, stepChar, stripPrefixCI, absRes]
    | cons x xs =>
      have hx : x ∈ s := by
        have : x ∈ s.drop pos := by rw [hd]; simp
        exact List.mem_of_mem_drop this
      have hc : charEq true c x = eqCI c x := by
        have := hs x hx
        simp only [agreeLit, List.all_eq_true] at this
        exact eq_of_beq (this c (hp c (by simp)))
      have hdrop : s.drop (pos + 1) = xs := drop_succ_of_cons s pos x xs hd
      simp only [denLits, stepChar, stripPrefixCI, hc]
      by_cases he : eqCI c x = true
      · simp only [he, if_true]
        exact ih (fun c' hc' => hp c' (by simp [hc'])) (pos + 1) xs caps hdrop hl
      · simp only [he]
        simp [absRes]

/-- … in particular a run of ASCII literals, on every subject -/
theorem rel_lits_ascii (s : List Char) (N j : Nat) (K : St → Re.Res St) (cont : List Char → Option (List (List Char)))
    (h : Rel s N j K cont) (p : List Char) (hp : ∀ c ∈ p, c.toNat < 128) :
    Rel s N j (denLits true p K) (fun r => (stripPrefixCI p r).bind cont) :=
  rel_lits s p (fun x _ => agreeLit_of_ascii p hp x) N j K cont h p (fun _ hc => hc)

/-! ### `(.*)` -/
def notNl (x : Char) : Bool := x != '\n'

theorem notNl_eq : (fun x : Char => decide (x ≠ '\n')) = notNl := by
  funext x; by_cases h : x = '\n' <;> simp [notNl, h]

/-- one attempt of `greedy` -/
def greedyAt {α : Type} (s : List Char) (k : List Char → List Char → Option α) (m : Nat) : Option α :=
  k (s.take m) (s.drop m)

def greedyBelow {α : Type} (s : List Char) (k : List Char → List Char → Option α) : Nat → Option α
  | 0 => none
  | m + 1 => greedy s k m

theorem greedy_eq {α : Type} (s : List Char) (k : List Char → List Char → Option α) (m : Nat) :
    greedy s k m = (greedyAt s k m).or (greedyBelow s k m) := by
  cases m with
  | zero => simp [greedy, greedyAt, greedyBelow]
  | succ m =>
    simp only [greedy, greedyAt, greedyBelow]
    cases k (s.take (m + 1)) (s.drop (m + 1)) <;> simp

theorem greedy_eq_scanUp {α : Type} (p : Char → Bool) (k : List Char → List Char → Option α) (s : List Char) :
    ∀ (rest : List Char) (m : Nat),
      greedy s k (m + (rest.takeWhile p).length) = (scanUp p (greedyAt s k) m rest).or (greedyBelow s k m) := by
  intro rest
  induction rest with
  | nil => intro m; simpa [scanUp] using greedy_eq s k m
  | cons x xs ih =>
    intro m
    by_cases hp : p x = true
    · have e : m + ((x :: xs).takeWhile p).length = (m + 1) + (xs.takeWhile p).length := by
        simp [List.takeWhile, hp]; omega
      rw [e, ih (m + 1)]
      simp only [scanUp, hp, if_true, greedyBelow, greedy_eq s k m, Option.or_assoc]
    · simp only [Bool.not_eq_true] at hp
      simp only [List.takeWhile, hp, List.length_nil, Nat.add_zero, scanUp]
      simpa using greedy_eq s k m

theorem dotStar_eq_scanUp {α : Type} (k : List Char → List Char → Option α) (s : List Char) :
    dotStar s k = scanUp notNl (greedyAt s k) 0 s := by
  unfold dotStar
  rw [notNl_eq]
  have := greedy_eq_scanUp notNl k s s 0
  simpa [greedyBelow] using this

theorem greedy_map {α β : Type} (f : α → β) (s : List Char) (k : List Char → List Char → Option α) :
    ∀ n, (greedy s k n).map f = greedy s (fun g t => (k g t).map f) n := by
  intro n
  induction n with
  | zero => rfl
  | succ n ih =>
    simp only [greedy]
    cases k (s.take (n + 1)) (s.drop (n + 1)) with
    | none => simpa using ih
    | some r => rfl

theorem dotStar_map {α β : Type} (f : α → β) (s : List Char) (k : List Char → List Char → Option α) :
    (dotStar s k).map f = dotStar s (fun g t => (k g t).map f) := greedy_map f s k _

def dotG (i : Nat) : Re := .group i (.rep 0 none .any)

/-- `(.*)` followed by `K'` is `dotStar` over the scanner of `K'` -/
theorem rel_dotStar (ic : Bool) (s : List Char) (N j : Nat) (hj : j < N) (K' : St → Re.Res St)
    (cont : List Char → Option (List (List Char))) (h : Rel s N (j + 1) K' cont) :
    Rel s N j (den ic (dotG (j + 1)) K') (fun r => dotStar r fun g t => (cont t).map fun gs => g :: gs) := by
  intro pos rest caps hd hl
  have hden : den ic (dotG (j + 1)) K' ⟨pos, rest, caps⟩ =
      repDen notNl 0 none (fun st' => K' { st' with caps := st'.caps.set j (some (pos, st'.pos)) }) caps 0 pos rest := by
    simp only [den, dotG, charPred, setCap]; rfl
  rw [hden]
  show absRes s _ = some (Option.map _ (dotStar rest _))
  rw [dotStar_eq_scanUp]
  have hk : ∀ m, absRes s ((fun st' : St => K' { st' with caps := st'.caps.set j (some (pos, st'.pos)) })
        ⟨pos + m, rest.drop m, caps⟩)
      = some ((greedyAt rest (fun g t => (cont t).map fun gs => g :: gs) m).map
          fun gs => (texts s caps).take j ++ gs.map some) := by
    intro m
    have hdrop : s.drop (pos + m) = rest.drop m := by rw [← List.drop_drop, hd]
    have := h (pos + m) (rest.drop m) (caps.set j (some (pos, pos + m))) hdrop (by simp [hl])
    simp only [greedyAt]
    rw [this, texts_set s caps j pos m (by omega), hd]
    cases cont (rest.drop m) <;> simp
  have h1 := star_scanUp s (fun gs => (texts s caps).take j ++ gs.map some) notNl
    (fun st' : St => K' { st' with caps := st'.caps.set j (some (pos, st'.pos)) }) caps pos rest
    (greedyAt rest (fun g t => (cont t).map fun gs => g :: gs)) hk rest 0 0 rfl
  simpa using h1

/-! ### the final `(\d+)` -/
theorem repDen_min (p : Char → Bool) (mn : Nat) (k : St → Re.Res St) (caps : Caps)
    (rest : List Char) (count pos : Nat) (h : mn ≤ count) :
    repDen p mn none k caps count pos rest = repDen p 0 none k caps count pos rest := by
  rw [repDen_star p mn k caps rest count pos h, repDen_star p 0 k caps rest count pos (Nat.zero_le _)]

theorem repDen_pred (p q : Char → Bool) (mn : Nat) (mx : Option Nat) (k : St → Re.Res St) (caps : Caps) :
    ∀ (rest : List Char) (count pos : Nat), (∀ x ∈ rest, p x = q x) →
      repDen p mn mx k caps count pos rest = repDen q mn mx k caps count pos rest := by
  intro rest
  induction rest with
  | nil => intro count pos _; rfl
  | cons x xs ih =>
    intro count pos h
    simp only [repDen, h x (by simp), ih (count + 1) (pos + 1) (fun y hy => h y (by simp [hy]))]

def digG (i : Nat) : Re := .group i (.rep 1 none (.cls false [.digit false]))

theorem digit_pred (ic : Bool) : (fun x => classTest ic x [.digit false] != false) = Re.isDigit := by
  funext x
  simp only [classTest, ClassItem.test, Bool.or_false]
  cases Re.isDigit x <;> rfl

/-- the scanner of the last group: the longest run of ASCII digits, non-empty -/
def digitsLast (r : List Char) : Option (List (List Char)) :=
  if r.takeWhile Bridge.isDigit = [] then none else some [r.takeWhile Bridge.isDigit]

theorem drop_in_takeWhile (p : Char → Bool) : ∀ (xs : List Char) (i : Nat), i < (xs.takeWhile p).length →
    ∃ y ys, xs.drop i = y :: ys ∧ p y = true := by
  intro xs
  induction xs with
  | nil => intro i h; simp at h
  | cons x xs ih =>
    intro i h
    by_cases hp : p x = true
    · cases i with
      | zero => exact ⟨x, xs, rfl, hp⟩
      | succ i =>
        have e : ((x :: xs).takeWhile p) = x :: xs.takeWhile p := by simp [List.takeWhile, hp]
        rw [e] at h
        simp only [List.length_cons] at h
        exact ih i (by omega)
    · simp only [Bool.not_eq_true] at hp
      simp [List.takeWhile, hp] at h

/-- a `(\d+)` group followed by a continuation that refuses a digit, or accepts everything: backtracking into the digits
changes nothing, the group is `takeWhile isDigit` -/
theorem rel_digits (ic : Bool) (s : List Char) (hs : ∀ x ∈ s, Re.isDigit x = Bridge.isDigit x) (N j : Nat)
    (hj : j < N) (K' : St → Re.Res St) (cont : List Char → Option (List (List Char)))
    (h : Rel s N (j + 1) K' cont)
    (hcont : (∀ x xs, Bridge.isDigit x = true → cont (x :: xs) = none) ∨ ∀ r, (cont r).isSome = true) :
    Rel s N j (den ic (digG (j + 1)) K') (fun r => if r.takeWhile Bridge.isDigit = [] then none
      else (cont (r.drop (r.takeWhile Bridge.isDigit).length)).map fun gs => r.takeWhile Bridge.isDigit :: gs) := by
  intro pos rest caps hd hl
  have hsub : ∀ x ∈ rest, x ∈ s := by
    intro x hx
    rw [← hd] at hx
    exact List.mem_of_mem_drop hx
  have hden : den ic (digG (j + 1)) K' ⟨pos, rest, caps⟩ =
      repDen Bridge.isDigit 1 none
        (fun st' => K' { st' with caps := st'.caps.set j (some (pos, st'.pos)) }) caps 0 pos rest := by
    simp only [den, digG, charPred, setCap, digit_pred]
    exact repDen_pred _ _ _ _ _ _ rest 0 pos (fun x hx => hs x (hsub x hx))
  rw [hden]
  show absRes s _ = some (Option.map _ (if _ then _ else _))
  cases rest with
  | nil => simp [repDen, absRes]
  | cons x xs =>
    by_cases hx : Bridge.isDigit x = true
    · have hdrop : s.drop (pos + 1) = xs := drop_succ_of_cons s pos x xs hd
      simp only [repDen, Nat.lt_add_one, if_true, hx, Nat.zero_add]
      rw [repDen_min _ 1 _ _ xs 1 (pos + 1) (Nat.le_refl _)]
      have hk : ∀ m, absRes s ((fun st' : St => K' { st' with caps := st'.caps.set j (some (pos, st'.pos)) })
            ⟨pos + 1 + m, xs.drop m, caps⟩)
          = some (((cont (xs.drop m)).map fun gs => (x :: xs).take (m + 1) :: gs).map
              fun gs => (texts s caps).take j ++ gs.map some) := by
        intro m
        have hdrop' : s.drop (pos + 1 + m) = xs.drop m := by rw [← List.drop_drop, hdrop]
        have := h (pos + 1 + m) (xs.drop m) (caps.set j (some (pos, pos + 1 + m))) hdrop' (by simp [hl])
        rw [this, show pos + 1 + m = pos + (m + 1) by omega, texts_set s caps j pos (m + 1) (by omega), hd]
        cases cont (xs.drop m) <;> simp
      have h1 := star_scanUp s (fun gs => (texts s caps).take j ++ gs.map some) Bridge.isDigit
        (fun st' : St => K' { st' with caps := st'.caps.set j (some (pos, st'.pos)) }) caps (pos + 1) xs
        (fun m => (cont (xs.drop m)).map fun gs => (x :: xs).take (m + 1) :: gs) hk xs 0 1 rfl
      have hsc : ∀ g : Nat → Option (List (List Char)), (∀ m, g m = (cont (xs.drop m)).map fun gs => (x :: xs).take (m + 1) :: gs) →
          scanUp Bridge.isDigit g 0 xs = g (0 + (xs.takeWhile Bridge.isDigit).length) := by
        intro g hg
        rcases hcont with hc | hc
        · refine scanUp_last Bridge.isDigit g xs 0 (fun i hi => ?_)
          obtain ⟨y, ys, e, hy⟩ := drop_in_takeWhile Bridge.isDigit xs i hi
          simp only [Nat.zero_add, hg, e, hc y ys hy, Option.map_none]
        · exact scanUp_first Bridge.isDigit g xs 0 (by rw [hg, Option.isSome_map]; exact hc _)
      rw [hsc _ (fun _ => rfl)] at h1
      simp only [Nat.add_zero, Nat.zero_add] at h1
      rw [h1]
      have e4 : ((x :: xs).takeWhile Bridge.isDigit) = x :: xs.takeWhile Bridge.isDigit := by
        simp [List.takeWhile, hx]
      rw [e4]
      simp only [List.length_cons, List.drop_succ_cons, List.take_succ_cons, take_length_takeWhile,
        reduceCtorEq, if_false]
    · simp only [Bool.not_eq_true] at hx
      simp [repDen, hx, List.takeWhile, absRes]

theorem rel_digits_last (ic : Bool) (s : List Char) (hs : ∀ x ∈ s, Re.isDigit x = Bridge.isDigit x) (j : Nat) :
    Rel s (j + 1) j (den ic (digG (j + 1)) (kfin 0 false false)) digitsLast :=
  rel_digits ic s hs (j + 1) j (by omega) _ _ (rel_end s (j + 1)) (.inr fun _ => rfl)

end Bridge.RegexConnect
