import BridgeVerif.Model.Auction
import BridgeVerif.Spec.Laws
/-! Refinement of the auction model to the Laws: invariant `AInv` and the one-step theorem. -/
namespace Bridge

structure AInv (d : Seat) (v : Vul) (s : AState) (h : List Call) : Prop where
  hist : s.history = h
  dl : s.dealer = d
  vl : s.vul = v
  act : s.active = if over h then none else some (d.rot h.length)
  lb : s.lastBid = (lastBid? h).map (·.2)
  lbr : s.lastBidder = (lastBid? h).map fun p => callerAt d h.length p.1
  cx : s.calledX = (dblOf h).isX
  cxx : s.calledXX = (dblOf h).isXX
  ps : ∀ p, s.perSeat p = share d h p
  dc : ∀ sd su, s.declCheck sd su = firstNamer d h sd su
  av : over h = false → ∀ c, s.avail c = legal d h c

theorem ainv_init (d : Seat) (v : Vul) : AInv d v (AState.init d v) [] := by
  constructor <;> simp [AState.init, over, trailP, lastBid?, dblOf, Seat.rot, share, firstNamer, Dbl.isX, Dbl.isXX]
  intro c; cases c <;> simp [legal, lastBid?]

@[simp] theorem rot_succ (d : Seat) (n : Nat) : d.rot (n+1) = (d.rot n).left := rfl

theorem trailP_ge_two (h : List Call) :
    (h.head? = some Call.pass ∧ h.tail.head? = some Call.pass) ↔ 2 ≤ trailP h := by
  match h with
  | [] => simp [trailP]
  | [c] => cases c <;> simp [trailP]
  | c :: c' :: r => cases c <;> cases c' <;> simp [trailP]

theorem over_pass (h : List Call) :
    over (Call.pass :: h) = decide (2 ≤ trailP h ∧ 3 ≤ h.length) := by
  simp [over, trailP]

theorem over_nonpass (h : List Call) (c : Call) (hc : c ≠ .pass) : over (c :: h) = false := by
  cases c <;> simp_all [over, trailP]

theorem lastBid_lt : ∀ (h : List Call) k j, lastBid? h = some (k, j) → k < h.length := by
  intro h
  induction h with
  | nil => intro k j hh; simp [lastBid?] at hh
  | cons c r ih =>
    intro k j hh
    cases c with
    | bid i => simp [lastBid?] at hh; simp [hh.1.symm]
    | pass | dbl | rdbl =>
      simp only [lastBid?, Option.map_eq_some_iff] at hh
      obtain ⟨⟨k', j'⟩, h1, h2⟩ := hh
      have := ih k' j' h1
      simp at h2; simp; omega

theorem lastBid_nonbid (c : Call) (h : List Call) (hc : ∀ i, c ≠ .bid i) :
    lastBid? (c :: h) = (lastBid? h).map fun p => (p.1 + 1, p.2) := by
  cases c <;> simp_all [lastBid?]

theorem isPartner_left_left (a b : Seat) : a.left.left.isPartner b = a.isPartner b := by
  cases a <;> cases b <;> rfl

theorem advance_inv (d : Seat) (v : Vul) (s1 : AState) (p : Seat) (c : Call) (h : List Call)
    (hp : p = d.rot h.length)
    (hist : s1.history = h) (dl : s1.dealer = d) (vl : s1.vul = v)
    (lb : s1.lastBid = (lastBid? (c :: h)).map (·.2))
    (lbr : s1.lastBidder = (lastBid? (c :: h)).map fun q => callerAt d (c :: h).length q.1)
    (cx : s1.calledX = (dblOf (c :: h)).isX)
    (cxx : s1.calledXX = (dblOf (c :: h)).isXX)
    (ps : ∀ q, s1.perSeat q = share d h q)
    (dc : ∀ sd su, s1.declCheck sd su = firstNamer d (c :: h) sd su)
    (avb : ∀ k, (k = Call.pass ∨ ∃ j, k = Call.bid j) → s1.avail k = legal d (c :: h) k)
    (avx : lastBid? (c :: h) = none → s1.avail .dbl = false ∧ s1.avail .rdbl = false)
    (hov : over (c :: h) = false) :
    AInv d v (advance s1 p c) (c :: h) := by
  refine ⟨by simp [advance, hist], by simp [advance, dl], by simp [advance, vl],
          by simp [advance, hov, hp], by simp [advance, lb],
          by simp [advance, lbr], by simp [advance, cx], by simp [advance, cxx], ?_, ?_, ?_⟩
  · intro q
    simp only [advance, share, ps, hp]
    by_cases hq : q = d.rot h.length
    · subst hq; simp
    · have : ¬ d.rot h.length = q := fun e => hq e.symm
      simp [hq, this]
  · intro sd su; simp [advance, dc]
  · intro _ k
    simp only [advance]
    cases hlb : lastBid? (c :: h) with
    | none =>
      have : s1.lastBidder = none := by rw [lbr, hlb]; rfl
      simp only [this]
      cases k with
      | pass => exact avb _ (Or.inl rfl)
      | bid j => exact avb _ (Or.inr ⟨j, rfl⟩)
      | dbl => simp [legal, hlb, (avx hlb).1]
      | rdbl => simp [legal, hlb, (avx hlb).2]
    | some q =>
      obtain ⟨kk, jj⟩ := q
      have hl : s1.lastBidder = some (callerAt d (c :: h).length kk) := by rw [lbr, hlb]; rfl
      simp only [hl]
      cases k with
      | pass => exact avb _ (Or.inl rfl)
      | bid j => exact avb _ (Or.inr ⟨j, rfl⟩)
      | dbl =>
        simp only [legal, hlb, cx, cxx, hp, turn]
        cases hd : dblOf (c :: h) <;> simp [Dbl.isX, Dbl.isXX]
      | rdbl =>
        simp only [legal, hlb, cx, cxx, hp, turn]
        cases hd : dblOf (c :: h) <;> simp [Dbl.isX, Dbl.isXX]

theorem firstNamer_nonbid (d : Seat) (c : Call) (h : List Call) (hc : ∀ i, c ≠ .bid i) (sd su) :
    firstNamer d (c :: h) sd su = firstNamer d h sd su := by
  cases c with
  | bid i => exact absurd rfl (hc i)
  | pass | dbl | rdbl => simp only [firstNamer]; cases firstNamer d h sd su <;> rfl

theorem map_snd_shift (o : Option (Nat × Fin 35)) :
    (o.map fun p => (p.1 + 1, p.2)).map (·.2) = o.map (·.2) := by
  cases o <;> rfl

theorem map_caller_shift (d : Seat) (n : Nat) (o : Option (Nat × Fin 35)) :
    ((o.map fun p => (p.1 + 1, p.2)).map fun q => callerAt d (n + 1) q.1) =
      o.map fun q => callerAt d n q.1 := by
  cases o with
  | none => rfl
  | some q => simp [callerAt]; congr 1; omega

/-- what a non-bid call needs to establish (shared by pass / X / XX) -/
theorem nonbid_avb (d : Seat) (s : AState) (c : Call) (h : List Call) (hc : ∀ i, c ≠ .bid i)
    (av : ∀ c, s.avail c = legal d h c) :
    ∀ k, (k = Call.pass ∨ ∃ j, k = Call.bid j) → s.avail k = legal d (c :: h) k := by
  intro k hk
  rw [av k]
  rcases hk with rfl | ⟨j, rfl⟩
  · rfl
  · simp only [legal, lastBid_nonbid c h hc]; cases lastBid? h <;> simp

theorem nonbid_avx (d : Seat) (s : AState) (c : Call) (h : List Call) (hc : ∀ i, c ≠ .bid i)
    (av : ∀ c, s.avail c = legal d h c) :
    lastBid? (c :: h) = none → s.avail .dbl = false ∧ s.avail .rdbl = false := by
  intro hn
  have : lastBid? h = none := by
    rw [lastBid_nonbid c h hc] at hn; cases hq : lastBid? h <;> simp_all
  rw [av, av]; simp [legal, this]

/-- the one-step refinement theorem -/
theorem take_bid_refines (d : Seat) (v : Vul) (s : AState) (h : List Call) (hi : AInv d v s h) (c : Call) :
    (over h = true → takeBid s c = .error ()) ∧
    (over h = false → legal d h c = false → takeBid s c = .ok (s, .illegal)) ∧
    (over h = false → legal d h c = true →
      ∃ s', takeBid s c = .ok (s', if over (c :: h) then .finished else .ongoing) ∧
        AInv d v s' (c :: h)) := by
  obtain ⟨hist, dl, vl, act, lb, lbr, cx, cxx, ps, dc, av⟩ := hi
  refine ⟨?_, ?_, ?_⟩
  · intro ho; simp [takeBid, act, ho]
  · intro ho hl; simp [takeBid, act, ho, av ho c, hl]
  · intro ho hl
    have av := av ho
    have hav : s.avail c = true := by rw [av c]; exact hl
    have hact : s.active = some (d.rot h.length) := by simp [act, ho]
    cases c with
    | pass =>
      have hnb : ∀ i, Call.pass ≠ .bid i := by intro i; simp
      by_cases hfin : 3 ≤ s.history.length ∧ s.history.head? = some Call.pass ∧ s.history.tail.head? = some Call.pass
      · have hov : over (Call.pass :: h) = true := by
          rw [over_pass]; rw [hist] at hfin
          have := (trailP_ge_two h).1 hfin.2
          simp [this, hfin.1]
        refine ⟨{ s with history := Call.pass :: s.history,
                          perSeat := fun q => if q = d.rot h.length then Call.pass :: s.perSeat q else s.perSeat q,
                          active := none }, ?_, ?_⟩
        · simp only [takeBid, hact, hav, hfin, hov]; simp
        · refine ⟨by simp [hist], dl, vl, by simp [hov], ?_, ?_, ?_, ?_, ?_, ?_, ?_⟩
          · simp only [lb, lastBid_nonbid _ h hnb, map_snd_shift]
          · simp only [lbr, lastBid_nonbid _ h hnb, List.length_cons, map_caller_shift]
          · simp [cx, dblOf]
          · simp [cxx, dblOf]
          · intro q
            simp only [share, ps]
            by_cases hq : q = d.rot h.length
            · subst hq; simp
            · have : ¬ d.rot h.length = q := fun e => hq e.symm
              simp [hq, this]
          · intro sd su; simp only [dc, firstNamer_nonbid d _ h hnb]
          · intro hh; simp [hov] at hh
      · have hov : over (Call.pass :: h) = false := by
          rw [over_pass]; rw [hist] at hfin
          rw [trailP_ge_two] at hfin
          simp only [decide_eq_false_iff_not]
          intro hh; exact hfin ⟨hh.2, hh.1⟩
        refine ⟨advance s (d.rot h.length) .pass, ?_, ?_⟩
        · simp only [takeBid, hact, hav, hfin, hov]; simp
        · apply advance_inv d v s _ _ h rfl hist dl vl
          · simp only [lb, lastBid_nonbid _ h hnb, map_snd_shift]
          · simp only [lbr, lastBid_nonbid _ h hnb, List.length_cons, map_caller_shift]
          · simp [cx, dblOf]
          · simp [cxx, dblOf]
          · exact ps
          · intro sd su; simp only [dc, firstNamer_nonbid d _ h hnb]
          · exact nonbid_avb d s _ h hnb av
          · exact nonbid_avx d s _ h hnb av
          · exact hov
    | bid i =>
      have hov : over (Call.bid i :: h) = false := over_nonpass h _ (by simp)
      refine ⟨advance (bidState s (d.rot h.length) i) (d.rot h.length) (.bid i), ?_, ?_⟩
      · simp only [takeBid, hact, hav, hov]; simp
      · apply advance_inv d v _ _ _ h rfl (by simp [bidState, hist]) (by simp [bidState, dl]) (by simp [bidState, vl])
        · simp [lastBid?, bidState]
        · simp [lastBid?, callerAt, bidState]
        · simp [dblOf, Dbl.isX, bidState]
        · simp [dblOf, Dbl.isXX, bidState]
        · exact ps
        · intro sd su
          simp only [firstNamer, dc, bidState]
          cases hf : firstNamer d h sd su with
          | some q => simp
          | none =>
            by_cases h1 : (d.rot h.length).side = sd <;> by_cases h2 : bidDenom i = su <;>
              simp [h1, h2, eq_comm] <;> (first | exact fun e => h2 e.symm | exact fun e => h1 e.symm | exact fun e _ => h1 e.symm | skip)
        · intro k hk
          rcases hk with rfl | ⟨j, rfl⟩
          · simp [av, legal, bidState]
          · simp only [legal, lastBid?, bidState]
            by_cases hji : j ≤ i
            · have : ¬ i < j := by omega
              simp [hji, this]
            · have hij : i < j := by omega
              simp only [hji, if_false, av, legal, hij, decide_true]
              have hl' := hl
              simp only [legal] at hl'
              cases hq : lastBid? h with
              | none => rfl
              | some q =>
                rw [hq] at hl'
                simp at hl' ⊢
                omega
        · intro hn; simp [lastBid?] at hn
        · exact hov
    | dbl =>
      have hnb : ∀ i, Call.dbl ≠ .bid i := by intro i; simp
      have hov : over (Call.dbl :: h) = false := over_nonpass h _ (by simp)
      have hl' := hl
      simp only [legal] at hl'
      cases hq : lastBid? h with
      | none => rw [hq] at hl'; simp at hl'
      | some q =>
        rw [hq] at hl'
        have hd : dblOf h = .none := by
          cases hdd : dblOf h <;> simp_all [Dbl.isX]
        refine ⟨advance { s with calledX := true } (d.rot h.length) .dbl, ?_, ?_⟩
        · simp only [takeBid, hact, hav, hov]; simp
        · apply advance_inv d v { s with calledX := true } _ _ h rfl hist dl vl
          · simp only [lb, lastBid_nonbid _ h hnb, map_snd_shift]
          · simp only [lbr, lastBid_nonbid _ h hnb, List.length_cons, map_caller_shift]
          · simp [dblOf, hd, Dbl.isX]
          · simp [dblOf, hd, Dbl.isXX, cxx]
          · exact ps
          · intro sd su; simp only [dc, firstNamer_nonbid d _ h hnb]
          · exact nonbid_avb d _ _ h hnb av
          · exact nonbid_avx d _ _ h hnb av
          · exact hov
    | rdbl =>
      have hnb : ∀ i, Call.rdbl ≠ .bid i := by intro i; simp
      have hov : over (Call.rdbl :: h) = false := over_nonpass h _ (by simp)
      have hl' := hl
      simp only [legal] at hl'
      cases hq : lastBid? h with
      | none => rw [hq] at hl'; simp at hl'
      | some q =>
        rw [hq] at hl'
        have hd : dblOf h = .x := by
          cases hdd : dblOf h <;> simp_all [Dbl.isX, Dbl.isXX]
        refine ⟨advance { s with calledXX := true } (d.rot h.length) .rdbl, ?_, ?_⟩
        · simp only [takeBid, hact, hav, hov]; simp
        · apply advance_inv d v { s with calledXX := true } _ _ h rfl hist dl vl
          · simp only [lb, lastBid_nonbid _ h hnb, map_snd_shift]
          · simp only [lbr, lastBid_nonbid _ h hnb, List.length_cons, map_caller_shift]
          · simp [dblOf, hd, Dbl.isX, cx]
          · simp [dblOf, Dbl.isXX]
          · exact ps
          · intro sd su; simp only [dc, firstNamer_nonbid d _ h hnb]
          · exact nonbid_avb d _ _ h hnb av
          · exact nonbid_avx d _ _ h hnb av
          · exact hov

/-- what the Laws say an offered call must be answered with -/
def specOut (d : Seat) (h : List Call) (c : Call) : Except Unit Res :=
  if over h then .error ()
  else if legal d h c then .ok (if over (c :: h) then .finished else .ongoing)
  else .ok .illegal

def specOuts (d : Seat) : List Call → List Call → List (Except Unit Res)
  | _, [] => []
  | h, c :: cs =>
    specOut d h c :: specOuts d (if over h = false ∧ legal d h c = true then c :: h else h) cs

theorem run_refines (d : Seat) (v : Vul) (ops : List Call) :
    ∀ (s : AState) (h : List Call), AInv d v s h →
      AInv d v (runAuction s ops).1 (accepted d h ops) ∧ (runAuction s ops).2 = specOuts d h ops := by
  induction ops with
  | nil => intro s h hi; exact ⟨hi, rfl⟩
  | cons c cs ih =>
    intro s h hi
    obtain ⟨h1, h2, h3⟩ := take_bid_refines d v s h hi c
    cases ho : over h with
    | true => simpa [runAuction, h1 ho, accepted, specOuts, specOut, ho] using ih s h hi
    | false =>
      cases hl : legal d h c with
      | false => simpa [runAuction, h2 ho hl, accepted, specOuts, specOut, ho, hl] using ih s h hi
      | true =>
        obtain ⟨s', e, hi'⟩ := h3 ho hl
        simpa [runAuction, e, accepted, specOuts, specOut, ho, hl] using ih s' (c :: h) hi'

theorem accepted_legal (d : Seat) (ops : List Call) :
    ∀ h, Legal d h → Legal d (accepted d h ops) := by
  induction ops with
  | nil => intro h hl; exact hl
  | cons c cs ih =>
    intro h hl
    simp only [accepted]
    split
    · rename_i hc; exact ih _ (Legal.cons hl hc.1 hc.2)
    · exact ih _ hl




theorem isPartner_iff_side (a b : Seat) : a.isPartner b = true ↔ a.side = b.side := by
  cases a <;> cases b <;> decide

theorem over_of_ended_law (h : List Call) (he : EndedLaw h) : over h = true := by
  rcases he with rfl | ⟨c, pre, hc, rfl⟩
  · decide
  · cases c <;> simp_all [over, trailP]

theorem ended_law_of_over (d : Seat) (h : List Call) (hl : Legal d h) (ho : over h = true) :
    EndedLaw h := by
  simp only [over, decide_eq_true_eq] at ho
  match h, hl, ho with
  | a :: b :: c' :: c :: pre, hl, ho =>
    obtain ⟨rfl, rfl, rfl⟩ : a = .pass ∧ b = .pass ∧ c' = .pass := by
      cases a <;> cases b <;> cases c' <;> simp [trailP] at ho ⊢
    by_cases hc : c = Call.pass
    · subst hc
      left
      cases hl with
      | cons hl' hov _ =>
        have hov' : ¬ (3 ≤ trailP (Call.pass :: Call.pass :: Call.pass :: pre) ∧
            4 ≤ (Call.pass :: Call.pass :: Call.pass :: pre).length) := by
          simpa [over] using hov
        simp only [trailP, List.length_cons] at hov'
        have : pre.length = 0 := by omega
        have : pre = [] := List.length_eq_zero_iff.mp this
        subst this; rfl
    · right; exact ⟨c, pre, hc, rfl⟩
  | [], _, ho => simp at ho
  | [_], _, ho => simp at ho
  | [_, _], _, ho => simp at ho
  | [_, _, _], _, ho => simp at ho

theorem callerAt_shift (d : Seat) (n k : Nat) : callerAt d (n + 1) (k + 1) = callerAt d n k := by
  simp [callerAt]; congr 1; omega

theorem callerAt_zero (d : Seat) (n : Nat) : callerAt d (n + 1) 0 = d.rot n := by
  simp [callerAt]

/-- on a reachable history a standing double was made by an opponent of the last bidder -/
theorem doubler_opposes_bidder (d : Seat) (h : List Call) (hl : Legal d h) (hx : dblOf h = .x) :
    ∃ m k j, dblPos? h = some m ∧ lastBid? h = some (k, j) ∧
      (callerAt d h.length m).side ≠ (callerAt d h.length k).side := by
  induction hl with
  | nil => simp [dblOf] at hx
  | @cons h c hl' hov hleg ih =>
    cases c with
    | bid i => simp [dblOf] at hx
    | rdbl => simp [dblOf] at hx
    | dbl =>
      simp only [legal] at hleg
      cases hq : lastBid? h with
      | none => rw [hq] at hleg; simp at hleg
      | some q =>
        obtain ⟨k, j⟩ := q
        rw [hq] at hleg
        simp only [Bool.and_eq_true, Bool.not_eq_true'] at hleg
        refine ⟨0, k + 1, j, by simp [dblPos?], by simp [lastBid?, hq], ?_⟩
        simp only [List.length_cons, callerAt_shift, callerAt_zero]
        intro e
        have := (isPartner_iff_side _ _).2 e
        simp [turn] at hleg
        rw [hleg.2] at this; cases this
    | pass =>
      simp only [dblOf] at hx
      obtain ⟨m, k, j, h1, h2, h3⟩ := ih hx
      refine ⟨m + 1, k + 1, j, by simp [dblPos?, h1], by simp [lastBid?, h2], ?_⟩
      simpa only [List.length_cons, callerAt_shift] using h3

theorem side_two (a b c : Side) (h1 : a ≠ b) (h2 : b = c) : a ≠ c := by subst h2; exact h1

theorem legalLaw_eq_legal (d : Seat) (h : List Call) (hl : Legal d h) (c : Call) :
    legalLaw d h c = legal d h c := by
  cases c with
  | pass => rfl
  | bid i => rfl
  | dbl =>
    simp only [legalLaw, legal]
    cases hq : lastBid? h with
    | none => rfl
    | some q =>
      obtain ⟨k, j⟩ := q
      simp only
      cases hd : dblOf h <;> simp [Dbl.isX]
      have := isPartner_iff_side (turn d h) (callerAt d h.length k)
      cases hp : (turn d h).isPartner (callerAt d h.length k)
      · simp; intro e; rw [this.2 e.symm] at hp; cases hp
      · simp; exact (this.1 hp).symm
  | rdbl =>
    simp only [legalLaw, legal]
    cases hq : lastBid? h with
    | none => rfl
    | some q =>
      obtain ⟨k, j⟩ := q
      cases hd : dblOf h with
      | none => cases dblPos? h <;> simp [Dbl.isX]
      | xx => cases dblPos? h <;> simp [Dbl.isX, Dbl.isXX]
      | x =>
        obtain ⟨m, k', j', h1, h2, h3⟩ := doubler_opposes_bidder d h hl hd
        rw [hq] at h2; cases h2
        simp only [h1, Dbl.isX, Dbl.isXX]
        have := isPartner_iff_side (turn d h) (callerAt d h.length k)
        cases hp : (turn d h).isPartner (callerAt d h.length k)
        · simp; intro _ e; rw [this.2 e.symm] at hp; cases hp
        · have e := this.1 hp
          simp [e]; exact h3


def dblNat : Dbl → Nat | .none => 0 | .x => 1 | .xx => 2

theorem trailP_le_lastBid : ∀ (h : List Call) k j, lastBid? h = some (k, j) → trailP h ≤ k := by
  intro h
  induction h with
  | nil => intro k j hh; simp [lastBid?] at hh
  | cons c r ih =>
    intro k j hh
    cases c with
    | bid i => simp [trailP]
    | dbl | rdbl => simp [trailP]
    | pass =>
      simp only [lastBid?, Option.map_eq_some_iff] at hh
      obtain ⟨⟨k', j'⟩, h1, h2⟩ := hh
      have := ih k' j' h1
      simp at h2; simp [trailP]; omega

theorem trailP_le_two_of_bid (h : List Call) (k j) (hq : lastBid? h = some (k, j))
    (hov : over h = false) : trailP h ≤ 2 := by
  have h1 := trailP_le_lastBid h k j hq
  have h2 := lastBid_lt h k j hq
  have hov' : ¬ (3 ≤ trailP h ∧ 4 ≤ h.length) := by simpa [over] using hov
  omega

theorem legal_length_bound (d : Seat) (h : List Call) (hl : Legal d h) :
    match lastBid? h with
    | none => h.length = trailP h ∧ trailP h ≤ 4
    | some (_, j) => h.length ≤ 4 + 9 * j.val + 3 * dblNat (dblOf h) + trailP h ∧ trailP h ≤ 3 := by
  induction hl with
  | nil => simp [lastBid?, trailP]
  | @cons h c hl' hov hleg ih =>
    have hov' : ¬ (3 ≤ trailP h ∧ 4 ≤ h.length) := by simpa [over] using hov
    cases hq : lastBid? h with
    | none =>
      rw [hq] at ih
      simp only at ih
      cases c with
      | pass => simp only [lastBid?, hq, Option.map_none, trailP, List.length_cons]; omega
      | bid i => simp only [lastBid?, trailP, List.length_cons, dblOf, dblNat]; omega
      | dbl => simp [legal, hq] at hleg
      | rdbl => simp [legal, hq] at hleg
    | some q =>
      obtain ⟨k, j⟩ := q
      rw [hq] at ih
      simp only at ih
      have ht := trailP_le_two_of_bid h k j hq hov
      have hdn : dblNat (dblOf h) ≤ 2 := by cases dblOf h <;> simp [dblNat]
      cases c with
      | pass =>
        simp only [lastBid?, hq, Option.map_some, trailP, List.length_cons, dblOf]; omega
      | bid i =>
        simp only [legal, hq, decide_eq_true_eq] at hleg
        simp only [lastBid?, trailP, List.length_cons, dblOf, dblNat]
        have : j.val < i.val := hleg
        omega
      | dbl =>
        have hd : dblOf h = .none := by
          simp only [legal, hq] at hleg
          cases hdd : dblOf h <;> simp_all [Dbl.isX]
        simp only [lastBid?, hq, Option.map_some, trailP, List.length_cons, dblOf, hd]
        rw [hd] at ih; simp [dblNat] at ih ⊢
        omega
      | rdbl =>
        have hd : dblOf h = .x := by
          simp only [legal, hq] at hleg
          cases hdd : dblOf h <;> simp_all [Dbl.isX, Dbl.isXX]
        simp only [lastBid?, hq, Option.map_some, trailP, List.length_cons, dblOf]
        rw [hd] at ih; simp [dblNat] at ih ⊢
        omega

/-- no reachable auction is longer than 319 calls -/
theorem legal_length_le_319 (d : Seat) (h : List Call) (hl : Legal d h) : h.length ≤ 319 := by
  have := legal_length_bound d h hl
  cases hq : lastBid? h with
  | none => rw [hq] at this; simp only at this; omega
  | some q =>
    obtain ⟨k, j⟩ := q
    rw [hq] at this; simp only at this
    have hdn : dblNat (dblOf h) ≤ 2 := by cases dblOf h <;> simp [dblNat]
    have := j.isLt
    omega



theorem endedB_iff (h : List Call) : endedB h = true ↔ EndedLaw h := by
  constructor
  · intro he
    match h, he with
    | [.pass, .pass, .pass, .pass], _ => left; rfl
    | .pass :: .pass :: .pass :: c :: x :: r, he =>
      right
      refine ⟨c, x :: r, ?_, rfl⟩
      intro hc; subst hc; simp [endedB] at he
    | [.pass, .pass, .pass, .bid i], _ => right; exact ⟨_, [], by simp, rfl⟩
    | [.pass, .pass, .pass, .dbl], _ => right; exact ⟨_, [], by simp, rfl⟩
    | [.pass, .pass, .pass, .rdbl], _ => right; exact ⟨_, [], by simp, rfl⟩
  · intro he
    rcases he with rfl | ⟨c, pre, hc, rfl⟩
    · rfl
    · cases pre <;> cases c <;> simp_all [endedB]

theorem over_eq_endedB (d : Seat) (h : List Call) (hl : Legal d h) : over h = endedB h := by
  cases ho : over h with
  | true => exact ((endedB_iff h).2 (ended_law_of_over d h hl ho)).symm
  | false =>
    cases he : endedB h with
    | false => rfl
    | true => rw [over_of_ended_law h ((endedB_iff h).1 he)] at ho; cases ho

theorem legal_iff_legalLaw (d : Seat) (h : List Call) : Legal d h ↔ LegalLaw d h := by
  constructor
  · intro hl
    induction hl with
    | nil => exact .nil
    | @cons h c hl' ho hc ih =>
      exact .cons ih (by rw [← over_eq_endedB d h hl']; exact ho)
        (by rw [legalLaw_eq_legal d h hl']; exact hc)
  · intro hl
    induction hl with
    | nil => exact .nil
    | @cons h c hl' ho hc ih =>
      exact .cons ih (by rw [over_eq_endedB d h ih]; exact ho)
        (by rw [← legalLaw_eq_legal d h ih]; exact hc)

theorem acceptedLaw_eq (d : Seat) (ops : List Call) :
    ∀ h, Legal d h → acceptedLaw d h ops = accepted d h ops := by
  induction ops with
  | nil => intro h _; rfl
  | cons c cs ih =>
    intro h hl
    simp only [acceptedLaw, accepted, ← over_eq_endedB d h hl, legalLaw_eq_legal d h hl]
    split
    · rename_i hc; exact ih _ (Legal.cons hl hc.1 hc.2)
    · exact ih _ hl

theorem answersLaw_eq (d : Seat) (ops : List Call) :
    ∀ h, Legal d h → answersLaw d h ops = specOuts d h ops := by
  induction ops with
  | nil => intro h _; rfl
  | cons c cs ih =>
    intro h hl
    simp only [answersLaw, specOuts, answerLaw, specOut, ← over_eq_endedB d h hl,
      legalLaw_eq_legal d h hl]
    by_cases hc : over h = false ∧ legal d h c = true
    · have hl' := Legal.cons hl hc.1 hc.2
      simp only [hc, and_self, if_true, ih _ hl', over_eq_endedB d _ hl']
    · simp only [hc, if_false, ih _ hl]
      congr 1
      by_cases ho : over h = true
      · simp [ho]
      · have : legal d h c = false := by
          cases hq : legal d h c
          · rfl
          · exact absurd ⟨by simpa using ho, hq⟩ hc
        simp [this]

/-- reachable states of the model: the invariant holds for a history the Laws allow -/
structure Reach (d : Seat) (v : Vul) (s : AState) (h : List Call) : Prop where
  inv : AInv d v s h
  leg : Legal d h

theorem reach_init (d : Seat) (v : Vul) : Reach d v (AState.init d v) [] := ⟨ainv_init d v, .nil⟩

theorem reach_run (d : Seat) (v : Vul) (ops : List Call) :
    Reach d v (runAuction (AState.init d v) ops).1 (accepted d [] ops) :=
  ⟨(run_refines d v ops _ _ (ainv_init d v)).1, accepted_legal d ops [] .nil⟩


/-- the last bid sits in the history with exactly `k` later calls, none of which is a bid -/
theorem lastBid_decomp : ∀ (h : List Call) k j, lastBid? h = some (k, j) →
    ∃ post pre, h = post ++ Call.bid j :: pre ∧ pre.length = h.length - 1 - k := by
  intro h
  induction h with
  | nil => intro k j hh; simp [lastBid?] at hh
  | cons c r ih =>
    intro k j hh
    by_cases hc : ∃ i, c = Call.bid i
    · obtain ⟨i, rfl⟩ := hc
      simp [lastBid?] at hh
      obtain ⟨rfl, rfl⟩ := hh
      exact ⟨[], r, rfl, by simp⟩
    · have hc' : ∀ i, c ≠ Call.bid i := fun i e => hc ⟨i, e⟩
      rw [lastBid_nonbid c r hc', Option.map_eq_some_iff] at hh
      obtain ⟨⟨k', j'⟩, h1, h2⟩ := hh
      simp at h2
      obtain ⟨rfl, rfl⟩ := h2
      obtain ⟨post, pre, e, hl⟩ := ih k' j' h1
      have := lastBid_lt r k' j' h1
      exact ⟨c :: post, pre, by simp [e], by simp; omega⟩

end Bridge
