import BridgeVerif.Lemmas.MiniPyFuel

/-!
# MiniPy: a value computed in a program is computed in every program that extends it

`Q'` extends `Q` (`Program.Ext`) when every class, function and global of `Q` is found unchanged in `Q'`.  The
interpreter never catches an error, so a run that ends in a value has seen only look-ups that succeeded, and those give
the same in `Q'`.  One primitive turns a FAILED look-up into a value: `isinstance(v, C)` is `False` when the class of
`v` is unknown, and a subclass of `C` that only `Q'` has would make it `True`.  The theorem is therefore about
`mkRecNI`, the interpreter that gives up at `isinstance` as if it were out of fuel: a value it computes is the value
`mkRec` computes (`mkRecNI_Le`), in the same program and in every extension (`mkRecNI_Ext`, `callFn_extend`).

The helpers are monotone in their `Rec` argument for every kind of error (Lemmas/MiniPyFuelA.lean); what is added here
is that those which look at the program give the same value when only the program grows.
-/
namespace Bridge.Py

/-- every value of `x` is the value of `y`: refinement with every error counted as undefined -/
abbrev RExt {α} (x y : R α) : Prop := RLe (fun _ => True) x y

abbrev Rec.Ext (r r' : Rec) : Prop := r.Le (fun _ => True) r'

theorem RExt.ok {α} {x y : R α} (h : RExt x y) {a : α} (hx : x = .ok a) : y = .ok a := by
  cases h with
  | inl h =>
    obtain ⟨e, -, he⟩ := h
    rw [he] at hx
    cases hx
  | inr h => rw [← h, hx]

theorem RExt.ofThrow {α} (e : Err) (y : R α) : RExt (throw e) y := .ofError trivial y

/-- `Q'` extends `Q`: what is found in `Q` is found unchanged in `Q'`, and a class of `Q` gets no further method (its base
classes are classes of `Q`) -/
structure Program.Ext (Q Q' : Program) : Prop where
  cls : ∀ {c cd}, Q.cls? c = some cd → Q'.cls? c = some cd
  func : ∀ {f fd}, findFunc Q.funcs f = some fd → findFunc Q'.funcs f = some fd
  glob : ∀ {x v}, lookup Q.globals x = some v → lookup Q'.globals x = some v
  meth : ∀ {c cd} (m : Id), Q.cls? c = some cd → Q'.method? classDepth c m = Q.method? classDepth c m

variable {r : Rec} {Q Q' : Program}

theorem Program.Ext.method (hQ : Q.Ext Q') {c m : Id} {x : Id × FuncDef} (hm : Q.method? classDepth c m = some x) :
    Q'.method? classDepth c m = some x := by
  cases hc : Q.cls? c with
  | none => simp [Program.method?, hc] at hm
  | some cd => rw [hQ.meth m hc, hm]

theorem Program.Ext.iterItems (hQ : Q.Ext Q') {v : Val} {xs : List Val} (hi : iterItems Q v = some xs) :
    iterItems Q' v = some xs := by
  cases v with
  | cls c =>
    simp only [Py.iterItems] at hi ⊢
    cases hc : Q.cls? c with
    | none => simp [hc] at hi
    | some cd => rwa [hQ.cls hc, ← hc]
  | _ => exact hi

theorem Program.Ext.iterItems_bind {β} (hQ : Q.Ext Q') {v : Val} {f : List Val → Option β} {y : β}
    (hi : (Py.iterItems Q v).bind f = some y) : (Py.iterItems Q' v).bind f = some y := by
  cases h : Py.iterItems Q v with
  | none => simp [h] at hi
  | some xs => rwa [hQ.iterItems h, ← h]

/-! `mono` (Lemmas/MiniPyFuelA.lean) on a goal `RExt (… r Q …) (… r Q' …)`: the look-up that succeeded on the left
(`split` names the equation) is rewritten on the right; a look-up that failed on the left has thrown -/
macro_rules | `(tactic| mono_lemma) => `(tactic| rw [Program.Ext.cls ‹Program.Ext _ _› ‹Program.cls? _ _ = some _›])
macro_rules | `(tactic| mono_lemma) => `(tactic| rw [Program.Ext.func ‹Program.Ext _ _› ‹findFunc _ _ = some _›])
macro_rules | `(tactic| mono_lemma) => `(tactic| rw [Program.Ext.glob ‹Program.Ext _ _› ‹lookup (Program.globals _) _ = some _›])
macro_rules | `(tactic| mono_lemma) => `(tactic| rw [Program.Ext.method ‹Program.Ext _ _› ‹Program.method? _ _ _ _ = some _›])
macro_rules | `(tactic| mono_lemma) => `(tactic| rw [Program.Ext.iterItems ‹Program.Ext _ _› ‹iterItems _ _ = some _›])
macro_rules | `(tactic| mono_lemma) => `(tactic| rw [Program.Ext.iterItems_bind ‹Program.Ext _ _› ‹(iterItems _ _).bind _ = some _›])
macro_rules | `(tactic| mono_lemma) => `(tactic| with_reducible exact RExt.ofThrow _ _)

theorem callMethod_ext (hQ : Q.Ext Q') (c m : Id) (args : List Val) (missing : Err) :
    RExt (callMethod r Q c m args missing) (callMethod r Q' c m args missing) := by
  unfold callMethod
  mono
macro_rules | `(tactic| mono_lemma) => `(tactic| with_reducible apply callMethod_ext)

theorem getAttrF_ext (hQ : Q.Ext Q') (v : Val) (a : Id) : RExt (getAttrF r Q v a) (getAttrF r Q' v a) := by
  unfold getAttrF
  mono
macro_rules | `(tactic| mono_lemma) => `(tactic| with_reducible apply getAttrF_ext)

theorem strOfF_ext (hQ : Q.Ext Q') (v : Val) : RExt (strOfF r Q v) (strOfF r Q' v) := by
  unfold strOfF
  mono
macro_rules | `(tactic| mono_lemma) => `(tactic| with_reducible apply strOfF_ext)

theorem compareF_ext (hQ : Q.Ext Q') (op : CmpOp) (a b : Val) :
    RExt (compareF r Q op a b) (compareF r Q' op a b) := by
  unfold compareF
  mono
macro_rules | `(tactic| mono_lemma) => `(tactic| with_reducible apply compareF_ext)

theorem insertSortedF_ext (hQ : Q.Ext Q') (x : Val) (l : List Val) :
    RExt (insertSortedF r Q x l) (insertSortedF r Q' x l) := by
  induction l with
  | nil => exact RLe.refl _
  | cons y ys ih =>
    simp only [insertSortedF]
    mono using ih
macro_rules | `(tactic| mono_lemma) => `(tactic| with_reducible apply insertSortedF_ext)

theorem sortF_ext (hQ : Q.Ext Q') (l : List Val) : RExt (sortF r Q l) (sortF r Q' l) := by
  induction l with
  | nil => exact RLe.refl _
  | cons y ys ih =>
    simp only [sortF]
    mono using ih
macro_rules | `(tactic| mono_lemma) => `(tactic| with_reducible apply sortF_ext)

theorem constructF_ext (hQ : Q.Ext Q') (c : Id) (args : List Val) :
    RExt (constructF r Q c args) (constructF r Q' c args) := by
  unfold constructF
  cases hc : Q.cls? c with
  | none => exact RExt.ofThrow _ _
  | some cd =>
    rw [hQ.cls hc, hQ.meth K.postInit hc, hQ.meth K.init hc]
    mono
macro_rules | `(tactic| mono_lemma) => `(tactic| with_reducible apply constructF_ext)

theorem indexF_ext (hQ : Q.Ext Q') (x iv : Val) : RExt (indexF r Q x iv) (indexF r Q' x iv) := by
  unfold indexF
  mono
macro_rules | `(tactic| mono_lemma) => `(tactic| with_reducible apply indexF_ext)

theorem builtinF_ext (hQ : Q.Ext Q') (b : Builtin) (hb : b ≠ .isinstance) (vs : List Val) :
    RExt (builtinF r Q b vs) (builtinF r Q' b vs) := by
  unfold builtinF
  split <;> first | contradiction | mono

theorem cmpF_ext (hQ : Q.Ext Q') (op : CmpOp) (x y : Val) : RExt (cmpF r Q op x y) (cmpF r Q' op x y) := by
  unfold cmpF
  mono
macro_rules | `(tactic| mono_lemma) => `(tactic| with_reducible apply cmpF_ext)

theorem methF_ext (hQ : Q.Ext Q') (recv : Val) (m : Id) (args : List Val) :
    RExt (methF r Q recv m args) (methF r Q' recv m args) := by
  unfold methF
  mono
macro_rules | `(tactic| mono_lemma) => `(tactic| with_reducible apply methF_ext)

theorem evalF_ext (hQ : Q.Ext Q') (env : Env) (e : Expr) (he : ∀ args, e ≠ .builtin .isinstance args) :
    RExt (evalF r Q env e) (evalF r Q' env e) := by
  cases e with
  | builtin b args =>
    simp only [evalF]
    exact RLe.bind (.refl _) (builtinF_ext hQ b fun hb => he args (hb ▸ rfl))
  | _ =>
    simp only [evalF]
    mono

theorem execStmtF_ext (hQ : Q.Ext Q') (env : Env) (s : Stmt) :
    RExt (execStmtF r Q env s) (execStmtF r Q' env s) := by
  cases s <;> simp only [execStmtF] <;> mono
macro_rules | `(tactic| mono_lemma) => `(tactic| with_reducible apply execStmtF_ext)

theorem execF_ext (hQ : Q.Ext Q') (env : Env) (ss : List Stmt) :
    RExt (execF r Q env ss) (execF r Q' env ss) := by
  induction ss generalizing env with
  | nil => exact RLe.refl _
  | cons s ss ih =>
    simp only [execF]
    mono using ih

/-! ## the interpreter without `isinstance` -/

def evalNI (r : Rec) (P : Program) (env : Env) (e : Expr) : R Val :=
  match e with
  | .builtin .isinstance _ => throw .fuel
  | e => evalF r P env e

def mkRecNI (P : Program) : Nat → Rec
  | 0 =>
    { eval := fun _ _ => throw .fuel, exec := fun _ _ => throw .fuel, call := fun _ _ => throw .fuel,
      loop := fun _ _ _ => throw .fuel }
  | f + 1 =>
    { eval := fun env e => evalNI (mkRecNI P f) P env e,
      exec := fun env ss => execF (mkRecNI P f) P env ss,
      call := fun fd args => callF (mkRecNI P f) fd args,
      loop := fun env c body => loopF (mkRecNI P f) env c body }

theorem mkRecNI_Le (P : Program) (f : Nat) : (mkRecNI P f).Le (· = .fuel) (mkRec P f) := by
  induction f with
  | zero => exact .refl _
  | succ f ih =>
    refine ⟨fun env e => ?_, fun env ss => execF_mono ih P env ss, fun fd args => callF_mono ih fd args,
      fun env c b => loopF_mono ih env c b⟩
    show RLe _ (evalNI _ P env e) _
    unfold evalNI
    split
    · exact .ofFuel _
    · exact evalF_mono ih P env e

theorem mkRecNI_Ext (hQ : Q.Ext Q') (f : Nat) : (mkRecNI Q f).Ext (mkRecNI Q' f) := by
  induction f with
  | zero => exact .refl _
  | succ f ih =>
    refine ⟨fun env e => ?_, fun env ss => (execF_mono ih Q env ss).trans (execF_ext hQ env ss),
      fun fd args => callF_mono ih fd args, fun env c b => loopF_mono ih env c b⟩
    show RExt (evalNI _ Q env e) (evalNI _ Q' env e)
    unfold evalNI
    split
    · exact .refl _
    · exact (evalF_mono ih Q env e).trans (evalF_ext hQ env e ‹_›)

/-- the result of a function run without `isinstance` -/
def callNI (P : Program) (fuel : Nat) (fd : FuncDef) (args : List Val) : R Val := ((mkRecNI P fuel).call fd args).map (·.1)

/-- a value that a function computes in `Q` without `isinstance` is what it computes in every extension of `Q`, with the
same fuel or more -/
theorem callFn_extend (hQ : Q.Ext Q') {f g : Nat} (hfg : f ≤ g) (fd : FuncDef) (args : List Val) (a : Val × Val)
    (ha : (mkRecNI Q f).call fd args = .ok a) : callFn Q' g fd args = .ok a :=
  callFn_fuel_mono Q' hfg fd args _
    (((mkRecNI_Le Q' f).call fd args).elim _ (RExt.ok ((mkRecNI_Ext hQ f).call fd args) ha) (by simp)) (by simp)

theorem callNI_extend (hQ : Q.Ext Q') {f g : Nat} (hfg : f ≤ g) (fd : FuncDef) (args : List Val) (v : Val)
    (hv : callNI Q f fd args = .ok v) : ∃ self', callFn Q' g fd args = .ok (v, self') := by
  unfold callNI at hv
  cases ha : (mkRecNI Q f).call fd args with
  | error e => rw [ha] at hv; cases hv
  | ok a =>
    rw [ha] at hv
    cases hv
    exact ⟨a.2, callFn_extend hQ hfg fd args a ha⟩

/-! ## a program with more classes, functions and globals appended is an extension -/

theorem findClass_append {xs : List (Id × ClassDef)} (ys : List (Id × ClassDef)) {c : Id} {cd : ClassDef}
    (h : findClass xs c = some cd) : findClass (xs ++ ys) c = some cd := by
  induction xs with
  | nil => cases h
  | cons p xs ih =>
    simp only [findClass, List.cons_append] at h ⊢
    split
    · simpa [*] using h
    · exact ih (by simpa [*] using h)

theorem findFunc_append {xs : List (Id × FuncDef)} (ys : List (Id × FuncDef)) {f : Id} {fd : FuncDef}
    (h : findFunc xs f = some fd) : findFunc (xs ++ ys) f = some fd := by
  induction xs with
  | nil => cases h
  | cons p xs ih =>
    simp only [findFunc, List.cons_append] at h ⊢
    split
    · simpa [*] using h
    · exact ih (by simpa [*] using h)

theorem lookup_append {xs : Env} (ys : Env) {x : Id} {v : Val} (h : lookup xs x = some v) :
    lookup (xs ++ ys) x = some v := by
  induction xs with
  | nil => cases h
  | cons p xs ih =>
    simp only [lookup, List.cons_append] at h ⊢
    split
    · simpa [*] using h
    · exact ih (by simpa [*] using h)

theorem findClass_mem {xs : List (Id × ClassDef)} {c : Id} {cd : ClassDef} (h : findClass xs c = some cd) :
    (c, cd) ∈ xs := by
  induction xs with
  | nil => cases h
  | cons p xs ih =>
    simp only [findClass] at h
    split at h
    · cases h
      subst ‹p.1 = c›
      exact List.mem_cons_self
    · exact List.mem_cons_of_mem _ (ih h)

/-- `Q'` has the classes, functions and globals of `Q` and further ones after them; every base class of a class of `Q`
is a class of `Q`, so method resolution stays inside `Q` -/
theorem Program.Ext.of_append {cs : List (Id × ClassDef)} {fs : List (Id × FuncDef)} {gs : Env}
    (hc : Q'.classes = Q.classes ++ cs) (hf : Q'.funcs = Q.funcs ++ fs) (hg : Q'.globals = Q.globals ++ gs)
    (closed : ∀ p ∈ Q.classes, p.2.base.all (fun b => (Q.cls? b).isSome) = true) : Q.Ext Q' := by
  have cls : ∀ {c cd}, Q.cls? c = some cd → Q'.cls? c = some cd := fun h => by
    unfold Program.cls? at h ⊢
    rw [hc, findClass_append cs h]
  refine ⟨cls, fun h => by rw [hf, findFunc_append fs h], fun h => by rw [hg, lookup_append gs h], ?_⟩
  suffices h : ∀ d c cd m, Q.cls? c = some cd → Q'.method? d c m = Q.method? d c m from
    fun {_ _} m hcd => h _ _ _ m hcd
  intro d
  induction d with
  | zero => intros; rfl
  | succ d ih =>
    intro c cd m hcd
    simp only [Program.method?, hcd, cls hcd]
    cases findFunc cd.methods m with
    | some fd => rfl
    | none =>
      cases hb : cd.base with
      | none => rfl
      | some b =>
        have := closed _ (findClass_mem hcd)
        simp only [hb, Option.all_some, Option.isSome_iff_exists] at this
        obtain ⟨cdb, hcdb⟩ := this
        exact ih b cdb m hcdb

theorem Program.Ext.refl (Q : Program) : Q.Ext Q := ⟨id, id, id, fun _ _ => rfl⟩
