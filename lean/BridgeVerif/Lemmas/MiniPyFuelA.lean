import BridgeVerif.Model.MiniPy

/-!
# MiniPy: results do not depend on the fuel (part A: the helpers are monotone in their `Rec` argument)

`RLe p x y` ("`y` refines `x`"): `x` is an error that `p` counts as undefined, or `x = y`.  With `p` = "out of fuel" this
is what `mkRec_mono` needs; with `p` = "any error" it is what Lemmas/MiniPyExtend.lean needs.  Every helper of the
interpreter is a monadic program in `Except Err` that never catches an error, so it is monotone for `RLe p` in its
`Rec` argument.
-/
namespace Bridge.Py

/-- `y` refines `x`: wherever `x` is a definite outcome (anything but an error in `p`), `y` is the same outcome -/
def RLe {α} (p : Err → Prop) (x y : R α) : Prop := (∃ e, p e ∧ x = .error e) ∨ x = y

theorem RLe.refl {α} {p : Err → Prop} (x : R α) : RLe p x x := Or.inr rfl

theorem RLe.ofError {α} {p : Err → Prop} {e : Err} (he : p e) (y : R α) : RLe p (.error e) y := Or.inl ⟨e, he, rfl⟩

theorem RLe.ofFuel {α} (y : R α) : RLe (· = .fuel) (.error .fuel) y := Or.inl ⟨_, rfl, rfl⟩

theorem RLe.iff {α} (x y : R α) : RLe (· = .fuel) x y ↔ (x ≠ .error .fuel → y = x) := by
  constructor
  · intro h hne
    cases h with
    | inl h =>
      obtain ⟨e, rfl, h⟩ := h
      exact absurd h hne
    | inr h => exact h.symm
  · intro h
    cases x with
    | ok a => exact Or.inr (h (by intro h'; cases h')).symm
    | error e =>
      cases e with
      | fuel => exact .ofFuel _
      | exc c => exact Or.inr (h (by intro h'; cases h')).symm
      | stuck c => exact Or.inr (h (by intro h'; cases h')).symm

theorem RLe.trans {α} {p : Err → Prop} {x y z : R α} (h₁ : RLe p x y) (h₂ : RLe p y z) : RLe p x z := by
  cases h₁ with
  | inl h => exact Or.inl h
  | inr h => subst h; exact h₂

/-- the generic fact about `bind` in `Except`: a definite outcome of `x >>= k` comes from a definite outcome of `x` -/
theorem bind_eq_cases {α β} (x : R α) (k : α → R β) (y : R β) (h : x >>= k = y) (hy : y ≠ .error .fuel) :
    (∃ a, x = .ok a ∧ k a = y) ∨ (∃ e, e ≠ Err.fuel ∧ x = .error e ∧ y = .error e) := by
  cases x with
  | ok a => exact Or.inl ⟨a, rfl, h⟩
  | error e =>
    refine Or.inr ⟨e, ?_, rfl, h.symm⟩
    intro he
    subst he
    exact hy h.symm

/-- a `bind` of a monotone computation with a monotone continuation is monotone -/
theorem RLe.bind {α β} {p : Err → Prop} {x x' : R α} {k k' : α → R β} (hx : RLe p x x') (hk : ∀ a, RLe p (k a) (k' a)) :
    RLe p (x >>= k) (x' >>= k') := by
  cases hx with
  | inl h =>
    obtain ⟨e, he, rfl⟩ := h
    exact .ofError he _
  | inr h =>
    subst h
    cases x with
    | ok a => exact hk a
    | error e => exact Or.inr rfl

/-- componentwise refinement of the call-backs -/
structure Rec.Le (p : Err → Prop) (r r' : Rec) : Prop where
  eval : ∀ env e, RLe p (r.eval env e) (r'.eval env e)
  exec : ∀ env ss, RLe p (r.exec env ss) (r'.exec env ss)
  call : ∀ fd args, RLe p (r.call fd args) (r'.call fd args)
  loop : ∀ env c b, RLe p (r.loop env c b) (r'.loop env c b)

/-! the proof-search step: reflexivity, hypotheses, `bind`, introduction, case split, lemmas proved so far -/
syntax "mono_lemma" : tactic
macro_rules | `(tactic| mono_lemma) => `(tactic| fail "mono_lemma: no lemma applies")

macro "mono_step" : tactic =>
  `(tactic| first
    | with_reducible exact RLe.refl _
    | assumption
    | with_reducible apply Rec.Le.eval; assumption
    | with_reducible apply Rec.Le.exec; assumption
    | with_reducible apply Rec.Le.call; assumption
    | with_reducible apply Rec.Le.loop; assumption
    | mono_lemma
    | with_reducible apply RLe.bind
    | intro _
    | split)

macro "mono" : tactic => `(tactic| repeat' mono_step)
/-- the same with an induction hypothesis -/
macro "mono" "using" ih:term : tactic => `(tactic| repeat' (first | mono_step | apply $ih))

theorem mapR_mono {α β} {p : Err → Prop} {f g : α → R β} (h : ∀ a, RLe p (f a) (g a)) (l : List α) :
    RLe p (mapR f l) (mapR g l) := by
  induction l with
  | nil => exact RLe.refl _
  | cons a as ih =>
    simp only [mapR]
    exact RLe.bind (h a) fun _ => RLe.bind ih fun _ => RLe.refl _
macro_rules | `(tactic| mono_lemma) => `(tactic| with_reducible apply mapR_mono)

variable {p : Err → Prop} {r r' : Rec}

theorem callF_mono (h : r.Le p r') (fd : FuncDef) (args : List Val) : RLe p (callF r fd args) (callF r' fd args) := by
  unfold callF
  mono
macro_rules | `(tactic| mono_lemma) => `(tactic| with_reducible apply callF_mono)

theorem callMethod_mono (h : r.Le p r') (P : Program) (c m : Id) (args : List Val) (missing : Err) :
    RLe p (callMethod r P c m args missing) (callMethod r' P c m args missing) := by
  unfold callMethod
  mono
macro_rules | `(tactic| mono_lemma) => `(tactic| with_reducible apply callMethod_mono)

theorem getAttrF_mono (h : r.Le p r') (P : Program) (v : Val) (a : Id) : RLe p (getAttrF r P v a) (getAttrF r' P v a) := by
  unfold getAttrF
  mono
macro_rules | `(tactic| mono_lemma) => `(tactic| with_reducible apply getAttrF_mono)

theorem strOfF_mono (h : r.Le p r') (P : Program) (v : Val) : RLe p (strOfF r P v) (strOfF r' P v) := by
  unfold strOfF
  mono
macro_rules | `(tactic| mono_lemma) => `(tactic| with_reducible apply strOfF_mono)

theorem compareF_mono (h : r.Le p r') (P : Program) (op : CmpOp) (a b : Val) :
    RLe p (compareF r P op a b) (compareF r' P op a b) := by
  unfold compareF
  mono
macro_rules | `(tactic| mono_lemma) => `(tactic| with_reducible apply compareF_mono)

theorem insertSortedF_mono (h : r.Le p r') (P : Program) (x : Val) (l : List Val) :
    RLe p (insertSortedF r P x l) (insertSortedF r' P x l) := by
  induction l with
  | nil => exact RLe.refl _
  | cons y ys ih =>
    simp only [insertSortedF]
    mono using ih
macro_rules | `(tactic| mono_lemma) => `(tactic| with_reducible apply insertSortedF_mono)

theorem sortF_mono (h : r.Le p r') (P : Program) (l : List Val) : RLe p (sortF r P l) (sortF r' P l) := by
  induction l with
  | nil => exact RLe.refl _
  | cons y ys ih =>
    simp only [sortF]
    mono using ih
macro_rules | `(tactic| mono_lemma) => `(tactic| with_reducible apply sortF_mono)

theorem optIntF_mono (h : r.Le p r') (env : Env) (oe : Option Expr) : RLe p (optIntF r env oe) (optIntF r' env oe) := by
  unfold optIntF
  mono
macro_rules | `(tactic| mono_lemma) => `(tactic| with_reducible apply optIntF_mono)

theorem constructF_mono (h : r.Le p r') (P : Program) (c : Id) (args : List Val) :
    RLe p (constructF r P c args) (constructF r' P c args) := by
  unfold constructF
  mono
macro_rules | `(tactic| mono_lemma) => `(tactic| with_reducible apply constructF_mono)

theorem indexF_mono (h : r.Le p r') (P : Program) (x iv : Val) : RLe p (indexF r P x iv) (indexF r' P x iv) := by
  unfold indexF
  mono
macro_rules | `(tactic| mono_lemma) => `(tactic| with_reducible apply indexF_mono)

theorem builtinF_mono (h : r.Le p r') (P : Program) (b : Builtin) (vs : List Val) :
    RLe p (builtinF r P b vs) (builtinF r' P b vs) := by
  unfold builtinF
  mono
macro_rules | `(tactic| mono_lemma) => `(tactic| with_reducible apply builtinF_mono)

theorem cmpF_mono (h : r.Le p r') (P : Program) (op : CmpOp) (x y : Val) : RLe p (cmpF r P op x y) (cmpF r' P op x y) := by
  unfold cmpF
  mono
macro_rules | `(tactic| mono_lemma) => `(tactic| with_reducible apply cmpF_mono)

theorem compF_mono (h : r.Le p r') (env : Env) (x : Id) (cond : Option Expr) (body : Expr) (items : List Val) :
    RLe p (compF r env x cond body items) (compF r' env x cond body items) := by
  induction items with
  | nil => exact RLe.refl _
  | cons it items ih =>
    simp only [compF]
    mono using ih
macro_rules | `(tactic| mono_lemma) => `(tactic| with_reducible apply compF_mono)

theorem dictCompF_mono (h : r.Le p r') (env : Env) (x : Id) (k v : Expr) (items : List Val) :
    RLe p (dictCompF r env x k v items) (dictCompF r' env x k v items) := by
  induction items with
  | nil => exact RLe.refl _
  | cons it items ih =>
    simp only [dictCompF]
    mono using ih
macro_rules | `(tactic| mono_lemma) => `(tactic| with_reducible apply dictCompF_mono)

theorem compTF_mono (h : r.Le p r') (env : Env) (xs : List Id) (cond : Option Expr) (body : Expr) (items : List Val) :
    RLe p (compTF r env xs cond body items) (compTF r' env xs cond body items) := by
  induction items with
  | nil => exact RLe.refl _
  | cons it items ih =>
    simp only [compTF]
    mono using ih
macro_rules | `(tactic| mono_lemma) => `(tactic| with_reducible apply compTF_mono)

theorem dictCompTF_mono (h : r.Le p r') (env : Env) (xs : List Id) (k v : Expr) (items : List Val) :
    RLe p (dictCompTF r env xs k v items) (dictCompTF r' env xs k v items) := by
  induction items with
  | nil => exact RLe.refl _
  | cons it items ih =>
    simp only [dictCompTF]
    mono using ih
macro_rules | `(tactic| mono_lemma) => `(tactic| with_reducible apply dictCompTF_mono)

theorem methF_mono (h : r.Le p r') (P : Program) (recv : Val) (m : Id) (args : List Val) :
    RLe p (methF r P recv m args) (methF r' P recv m args) := by
  unfold methF
  mono
macro_rules | `(tactic| mono_lemma) => `(tactic| with_reducible apply methF_mono)

theorem evalF_mono (h : r.Le p r') (P : Program) (env : Env) (e : Expr) : RLe p (evalF r P env e) (evalF r' P env e) := by
  cases e <;> simp only [evalF] <;> mono
macro_rules | `(tactic| mono_lemma) => `(tactic| with_reducible apply evalF_mono)

theorem assignToF_mono (h : r.Le p r') (env : Env) (t : Target) (v : Val) :
    RLe p (assignToF r env t v) (assignToF r' env t v) := by
  induction t generalizing v with
  | var x => exact RLe.refl _
  | attr t a ih =>
    simp only [assignToF]
    mono using ih
  | index t i ih =>
    simp only [assignToF]
    mono using ih
macro_rules | `(tactic| mono_lemma) => `(tactic| with_reducible apply assignToF_mono)

theorem assignAllF_mono (h : r.Le p r') (env : Env) (ts : List Target) (vs : List Val) :
    RLe p (assignAllF r env ts vs) (assignAllF r' env ts vs) := by
  induction ts generalizing env vs with
  | nil => cases vs <;> exact RLe.refl _
  | cons t ts ih =>
    cases vs with
    | nil => exact RLe.refl _
    | cons v vs =>
      simp only [assignAllF]
      mono using ih
macro_rules | `(tactic| mono_lemma) => `(tactic| with_reducible apply assignAllF_mono)

theorem forF_mono (h : r.Le p r') (xs : List Id) (body : List Stmt) (env : Env) (items : List Val) :
    RLe p (forF r xs body env items) (forF r' xs body env items) := by
  induction items generalizing env with
  | nil => exact RLe.refl _
  | cons it items ih =>
    simp only [forF]
    mono using ih
macro_rules | `(tactic| mono_lemma) => `(tactic| with_reducible apply forF_mono)

theorem execStmtF_mono (h : r.Le p r') (P : Program) (env : Env) (s : Stmt) :
    RLe p (execStmtF r P env s) (execStmtF r' P env s) := by
  cases s <;> simp only [execStmtF] <;> mono
macro_rules | `(tactic| mono_lemma) => `(tactic| with_reducible apply execStmtF_mono)

theorem execF_mono (h : r.Le p r') (P : Program) (env : Env) (ss : List Stmt) :
    RLe p (execF r P env ss) (execF r' P env ss) := by
  induction ss generalizing env with
  | nil => exact RLe.refl _
  | cons s ss ih =>
    simp only [execF]
    mono using ih
macro_rules | `(tactic| mono_lemma) => `(tactic| with_reducible apply execF_mono)

theorem loopF_mono (h : r.Le p r') (env : Env) (c : Expr) (body : List Stmt) :
    RLe p (loopF r env c body) (loopF r' env c body) := by
  unfold loopF
  mono
macro_rules | `(tactic| mono_lemma) => `(tactic| with_reducible apply loopF_mono)

end Bridge.Py
