import BridgeVerif.Lemmas.Msg
/-! Helper lemmas for C19: board header, team names, connection request. -/
namespace Bridge

/-! ### board header -/
/-- what `parseBoard?` does after the board number and `. Dealer ` -/
def boardTail (r1 : List Char) : Option (Seat × Vul) :=
  let g : Option (List Char × List Char) :=
    dotStar r1 fun gd t1 => (stripPrefixCI ". ".toList t1).bind fun r2 =>
    dotStar r2 fun gv t2 => (stripPrefixCI " vulnerable.".toList t2).map fun _ => (gd, gv)
  match g with
  | none => none
  | some (gd, gv) =>
    match seatOfFormal? gd, vulOfWord? gv with
    | some d, some v => some (d, v)
    | _, _ => none

theorem parseBoard_number (n : Nat) (r1 : List Char) :
    parseBoard? ("Board number ".toList ++ natStr n ++ ". Dealer ".toList ++ r1) =
      (boardTail r1).map fun dv => (n, dv.1, dv.2) := by
  have htw : (natStr n ++ (". Dealer ".toList ++ r1)).takeWhile isDigit = natStr n :=
    takeWhile_append_of_head (natStr_digits n) _ (by
      simp only [String.reduceToList, List.cons_append, List.head?_cons, Option.mem_def, Option.some.injEq]
      rintro _ rfl
      decide)
  simp only [parseBoard?, List.append_assoc, strip_self, htw, decimal_natStr, List.drop_left, boardTail]
  split
  · simp_all
  · rename_i hg
    simp only [hg]
    cases seatOfFormal? _ <;> cases vulOfWord? _ <;> rfl

theorem boardTail_ok (d : Seat) (v : Vul) :
    boardTail (d.formal ++ ". ".toList ++ convertVul v ++ " vulnerable.".toList) = some (d, v) := by
  cases d <;> cases v <;> decide +kernel

/-! ### team names -/
def teamAfter (g1 t : List Char) : Option (List Char × List Char) :=
  (stripPrefixCI " E/W : \"".toList t).bind fun r1 =>
    dotStar r1 fun g2 t3 => match t3 with | '"' :: _ => some (g1, g2) | _ => none

def teamK (g1 t1 : List Char) : Option (List Char × List Char) :=
  match t1 with
  | '"' :: t2 =>
    match t2 with
    | c :: t2' =>
      if c ≠ '\n' then
        match teamAfter g1 t2' with
        | some r => some r
        | none => teamAfter g1 t2
      else teamAfter g1 t2
    | [] => teamAfter g1 t2
  | _ => none

theorem parseTeamNames_eq (content : List Char) :
    parseTeamNames? content =
      match stripPrefixCI "Teams : N/S : \"".toList content with
      | none => none
      | some r0 => dotStar r0 teamK := rfl

theorem append_cons_eq_append_singleton {α : Type} {x : α} {a b e : List α}
    (h : a ++ x :: b = e ++ [x]) (hx : x ∉ e) : b = [] := by
  induction e generalizing a with
  | nil =>
    cases a with
    | nil => simpa using h
    | cons y a => simp at h
  | cons y e ih =>
    cases a with
    | nil =>
      simp only [List.nil_append, List.cons_append, List.cons.injEq] at h
      exact absurd h.1 (fun hxy => hx (by simp [hxy]))
    | cons z a =>
      simp only [List.cons_append, List.cons.injEq] at h
      exact ih h.2 (fun hm => hx (List.mem_cons_of_mem _ hm))

theorem foldC_eq_quote {c : Char} (h : foldC c = foldC '"') : c = '"' := by
  rw [show foldC '"' = '"' from rfl] at h
  rcases foldC_cases c with hc | hc
  · rw [← hc, h]
  · rw [h] at hc; exact absurd hc (by decide)

/-- a suffix of `ew"` -/
theorem drop_name_quote (ew : List Char) (j : Nat) :
    ∃ e q, (ew ++ ['"']).drop j = e ++ q ∧ (q = [] ∨ q = ['"']) ∧ (∀ c ∈ e, c ∈ ew) := by
  refine ⟨ew.drop j, (['"'] : List Char).drop (j - ew.length), List.drop_append, ?_,
    fun c hc => List.mem_of_mem_drop hc⟩
  cases j - ew.length <;> simp

theorem teamAfter_suffix (ew : List Char) (h : '"' ∉ ew) (j : Nat) (g : List Char) :
    teamAfter g ((ew ++ ['"']).drop j) = none := by
  unfold teamAfter
  cases hs : stripPrefixCI " E/W : \"".toList ((ew ++ ['"']).drop j) with
  | none => rfl
  | some r1 =>
    obtain ⟨v, hv, hf⟩ := strip_some hs
    obtain ⟨e, q, he, hq, hsub⟩ := drop_name_quote ew j
    have hne : '"' ∉ e := fun hm => h (hsub _ hm)
    -- the literal ends with a quote, so does `v`
    have hlen : v.length = 8 := by simpa using congrArg List.length hf
    obtain ⟨v', c, rfl⟩ : ∃ v' c, v = v' ++ [c] := by
      rcases List.eq_nil_or_concat v with rfl | ⟨v', c, rfl⟩
      · simp at hlen
      · exact ⟨v', c, by simp⟩
    have hc : c = '"' := by
      have h1 : (v' ++ [c]).map foldC = " E/W : ".toList.map foldC ++ [foldC '"'] := hf
      rw [List.map_append] at h1
      have h2 : (v'.map foldC).length = (" E/W : ".toList.map foldC).length := by
        simp only [List.length_map]; simp at hlen; simpa using hlen
      have := (List.append_inj h1 h2).2
      simp only [List.map_cons, List.map_nil, List.cons.injEq, and_true] at this
      exact foldC_eq_quote this
    subst hc
    have hr1 : r1 = [] := by
      rw [he] at hv
      rcases hq with rfl | rfl
      · exfalso; apply hne; rw [List.append_nil] at hv; rw [hv]; simp
      · rw [List.append_assoc] at hv
        exact append_cons_eq_append_singleton hv.symm hne
    subst hr1
    simp [dotStar, greedy]

theorem teamK_suffix (ew : List Char) (h : '"' ∉ ew) (j : Nat) (g : List Char) :
    teamK g ((ew ++ ['"']).drop j) = none := by
  obtain ⟨e, q, he, hq, hsub⟩ := drop_name_quote ew j
  rw [he]
  cases e with
  | nil =>
    rcases hq with rfl | rfl
    · simp [teamK]
    · simp [teamK, teamAfter, stripPrefixCI]
  | cons c e =>
    have hc : c ≠ '"' := fun hc => h (hc ▸ hsub c (by simp))
    simp only [List.cons_append, teamK]
    split
    · rename_i heq; simp only [List.cons.injEq] at heq; exact absurd heq.1 hc
    · rfl

theorem teamK_longer (ew : List Char) (h : '"' ∉ ew) (d : Nat) (hd : 0 < d) (g : List Char) :
    teamK g (("\" E/W : \"".toList ++ ew ++ ['"']).drop d) = none := by
  have hS : ew ++ ['"'] = (ew ++ ['"']).drop 0 := rfl
  have h0 := teamAfter_suffix ew h 0 g
  have h1 := teamAfter_suffix ew h 1 g
  simp only [List.drop_zero] at h0
  match d, hd with
  | 1, _ => simp [teamK]
  | 2, _ => simp [teamK]
  | 3, _ => simp [teamK]
  | 4, _ => simp [teamK]
  | 5, _ => simp [teamK]
  | 6, _ => simp [teamK]
  | 7, _ => simp [teamK]
  | 8, _ =>
    show teamK g ('"' :: (ew ++ ['"'])) = none
    cases hew : ew ++ ['"'] with
    | nil => simp at hew
    | cons c t =>
      rw [hew] at h0 h1
      simp only [List.drop_succ_cons, List.drop_zero] at h1
      simp only [teamK, h0, h1]
      split <;> rfl
  | j + 9, _ =>
    show teamK g ((ew ++ ['"']).drop j) = none
    exact teamK_suffix ew h j g

theorem teamAfter_ok (g ew : List Char) (h : NameOK ew) :
    teamAfter g (" E/W : \"".toList ++ (ew ++ ['"'])) = some (g, ew) := by
  unfold teamAfter
  rw [strip_self]
  simp only [Option.bind_some]
  apply dotStar_append ew ['"'] _ _ h.2.1 (by simp)
  intro d hd
  cases d with
  | zero => omega
  | succ d => simp

theorem teamK_ok (ns ew : List Char) (h : NameOK ew) :
    teamK ns ("\" E/W : \"".toList ++ ew ++ ['"']) = some (ns, ew) := by
  have h1 := teamAfter_ok ns ew h
  have h2 : teamAfter ns ("E/W : \"".toList ++ (ew ++ ['"'])) = none := by
    unfold teamAfter
    simp only [String.reduceToList, List.cons_append]
    rw [strip_none_of_head (by rintro _ ⟨⟩; decide)]
    rfl
  simp only [String.reduceToList, List.cons_append, List.nil_append] at h1 h2 ⊢
  simp only [teamK, h1, h2, ite_self]

theorem parseTeamNames_ok (ns ew : List Char) (h1 : NameOK ns) (h2 : NameOK ew) :
    parseTeamNames? (teamsMsg ns ew) = some (ns, ew) := by
  have := dotStar_append ns ("\" E/W : \"".toList ++ ew ++ ['"']) teamK (ns, ew) h1.2.1
    (teamK_ok ns ew h2) (fun d hd => teamK_longer ew h2.1 d hd _)
  unfold teamsMsg
  rewrite [parseTeamNames_eq]
  simp only [List.append_assoc, strip_self]
  simp only [List.append_assoc] at this
  exact this

/-! ### connection request -/
/-- the literal `p` and the text `u` differ (up to case) at some common position -/
def clash : List Char → List Char → Bool
  | a :: p, c :: u => !eqCI a c || clash p u
  | _, _ => false

theorem strip_none_of_clash (p u x : List Char) (h : clash p u = true) :
    stripPrefixCI p (u ++ x) = none := by
  induction p generalizing u with
  | nil => simp [clash] at h
  | cons a p ih =>
    cases u with
    | nil => simp [clash] at h
    | cons c u =>
      simp only [clash, Bool.or_eq_true, Bool.not_eq_eq_eq_not, Bool.not_true] at h
      simp only [List.cons_append, stripPrefixCI]
      split
      · rename_i hc
        rcases h with h | h
        · simp [hc] at h
        · exact ih u h
      · rfl

theorem eqCI_of_isDigit {a c : Char} (ha : a.toNat < 48 ∨ (57 < a.toNat ∧ a.toNat < 128))
    (h : isDigit c = true) : eqCI a c = false := by
  rw [isDigit_iff] at h
  rw [eqCI, beq_eq_false_iff_ne, foldC_of_lt (c := c) (by omega), lowerA_of_not_upper (by omega)]
  intro he
  rcases foldC_cases a with hc | hc
  · rw [hc] at he; subst he; omega
  · rw [he] at hc; omega

def connK2 (team seat t2 : List Char) : Option (List Char × List Char × List Char) :=
  (stripPrefixCI " using protocol version ".toList t2).bind fun r2 =>
    let ds := r2.takeWhile isDigit
    if ds = [] then none else some (team, seat, ds)

def connK1 (team t1 : List Char) : Option (List Char × List Char × List Char) :=
  (stripPrefixCI "\" as ".toList t1).bind fun r1 => dotStar r1 (connK2 team)

theorem parseConnect_eq (content : List Char) :
    parseConnect? content =
      match stripPrefixCI "Connecting \"".toList content with
      | none => none
      | some r0 =>
        match dotStar r0 connK1 with
        | none => none
        | some (team, seat, ds) =>
          match seatOfFormal? (capitalizeA seat), decimal? ds with
          | some p, some v => some (team, p, v)
          | _, _ => none := rfl

theorem connK2_ok (team seat : List Char) (v : Nat) :
    connK2 team seat (" using protocol version ".toList ++ natStr v) = some (team, seat, natStr v) := by
  have h : (natStr v).takeWhile isDigit = natStr v := by
    simpa using takeWhile_append_of_head (natStr_digits v) [] (by simp)
  unfold connK2
  rw [strip_self]
  simp only [Option.bind_some, h]
  rw [if_neg (natStr_ne_nil v)]

theorem usingLit_clash : ∀ d, d < 23 → 0 < d →
    clash " using protocol version ".toList (" using protocol version ".toList.drop d) = true := by
  decide

theorem connK2_longer (team g : List Char) (v d : Nat) (hd : 0 < d) :
    connK2 team g ((" using protocol version ".toList ++ natStr v).drop d) = none := by
  have hnone : stripPrefixCI " using protocol version ".toList
      ((" using protocol version ".toList ++ natStr v).drop d) = none := by
    by_cases h1 : d < 23
    · rw [List.drop_append_of_le_length (by simp; omega)]
      exact strip_none_of_clash _ _ _ (usingLit_clash d h1 hd)
    · by_cases h2 : d = 23
      · subst h2
        simp only [String.reduceToList, List.cons_append, List.drop_succ_cons, List.drop_zero, List.nil_append,
          stripPrefixCI, eqCI_refl, if_true]
        apply strip_none_of_head
        intro c hc
        exact eqCI_of_isDigit (by decide) (natStr_digits v c (List.mem_of_mem_head? hc))
      · have : (" using protocol version ".toList ++ natStr v).drop d = (natStr v).drop (d - 24) := by
          rw [List.drop_append, List.drop_of_length_le (by simp; omega)]; simp
        rw [this]
        simp only [String.reduceToList]
        apply strip_none_of_head
        intro c hc
        exact eqCI_of_isDigit (by decide)
          (natStr_digits v c (List.mem_of_mem_drop (List.mem_of_mem_head? hc)))
  unfold connK2
  rw [hnone]
  rfl

theorem seat_variant_chars {p : Seat} {seat : List Char} (hs : CaseVariant seat p.formal) :
    '\n' ∉ seat ∧ '"' ∉ seat := by
  have key : ∀ x : Char, lowerA x = x → x ∉ p.formal.map lowerA → x ∉ seat := by
    intro x hx hn hm
    apply hn
    rw [← hs, ← hx]
    exact List.mem_map_of_mem hm
  constructor
  · exact key _ (by decide) (by cases p <;> decide)
  · exact key _ (by decide) (by cases p <;> decide)

theorem capitalizeA_lowerS (s : List Char) : capitalizeA (lowerS s) = capitalizeA s := by
  cases s with
  | nil => rfl
  | cons c r =>
    simp only [lowerS, List.map_cons, capitalizeA, upperA_lowerA, List.map_map, List.cons.injEq, true_and]
    apply List.map_congr_left
    intro a _
    exact lowerA_lowerA a

theorem capitalize_variant {p : Seat} {seat : List Char} (hs : CaseVariant seat p.formal) :
    capitalizeA seat = p.formal := by
  rw [← capitalizeA_lowerS, hs.lowerS_eq]
  cases p <;> decide

theorem connK1_ok (team seat : List Char) (p : Seat) (hs : CaseVariant seat p.formal) (v : Nat) :
    connK1 team ("\" as ".toList ++ (seat ++ (" using protocol version ".toList ++ natStr v))) =
      some (team, seat, natStr v) := by
  unfold connK1
  rw [strip_self]
  exact dotStar_append seat _ (connK2 team) _ (seat_variant_chars hs).1 (connK2_ok team seat v)
    (fun d hd => connK2_longer team _ v d hd)

theorem connK1_longer (g seat : List Char) (p : Seat) (hs : CaseVariant seat p.formal) (v d : Nat)
    (hd : 0 < d) :
    connK1 g (("\" as ".toList ++ (seat ++ (" using protocol version ".toList ++ natStr v))).drop d) =
      none := by
  unfold connK1
  rw [show "\" as ".toList = '"' :: " as ".toList by simp only [String.reduceToList], strip_none_of_head]
  · rfl
  · intro c hc
    have hc := List.mem_of_mem_head? hc
    obtain ⟨d', rfl⟩ : ∃ d', d = d' + 1 := ⟨d - 1, by omega⟩
    simp only [List.cons_append, List.drop_succ_cons] at hc
    have hc := List.mem_of_mem_drop hc
    have hq : c ≠ '"' := by
      rintro rfl
      simp only [List.mem_append] at hc
      rcases hc with hc | hc | hc | hc
      · revert hc; decide
      · exact (seat_variant_chars hs).2 hc
      · revert hc; decide
      · have := natStr_digits v _ hc
        revert this; decide
    cases hq' : eqCI '"' c with
    | false => rfl
    | true =>
      simp only [eqCI, beq_iff_eq] at hq'
      exact absurd (foldC_eq_quote hq'.symm) hq

theorem parseConnect_ok (team : List Char) (ht : NameOK team) (p : Seat) (seat : List Char)
    (hs : CaseVariant seat p.formal) (v : Nat) :
    parseConnect? (connectMsg team seat v) = some (team, p, v) := by
  have := dotStar_append team ("\" as ".toList ++ (seat ++ (" using protocol version ".toList ++ natStr v)))
    connK1 _ ht.2.1 (connK1_ok team seat p hs v) (fun d hd => connK1_longer _ seat p hs v d hd)
  unfold connectMsg
  rewrite [parseConnect_eq]
  simp only [List.append_assoc, strip_self, this, capitalize_variant hs, decimal_natStr]
  cases p <;> rfl

end Bridge
