import BridgeVerif.Lemmas.MsgBid
/-! The protocol texts of `Model/Msg.lean` and their variants: a text in upper or in lower case is a case variant and stays
ASCII; the texts the builders produce are ASCII (evaluated over the finite families); a call or card message read with
another seat's name is refused; `removeAlert` strips an alert suffix. -/
namespace Bridge

/-! ### upper and lower case -/
theorem lowerA_upperA (c : Char) : lowerA (upperA c) = lowerA c := by
  rw [char_eq_iff]; simp only [lowerA_toNat, upperA_toNat]; repeat' split
  all_goals omega

theorem caseVariant_lower (m : List Char) : CaseVariant (m.map lowerA) m := by
  simp only [CaseVariant, List.map_map]
  exact List.map_congr_left fun x _ => lowerA_lowerA x

theorem caseVariant_upper (m : List Char) : CaseVariant (m.map upperA) m := by
  simp only [CaseVariant, List.map_map]
  exact List.map_congr_left fun x _ => lowerA_upperA x

theorem ascii_lower {m : List Char} (h : ∀ x ∈ m, x.toNat < 128) : ∀ x ∈ m.map lowerA, x.toNat < 128 := by
  intro x hx
  obtain ⟨y, hy, rfl⟩ := List.mem_map.mp hx
  have := h y hy
  rw [lowerA_toNat]; split <;> omega

theorem ascii_upper {m : List Char} (h : ∀ x ∈ m, x.toNat < 128) : ∀ x ∈ m.map upperA, x.toNat < 128 := by
  intro x hx
  obtain ⟨y, hy, rfl⟩ := List.mem_map.mp hx
  have := h y hy
  rw [upperA_toNat]; split <;> omega

/-! ### the texts the builders produce are ASCII -/
/-- … and free of U+001C..U+001F (which Python's `\s` takes for white space), also with an alert appended -/
theorem bidMsg_ascii : ∀ c ∈ Call.all, ∀ p ∈ Seat.all, ∀ x ∈ bidMsg c p.formal ++ "  ALERT. ".toList,
    x.toNat < 128 ∧ ¬ (0x1C ≤ x.toNat ∧ x.toNat ≤ 0x1F) := by
  decide +kernel

theorem playMsg_ascii : ∀ c ∈ Card.deck, ∀ p ∈ Seat.all, ∀ b : Bool, ∀ x ∈ playMsg p c b, x.toNat < 128 := by
  decide +kernel

theorem boardHeader_ascii_1_16 : ∀ d ∈ Seat.all, ∀ v ∈ Vul.all, ∀ n ∈ [1, 16], ∀ x ∈ boardHeader n d v,
    x.toNat < 128 := by
  decide +kernel

theorem connectMsg_ascii_17_19 : ∀ p ∈ Seat.all, ∀ ver : Fin 3,
    ∀ x ∈ connectMsg "Team (A)".toList (p.formal.map upperA) (17 + ver.val), x.toNat < 128 := by
  decide +kernel

/-! ### another seat's name: the seat names differ in their first letter -/
theorem parseBid_other_seat (c : Call) (p : Seat) : parseBid? (bidMsg c p.formal) p.left.formal = none := by
  unfold bidMsg
  rw [List.append_assoc]
  cases p <;> rfl

theorem parseCard_other_seat (p : Seat) (c : Card) (b : Bool) : parseCard? (playMsg p c b) p.left = none := by
  unfold playMsg
  rw [List.append_assoc]
  cases p <;> rfl

/-! ### the alert suffix -/
theorem removeAlert_alert (c : Call) (p : Seat) (m ws1 al ws2 : List Char)
    (hm : CaseVariant m (bidMsg c p.formal)) (h1 : ws1 ≠ [] ∧ AllWs ws1)
    (hal : CaseVariant al "Alert.".toList) (h2 : AllWs ws2) :
    removeAlert (m ++ ws1 ++ al ++ ws2) = m := by
  have h := preprocessBid_alert c p m ws1 al ws2 hm h1 hal h2
  unfold preprocessBid at h
  split at h
  · exact h
  · have hl := congrArg List.length h
    simp only [List.length_append] at hl
    exact absurd (List.length_eq_zero_iff.mp (by omega)) h1.1

end Bridge
