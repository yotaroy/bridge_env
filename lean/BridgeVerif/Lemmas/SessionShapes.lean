import BridgeVerif.Model.Session
import BridgeVerif.Lemmas.Confluence
/-! The *shape* of a phase (constructor and control parameters, payloads forgotten), the canonical
lowest-enabled-first scheduler on payload-erased nets, and the finite check that it runs every phase shape
from the initial net to a state with all programs and channels empty and the barrier counts level. -/
namespace Bridge

/-- a phase without its payloads -/
inductive Shape
  | seating | deal | call (a : Seat) | auctionEnd | playStart
  | card (a d : Seat) (lead opening : Bool)
  | nextBoard | lastBoard
  deriving DecidableEq, Repr

def Shape.toPhase : Shape → Phase Unit Unit
  | .seating => .seating () (fun _ => ()) () ()
  | .deal => .deal () (fun _ => ()) (fun _ => ()) (fun _ => ())
  | .call a => .call a () () () (fun _ => ())
  | .auctionEnd => .auctionEnd () ()
  | .playStart => .playStart ()
  | .card a d lead opening => .card a d lead opening () () () (fun _ => ()) (fun _ => ()) ()
  | .nextBoard => .nextBoard () () ()
  | .lastBoard => .lastBoard () () ()

def Phase.shape {Msg Out : Type} : Phase Msg Out → Shape
  | .seating .. => .seating
  | .deal .. => .deal
  | .call a .. => .call a
  | .auctionEnd .. => .auctionEnd
  | .playStart .. => .playStart
  | .card a d lead opening .. => .card a d lead opening
  | .nextBoard .. => .nextBoard
  | .lastBoard .. => .lastBoard

def Shape.all : List Shape :=
  [.seating, .deal, .auctionEnd, .playStart, .nextBoard, .lastBoard] ++ Seat.all.map .call ++
  Seat.all.flatMap fun a => Seat.all.flatMap fun d =>
    [.card a d false false, .card a d false true, .card a d true false, .card a d true true]

theorem Shape.mem_all (s : Shape) : s ∈ Shape.all := by
  have hs : ∀ p : Seat, p ∈ Seat.all := fun p => by cases p <;> decide
  cases s with
  | call a => exact List.mem_append_left _ (List.mem_append_right _ (List.mem_map_of_mem (hs a)))
  | card a d l o =>
    refine List.mem_append_right _ (List.mem_flatMap.2 ⟨a, hs a, List.mem_flatMap.2 ⟨d, hs d, ?_⟩⟩)
    cases l <;> cases o <;> simp
  | _ => decide

abbrev ENet := Net Tid Chan Unit Unit

/-- the first enabled thread of the list, with the state after its step -/
def pickStep (n : ENet) : List Tid → Option (Tid × ENet)
  | [] => none
  | t :: ts =>
    match step parties n t with
    | some n' => some (t, n')
    | none => pickStep n ts

/-- canonical scheduler: repeatedly the first enabled thread of `Tid.all` -/
def runLow : Nat → ENet → List Tid × ENet
  | 0, n => ([], n)
  | fuel + 1, n =>
    match pickStep n Tid.all with
    | none => ([], n)
    | some (t, n') => (t :: (runLow fuel n').1, (runLow fuel n').2)

theorem pickStep_step {n : ENet} {l : List Tid} {t : Tid} {n' : ENet}
    (h : pickStep n l = some (t, n')) : step parties n t = some n' := by
  induction l with
  | nil => simp [pickStep] at h
  | cons u us ih =>
    unfold pickStep at h
    split at h
    · next n1 h1 =>
      simp only [Option.some.injEq, Prod.mk.injEq] at h
      obtain ⟨rfl, rfl⟩ := h
      exact h1
    · exact ih h

theorem runLow_run (fuel : Nat) (n : ENet) : Run parties n (runLow fuel n).1 (runLow fuel n).2 := by
  induction fuel generalizing n with
  | zero => exact Run.nil n
  | succ k ih =>
    unfold runLow
    split
    · exact Run.nil n
    · next t n' h => exact Run.cons (pickStep_step h) (ih n')

/-- all programs finished, all channels empty, nobody has departed more often than main has arrived, and
every party has arrived at least as often as main -/
def good (e : ENet) : Bool :=
  Tid.all.all (fun t => (e.prog t).isEmpty) && Chan.all.all (fun c => (e.chan c).isEmpty) &&
  Tid.all.all (fun t => decide (e.departed t ≤ e.arrived .main)) &&
  parties.all (fun q => decide (e.arrived .main ≤ e.arrived q))

def checkShape (s : Shape) : Bool := good (runLow 100 (Net.init (phaseProg s.toPhase))).2

/-! ### single writer / single reader, checked shape by shape -/
def okActB {Msg Out : Type} (t : Tid) : Act Chan Msg Out → Bool
  | .send c _ => decide (t = c.wr)
  | .recv c => decide (t = c.rd)
  | _ => true

def discShape (s : Shape) : Bool := Tid.all.all fun t => (phaseProg s.toPhase t).all (okActB t)

theorem check_shapes : Shape.all.all (fun s => checkShape s && discShape s) = true := by decide +kernel

theorem checkShape_true (s : Shape) : checkShape s = true :=
  (Bool.and_eq_true_iff.1 (List.all_eq_true.mp check_shapes s s.mem_all)).1

theorem discShape_true (s : Shape) : discShape s = true :=
  (Bool.and_eq_true_iff.1 (List.all_eq_true.mp check_shapes s s.mem_all)).2

theorem Tid.mem_all (t : Tid) : t ∈ Tid.all := by
  cases t with
  | main => decide
  | seat p => cases p <;> decide
  | client p => cases p <;> decide

theorem Tid.nodup_all : Tid.all.Nodup := by decide

theorem Chan.mem_all (c : Chan) : c ∈ Chan.all := by
  cases c with
  | m2t p => cases p <;> decide
  | t2m p => cases p <;> decide
  | c2s p => cases p <;> decide
  | s2c p => cases p <;> decide

end Bridge
