import BridgeVerif.Lemmas.RegexConnectA
/-!
# The regular expressions of the table manager's message parsers, part A: `"{prefix}(.*)"`

`MessageInterface.parse_card` matches `f'{player.formal_name} plays (.*)'`, `MessageInterface.parse_bid` (second attempt)
matches `f'{player_name} (.*)'`, both with `re.IGNORECASE` and `re.match`.  For the four seat names these are eight concrete
pattern texts; each parses to a run of literals followed by the group `(.*)`.

`match_lits_dot` : for EVERY subject (engine and scanner compare the ASCII pattern letters alike with every character: the
class `agree` holds of every character), the generic engine of `Model/Regex.lean` matches iff
`stripPrefixCI prefix subject` of `Model/Msg.lean` succeeds, and group 1 is the rest of the subject up to the first line
feed.  Tools: `Lemmas/RegexPbnA.lean` (`den`), `Lemmas/RegexHandsA.lean` (`Rel`), `Lemmas/RegexConnectA.lean`
(`rel_lits`, `rel_dotStar`).
-/
namespace Bridge.RegexMsgBid
open Bridge Bridge.Re Bridge.RegexPbn Bridge.RegexHands Bridge.RegexConnect

/-! ### the class of subject characters -/
/-- every literal character of the bid / card / alert patterns -/
def patChars : List Char := "NorthEastSouthWest playsbidsCDHSNTAlert.".toList

/-- the class: the engine (`Re.charEq true`, Unicode folding tables) and the scanner (`eqCI`) compare every pattern letter
with the character alike -/
def agree (x : Char) : Bool := agreeLit patChars x

theorem patChars_ascii : ∀ p ∈ patChars, p.toNat < 128 := by decide +kernel

theorem agree_all (x : Char) : agree x = true := agreeLit_of_ascii patChars patChars_ascii x

/-- every ASCII character is in the class -/
theorem agree_ascii (x : Char) (_ : x.toNat < 128) : agree x = true := agree_all x

/-! ### general facts on `lits` -/
theorem simple_lits (R : Re) : ∀ p : List Char, simple (lits p R) = simple R := RegexConnect.simple_lits R

theorem ngroups_lits (R : Re) : ∀ p : List Char, (lits p R).ngroups = R.ngroups := RegexConnect.ngroups_lits R

theorem den_lits_fun' (ic : Bool) (R : Re) (k : St → Re.Res St) (p : List Char) :
    den ic (lits p R) k = denLits ic p (den ic R k) :=
  RegexConnect.den_lits_fun ic R k p

theorem pyMatch_abs' (ic : Bool) (pat s : List Char) (re : Re) (hp : Re.parse pat = some re) (hs : simple re = true) :
    (Re.pyMatch ic pat s).map (Option.map (groupTexts s)) =
      absRes s (den ic re (kfin 0 false false) ⟨0, s, List.replicate re.ngroups none⟩) :=
  RegexHands.pyMatch_abs_ic ic pat s re hp hs

/-! ### the end of a pattern -/
/-- at the end of a `re.match` pattern with `N` groups nothing more is asked -/
theorem rel_end (s : List Char) (N : Nat) : Rel s N N (kfin 0 false false) (fun _ => some []) :=
  RegexConnect.rel_end s N

/-- a greedy `(.*)` whose continuation accepts everything takes the whole line -/
theorem greedy_always {α : Type} (s : List Char) (h : List Char → List Char → α) :
    ∀ n, greedy s (fun g t => some (h g t)) n = some (h (s.take n) (s.drop n)) := by
  intro n
  cases n with
  | zero => simp [greedy]
  | succ n => simp [greedy]

theorem dotStar_always {α : Type} (s : List Char) (h : List Char → List Char → α) :
    dotStar s (fun g t => some (h g t)) =
      some (h (s.takeWhile (· ≠ '\n')) (s.drop (s.takeWhile (· ≠ '\n')).length)) := by
  unfold dotStar
  rw [greedy_always, take_length_takeWhile]

/-! ### `"{prefix}(.*)"` -/
/-- THE REGULAR EXPRESSION `prefix(.*)` IS `stripPrefixCI prefix` + "the rest of the line", on every subject -/
theorem match_lits_dot (pat pre : List Char) (hp : Re.parse pat = some (lits pre (dotG 1)))
    (hpre : ∀ c ∈ pre, c.toNat < 128) (s : List Char) :
    (Re.pyMatch true pat s).map (Option.map (groupTexts s)) =
      some ((stripPrefixCI pre s).map fun r => [some (r.takeWhile (· ≠ '\n'))]) := by
  have hsim : simple (lits pre (dotG 1)) = true := by rw [simple_lits]; rfl
  have hng : (lits pre (dotG 1)).ngroups = 1 := by rw [ngroups_lits]; rfl
  rw [pyMatch_abs_ic true pat s _ hp hsim, hng, den_lits_fun]
  have r1 := rel_end s 1
  have rD := rel_dotStar true s 1 0 (by omega) _ _ r1
  have rA := rel_lits_ascii s 1 0 _ _ rD pre hpre
  have := rA 0 s (List.replicate 1 none) rfl rfl
  rw [this]
  have hd : ∀ r : List Char, (dotStar r fun g (_ : List Char) => Option.map (fun gs => g :: gs) (some ([] : List (List Char))))
      = some [r.takeWhile (· ≠ '\n')] := fun r => dotStar_always r (fun g _ => [g])
  simp only [hd, List.take_zero, List.nil_append]
  cases stripPrefixCI pre s <;> rfl

/-! ### the eight pattern texts -/
/-- the pattern `parse_card` builds: `f'{player.formal_name} plays (.*)'` -/
def playsPat (p : Seat) : List Char := p.formal ++ " plays (.*)".toList
/-- the pattern `parse_bid` builds for its second attempt: `f'{player_name} (.*)'` -/
def namePat (name : List Char) : List Char := name ++ " (.*)".toList

theorem parse_plays (p : Seat) : Re.parse (playsPat p) = some (lits (p.formal ++ " plays ".toList) (dotG 1)) := by
  rw [playsPat, show " plays (.*)".toList = _ from String.toList_ofList,
    show " plays ".toList = _ from String.toList_ofList]
  cases p <;> rw [Seat.formal, show (_ : String).toList = _ from String.toList_ofList] <;> decide +kernel

theorem parse_name (p : Seat) : Re.parse (namePat p.formal) = some (lits (p.formal ++ [' ']) (dotG 1)) := by
  rw [namePat, show " (.*)".toList = _ from String.toList_ofList]
  cases p <;> rw [Seat.formal, show (_ : String).toList = _ from String.toList_ofList] <;> decide +kernel

/-- `re.match(f'{formal} plays (.*)', s, re.IGNORECASE)` : matches iff `stripPrefixCI (formal ++ " plays ") s` succeeds;
group 1 is the rest up to the first line feed — the scanner of `parseCard?` -/
theorem match_plays (p : Seat) (s : List Char) (_ : ∀ x ∈ s, agree x = true) :
    (Re.pyMatch true (playsPat p) s).map (Option.map (groupTexts s)) =
      some ((stripPrefixCI (p.formal ++ " plays ".toList) s).map fun r => [some (r.takeWhile (· ≠ '\n'))]) :=
  match_lits_dot _ _ (parse_plays p) (by cases p <;> decide) s

/-- `re.match(f'{formal} (.*)', s, re.IGNORECASE)` : the scanner of the second half of `parseBid?` -/
theorem match_name (p : Seat) (s : List Char) (_ : ∀ x ∈ s, agree x = true) :
    (Re.pyMatch true (namePat p.formal) s).map (Option.map (groupTexts s)) =
      some ((stripPrefixCI (p.formal ++ [' ']) s).map fun r => [some (r.takeWhile (· ≠ '\n'))]) :=
  match_lits_dot _ _ (parse_name p) (by cases p <;> decide) s

end Bridge.RegexMsgBid
