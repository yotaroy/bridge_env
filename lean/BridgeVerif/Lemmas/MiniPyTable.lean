import BridgeVerif.Lemmas.MiniPyFuel

/-! Reading back a table of calls that the kernel evaluated at one fuel. `R.int?`, `R.str?`, … project an outcome to
something that can be compared; a call that returned at fuel `f₀` returns the same at every larger fuel. -/
namespace Bridge.Py

theorem int?_eq_some {r : R Val} {n : Int} (h : r.int? = some n) : r = .ok (.int n) := by
  match r, h with
  | .ok (.int _), rfl => rfl
theorem bool?_eq_some {r : R Val} {b : Bool} (h : r.bool? = some b) : r = .ok (.bool b) := by
  match r, h with
  | .ok (.bool _), rfl => rfl
theorem str?_eq_some {r : R Val} {s : List Char} (h : r.str? = some s) : r = .ok (.str s) := by
  match r, h with
  | .ok (.str _), rfl => rfl
theorem enum?_eq_some {r : R Val} {c : Id} {n : Int} (h : r.enum? = some (c, n)) : r = .ok (.enum c n) := by
  match r, h with
  | .ok (.enum _ _), rfl => rfl

/-- the fuel of `callFn` is one above that of the `Rec` the body runs in -/
theorem callFn_succ (Q : Program) (f : Nat) (fd : FuncDef) (args : List Val) :
    callFn Q (f + 1) fd args = callF (mkRec Q f) fd args := rfl

theorem callF_of_le {Q : Program} {f₀ f : Nat} {fd : FuncDef} {args : List Val} {x : Val × Val}
    (h : callFn Q f₀ fd args = .ok x) (hf : f₀ ≤ f + 1) : callF (mkRec Q f) fd args = .ok x :=
  callFn_succ Q f fd args ▸ callFn_fuel_mono Q hf _ _ _ h (by simp)

/-- the same when only the returned value was looked at -/
theorem callF_of_val {Q : Program} {f₀ f : Nat} {fd : FuncDef} {args : List Val} {v : Val}
    (h : (callFn Q f₀ fd args).map (·.1) = .ok v) (hf : f₀ ≤ f + 1) : ∃ s, callF (mkRec Q f) fd args = .ok (v, s) := by
  match hr : callFn Q f₀ fd args, h with
  | .ok (_, s), rfl => exact ⟨s, callF_of_le hr hf⟩

/-- an attribute of an Enum member that is none of `value`, `__class__`, `name` is a call of the property of that name -/
theorem attr_enum_property (r : Rec) {Q : Program} {c c' a : Id} {fd : FuncDef} (n : Int) (h1 : a ≠ K.value)
    (h2 : a ≠ K.class__) (h3 : a ≠ K.name) (hm : Q.method? classDepth c a = some (c', fd)) :
    getAttrF r Q (.enum c n) a = (r.call fd [.enum c n]).map (·.1) := by
  simp only [getAttrF, callMethod, hm, if_neg h1, if_neg h2, if_neg h3]
  rfl

end Bridge.Py
