import BridgeVerif.Lemmas.RegexPbnB
/-!
# From the anchored match to `search` / `finditer`  (R11, part C)
-/
namespace Bridge.RegexPbn
open Bridge Bridge.Re

/-- leftmost anchored match at `pos` or later -/
def nextM (A : Nat → Str → Option MatchObj) : Str → Nat → Option MatchObj
  | [], pos => A pos []
  | c :: r, pos =>
    match A pos (c :: r) with
    | some m => some m
    | none => nextM A r (pos + 1)

def allM (A : Nat → Str → Option MatchObj) : Nat → Nat → Str → List MatchObj
  | 0, _, _ => []
  | n + 1, pos, rest =>
    match nextM A rest pos with
    | none => []
    | some m => m :: allM A n m.span.2 (rest.drop (m.span.2 - pos))

structure Anchored (re : Re) (fuel : Nat) (A : Nat → Str → Option MatchObj) : Prop where
  core : ∀ pos rest mustAdv, re.size + rest.length ≤ fuel →
    matchCore false re fuel pos rest false mustAdv = (match A pos rest with | none => .fail | some m => .ok m)
  span : ∀ pos rest m, A pos rest = some m → m.span.1 = pos ∧ pos < m.span.2 ∧ m.span.2 ≤ pos + rest.length

theorem nextM_span {re : Re} {fuel : Nat} {A : Nat → Str → Option MatchObj} (hA : Anchored re fuel A) :
    ∀ (rest : Str) (pos : Nat) (m : MatchObj), nextM A rest pos = some m →
      pos ≤ m.span.1 ∧ m.span.1 < m.span.2 ∧ m.span.2 ≤ pos + rest.length := by
  intro rest
  induction rest with
  | nil =>
    intro pos m h
    have := hA.span pos [] m h
    omega
  | cons c r ih =>
    intro pos m h
    simp only [nextM] at h
    cases hm : A pos (c :: r) with
    | some m' =>
      rw [hm] at h
      cases h
      have := hA.span pos (c :: r) m hm
      omega
    | none =>
      rw [hm] at h
      have := ih (pos + 1) m h
      simp only [List.length_cons]
      omega

theorem searchFrom_eq {re : Re} {fuel : Nat} {A : Nat → Str → Option MatchObj} (hA : Anchored re fuel A) :
    ∀ (rest : Str) (pos : Nat) (mustAdv : Bool), re.size + rest.length ≤ fuel →
      searchFrom false re fuel pos rest mustAdv = (match nextM A rest pos with | none => .fail | some m => .ok m) := by
  intro rest
  induction rest with
  | nil =>
    intro pos mustAdv hf
    rw [searchFrom, hA.core pos [] mustAdv hf]
    simp only [nextM]
    cases A pos [] <;> rfl
  | cons c r ih =>
    intro pos mustAdv hf
    rw [searchFrom, hA.core pos (c :: r) mustAdv hf]
    simp only [nextM]
    cases A pos (c :: r) with
    | some m => rfl
    | none =>
      simp only
      exact ih (pos + 1) false (by simp only [List.length_cons] at hf; omega)

theorem allMatches_eq {re : Re} {fuel : Nat} {A : Nat → Str → Option MatchObj} (hA : Anchored re fuel A) :
    ∀ (cnt : Nat) (rest : Str) (pos : Nat) (mustAdv : Bool), rest.length + 1 ≤ cnt → re.size + rest.length ≤ fuel →
      allMatches false re fuel cnt pos rest mustAdv = some (allM A cnt pos rest) := by
  intro cnt
  induction cnt with
  | zero => intro rest pos mustAdv h; omega
  | succ n ih =>
    intro rest pos mustAdv hc hf
    rw [allMatches, searchFrom_eq hA rest pos mustAdv hf]
    simp only [allM]
    cases hm : nextM A rest pos with
    | none => rfl
    | some m =>
      simp only
      have hs := nextM_span hA rest pos m hm
      rw [ih (rest.drop (m.span.2 - pos)) m.span.2 _ (by simp only [List.length_drop]; omega)
        (by simp only [List.length_drop]; omega)]


/-! ## the tag pattern -/
def mkM (p : Nat) (rs n v r7 : Str) : MatchObj :=
  { span := (p, p + rs.length - r7.length),
    groups := [some (p + tagOff rs, p + tagOff rs + n.length),
               some (p + tagOff rs + n.length + 2, p + tagOff rs + n.length + 2 + v.length)] }

def Atag (pos : Nat) (rest : Str) : Option MatchObj :=
  match matchTagAt rest with
  | none => none
  | some (n, v, r7) => some (mkM pos rest n v r7)

theorem shape_suffix (rest n v r7 : Str) (h : TagShape rest n v r7) : ∃ A, rest = A ++ r7 ∧ 0 < A.length := by
  obtain ⟨pre, sp2, h1, _⟩ := h
  exact ⟨pre ++ (n ++ (' ' :: '"' :: (v ++ ('"' :: (sp2 ++ [']']))))), by rw [h1]; simp, by simp; omega⟩

theorem shape_len (rest n v r7 : Str) (h : TagShape rest n v r7) : r7.length < rest.length := by
  obtain ⟨A, h1, h2⟩ := shape_suffix _ _ _ _ h
  rw [h1]; simp; omega

theorem shape_drop (rest n v r7 : Str) (h : TagShape rest n v r7) : rest.drop (rest.length - r7.length) = r7 := by
  obtain ⟨A, h1, h2⟩ := shape_suffix _ _ _ _ h
  rw [h1]; simp

theorem shape_name (rest n v r7 : Str) (h : TagShape rest n v r7) : (rest.drop (tagOff rest)).take n.length = n := by
  obtain ⟨pre, sp2, h1, h2⟩ := h
  rw [← h2]
  conv => lhs; rw [h1]
  simp

theorem shape_value (rest n v r7 : Str) (h : TagShape rest n v r7) :
    (rest.drop (tagOff rest + n.length + 2)).take v.length = v := by
  obtain ⟨pre, sp2, h1, h2⟩ := h
  rw [← h2]
  have e : rest = (pre ++ n ++ [' ', '"']) ++ (v ++ ('"' :: (sp2 ++ ']' :: r7))) := by rw [h1]; simp
  have el : (pre ++ n ++ [' ', '"']).length = pre.length + n.length + 2 := by simp; omega
  conv => lhs; rw [e, ← el]
  simp

theorem anchored_tag (fuel : Nat) : Anchored tagRe fuel Atag where
  core := by
    intro pos rest mustAdv hf
    rw [matchCore_eq_den false tagRe rfl fuel pos rest false mustAdv hf]
    show (match den false tagRe (kfin pos false mustAdv) ⟨pos, rest, [none, none]⟩ with
      | .ok st => .ok { span := (pos, st.pos), groups := st.caps }
      | .fail => .fail
      | .oof => .oof : Re.Res MatchObj) = _
    rw [den_tag]
    unfold Atag
    cases hm : matchTagAt rest with
    | none => rfl
    | some t =>
      obtain ⟨n, v, r7⟩ := t
      have hl := shape_len _ _ _ _ (matchTagAt_shape _ _ _ _ hm)
      have hne : ¬ (pos + rest.length - r7.length = pos) := by omega
      simp [kfin, hne, mkM]
  span := by
    intro pos rest m h
    unfold Atag at h
    cases hm : matchTagAt rest with
    | none => rw [hm] at h; simp at h
    | some t =>
      obtain ⟨n, v, r7⟩ := t
      rw [hm] at h
      simp only [Option.some.injEq] at h
      subst h
      have hl := shape_len _ _ _ _ (matchTagAt_shape _ _ _ _ hm)
      show pos = pos ∧ pos < pos + rest.length - r7.length ∧ pos + rest.length - r7.length ≤ pos + rest.length
      omega

theorem searchTag_eq : ∀ (rest : Str) (pos f2 : Nat), rest.length + 1 ≤ f2 →
    searchTag f2 rest pos = (nextM Atag rest pos).map (·.span) := by
  intro rest
  induction rest with
  | nil =>
    intro pos f2 h
    obtain ⟨f, rfl⟩ : ∃ f, f2 = f + 1 := ⟨f2 - 1, by omega⟩
    simp [searchTag, nextM, Atag, matchTagAt]
  | cons c r ih =>
    intro pos f2 h
    obtain ⟨f, rfl⟩ : ∃ f, f2 = f + 1 := ⟨f2 - 1, by omega⟩
    simp only [List.length_cons] at h
    simp only [searchTag, nextM, Atag]
    cases hm : matchTagAt (c :: r) with
    | none => simp only; exact ih (pos + 1) f (by omega)
    | some t =>
      obtain ⟨n, v, r7⟩ := t
      have hl := shape_len _ _ _ _ (matchTagAt_shape _ _ _ _ hm)
      simp only [Option.map_some, mkM, Option.some.injEq, Prod.mk.injEq, true_and]
      omega

theorem search_tag_proof (s : Str) :
    (Re.pySearch false TAG_PATTERN s).map (Option.map (·.span)) = some (searchTag (s.length + 1) s 0) := by
  unfold pySearch
  rw [parse_tag]
  simp only
  rw [searchFrom_eq (anchored_tag _) s 0 false (fuel_ok _ _ _ (Nat.le_refl _)), searchTag_eq s 0 _ (Nat.le_refl _)]
  cases nextM Atag s 0 <;> rfl


theorem fullmatch_replace_proof (l : Str) :
    (Re.pyFullmatch false REPLACE_PATTERN l).map Option.isSome = some (semiEmpty l) := by
  unfold pyFullmatch
  rw [parse_repl]
  exact repl_anchored l _ (fuel_ok _ _ _ (Nat.le_refl _))

theorem drop_of_drop (s rest : Str) (pos q : Nat) (h : s.drop pos = rest) (hq : pos ≤ q) :
    s.drop q = rest.drop (q - pos) := by
  subst h
  rw [List.drop_drop]
  congr 1; omega

theorem nextTag_findTags : ∀ (rest : Str) (pos f2 : Nat), rest.length + 1 ≤ f2 →
    (nextM Atag rest pos = none → findTags f2 rest = []) ∧
    (∀ m, nextM Atag rest pos = some m → ∃ p rs n v r7 f2', m = mkM p rs n v r7 ∧ matchTagAt rs = some (n, v, r7) ∧
      pos ≤ p ∧ rs = rest.drop (p - pos) ∧ r7.length + 1 ≤ f2' ∧ findTags f2 rest = (n, v) :: findTags f2' r7) := by
  intro rest
  induction rest with
  | nil =>
    intro pos f2 h
    obtain ⟨f, rfl⟩ : ∃ f, f2 = f + 1 := ⟨f2 - 1, by omega⟩
    simp [findTags, nextM, Atag, matchTagAt]
  | cons c r ih =>
    intro pos f2 h
    obtain ⟨f, rfl⟩ : ∃ f, f2 = f + 1 := ⟨f2 - 1, by omega⟩
    simp only [List.length_cons] at h
    simp only [findTags, nextM, Atag]
    cases hm : matchTagAt (c :: r) with
    | none =>
      simp only
      obtain ⟨ih1, ih2⟩ := ih (pos + 1) f (by omega)
      refine ⟨ih1, ?_⟩
      intro m hm'
      obtain ⟨p, rs, n, v, r7, f2', h1, h2, h3, h4, h5, h6⟩ := ih2 m hm'
      refine ⟨p, rs, n, v, r7, f2', h1, h2, by omega, ?_, h5, h6⟩
      rw [h4, show p - pos = (p - (pos + 1)) + 1 by omega, List.drop_succ_cons]
    | some t =>
      obtain ⟨n, v, r7⟩ := t
      have hl := shape_len _ _ _ _ (matchTagAt_shape _ _ _ _ hm)
      simp only [List.length_cons] at hl
      simp only [reduceCtorEq, false_imp_iff, Option.some.injEq, true_and]
      intro m hm'
      exact ⟨pos, c :: r, n, v, r7, f, hm'.symm, hm, Nat.le_refl _, by simp, by omega, rfl⟩

/-- one row of `re.findall` -/
def rowOf (s : Str) (m : MatchObj) : List Str :=
  match m.groups with
  | [] => [slice s m.span.1 m.span.2]
  | gs => gs.map fun g =>
    match g with
    | none => []
    | some (b, e) => slice s b e

theorem pyFindall_rowOf (ic : Bool) (pat s : Str) :
    pyFindall ic pat s = (pyFinditer ic pat s).map fun ms => ms.map (rowOf s) := rfl

theorem rowOf_mkM (s : Str) (p : Nat) (rs n v r7 : Str) (hs : s.drop p = rs) (hm : matchTagAt rs = some (n, v, r7)) :
    rowOf s (mkM p rs n v r7) = [n, v] := by
  have sh := matchTagAt_shape _ _ _ _ hm
  have e1 : s.drop (p + tagOff rs) = rs.drop (tagOff rs) := by
    rw [drop_of_drop s rs p _ hs (by omega)]; congr 1; omega
  have e2 : s.drop (p + tagOff rs + n.length + 2) = rs.drop (tagOff rs + n.length + 2) := by
    rw [drop_of_drop s rs p _ hs (by omega)]; congr 1; omega
  show [slice s _ _, slice s _ _] = _
  simp only [slice, e1, e2, Nat.add_sub_cancel_left, shape_name _ _ _ _ sh, shape_value _ _ _ _ sh]

theorem allM_tag_rows (s : Str) : ∀ (cnt : Nat) (rest : Str) (pos f2 : Nat), rest.length + 1 ≤ cnt →
    rest.length + 1 ≤ f2 → s.drop pos = rest →
    (allM Atag cnt pos rest).map (rowOf s) = (findTags f2 rest).map (fun nv => [nv.1, nv.2]) := by
  intro cnt
  induction cnt with
  | zero => intro rest pos f2 h; omega
  | succ k ih =>
    intro rest pos f2 hc hf hs
    obtain ⟨h1, h2⟩ := nextTag_findTags rest pos f2 hf
    simp only [allM]
    cases hm : nextM Atag rest pos with
    | none => simp [h1 hm]
    | some m =>
      obtain ⟨p, rs, n, v, r7, f2', rfl, hmt, hp, hrs, hf2', hft⟩ := h2 m hm
      have sh := matchTagAt_shape _ _ _ _ hmt
      have hl := shape_len _ _ _ _ sh
      have hrl : rs.length ≤ rest.length := by rw [hrs]; simp
      have hsp : s.drop p = rs := by rw [drop_of_drop s rest pos p hs hp, hrs]
      have hd : rest.drop ((mkM p rs n v r7).span.2 - pos) = r7 := by
        show rest.drop (p + rs.length - r7.length - pos) = r7
        have e : p + rs.length - r7.length - pos = (p - pos) + (rs.length - r7.length) := by omega
        rw [e, ← List.drop_drop, ← hrs]
        exact shape_drop _ _ _ _ sh
      have hs2 : s.drop (mkM p rs n v r7).span.2 = r7 := by
        rw [drop_of_drop s rest pos _ hs (by show pos ≤ p + rs.length - r7.length; omega), hd]
      simp only [hft, List.map_cons, hd]
      rw [rowOf_mkM s p rs n v r7 hsp hmt, ih r7 _ f2' (by omega) hf2' hs2]

theorem findall_tag_proof (s : Str) :
    Re.pyFindall false TAG_PATTERN s = some ((findTags (s.length + 1) s).map fun nv => [nv.1, nv.2]) := by
  rw [pyFindall_rowOf]
  unfold pyFinditer
  rw [parse_tag]
  simp only
  rw [allMatches_eq (anchored_tag _) _ s 0 false (by omega) (fuel_ok _ _ _ (Nat.le_refl _))]
  simp only [Option.map_some]
  rw [allM_tag_rows s _ s 0 (s.length + 1) (by omega) (Nat.le_refl _) rfl]

end Bridge.RegexPbn
