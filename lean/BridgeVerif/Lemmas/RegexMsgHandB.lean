import BridgeVerif.Lemmas.RegexMsgHandA
/-!
# `S (.*)\. H (.*)\. D (.*)\. C (.*)\.\s?` (IGNORECASE) is the scanner skeleton of `parseHand?`

`handGroups?` is the skeleton of `parseHand?` copied (`parseHand_eq_groups`): `S `, then four greedy `(.*)` groups
separated by `. H `, `. D `, `. C ` and closed by `.`, with the downward retry of `dotStar`.  `match_handmsg`: for every
subject whose characters are in the class `agreeHand` (every character is), `re.match` with `re.IGNORECASE` matches iff
the skeleton finds its four texts, and groups 1–4 are those texts.  The optional trailing `\s` (Unicode-aware in the engine,
absent from the scanner) cannot change the groups: `rel_optWs_end`.
-/
namespace Bridge.RegexMsgHand
open Bridge Bridge.Re Bridge.RegexPbn Bridge.RegexHands Bridge.RegexConnect Bridge.RegexMsgClient

/-! ## the scanner -/
/-- the four group texts of `parseHand?`, copied from its definition -/
def handGroups? (content : List Char) : Option (List (List Char)) :=
  match stripPrefixCI "S ".toList content with
  | none => none
  | some r0 =>
      dotStar r0 fun g1 t1 => (stripPrefixCI ". H ".toList t1).bind fun r1 =>
      dotStar r1 fun g2 t2 => (stripPrefixCI ". D ".toList t2).bind fun r2 =>
      dotStar r2 fun g3 t3 => (stripPrefixCI ". C ".toList t3).bind fun r3 =>
      dotStar r3 fun g4 t4 => (stripPrefixCI ['.'] t4).map fun _ => [g1, g2, g3, g4]

/-- `parseHand?` = the skeleton, then the conversion of the four groups -/
theorem parseHand_eq_groups (s : List Char) :
    parseHand? s =
      match handGroups? s with
      | some [g1, g2, g3, g4] =>
        (match cardsOfGroup? g1 .S, cardsOfGroup? g2 .H, cardsOfGroup? g3 .D, cardsOfGroup? g4 .C with
         | some a, some b, some c, some d => some (dedupC (a ++ b ++ c ++ d))
         | _, _, _, _ => none)
      | _ => none := by
  unfold parseHand? handGroups?
  cases stripPrefixCI "S ".toList s <;> rfl

def litA : List Char := "S ".toList
def litB : List Char := ". H ".toList
def litC : List Char := ". D ".toList
def litD : List Char := ". C ".toList

def scanE : List Char → Option (List (List Char)) := fun r => (stripPrefixCI ['.'] r).bind fun _ => some []
def scanD : List Char → Option (List (List Char)) :=
  fun r => (stripPrefixCI litD r).bind fun r1 => dotStar r1 fun g t => (scanE t).map fun gs => g :: gs
def scanC : List Char → Option (List (List Char)) :=
  fun r => (stripPrefixCI litC r).bind fun r1 => dotStar r1 fun g t => (scanD t).map fun gs => g :: gs
def scanB : List Char → Option (List (List Char)) :=
  fun r => (stripPrefixCI litB r).bind fun r1 => dotStar r1 fun g t => (scanC t).map fun gs => g :: gs
def scanA : List Char → Option (List (List Char)) :=
  fun r => (stripPrefixCI litA r).bind fun r1 => dotStar r1 fun g t => (scanB t).map fun gs => g :: gs

theorem handGroups_eq_scan (s : List Char) : handGroups? s = scanA s := by
  unfold handGroups? scanA scanB scanC scanD scanE
  show (match stripPrefixCI litA s with | none => none | some r0 => _) = _
  cases stripPrefixCI litA s with
  | none => rfl
  | some r0 =>
    simp only [Option.bind_some, dotStar_map, Option.map_bind, Function.comp_def]
    refine congrArg (dotStar r0) (funext fun g1 => funext fun t1 => congrArg (Option.bind _) (funext fun r1 => ?_))
    refine congrArg (dotStar r1) (funext fun g2 => funext fun t2 => congrArg (Option.bind _) (funext fun r2 => ?_))
    refine congrArg (dotStar r2) (funext fun g3 => funext fun t3 => congrArg (Option.bind _) (funext fun r3 => ?_))
    refine congrArg (dotStar r3) (funext fun g4 => funext fun t4 => ?_)
    cases stripPrefixCI ['.'] t4 <;> rfl

/-! ## the engine -/
def optWsRe : Re := .rep 0 (some 1) (.cls false [.space false])

def handRe : Re :=
  lits litA (.seq (dotG 1) (lits litB (.seq (dotG 2) (lits litC (.seq (dotG 3) (lits litD (.seq (dotG 4)
    (lits ['.'] optWsRe))))))))

theorem parse_handmsg : Re.parse HANDMSG_PATTERN = some handRe := by
  rw [show HANDMSG_PATTERN = _ from String.toList_ofList, handRe, show litA = _ from String.toList_ofList,
    show litB = _ from String.toList_ofList, show litC = _ from String.toList_ofList,
    show litD = _ from String.toList_ofList]
  decide +kernel
theorem handRe_ngroups : handRe.ngroups = 4 := by
  simp only [handRe, ngroups_lits, Re.ngroups]; rfl
theorem handRe_simple : simple handRe = true := by
  simp only [handRe, simple_lits, simple]; rfl
theorem lits_ascii : (∀ c ∈ litA, c.toNat < 128) ∧ (∀ c ∈ litB, c.toNat < 128) ∧ (∀ c ∈ litC, c.toNat < 128) ∧
    ∀ c ∈ litD, c.toNat < 128 := by
  rw [show litA = _ from String.toList_ofList, show litB = _ from String.toList_ofList,
    show litC = _ from String.toList_ofList, show litD = _ from String.toList_ofList]
  decide

/-- the distinct literal characters of the pattern -/
def handChars : List Char := "S .HDC".toList

def agreeHand (x : Char) : Bool := agreeLit handChars x
theorem agreeHand_all (x : Char) : agreeHand x = true := agreeLit_of_ascii handChars (by decide +kernel) x
theorem agreeHand_ascii (x : Char) (_ : x.toNat < 128) : agreeHand x = true := agreeHand_all x

/-- the optional blank that closes the pattern: consumed or not, the groups are what they were -/
theorem rel_optWs_end (ic : Bool) (s : List Char) (N : Nat) :
    Rel s N N (den ic optWsRe (kfin 0 false false)) (fun _ => some []) := by
  intro pos rest caps hd hl
  rw [optWsRe, rel_opt ic _ _ rfl s N N _ _ (RegexConnect.rel_end s N) pos rest caps hd hl]
  cases rest with
  | nil => rfl
  | cons c r' => dsimp only; split <;> rfl

/-- THE REGULAR EXPRESSION IS THE SCANNER: for every subject whose characters are in the class `agreeHand`,
`re.match(r'S (.*)\. H (.*)\. D (.*)\. C (.*)\.\s?', s, re.IGNORECASE)` matches iff the skeleton of `parseHand?` finds its
four texts, and groups 1, 2, 3, 4 are those texts -/
theorem match_handmsg (s : List Char) (_ : ∀ x ∈ s, agreeHand x = true) :
    (Re.pyMatch true HANDMSG_PATTERN s).map (Option.map (groupTexts s)) =
      some ((handGroups? s).map (·.map some)) := by
  rw [pyMatch_abs_ic true HANDMSG_PATTERN s handRe parse_handmsg handRe_simple, handRe_ngroups, handGroups_eq_scan]
  have r5 := rel_optWs_end true s 4
  have rE := rel_lits_ascii s 4 4 _ _ r5 ['.'] (by decide)
  have r4 := rel_dotStar true s 4 3 (by omega) _ _ rE
  have rD := rel_lits_ascii s 4 3 _ _ r4 litD lits_ascii.2.2.2
  have r3 := rel_dotStar true s 4 2 (by omega) _ _ rD
  have rC := rel_lits_ascii s 4 2 _ _ r3 litC lits_ascii.2.2.1
  have r2 := rel_dotStar true s 4 1 (by omega) _ _ rC
  have rB := rel_lits_ascii s 4 1 _ _ r2 litB lits_ascii.2.1
  have r1 := rel_dotStar true s 4 0 (by omega) _ _ rB
  have rA := rel_lits_ascii s 4 0 _ _ r1 litA lits_ascii.1
  have := rA 0 s (List.replicate 4 none) rfl rfl
  simp only [List.take_zero, List.nil_append] at this
  unfold handRe
  rw [den_lits_fun, den_seq_fun, den_lits_fun, den_seq_fun, den_lits_fun, den_seq_fun, den_lits_fun, den_seq_fun,
    den_lits_fun]
  exact this

/-- … in particular for every ASCII subject -/
theorem match_handmsg_ascii (s : List Char) (hs : ∀ x ∈ s, x.toNat < 128) :
    (Re.pyMatch true HANDMSG_PATTERN s).map (Option.map (groupTexts s)) =
      some ((handGroups? s).map (·.map some)) :=
  match_handmsg s fun x hx => agreeHand_ascii x (hs x hx)

end Bridge.RegexMsgHand
