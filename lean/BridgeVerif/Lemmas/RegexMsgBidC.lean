import BridgeVerif.Lemmas.RegexMsgBidB
/-!
# The regular expressions of the table manager's message parsers, part C: from the anchored match of the alert word to
`re.sub` — `sub_alert : Re.pySub true ALERT_PATTERN [] s = some (removeAlert s)` on every subject of the class `agreeWs`.
-/
namespace Bridge.RegexMsgBid
open Bridge Bridge.Re Bridge.RegexPbn Bridge.RegexHands Bridge.RegexConnect

/-- the leftmost position at or after `pos` where the alert word matches: (position, characters consumed, what is left) -/
def nextAlert : Nat → List Char → Option (Nat × Nat × List Char)
  | _, [] => none
  | pos, c :: r =>
    match alertAt (c :: r) with
    | some (k, t) => some (pos, k, t)
    | none => nextAlert (pos + 1) r

theorem searchFrom_alert (fuel : Nat) : ∀ (rest : List Char) (pos : Nat) (mustAdv : Bool),
    alertRe.size + rest.length ≤ fuel → (∀ x ∈ rest, agreeWs x = true) →
    searchFrom true alertRe fuel pos rest mustAdv =
      match nextAlert pos rest with
      | none => .fail
      | some (p, k, _) => .ok { span := (p, p + k), groups := [] } := by
  intro rest
  induction rest with
  | nil =>
    intro pos mustAdv hf hs
    rw [searchFrom, matchCore_alert fuel pos [] mustAdv hf hs]
    rfl
  | cons c r ih =>
    intro pos mustAdv hf hs
    rw [searchFrom, matchCore_alert fuel pos (c :: r) mustAdv hf hs]
    simp only [nextAlert]
    cases alertAt (c :: r) with
    | none =>
      simp only
      exact ih (pos + 1) false (by simp only [List.length_cons] at hf; omega) (fun x hx => hs x (by simp [hx]))
    | some kt => rfl

theorem removeAlertAux_succ (F : Nat) (c : Char) (r : List Char) :
    removeAlertAux (F + 1) (c :: r) =
      match alertAt (c :: r) with
      | some (_, t) => removeAlertAux F t
      | none => c :: removeAlertAux F r := by
  by_cases hc : Bridge.isWs c = true
  · simp only [removeAlertAux, alertAt, hc, if_true, List.dropWhile]
    show (match stripPrefixCI alertLit (r.dropWhile Bridge.isWs) with | some rest => _ | none => _) = _
    cases stripPrefixCI alertLit (r.dropWhile Bridge.isWs) <;> rfl
  · simp only [Bool.not_eq_true] at hc
    simp [removeAlertAux, alertAt, hc]

theorem removeAlertAux_nil (F : Nat) : removeAlertAux F [] = [] := by cases F <;> rfl

theorem nextAlert_none : ∀ (rest : List Char) (pos : Nat), nextAlert pos rest = none → ∀ F, removeAlertAux F rest = rest := by
  intro rest
  induction rest with
  | nil => intro _ _ F; exact removeAlertAux_nil F
  | cons c r ih =>
    intro pos h F
    cases F with
    | zero => rfl
    | succ F =>
      simp only [nextAlert] at h
      rw [removeAlertAux_succ]
      cases ha : alertAt (c :: r) with
      | some kt => rw [ha] at h; cases h
      | none =>
        rw [ha] at h
        simp only
        rw [ih (pos + 1) h F]

theorem nextAlert_spec : ∀ (rest : List Char) (pos p k : Nat) (t : List Char), nextAlert pos rest = some (p, k, t) →
    ∃ j, p = pos + j ∧ 0 < k ∧ j + k + t.length = rest.length ∧ rest.drop (j + k) = t ∧
      ∀ F, rest.length < F → ∃ F', t.length < F' ∧ removeAlertAux F rest = rest.take j ++ removeAlertAux F' t := by
  intro rest
  induction rest with
  | nil => intro pos p k t h; cases h
  | cons c r ih =>
    intro pos p k t h
    simp only [nextAlert] at h
    cases ha : alertAt (c :: r) with
    | some kt =>
      obtain ⟨k', t'⟩ := kt
      rw [ha] at h
      simp only [Option.some.injEq, Prod.mk.injEq] at h
      obtain ⟨rfl, rfl, rfl⟩ := h
      obtain ⟨h1, h2, h3⟩ := alertAt_spec _ _ _ ha
      refine ⟨0, rfl, h1, by omega, by simpa using h3, ?_⟩
      intro F hF
      obtain ⟨F0, rfl⟩ : ∃ F0, F = F0 + 1 := ⟨F - 1, by omega⟩
      refine ⟨F0, by simp only [List.length_cons] at hF h2; omega, ?_⟩
      rw [removeAlertAux_succ, ha]
      rfl
    | none =>
      rw [ha] at h
      obtain ⟨j, hp, hk, hl, hd, hF⟩ := ih (pos + 1) p k t h
      refine ⟨j + 1, by omega, hk, by simp only [List.length_cons]; omega, ?_, ?_⟩
      · rw [show j + 1 + k = (j + k) + 1 by omega, List.drop_succ_cons]; exact hd
      · intro F hlt
        obtain ⟨F0, rfl⟩ : ∃ F0, F = F0 + 1 := ⟨F - 1, by omega⟩
        obtain ⟨F', h1, h2⟩ := hF F0 (by simp only [List.length_cons] at hlt; omega)
        refine ⟨F', h1, ?_⟩
        rw [removeAlertAux_succ, ha]
        simp only [h2, List.take_succ_cons, List.cons_append]

theorem allMatches_alert (s : List Char) (fuel : Nat) : ∀ (L : Nat) (rest : List Char) (pos cnt N : Nat) (mustAdv : Bool),
    rest.length ≤ L → L < cnt → rest.length < N → s.drop pos = rest → alertRe.size + rest.length ≤ fuel →
    (∀ x ∈ rest, agreeWs x = true) →
    (allMatches true alertRe fuel cnt pos rest mustAdv).map (subBuild s [] pos) = some (removeAlertAux N rest) := by
  intro L
  induction L with
  | zero =>
    intro rest pos cnt N mustAdv hL hc hN hd hf hs
    have : rest = [] := List.length_eq_zero_iff.1 (by omega)
    subst this
    obtain ⟨n, rfl⟩ : ∃ n, cnt = n + 1 := ⟨cnt - 1, by omega⟩
    rw [allMatches, searchFrom_alert fuel [] pos mustAdv hf hs]
    simp [nextAlert, subBuild, hd, removeAlertAux_nil]
  | succ L ih =>
    intro rest pos cnt N mustAdv hL hc hN hd hf hs
    obtain ⟨n, rfl⟩ : ∃ n, cnt = n + 1 := ⟨cnt - 1, by omega⟩
    rw [allMatches, searchFrom_alert fuel rest pos mustAdv hf hs]
    cases hn : nextAlert pos rest with
    | none => simp [subBuild, hd, nextAlert_none rest pos hn N]
    | some pkt =>
      obtain ⟨p, k, t⟩ := pkt
      obtain ⟨j, hp, hk, hl, hdt, hF⟩ := nextAlert_spec rest pos p k t hn
      obtain ⟨F', hF1, hF2⟩ := hF N hN
      have hsd : s.drop (p + k) = t := by
        rw [hp, show pos + j + k = pos + (j + k) by omega, ← List.drop_drop, hd]; exact hdt
      have hrd : rest.drop (p + k - pos) = t := by
        rw [show p + k - pos = j + k by omega]; exact hdt
      have hne : (p + k == p) = false := by simp; omega
      have := ih t (p + k) n F' false (by omega) (by omega) hF1 hsd (by omega)
        (fun x hx => hs x (by rw [← hdt] at hx; exact List.mem_of_mem_drop hx))
      simp only [hrd, hne]
      cases ham : allMatches true alertRe fuel n (p + k) t false with
      | none => rw [ham] at this; cases this
      | some ms =>
        rw [ham] at this
        simp only [Option.map_some, Option.some.injEq] at this
        simp only [Option.map_some, subBuild, this, hF2, List.append_nil, Option.some.injEq]
        congr 1
        rw [Re.slice, hd, hp, Nat.add_sub_cancel_left]

/-- `re.sub(r'\s+Alert\.\s*', '', s, flags=re.IGNORECASE)` IS `removeAlert s`, on every subject of the class `agreeWs` -/
theorem sub_alert (s : List Char) (hs : ∀ x ∈ s, agreeWs x = true) :
    Re.pySub true ALERT_PATTERN [] s = some (removeAlert s) := by
  unfold Re.pySub Re.pyFinditer
  rw [parse_alert]
  simp only [List.contains_nil, Bool.false_eq_true, if_false]
  exact allMatches_alert s _ s.length s 0 (2 * s.length + 4) (s.length + 1) false (Nat.le_refl _) (by omega) (by omega) rfl
    (RegexPbn.fuel_ok _ _ _ (Nat.le_refl _)) hs

/-- … for every ASCII subject without U+001C..U+001F -/
theorem sub_alert_ascii (s : List Char) (hs : ∀ x ∈ s, x.toNat < 128 ∧ ¬ (0x1C ≤ x.toNat ∧ x.toNat ≤ 0x1F)) :
    Re.pySub true ALERT_PATTERN [] s = some (removeAlert s) :=
  sub_alert s fun x hx => agreeWs_ascii x (hs x hx).1 (hs x hx).2

/-- the restriction is necessary: U+001C is white space for `re` (`str.isspace`) and not for the scanner -/
example : Re.pySub true ALERT_PATTERN [] ['a', Char.ofNat 0x1C, 'A', 'l', 'e', 'r', 't', '.']
    ≠ some (removeAlert ['a', Char.ofNat 0x1C, 'A', 'l', 'e', 'r', 't', '.']) := by decide +kernel

end Bridge.RegexMsgBid
