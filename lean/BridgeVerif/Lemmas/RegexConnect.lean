import BridgeVerif.Lemmas.RegexConnectA
import BridgeVerif.Generated.PyCoreNet
/-!
# `Connecting "(.*)" as (.*) using protocol version (\d+)` (IGNORECASE) is the scanner of `parseConnect?`

The generic regular-expression engine of `Model/Regex.lean` (the one the translated
`PlayerThread.parse_connection_info` calls through `re.match`), run with `ic = true` on the pattern text the generated
method passes, captures EXACTLY the three texts the hand-written scanner of `Model/Msg.lean` (`parseConnect?`) computes —
for every subject string all of whose characters satisfy `agree`:

* the pattern's literal characters compare with the character the same way in the engine (`Re.charEq true`, the Unicode
  folding tables) and in the scanner (`eqCI`: ASCII lower-casing and the four specials), and
* `\d` (Unicode decimal digit) and the scanner's ASCII `isDigit` agree on it.

Every ASCII character satisfies `agree` (`agree_ascii`).  The restriction is necessary:
on `"… version ١٨"` (Arabic-Indic digits) `re.match` succeeds and the scanner does not.
-/
namespace Bridge.RegexConnect
open Bridge Bridge.Re Bridge.RegexPbn Bridge.RegexHands

/-- the pattern text of `parse_connection_info` -/
def CONNECT_PATTERN : List Char := "Connecting \"(.*)\" as (.*) using protocol version (\\d+)".toList

/-- it is literally what the generated method assigns to `pattern` and passes to `.reMatch` -/
theorem pattern_is_generated :
    Bridge.Generated.PyCore.m_PlayerThread_parse_connection_info.body.take 2 =
      [.assign (.var Bridge.Generated.PyCore.n_pattern) (.const (.str CONNECT_PATTERN)),
       .assign (.var Bridge.Generated.PyCore.n_match)
         (.builtin .reMatch [.var Bridge.Generated.PyCore.n_pattern, .var Bridge.Generated.PyCore.n_content,
           .const (.bool true), .const (.cls Bridge.Generated.PyCore.n__Match),
           .const (.int Bridge.Generated.PyCore.n_texts)])] := by
  -- the characters of a string literal, without decoding it
  rw [show CONNECT_PATTERN = _ from String.toList_ofList]
  rfl

def litA : List Char := "Connecting \"".toList
def litB : List Char := "\" as ".toList
def litC : List Char := " using protocol version ".toList

def connectRe : Re := lits litA (.seq (dotG 1) (lits litB (.seq (dotG 2) (lits litC (digG 3)))))

theorem parse_connect : Re.parse CONNECT_PATTERN = some connectRe := by
  rw [show CONNECT_PATTERN = _ from String.toList_ofList, connectRe, show litA = _ from String.toList_ofList,
    show litB = _ from String.toList_ofList, show litC = _ from String.toList_ofList]
  decide +kernel
theorem connectRe_ngroups : connectRe.ngroups = 3 := by
  simp only [connectRe, ngroups_lits, Re.ngroups]; rfl
theorem connectRe_simple : simple connectRe = true := by
  simp only [connectRe, simple_lits, simple]; rfl
theorem lits_ascii : (∀ c ∈ litA, c.toNat < 128) ∧ (∀ c ∈ litB, c.toNat < 128) ∧ ∀ c ∈ litC, c.toNat < 128 := by
  rw [show litA = _ from String.toList_ofList, show litB = _ from String.toList_ofList,
    show litC = _ from String.toList_ofList]
  decide

/-- the distinct literal characters of the pattern -/
def patChars : List Char := "Conectig \"asuprlv".toList

/-- the class of subject characters: engine and scanner treat it alike -/
def agree (x : Char) : Bool := agreeLit patChars x && (Re.isDigit x == Bridge.isDigit x)

theorem patChars_ascii : ∀ p ∈ patChars, p.toNat < 128 := by decide +kernel

/-- every ASCII character is in the class -/
theorem agree_ascii (x : Char) (h : x.toNat < 128) : agree x = true := by
  simp only [agree, agreeLit_of_ascii patChars patChars_ascii, isDigit_ascii x h, beq_self_eq_true, Bool.and_self]

/-! ### the three captured texts, as `parseConnect?` computes them -/
/-- the inner `g` of `parseConnect?`, copied -/
def connectTriple? (content : List Char) : Option (List Char × List Char × List Char) :=
  match stripPrefixCI "Connecting \"".toList content with
  | none => none
  | some r0 =>
      dotStar r0 fun team t1 => (stripPrefixCI "\" as ".toList t1).bind fun r1 =>
      dotStar r1 fun seat t2 => (stripPrefixCI " using protocol version ".toList t2).bind fun r2 =>
        let ds := r2.takeWhile Bridge.isDigit
        if ds = [] then none else some (team, seat, ds)

/-- `[team, seat text, digit text]` -/
def connectFields? (s : List Char) : Option (List (List Char)) :=
  (connectTriple? s).map fun x => [x.1, x.2.1, x.2.2]

/-- `parseConnect?` = the scanner skeleton, then `convert_formal_name(….capitalize())` and `int(…)` -/
theorem parseConnect_eq_triple (s : List Char) :
    parseConnect? s = (connectTriple? s).bind fun x =>
      match seatOfFormal? (capitalizeA x.2.1), decimal? x.2.2 with
      | some p, some v => some (x.1, p, v)
      | _, _ => none := by
  unfold parseConnect? connectTriple?
  cases stripPrefixCI "Connecting \"".toList s with
  | none => rfl
  | some r0 =>
    simp only
    split <;> rename_i h <;> rw [h] <;> rfl

/-- the scanner in the shape of the `Rel` framework -/
def scanC : List Char → Option (List (List Char)) := fun r => (stripPrefixCI litC r).bind digitsLast
def scanB : List Char → Option (List (List Char)) :=
  fun r => (stripPrefixCI litB r).bind fun r1 => dotStar r1 fun g t => (scanC t).map fun gs => g :: gs
def scanA : List Char → Option (List (List Char)) :=
  fun r => (stripPrefixCI litA r).bind fun r0 => dotStar r0 fun g t => (scanB t).map fun gs => g :: gs

theorem connectFields_eq_scan (s : List Char) : connectFields? s = scanA s := by
  unfold connectFields? connectTriple? scanA scanB scanC digitsLast
  show Option.map _ (match stripPrefixCI litA s with | none => none | some r0 => _) = _
  cases stripPrefixCI litA s with
  | none => rfl
  | some r0 =>
    simp only [dotStar_map, Option.map_bind, Function.comp_def]
    refine congrArg (dotStar r0) (funext fun team => funext fun t1 => congrArg (Option.bind _) (funext fun r1 => ?_))
    refine congrArg (dotStar r1) (funext fun seat => funext fun t2 => congrArg (Option.bind _) (funext fun r2 => ?_))
    show Option.map _ (if _ then _ else _) = Option.map _ (Option.map _ (if _ then _ else _))
    split <;> rfl

/-! ### the engine -/
protected theorem pyMatch_abs_ic (ic : Bool) (pat s : List Char) (re : Re) (hp : Re.parse pat = some re) (hs : simple re = true) :
    (Re.pyMatch ic pat s).map (Option.map (groupTexts s)) =
      absRes s (den ic re (kfin 0 false false) ⟨0, s, List.replicate re.ngroups none⟩) :=
  RegexHands.pyMatch_abs_ic ic pat s re hp hs

/-- THE REGULAR EXPRESSION IS THE SCANNER: for every subject whose characters are in the class `agree`,
`re.match(pattern, s, re.IGNORECASE)` matches iff the scanner of `parseConnect?` finds its three texts, and groups 1, 2, 3
are those texts -/
theorem match_connect (s : List Char) (hs : ∀ x ∈ s, agree x = true) :
    (Re.pyMatch true CONNECT_PATTERN s).map (Option.map (groupTexts s)) =
      some ((connectFields? s).map (·.map some)) := by
  have hdig : ∀ x ∈ s, Re.isDigit x = Bridge.isDigit x := fun x hx => by
    have := hs x hx; simp only [agree, Bool.and_eq_true] at this; exact eq_of_beq this.2
  rw [pyMatch_abs_ic true CONNECT_PATTERN s connectRe parse_connect connectRe_simple, connectRe_ngroups,
    connectFields_eq_scan]
  have r3 := rel_digits_last true s hdig 2
  have rC := rel_lits_ascii s 3 2 _ _ r3 litC lits_ascii.2.2
  have r2 := rel_dotStar true s 3 1 (by omega) _ _ rC
  have rB := rel_lits_ascii s 3 1 _ _ r2 litB lits_ascii.2.1
  have r1 := rel_dotStar true s 3 0 (by omega) _ _ rB
  have rA := rel_lits_ascii s 3 0 _ _ r1 litA lits_ascii.1
  have := rA 0 s (List.replicate 3 none) rfl rfl
  simp only [List.take_zero, List.nil_append] at this
  unfold connectRe
  rw [den_lits_fun, den_seq_fun, den_lits_fun, den_seq_fun, den_lits_fun]
  exact this

/-- … in particular for every ASCII subject -/
theorem match_connect_ascii (s : List Char) (hs : ∀ x ∈ s, x.toNat < 128) :
    (Re.pyMatch true CONNECT_PATTERN s).map (Option.map (groupTexts s)) =
      some ((connectFields? s).map (·.map some)) :=
  match_connect s fun x hx => agree_ascii x (hs x hx)

/-- the restriction is necessary: Arabic-Indic digits are `\d` for `re` but not for the scanner -/
example : (Re.pyMatch true CONNECT_PATTERN "Connecting \"A\" as north using protocol version ١٨".toList).map
      (Option.map (groupTexts "Connecting \"A\" as north using protocol version ١٨".toList)) ≠
    some ((connectFields? "Connecting \"A\" as north using protocol version ١٨".toList).map (·.map some)) := by
  rw [show "Connecting \"A\" as north using protocol version ١٨".toList = _ from String.toList_ofList,
    show CONNECT_PATTERN = _ from String.toList_ofList]
  decide +kernel

end Bridge.RegexConnect
