import BridgeVerif.Model.Regex
/-!
# A fuel-free denotation of the backtracking matcher on "simple" regular expressions  (R11, part A)

`den ic re k st` is what `Re.run ic fuel re st k` computes when every repetition in `re` is over a
one-character item (literal, `.`, class) and the fuel is at least `re.size + st.rest.length`.
-/
namespace Bridge.RegexPbn
open Bridge Bridge.Re

/-- the character test of a one-character regular expression -/
def charPred (ic : Bool) : Re → Option (Char → Bool)
  | .lit c => some (charEq ic c)
  | .any => some (fun x => x != '\n')
  | .cls neg items => some (fun x => classTest ic x items != neg)
  | _ => none

def isCharStep : Re → Bool
  | .lit _ | .any | .cls _ _ => true
  | _ => false

def mxOk : Option Nat → Nat → Bool
  | none, _ => true
  | some m, count => decide (count < m)

/-- backtracking: `alt` is tried when `r` failed -/
def orFail (r alt : Res St) : Res St :=
  match r with
  | .fail => alt
  | r => r

@[simp] theorem orFail_fail (a : Res St) : orFail .fail a = a := rfl
@[simp] theorem orFail_ok (s : St) (a : Res St) : orFail (.ok s) a = .ok s := rfl
@[simp] theorem orFail_oof (a : Res St) : orFail .oof a = .oof := rfl
theorem orFail_self_fail (r : Res St) : orFail r .fail = r := by cases r <;> rfl

/-- the MAX_UNTIL loop over a one-character item, by recursion on the subject -/
def repDen (p : Char → Bool) (mn : Nat) (mx : Option Nat) (k : St → Res St) (caps : Caps) :
    Nat → Nat → List Char → Res St
  | count, pos, [] => if count < mn then .fail else k ⟨pos, [], caps⟩
  | count, pos, x :: xs =>
    if count < mn then (if p x then repDen p mn mx k caps (count + 1) (pos + 1) xs else .fail)
    else if mxOk mx count then
      (if p x then
        orFail (repDen p mn mx k caps (count + 1) (pos + 1) xs) (k ⟨pos, x :: xs, caps⟩)
       else k ⟨pos, x :: xs, caps⟩)
    else k ⟨pos, x :: xs, caps⟩

def den (ic : Bool) : Re → (St → Res St) → St → Res St
  | .eps, k, st => k st
  | .lit c, k, st => stepChar (charEq ic c) st k
  | .any, k, st => stepChar (fun x => x != '\n') st k
  | .cls neg items, k, st => stepChar (fun x => classTest ic x items != neg) st k
  | .seq a b, k, st => den ic a (den ic b k) st
  | .alt a b, k, st =>
    orFail (den ic a k st) (den ic b k st)
  | .group i r, k, st =>
    den ic r (fun st' => k { st' with caps := setCap st'.caps i (st.pos, st'.pos) }) st
  | .rep mn mx r, k, st =>
    match charPred ic r with
    | some p => repDen p mn mx k st.caps 0 st.pos st.rest
    | none => .oof

def simple : Re → Bool
  | .eps | .lit _ | .any | .cls _ _ => true
  | .seq a b | .alt a b => simple a && simple b
  | .group _ r => simple r
  | .rep _ _ r => isCharStep r

theorem size_pos (re : Re) : 1 ≤ re.size := by
  cases re <;> simp only [Re.size] <;> try omega
  case rep mn mx r =>
    have : 1 * 1 ≤ (mn + 3) * (r.size + 1) := Nat.mul_le_mul (by omega) (by omega)
    omega

theorem charPred_of_step (ic : Bool) (r : Re) (h : isCharStep r = true) : ∃ p, charPred ic r = some p := by
  cases r <;> simp [isCharStep] at h <;> exact ⟨_, rfl⟩

theorem size_of_step (r : Re) (h : isCharStep r = true) : r.size = 1 := by
  cases r <;> simp [isCharStep] at h <;> rfl

theorem run_char (ic : Bool) (r : Re) (p : Char → Bool) (h : charPred ic r = some p) (f : Nat) (st : St)
    (k : St → Res St) : run ic (f + 1) r st k = stepChar p st k := by
  cases r <;> simp [charPred] at h <;> subst h <;> simp [run]

theorem loop_succ (ic : Bool) (f mn : Nat) (mx : Option Nat) (r : Re) (count : Nat) (last : Option Nat) (st : St)
    (k : St → Res St) :
    loop ic (f + 1) mn mx r count last st k =
      if count < mn then run ic f r st fun st' => loop ic f mn mx r (count + 1) last st' k
      else if (mxOk mx count && last != some st.pos) = true then
        orFail (run ic f r st fun st' => loop ic f mn mx r (count + 1) (some st.pos) st' k) (k st)
      else k st := by
  cases mx <;> simp only [loop, mxOk, orFail] <;> rfl

theorem loop_eq_repDen (ic : Bool) (r : Re) (p : Char → Bool) (h : charPred ic r = some p)
    (mn : Nat) (mx : Option Nat) (k : St → Res St) (caps : Caps) :
    ∀ (rest : List Char) (f count pos : Nat) (last : Option Nat), rest.length + 2 ≤ f →
      (∀ q, last = some q → q < pos) →
      loop ic f mn mx r count last ⟨pos, rest, caps⟩ k = repDen p mn mx k caps count pos rest := by
  intro rest
  induction rest with
  | nil =>
    intro f count pos last hf hl
    obtain ⟨f, rfl⟩ : ∃ f', f = f' + 2 := ⟨f - 2, by simp at hf; omega⟩
    have hne : (last != some pos) = true := by
      cases last with
      | none => rfl
      | some q => have := hl q rfl; simp; omega
    rw [show f + 2 = (f + 1) + 1 from rfl, loop_succ]
    simp only [run_char ic r p h, stepChar, repDen, hne, Bool.and_true]
    cases mx <;> simp [mxOk] <;> split <;> simp
  | cons x xs ih =>
    intro f count pos last hf hl
    obtain ⟨f, rfl⟩ : ∃ f', f = f' + 2 := ⟨f - 2, by simp at hf; omega⟩
    have hne : (last != some pos) = true := by
      cases last with
      | none => rfl
      | some q => have := hl q rfl; simp; omega
    have hf' : xs.length + 2 ≤ f + 1 := by simp at hf; omega
    have ih1 := ih (f + 1) (count + 1) (pos + 1) last hf'
      (fun q hq => by have := hl q hq; omega)
    have ih2 := ih (f + 1) (count + 1) (pos + 1) (some pos) hf'
      (fun q hq => by cases hq; omega)
    rw [show f + 2 = (f + 1) + 1 from rfl, loop_succ]
    simp only [run_char ic r p h, stepChar, repDen, hne, Bool.and_true, ih1, ih2]
    by_cases hp : p x = true <;> simp [hp]

theorem repDen_congr (p : Char → Bool) (mn : Nat) (mx : Option Nat) (k1 k2 : St → Res St) (caps : Caps) :
    ∀ (rest : List Char) (count pos : Nat),
      (∀ pos' rest', rest'.length ≤ rest.length → k1 ⟨pos', rest', caps⟩ = k2 ⟨pos', rest', caps⟩) →
      repDen p mn mx k1 caps count pos rest = repDen p mn mx k2 caps count pos rest := by
  intro rest
  induction rest with
  | nil => intro count pos hk; simp only [repDen, hk pos [] (Nat.le_refl _)]
  | cons x xs ih =>
    intro count pos hk
    have e := ih (count + 1) (pos + 1) (fun pos' rest' hr => hk pos' rest' (by simp; omega))
    simp only [repDen, e, hk pos (x :: xs) (Nat.le_refl _)]

theorem den_congr (ic : Bool) : ∀ (re : Re) (k1 k2 : St → Res St) (st : St),
    (∀ st' : St, st'.rest.length ≤ st.rest.length → k1 st' = k2 st') →
    den ic re k1 st = den ic re k2 st := by
  intro re
  induction re with
  | eps => intro k1 k2 st hk; exact hk st (Nat.le_refl _)
  | lit _ | any | cls _ _ =>
    intro k1 k2 st hk
    obtain ⟨pos, rest, caps⟩ := st
    cases rest with
    | nil => rfl
    | cons x xs => simp only [den, stepChar]; rw [hk _ (by simp)]
  | seq a b iha ihb =>
    intro k1 k2 st hk
    simp only [den]
    exact iha _ _ st (fun st' h' => ihb k1 k2 st' (fun st'' h'' => hk st'' (Nat.le_trans h'' h')))
  | alt a b iha ihb =>
    intro k1 k2 st hk
    simp only [den]
    rw [iha k1 k2 st hk, ihb k1 k2 st hk]
  | group i r ih =>
    intro k1 k2 st hk
    simp only [den]
    exact ih _ _ st (fun st' h' => hk _ h')
  | rep mn mx r _ =>
    intro k1 k2 st hk
    simp only [den]
    cases charPred ic r with
    | none => rfl
    | some p => exact repDen_congr p mn mx k1 k2 st.caps st.rest 0 st.pos (fun pos' rest' h' => hk ⟨pos', rest', st.caps⟩ h')

theorem run_eq_den (ic : Bool) : ∀ (re : Re), simple re = true → ∀ (f : Nat) (st : St) (k : St → Res St),
    re.size + st.rest.length ≤ f → run ic f re st k = den ic re k st := by
  intro re
  induction re with
  | eps | lit _ | any | cls _ _ =>
    intro _ f st k hf
    obtain ⟨f, rfl⟩ : ∃ f', f = f' + 1 := ⟨f - 1, by simp [Re.size] at hf; omega⟩
    simp [run, den]
  | seq a b iha ihb =>
    intro hs f st k hf
    simp only [simple, Bool.and_eq_true] at hs
    simp only [Re.size] at hf
    obtain ⟨f, rfl⟩ : ∃ f', f = f' + 1 := ⟨f - 1, by omega⟩
    simp only [run, den]
    rw [iha hs.1 f st _ (by omega)]
    exact den_congr ic a _ _ st (fun st' h' => ihb hs.2 f st' k (by omega))
  | alt a b iha ihb =>
    intro hs f st k hf
    simp only [simple, Bool.and_eq_true] at hs
    simp only [Re.size] at hf
    obtain ⟨f, rfl⟩ : ∃ f', f = f' + 1 := ⟨f - 1, by omega⟩
    simp only [run, den]
    rw [iha hs.1 f st k (by omega), ihb hs.2 f st k (by omega)]
    cases den ic a k st <;> rfl
  | group i r ih =>
    intro hs f st k hf
    simp only [simple] at hs
    simp only [Re.size] at hf
    obtain ⟨f, rfl⟩ : ∃ f', f = f' + 1 := ⟨f - 1, by omega⟩
    simp only [run, den]
    exact ih hs f st _ (by omega)
  | rep mn mx r _ =>
    intro hs f st k hf
    simp only [simple] at hs
    obtain ⟨p, hp⟩ := charPred_of_step ic r hs
    simp only [Re.size, size_of_step r hs] at hf
    obtain ⟨f, rfl⟩ : ∃ f', f = f' + 1 := ⟨f - 1, by omega⟩
    obtain ⟨pos, rest, caps⟩ := st
    simp only [run, den, hp]
    exact loop_eq_repDen ic r p hp mn mx k caps rest f 0 pos none (by simp at hf ⊢; omega) (by simp)

/-! ### `takeWhile` / `dropWhile` -/
theorem drop_tw {α : Type} (p : α → Bool) (l : List α) : l.drop (l.takeWhile p).length = l.dropWhile p := by
  conv => lhs; arg 2; rw [← List.takeWhile_append_dropWhile (p := p) (l := l)]
  exact List.drop_left

theorem take_length_takeWhile {α : Type} (p : α → Bool) (l : List α) : l.take (l.takeWhile p).length = l.takeWhile p := by
  conv => lhs; arg 2; rw [← List.takeWhile_append_dropWhile (p := p) (l := l)]
  exact List.take_left

theorem len_tw {α : Type} (p : α → Bool) (l : List α) : (l.takeWhile p).length + (l.dropWhile p).length = l.length := by
  rw [← List.length_append, List.takeWhile_append_dropWhile]

theorem takeWhile_len_le {α : Type} (p : α → Bool) (l : List α) : (l.takeWhile p).length ≤ l.length := by
  have := len_tw p l; omega

theorem mem_dw {α : Type} (p : α → Bool) (l : List α) (x : α) (h : x ∈ l.dropWhile p) : x ∈ l :=
  (List.dropWhile_sublist p).subset h

/-! ## greedy star -/
def star (p : Char → Bool) (k : St → Re.Res St) (caps : Caps) : Nat → List Char → Re.Res St
  | pos, [] => k ⟨pos, [], caps⟩
  | pos, x :: xs =>
    if p x then orFail (star p k caps (pos + 1) xs) (k ⟨pos, x :: xs, caps⟩) else k ⟨pos, x :: xs, caps⟩

theorem repDen_star (p : Char → Bool) (mn : Nat) (k : St → Re.Res St) (caps : Caps) :
    ∀ (rest : List Char) (count pos : Nat), mn ≤ count →
      repDen p mn none k caps count pos rest = star p k caps pos rest := by
  intro rest
  induction rest with
  | nil => intro count pos h; simp [repDen, star, Nat.not_lt.mpr h]
  | cons x xs ih =>
    intro count pos h
    simp [repDen, star, Nat.not_lt.mpr h, mxOk, ih (count + 1) (pos + 1) (by omega)]

theorem st_pos_congr (k : St → Re.Res St) (a b : Nat) (r : List Char) (c : Caps) (h : a = b) :
    k ⟨a, r, c⟩ = k ⟨b, r, c⟩ := by rw [h]

theorem star_of_fail_on_p (p : Char → Bool) (k : St → Re.Res St) (caps : Caps)
    (hk : ∀ pos' x xs, p x = true → k ⟨pos', x :: xs, caps⟩ = .fail) :
    ∀ (rest : List Char) (pos : Nat),
      star p k caps pos rest = k ⟨pos + (rest.takeWhile p).length, rest.drop (rest.takeWhile p).length, caps⟩ := by
  intro rest
  induction rest with
  | nil => intro pos; simp [star]
  | cons x xs ih =>
    intro pos
    by_cases hp : p x = true
    · simp only [star, hp, if_true, List.takeWhile_cons, ih, hk pos x xs hp, orFail_self_fail, List.length_cons,
        List.drop_succ_cons]
      exact st_pos_congr k _ _ _ _ (by omega)
    · simp [star, hp, List.takeWhile_cons]

theorem orFail_of_ne (r a : Re.Res St) (h : r ≠ .fail) : orFail r a = r := by
  cases r <;> simp_all

theorem star_greedy (p : Char → Bool) (k : St → Re.Res St) (caps : Caps) :
    ∀ (rest : List Char) (pos : Nat),
      k ⟨pos + (rest.takeWhile p).length, rest.drop (rest.takeWhile p).length, caps⟩ ≠ .fail →
      star p k caps pos rest = k ⟨pos + (rest.takeWhile p).length, rest.drop (rest.takeWhile p).length, caps⟩ := by
  intro rest
  induction rest with
  | nil => intro pos _; simp [star]
  | cons x xs ih =>
    intro pos hne
    by_cases hp : p x = true
    · simp only [hp, if_true, List.takeWhile_cons, List.length_cons, List.drop_succ_cons] at hne
      have e : pos + ((xs.takeWhile p).length + 1) = pos + 1 + (xs.takeWhile p).length := by omega
      rw [e] at hne
      simp only [star, hp, if_true, List.takeWhile_cons, List.length_cons, List.drop_succ_cons, e]
      rw [ih (pos + 1) hne]
      exact orFail_of_ne _ _ hne
    · simp [star, hp, List.takeWhile_cons]

/-- the fuel the entry points give is enough for `matchCore_eq_den` -/
theorem fuel_ok (re : Re) (n m : Nat) (h : m ≤ n) : re.size + m ≤ fuelFor re n := by
  unfold fuelFor
  have h1 : (re.size + 1) * (n + 2) = re.size * (n + 2) + (n + 2) := Nat.succ_mul _ _
  have h2 : re.size ≤ re.size * (n + 2) := Nat.le_mul_of_pos_right _ (by omega)
  omega

/-- the final continuation of `matchCore` -/
def kfin (pos : Nat) (full mustAdv : Bool) : St → Res St :=
  fun st => if (full && !st.rest.isEmpty) || (mustAdv && st.pos == pos) then .fail else .ok st

theorem matchCore_eq_den (ic : Bool) (re : Re) (hs : simple re = true) (fuel pos : Nat) (rest : List Char)
    (full mustAdv : Bool) (hf : re.size + rest.length ≤ fuel) :
    matchCore ic re fuel pos rest full mustAdv =
      match den ic re (kfin pos full mustAdv) ⟨pos, rest, List.replicate re.ngroups none⟩ with
      | .ok st => .ok { span := (pos, st.pos), groups := st.caps }
      | .fail => .fail
      | .oof => .oof := by
  unfold matchCore
  rw [run_eq_den ic re hs fuel _ _ hf]
  rfl

end Bridge.RegexPbn
