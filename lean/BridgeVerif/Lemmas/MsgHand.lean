import BridgeVerif.Lemmas.Msg
import BridgeVerif.Lemmas.Deal
/-! Helper lemmas for C19: the hand message. -/
namespace Bridge

/-! ### the literals of the hand pattern -/
theorem hand_lit_fail (X : Char) (rest : List Char) (hX0 : eqCI '.' X = false)
    (hX : ∀ c ∈ rest, eqCI X c = false) (d : Nat) (hd : 0 < d) :
    stripPrefixCI ['.', ' ', X, ' '] ((['.', ' ', X, ' '] ++ rest).drop d) = none := by
  have h1 : eqCI '.' ' ' = false := by decide
  match d, hd with
  | 1, _ => simp [stripPrefixCI, h1]
  | 2, _ => simp [stripPrefixCI, hX0]
  | 3, _ =>
    cases rest with
    | nil => simp [stripPrefixCI, h1]
    | cons a u => simp [stripPrefixCI, h1]
  | j + 4, _ =>
    show stripPrefixCI ['.', ' ', X, ' '] (rest.drop j) = none
    have hsub : ∀ c ∈ rest.drop j, eqCI X c = false := fun c hc => hX c (List.mem_of_mem_drop hc)
    generalize rest.drop j = u at hsub
    match u, hsub with
    | [], _ => rfl
    | [_], _ => simp [stripPrefixCI]
    | [_, _], _ => simp [stripPrefixCI]
    | a :: b :: c :: u, hsub => simp [stripPrefixCI, hsub c (by simp)]

/-! ### the characters of a suit field -/
def fieldChars : List Char := "23456789TJQKA?- ".toList

theorem fieldChars_facts : ∀ c ∈ fieldChars, c ≠ '\n' ∧ eqCI 'H' c = false ∧ eqCI 'D' c = false ∧
    eqCI 'C' c = false := by decide

theorem rankCh_mem (c : Card) : rankCh c ∈ "23456789TJQKA?".toList := by
  unfold rankCh rankChar?
  split <;> decide

/-- `' '.join(rs)` -/
def spaced : List Char → List Char
  | [] => []
  | [c] => [c]
  | c :: c' :: l => c :: ' ' :: spaced (c' :: l)

theorem intercalate_eq_spaced (rs : List Char) :
    List.intercalate [' '] (rs.map fun c => [c]) = spaced rs := by
  induction rs with
  | nil => rfl
  | cons c l ih =>
    cases l with
    | nil => rfl
    | cons c' l =>
      simp only [List.intercalate, List.map_cons, List.intersperse, List.flatten_cons] at ih ⊢
      simp only [spaced, List.cons_append, List.nil_append, List.cons.injEq, true_and]
      exact ih

theorem mem_spaced (rs : List Char) : ∀ x ∈ spaced rs, x = ' ' ∨ x ∈ rs := by
  induction rs with
  | nil => simp [spaced]
  | cons c l ih =>
    cases l with
    | nil => simp [spaced]
    | cons c' l =>
      intro x hx
      simp only [spaced, List.mem_cons] at hx ⊢
      rcases hx with rfl | rfl | hx
      · exact Or.inr (Or.inl rfl)
      · exact Or.inl rfl
      · rcases ih x hx with h | h
        · exact Or.inl h
        · simp only [List.mem_cons] at h
          exact Or.inr (Or.inr h)

theorem suitField_eq (hand : List Card) (su : Suit) :
    suitField hand su =
      if ((suitField.sortDescI hand).filter fun c => decide (c.suit = su)) = [] then ['-']
      else spaced (((suitField.sortDescI hand).filter fun c => decide (c.suit = su)).map rankCh) := by
  unfold suitField
  simp only [intercalate_eq_spaced, List.length_map, List.length_eq_zero_iff]

theorem suitField_chars (hand : List Card) (su : Suit) : ∀ x ∈ suitField hand su, x ∈ fieldChars := by
  intro x hx
  rw [suitField_eq] at hx
  split at hx
  · simp only [List.mem_singleton] at hx; subst hx; decide
  · rcases mem_spaced _ x hx with rfl | h
    · decide
    · simp only [List.mem_map] at h
      obtain ⟨c, _, rfl⟩ := h
      have := rankCh_mem c
      revert this
      generalize rankCh c = y
      intro hy
      have : ∀ z ∈ "23456789TJQKA?".toList, z ∈ fieldChars := by decide
      exact this y hy

/-! ### reading one suit field back -/
theorem splitSp_spaced (c : Char) (l : List Char) (h : ' ' ∉ c :: l) :
    splitSp (spaced (c :: l)) = (c :: l).map fun x => [x] := by
  induction l generalizing c with
  | nil =>
    have hc : c ≠ ' ' := fun hc => h (by simp [hc])
    simp [spaced, splitSp, hc]
  | cons c' l ih =>
    have hc : c ≠ ' ' := fun hc => h (by simp [hc])
    have ih' := ih c' (fun hm => h (List.mem_cons_of_mem _ hm))
    have h1 : splitSp (' ' :: spaced (c' :: l)) = [] :: splitSp (spaced (c' :: l)) := by
      simp [splitSp]
    have h2 : splitSp (c :: ' ' :: spaced (c' :: l)) =
        match splitSp (' ' :: spaced (c' :: l)) with
        | [] => [[c]]
        | a :: r => (c :: a) :: r := by
      simp [splitSp, hc]
    rw [spaced, h2, h1, ih']
    simp

theorem rank_facts : ∀ r, r < 15 → 2 ≤ r →
    rankOfChar? ((rankChar? r).getD '?') = some r ∧ (rankChar? r).getD '?' ≠ ' ' ∧
      (rankChar? r).getD '?' ≠ '-' := by decide

theorem card_facts {c : Card} (h : c.ok = true) :
    rankOfChar? (rankCh c) = some c.rank ∧ rankCh c ≠ ' ' ∧ rankCh c ≠ '-' ∧
      mkCard? c.rank c.suit = some c := by
  simp only [Card.ok, Bool.and_eq_true, decide_eq_true_eq] at h
  obtain ⟨⟨h1, h2⟩, h3⟩ := h
  obtain ⟨f1, f2, f3⟩ := rank_facts c.rank (by omega) h1
  refine ⟨f1, f2, f3, ?_⟩
  simp only [mkCard?, h3, if_false]
  rw [if_neg (by omega)]

theorem mapM_map_some {α β : Type} (f : β → Option α) (g : α → β) (l : List α)
    (h : ∀ x ∈ l, f (g x) = some x) : (l.map g).mapM f = some l := by
  induction l with
  | nil => rfl
  | cons x l ih =>
    rw [List.map_cons, List.mapM_cons, h x (by simp), ih fun y hy => h y (List.mem_cons_of_mem _ hy)]
    rfl

theorem cardsOfGroup_suitField (hand : List Card) (hok : ∀ c ∈ hand, c.ok = true) (su : Suit)
    (hperm : ∀ c ∈ suitField.sortDescI hand, c ∈ hand) :
    cardsOfGroup? (suitField hand su) su =
      some ((suitField.sortDescI hand).filter fun c => decide (c.suit = su)) := by
  rw [suitField_eq]
  generalize hL : ((suitField.sortDescI hand).filter fun c => decide (c.suit = su)) = L
  have hLok : ∀ c ∈ L, c.ok = true ∧ c.suit = su := by
    intro c hc
    rw [← hL, List.mem_filter] at hc
    exact ⟨hok c (hperm c hc.1), by simpa using hc.2⟩
  cases L with
  | nil => rfl
  | cons c l =>
    rw [if_neg (by simp)]
    have hsp : ' ' ∉ (c :: l).map rankCh := by
      intro hm
      obtain ⟨x, hx, hx'⟩ := List.mem_map.1 hm
      exact (card_facts (hLok x hx).1).2.1 hx'
    unfold cardsOfGroup?
    rw [List.map_cons] at hsp ⊢
    rw [splitSp_spaced _ _ hsp, ← List.map_cons, List.map_map]
    have hfil : (((c :: l).map ((fun x => [x]) ∘ rankCh)).filter fun t => decide (t ≠ ['-'])) =
        (c :: l).map ((fun x => [x]) ∘ rankCh) := by
      rw [List.filter_eq_self]
      intro t ht
      obtain ⟨x, hx, rfl⟩ := List.mem_map.1 ht
      have := (card_facts (hLok x hx).1).2.2.1
      simpa using this
    rw [hfil]
    apply mapM_map_some
    intro x hx
    obtain ⟨h1, h2⟩ := hLok x hx
    have hf := card_facts h1
    simp only [Function.comp, rankOfToken?, hf.1, Option.bind_some]
    rw [← h2]; exact hf.2.2.2

/-! ### sorting, partition by suit, duplicates -/
theorem insertD_perm (c : Card) (l : List Card) : (suitField.insertD c l).Perm (c :: l) := by
  induction l with
  | nil => simp [suitField.insertD]
  | cons d r ih =>
    simp only [suitField.insertD]
    split
    · exact List.Perm.refl _
    · exact (List.Perm.cons d ih).trans (List.Perm.swap c d r)

theorem sortDescI_perm (l : List Card) : (suitField.sortDescI l).Perm l := by
  induction l with
  | nil => exact List.Perm.refl _
  | cons c r ih => exact (insertD_perm c _).trans (List.Perm.cons c ih)

theorem msg_suit_partition (l : List Card) (h : ∀ c ∈ l, c.ok = true) :
    (l.filter (fun c => decide (c.suit = .S)) ++ l.filter (fun c => decide (c.suit = .H)) ++
      l.filter (fun c => decide (c.suit = .D)) ++ l.filter (fun c => decide (c.suit = .C))).Perm l := by
  simpa only [List.append_assoc] using suit_partition l h

theorem dedupC_of_nodup (l : List Card) (hn : l.Nodup) : dedupC l = l := by
  induction l with
  | nil => rfl
  | cons c r ih =>
    have hn' := List.nodup_cons.1 hn
    have : dedupC (c :: r) = if c ∈ dedupC r then dedupC r else c :: dedupC r := rfl
    rw [this, ih hn'.2, if_neg hn'.1]

/-! ### the whole hand -/
def handK4 (g1 g2 g3 g4 t4 : List Char) : Option (List (List Char)) :=
  (stripPrefixCI ['.'] t4).map fun _ => [g1, g2, g3, g4]
def handK3 (g1 g2 g3 t3 : List Char) : Option (List (List Char)) :=
  (stripPrefixCI ". C ".toList t3).bind fun r3 => dotStar r3 (handK4 g1 g2 g3)
def handK2 (g1 g2 t2 : List Char) : Option (List (List Char)) :=
  (stripPrefixCI ". D ".toList t2).bind fun r2 => dotStar r2 (handK3 g1 g2)
def handK1 (g1 t1 : List Char) : Option (List (List Char)) :=
  (stripPrefixCI ". H ".toList t1).bind fun r1 => dotStar r1 (handK2 g1)

theorem parseHand_eq (content : List Char) :
    parseHand? content =
      match stripPrefixCI "S ".toList content with
      | none => none
      | some r0 =>
        match dotStar r0 handK1 with
        | some [g1, g2, g3, g4] =>
          match cardsOfGroup? g1 .S, cardsOfGroup? g2 .H, cardsOfGroup? g3 .D, cardsOfGroup? g4 .C with
          | some a, some b, some c, some d => some (dedupC (a ++ b ++ c ++ d))
          | _, _, _, _ => none
        | _ => none := rfl

theorem hand_groups (f1 f2 f3 f4 : List Char) (h1 : ∀ x ∈ f1, x ∈ fieldChars)
    (h2 : ∀ x ∈ f2, x ∈ fieldChars) (h3 : ∀ x ∈ f3, x ∈ fieldChars) (h4 : ∀ x ∈ f4, x ∈ fieldChars) :
    dotStar (f1 ++ (". H ".toList ++ (f2 ++ (". D ".toList ++ (f3 ++ (". C ".toList ++ (f4 ++ ['.'])))))))
      handK1 = some [f1, f2, f3, f4] := by
  have nl : ∀ f : List Char, (∀ x ∈ f, x ∈ fieldChars) → '\n' ∉ f :=
    fun f hf hm => (fieldChars_facts _ (hf _ hm)).1 rfl
  have e4 : dotStar (f4 ++ (['.'] ++ [])) (handK4 f1 f2 f3) = some [f1, f2, f3, f4] := by
    apply dotStar_level ['.'] f4 [] _ (fun g t => (some [f1, f2, f3, g])) (fun g t => by
      simp only [handK4]; cases stripPrefixCI ['.'] t <;> rfl) (nl f4 h4)
    · intro d hd
      cases d with
      | zero => omega
      | succ d => simp [stripPrefixCI]
    · rfl
  have e3 : dotStar (f3 ++ (". C ".toList ++ (f4 ++ ['.']))) (handK3 f1 f2) = some [f1, f2, f3, f4] := by
    apply dotStar_level ". C ".toList f3 (f4 ++ ['.']) _ (fun g r3 => dotStar r3 (handK4 f1 f2 g))
      (fun g t => rfl) (nl f3 h3)
    · apply hand_lit_fail 'C' _ (by decide)
      intro c hc
      simp only [List.mem_append, List.mem_singleton] at hc
      rcases hc with hc | rfl
      · exact (fieldChars_facts c (h4 c hc)).2.2.2
      · decide
    · exact e4
  have e2 : dotStar (f2 ++ (". D ".toList ++ (f3 ++ (". C ".toList ++ (f4 ++ ['.'])))))
      (handK2 f1) = some [f1, f2, f3, f4] := by
    apply dotStar_level ". D ".toList f2 _ _ (fun g r => dotStar r (handK3 f1 g))
      (fun g t => rfl) (nl f2 h2)
    · apply hand_lit_fail 'D' _ (by decide)
      intro c hc
      simp only [List.mem_append, List.mem_singleton] at hc
      rcases hc with hc | hc | hc | rfl
      · exact (fieldChars_facts c (h3 c hc)).2.2.1
      · revert c; decide
      · exact (fieldChars_facts c (h4 c hc)).2.2.1
      · decide
    · exact e3
  apply dotStar_level ". H ".toList f1 _ _ (fun g r => dotStar r (handK2 g))
    (fun g t => rfl) (nl f1 h1)
  · apply hand_lit_fail 'H' _ (by decide)
    intro c hc
    simp only [List.mem_append, List.mem_singleton] at hc
    rcases hc with hc | hc | hc | hc | hc | rfl
    · exact (fieldChars_facts c (h2 c hc)).2.1
    · revert c; decide
    · exact (fieldChars_facts c (h3 c hc)).2.1
    · revert c; decide
    · exact (fieldChars_facts c (h4 c hc)).2.1
    · decide
  · exact e2

theorem handToStr_no_nl (hand : List Card) : ∀ x ∈ handToStr hand, x ≠ '\n' := by
  intro x hx
  simp only [handToStr, List.mem_append] at hx
  -- a character of one of the four fields, or of one of the literals between them
  rcases hx with (((((((hx | hx) | hx) | hx) | hx) | hx) | hx) | hx) | hx
  all_goals first | exact (fieldChars_facts x (suitField_chars hand _ x hx)).1 | (revert x; decide)

theorem parseCards_ok (name : List Char) (hand : List Card) :
    parseCards? (cardsMsg name hand) name = some (handToStr hand) := by
  unfold parseCards? cardsMsg
  rw [strip_self, Option.map_some]
  congr 1
  have := List.takeWhile_append_of_pos (p := fun x => decide (x ≠ '\n')) (l₁ := handToStr hand) (l₂ := [])
    (fun x hx => by simpa using handToStr_no_nl hand x hx)
  simpa using this

theorem parseHand_ok (hand : List Card) (hok : HandOK hand) :
    ∃ l, parseHand? (handToStr hand) = some l ∧ l.Perm hand := by
  obtain ⟨hn, hc⟩ := hok
  have hsort := sortDescI_perm hand
  have hmem : ∀ c ∈ suitField.sortDescI hand, c ∈ hand := fun c h => hsort.mem_iff.1 h
  have hg := hand_groups _ _ _ _ (suitField_chars hand .S) (suitField_chars hand .H)
    (suitField_chars hand .D) (suitField_chars hand .C)
  have hperm := (msg_suit_partition (suitField.sortDescI hand) (fun c h => hc c (hmem c h))).trans hsort
  refine ⟨_, ?_, hperm⟩
  rw [parseHand_eq]
  unfold handToStr
  simp only [List.append_assoc, strip_self, hg, cardsOfGroup_suitField hand hc _ hmem]
  rw [dedupC_of_nodup _ (by simpa only [List.append_assoc] using hperm.nodup_iff.2 hn)]

end Bridge
