import BridgeVerif.Spec.JsonLog
import BridgeVerif.Generated.Schemas
import BridgeVerif.Props.C14
import BridgeVerif.Props.C15
import BridgeVerif.Lemmas.Deal
import BridgeVerif.Lemmas.ContractText
import BridgeVerif.Lemmas.ListLemmas
/-!
# The JSON log / board-setting records: well-formedness and exact read-back (C12, C17 JSON half)
-/
namespace Bridge

/-! ### names, lookup of a member by its key, the members of the written records -/
theorem nodup_map_of_inj {α β : Type} (f : α → β) (hf : ∀ a b, f a = f b → a = b) (l : List α)
    (h : l.Nodup) : (l.map f).Nodup := by
  unfold List.Nodup at *
  rw [List.pairwise_map]
  exact h.imp fun hne e => hne (hf _ _ e)

theorem seat_name_inj : ∀ a b : Seat, a.name = b.name → a = b := by
  intro a b; cases a <;> cases b <;> simp [Seat.name]
theorem suit_name_inj : ∀ a b : Suit, a.name = b.name → a = b := by
  intro a b; cases a <;> cases b <;> simp [Suit.name]
theorem suitOfName_name (s : Suit) : suitOfName? s.name = some s := by cases s <;> rfl

theorem get_cons (k k' : List Char) (v : Json) (r : List (List Char × Json)) :
    (Json.obj ((k, v) :: r)).get? k' = if k = k' then some v else (Json.obj r).get? k' := by
  unfold Json.get?
  simp only [List.find?_cons]
  by_cases h : k = k'
  · simp [h]
  · have hb : (k == k') = false := beq_eq_false_iff_ne.2 h
    rw [hb, if_neg h]

theorem get_nil (k' : List Char) : (Json.obj []).get? k' = none := rfl

/-- the `i`-th member of an object with distinct keys, looked up by its key: `h` is closed by `rfl`, without
comparing keys -/
theorem get?_of_keys {j : Json} (hj : ∀ l, j.obj? = some l → (keysOf l).Nodup) (i : Nat) {k : List Char} {v : Json}
    (h : j.obj?.bind (·[i]?) = some (k, v)) : j.get? k = some v := by
  cases j with
  | obj l => exact find?_key_of_nodup (hj l rfl) (List.mem_of_getElem? h)
  | _ => cases h

theorem get?_append_of_not_mem (a b : List (List Char × Json)) (k : List Char) (h : k ∉ keysOf a) :
    (Json.obj (a ++ b)).get? k = (Json.obj b).get? k := by
  induction a with
  | nil => rfl
  | cons kv r ih =>
    obtain ⟨k', v'⟩ := kv
    rw [keysOf, List.map_cons, List.mem_cons, not_or] at h
    rw [List.cons_append, get_cons, if_neg (Ne.symm h.1), ih h.2]

/-- the optional last member `dda` of both records: given that the keys before it are distinct and `dda` is not
among them (one fact, `h`), the keys stay distinct and `dda` is found exactly when it was written -/
theorem ddaMember {j : Json} {a : List (List Char × Json)} {o : Option Dda}
    (hj : j = .obj (a ++ match o with | none => [] | some d => [(jkey "dda", ddaJson d)]))
    (h : (keysOf a ++ [jkey "dda"]).Nodup) :
    (∀ l, j.obj? = some l → (keysOf l).Nodup) ∧ j.get? (jkey "dda") = o.map ddaJson := by
  obtain ⟨ha, -, hd⟩ := List.nodup_append.1 h
  subst hj
  rw [get?_append_of_not_mem _ _ _ fun hm => hd _ hm _ List.mem_cons_self rfl]
  refine ⟨?_, by cases o <;> rfl⟩
  rintro l ⟨⟩
  cases o with
  | none => rwa [List.append_nil]
  | some d => rwa [keysOf, List.map_append]

theorem logJson_members (e : LogEntry) :
    (∀ l, (logJson e).obj? = some l → (keysOf l).Nodup) ∧ (logJson e).get? (jkey "dda") = e.dda.map ddaJson :=
  ddaMember rfl (by simp only [keysOf, List.map_cons, List.map_nil]; decide +kernel)

theorem settingJson_members (e : SettingEntry) :
    (∀ l, (settingJson e).obj? = some l → (keysOf l).Nodup) ∧
      (settingJson e).get? (jkey "dda") = e.dda.map ddaJson :=
  ddaMember rfl (by simp only [keysOf, List.map_cons, List.map_nil]; decide +kernel)

/-! ### well-formedness of the written records -/
theorem wfElems_map {α : Type} (f : α → Json) (l : List α) :
    wfElems (l.map f) = l.all fun x => (f x).wf := by
  induction l with
  | nil => simp [wfElems]
  | cons a r ih => simp [wfElems, ih]

theorem wfMembers_map {α : Type} (f : α → List Char × Json) (l : List α) :
    wfMembers (l.map f) = l.all fun x => (f x).2.wf := by
  induction l with
  | nil => simp [wfMembers]
  | cons a r ih =>
    rw [List.map_cons, List.all_cons, ← ih]
    cases h : f a with
    | mk k v => simp [wfMembers]

theorem wf_strs {α : Type} (f : α → List Char) (l : List α) : (Json.arr (l.map fun x => jstr (f x))).wf = true := by
  simp [Json.wf, wfElems_map, jstr]

theorem dealJson_wf (h : Hands) : (dealJson h).wf = true := by
  simp [dealJson, Json.wf, wfMembers, wfElems_map, jstr, keysOf, jkey]

theorem ddaJson_wf (d : Dda) (h : DdaWF d) : (ddaJson d).wf = true := by
  obtain ⟨h1, h2⟩ := h
  simp only [ddaJson, Json.wf, wfMembers_map, Bool.and_eq_true, List.all_eq_true, decide_eq_true_eq, keysOf,
    List.map_map]
  refine ⟨?_, ?_⟩
  · intro row hrow
    refine ⟨by simp, ?_⟩
    have := nodup_map_of_inj Suit.name suit_name_inj _ (h2 row hrow)
    simpa [List.map_map, Function.comp_def] using this
  · have := nodup_map_of_inj Seat.name seat_name_inj _ h1
    simpa [List.map_map, Function.comp_def] using this

theorem trickJson_wf (t : Trick) : (trickJson t).wf = true := by
  simp [trickJson, Json.wf, wfMembers, wfElems_map, jstr, keysOf, jkey]

theorem wfMembers_append (a b : List (List Char × Json)) : wfMembers (a ++ b) = (wfMembers a && wfMembers b) := by
  induction a with
  | nil => rfl
  | cons kv r ih => rw [List.cons_append, wfMembers, wfMembers, ih, Bool.and_assoc]

theorem declarerJson_wf (b : Bool) (s : Str) : (if b then Json.null else jstr s).wf = true := by cases b <;> rfl

theorem tricksJson_wf (t : Option Int) : (match t with | none => Json.null | some n => .int n).wf = true := by
  cases t <;> rfl

theorem playJson_wf (p : Option (List Trick)) :
    (match p with | none => Json.null | some ts => .arr (ts.map trickJson)).wf = true := by
  cases p with
  | none => rfl
  | some ts => simp [Json.wf, wfElems_map, trickJson_wf]

theorem ddaMember_wf (o : Option Dda) : (∀ d, o = some d → DdaWF d) →
    wfMembers (match o with | none => [] | some d => [(jkey "dda", ddaJson d)]) = true := by
  intro h
  cases o with
  | none => rfl
  | some d => simp only [wfMembers, ddaJson_wf d (h d rfl), Bool.and_self]

theorem logJson_wf (e : LogEntry) (h : e.WF) : (logJson e).wf = true := by
  have hk := (logJson_members e).1 _ rfl
  rw [logJson, Json.wf, wfMembers_append]
  refine Bool.and_eq_true_iff.2 ⟨Bool.and_eq_true_iff.2 ⟨?_, ddaMember_wf _ h.dda⟩, decide_eq_true hk⟩
  simp only [wfMembers, Bool.and_eq_true]
  exact ⟨rfl, rfl, rfl, dealJson_wf _, rfl, wf_strs _ _, rfl, declarerJson_wf _ _, playJson_wf _, tricksJson_wf _,
    rfl, rfl, trivial⟩

theorem settingJson_wf (e : SettingEntry) (h : e.WF) : (settingJson e).wf = true := by
  have hk := (settingJson_members e).1 _ rfl
  rw [settingJson, Json.wf, wfMembers_append]
  refine Bool.and_eq_true_iff.2 ⟨Bool.and_eq_true_iff.2 ⟨?_, ddaMember_wf _ h.dda⟩, decide_eq_true hk⟩
  simp only [wfMembers, Bool.and_eq_true]
  exact ⟨rfl, rfl, dealJson_wf _, rfl, trivial⟩

/-! ### the parser on the written records -/
theorem strToCard_cardStr (c : Card) (h : c.ok = true) : strToCard? (cardStr c) = some c :=
  C15.card_str_round_trip c (mem_deck_of_ok h)

theorem strToCall_callStr (c : Call) : strToCall? (callStr c) = some c :=
  C15.bid_str_round_trip c (C15.calls_complete.2 c)

theorem strToVul_vulStr (v : Vul) : strToVul? (vulStr v) = some v := by cases v <;> decide

theorem sideOfName_NS : sideOfName? (jkey "NS") = some .NS := by decide
theorem sideOfName_EW : sideOfName? (jkey "EW") = some .EW := by decide

theorem handOfJsonVal_deal (h : Hands) (hw : HandsWF h) (p : Seat) :
    handOfJsonVal? (.arr ((dealToJson h p).map jstr)) = some (sortAsc (h p)) := by
  have hp := sortAsc_perm (h p)
  have h1 : ((dealToJson h p).map jstr).mapM Json.str? = some (dealToJson h p) :=
    mapM_map_some_json jstr Json.str? _ fun _ _ => rfl
  simp only [handOfJsonVal?, h1, Option.bind_some]
  rw [handOfJson?, dealToJson, mapM_strToCard _ fun c hc => (hw p).2 c (hp.mem_iff.1 hc)]
  simp only [Option.map_some]
  rw [dedup_of_nodup _ (hp.nodup_iff.2 (hw p).1)]

theorem handsOfJson_dealJson (h : Hands) (hw : HandsWF h) :
    handsOfJson? (dealJson h) = some fun p => sortAsc (h p) := by
  have e : (fun p : Seat => match p with
      | .N => sortAsc (h .N) | .E => sortAsc (h .E) | .S => sortAsc (h .S) | .W => sortAsc (h .W)) =
      fun p => sortAsc (h p) := by funext p; cases p <;> rfl
  simp [handsOfJson?, dealJson, get_cons, jkey, handOfJsonVal_deal h hw]
  exact e

theorem ddaOfJson_ddaJson (d : Dda) : ddaOfJson? (ddaJson d) = some d := by
  simp only [ddaOfJson?, ddaJson]
  apply mapM_map_some_json
  rintro ⟨p, row⟩ _
  simp [seatOfName_name, Json.obj?]
  rw [mapM_eq_map _ id, List.map_id]
  · rfl
  · rintro ⟨s, n⟩ _
    simp [suitOfKey?, suitOfName_name]

theorem strToContract_contractStr (c : Contract) (h : c.isPassedOut = true → c.declarer = none) :
    strToContract? (contractStr c) c.vul c.declarer = some c.norm := by
  obtain ⟨fb, x, xx, v, d⟩ := c
  cases fb with
  | none =>
    cases (h rfl : d = none)
    rfl
  | some b => exact strToContract?_contractStr_bid b x xx v d

theorem trickOfJson_trickJson (t : Trick) (h : ∀ c ∈ t.cards, c.ok = true) :
    trickOfJson? (trickJson t) = some t := by
  have : (t.cards.map fun c => jstr (cardStr c)).mapM (fun c => c.str?.bind strToCard?) = some t.cards :=
    mapM_map_some_json _ _ _ fun c hc => by simp [jstr, Json.str?, strToCard_cardStr c (h c hc)]
  simp [trickOfJson?, trickJson, get_cons, jkey, jstr, Json.str?, Json.arr?, seatOfName_name] at this ⊢
  simp [this]

theorem settingOfJson_of_members (j : Json) (id : Str) (dealer : Seat) (hands : Hands) (v : Vul) (o : Option Dda)
    (hw : HandsWF hands) (h1 : j.get? (jkey "board_id") = some (jstr id))
    (h2 : j.get? (jkey "dealer") = some (jstr dealer.name)) (h3 : j.get? (jkey "deal") = some (dealJson hands))
    (h4 : j.get? (jkey "vulnerability") = some (jstr (vulStr v))) (h5 : j.get? (jkey "dda") = o.map ddaJson) :
    settingOfJson? j = some ⟨id, dealer, fun p => sortAsc (hands p), v, o⟩ := by
  rw [settingOfJson?, h1, h2, h3, h4, h5]
  cases o <;>
    simp [jstr, Json.str?, seatOfName_name, strToVul_vulStr, handsOfJson_dealJson hands hw, ddaOfJson_ddaJson]

theorem settingOfJson_settingJson (e : SettingEntry) (h : e.WF) :
    settingOfJson? (settingJson e) = some e.readBack :=
  have get := get?_of_keys (settingJson_members e).1
  settingOfJson_of_members _ _ _ _ _ _ h.hands (get 0 rfl) (get 1 rfl) (get 2 rfl) (get 3 rfl) (settingJson_members e).2

theorem settingOfJson_logJson (e : LogEntry) (h : e.WF) : settingOfJson? (logJson e) = some e.setting :=
  have get := get?_of_keys (logJson_members e).1
  settingOfJson_of_members _ _ _ _ _ _ h.hands (get 1 rfl) (get 2 rfl) (get 3 rfl) (get 4 rfl) (logJson_members e).2

theorem str_str (s : List Char) : (Json.str s).str? = some s := rfl
theorem seatOfName_lits : seatOfName? ['N'] = some .N ∧ seatOfName? ['E'] = some .E ∧
    seatOfName? ['S'] = some .S ∧ seatOfName? ['W'] = some .W := ⟨rfl, rfl, rfl, rfl⟩
theorem sideOfName_lits : sideOfName? ['N', 'S'] = some .NS ∧ sideOfName? ['E', 'W'] = some .EW := by decide

theorem logOfJson_logJson (e : LogEntry) (h : e.WF) : logOfJson? (logJson e) = some e.readBack := by
  have get := get?_of_keys (logJson_members e).1
  have hbids : (e.bids.map fun c => Json.str (callStr c)).mapM (fun b => b.str?.bind strToCall?) = some e.bids :=
    mapM_map_some_json _ _ _ fun c _ => by simp [Json.str?, strToCall_callStr]
  have hplay : ∀ ts, e.play = some ts → (ts.map trickJson).mapM trickOfJson? = some ts := fun ts hts =>
    mapM_map_some_json _ _ _ fun t ht => trickOfJson_trickJson t (h.play ts hts t ht)
  have hc := strToContract_contractStr e.contract h.noDeclarer
  -- members by position: 0 players, 5 bid_history, 6 contract, 7 declarer, 8 play_history, 9 taken_trick,
  -- 10 score_type, 11 scores
  rw [logOfJson?, settingOfJson_logJson e h, get 7 rfl, get 6 rfl, get 9 rfl, get 0 rfl, get 5 rfl, get 8 rfl,
    get 10 rfl, get 11 rfl]
  cases hpo : e.contract.isPassedOut
  case' false => obtain ⟨p, hdp⟩ := Option.isSome_iff_exists.1 (h.declarer hpo)
  case' true => have hdp := h.noDeclarer hpo
  all_goals
    rw [hdp] at hc
    cases hp : e.play <;> cases ht : e.tricks <;>
      simp only [LogEntry.setting, LogEntry.readBack, jstr, jkey, seatOptStr, String.reduceToList, hpo, hdp, hp, ht,
        hc, hbids, hplay, str_str, seatOfName_lits, seatOfName_name, sideOfName_lits, Bool.false_eq_true, ↓reduceIte,
        Option.pure_def, Option.bind_eq_bind, Option.bind_some, Option.bind_none, Option.map_some, List.mapM_cons,
        List.mapM_nil]

theorem Contract.norm_fields (c : Contract) (h : c.isPassedOut = true → c.declarer = none) :
    c.norm.finalBid = c.finalBid ∧ c.norm.dbl = (if c.isPassedOut then Dbl.none else c.dbl) ∧ c.norm.vul = c.vul ∧
      c.norm.declarer = c.declarer := by
  obtain ⟨fb, x, xx, v, d⟩ := c
  cases fb with
  | none => cases (h rfl : d = none); exact ⟨rfl, rfl, rfl, rfl⟩
  | some b => exact ⟨rfl, by cases x <;> cases xx <;> rfl, rfl, rfl⟩

/-- what "exactly as written" means field by field.  The doubling status of a passed-out contract is read back as
`Dbl.none` whatever the two stored flags were (the text `Passed_out` does not carry them). -/
theorem readBack_fields (e : LogEntry) (h : e.WF) :
    let r := e.readBack
    r.boardId = e.boardId ∧ r.dealer = e.dealer ∧ r.vul = e.contract.vul ∧ (∀ p, (r.hands p).Perm (e.deal p)) ∧
    r.bids = some e.bids ∧ r.contract.finalBid = e.contract.finalBid ∧
    r.contract.dbl = (if e.contract.isPassedOut then Dbl.none else e.contract.dbl) ∧
    r.contract.vul = e.contract.vul ∧ r.contract.declarer = e.contract.declarer ∧ r.declarer = e.contract.declarer ∧
    r.play = e.play ∧ r.tricks = e.tricks ∧ r.scoreType = some e.scoring.value ∧
    r.scores = some [(.NS, e.scoreNS), (.EW, e.scoreEW)] ∧ r.dda = e.dda ∧
    r.players = some [(.N, e.north), (.E, e.east), (.S, e.south), (.W, e.west)] := by
  obtain ⟨h1, h2, h3, h4⟩ := e.contract.norm_fields h.noDeclarer
  refine ⟨rfl, rfl, rfl, fun p => sortAsc_perm _, rfl, h1, h2, h3, h4, ?_, rfl, rfl, rfl, rfl, rfl, rfl⟩
  show (if e.contract.isPassedOut then none else e.contract.declarer) = e.contract.declarer
  cases hpo : e.contract.isPassedOut with
  | false => rfl
  | true => exact (h.noDeclarer hpo).symm

/-- the statement with `r.contract.dbl = e.contract.dbl` holds when a passed-out contract carries no doubling flag -/
theorem readBack_fields_of_flags (e : LogEntry) (h : e.WF)
    (hf : e.contract.isPassedOut = true → e.contract.x = false ∧ e.contract.xx = false) :
    let r := e.readBack
    r.boardId = e.boardId ∧ r.dealer = e.dealer ∧ r.vul = e.contract.vul ∧ (∀ p, (r.hands p).Perm (e.deal p)) ∧
    r.bids = some e.bids ∧ r.contract.finalBid = e.contract.finalBid ∧ r.contract.dbl = e.contract.dbl ∧
    r.contract.vul = e.contract.vul ∧ r.contract.declarer = e.contract.declarer ∧ r.declarer = e.contract.declarer ∧
    r.play = e.play ∧ r.tricks = e.tricks ∧ r.scoreType = some e.scoring.value ∧
    r.scores = some [(.NS, e.scoreNS), (.EW, e.scoreEW)] ∧ r.dda = e.dda ∧
    r.players = some [(.N, e.north), (.E, e.east), (.S, e.south), (.W, e.west)] := by
  obtain ⟨h1, h2, h3, h4, h5, h6, h7, h8⟩ := readBack_fields e h
  refine ⟨h1, h2, h3, h4, h5, h6, ?_, h8⟩
  rw [h7]
  cases hpo : e.contract.isPassedOut with
  | false => simp
  | true =>
    obtain ⟨hx, hxx⟩ := hf hpo
    simp [Contract.dbl, hx, hxx]

/-- the counterexample to the unconditional `r.contract.dbl = e.contract.dbl` : passed out with the `x` flag set -/
def readBackCex : LogEntry where
  boardId := []
  north := []
  east := []
  south := []
  west := []
  dealer := .N
  deal := fun _ => []
  scoring := .MP
  bids := []
  contract := ⟨none, true, false, .none, none⟩
  play := none
  tricks := none
  scoreNS := 0
  scoreEW := 0
  dda := none

theorem readBackCex_wf : readBackCex.WF := by
  constructor <;> simp [readBackCex, HandsWF, Contract.isPassedOut]

theorem readBackCex_dbl : readBackCex.readBack.contract.dbl ≠ readBackCex.contract.dbl := by decide

/-! ### schema conformance -/
theorem validateItems_map {α : Type} (s : Schema) (f : α → Json) (l : List α) :
    validateItems (.some s) (l.map f) = l.all fun x => validate s (f x) := by
  induction l with
  | nil => simp [validateItems]
  | cons a r ih => simp [validateItems, ih]

theorem validateProps_cons_of (k : List Char) (s : Schema) (rest : SProps) (l : List (List Char × Json))
    (h1 : ∀ v, lookupKey k l = some v → validate s v = true) (h2 : validateProps rest l = true) :
    validateProps (.cons k s rest) l = true := by
  simp only [validateProps, h2, Bool.and_true]
  split
  · rename_i v hv; exact h1 v hv
  · rfl

theorem lookupKey_eq_get? (k : List Char) (l : List (List Char × Json)) : lookupKey k l = (Json.obj l).get? k := by
  induction l with
  | nil => rfl
  | cons kv r ih =>
    obtain ⟨k', v⟩ := kv
    simp only [lookupKey, get_cons, ih, beq_iff_eq]

theorem validateProps_cons_get {j : Json} {l : List (List Char × Json)} (hj : j.obj? = some l) {k : List Char}
    {v : Json} (hv : j.get? k = some v) {s : Schema} (h1 : validate s v = true) {rest : SProps}
    (h2 : validateProps rest l = true) : validateProps (.cons k s rest) l = true := by
  cases j <;> cases hj
  refine validateProps_cons_of k s rest l (fun v' hv' => ?_) h2
  rw [lookupKey_eq_get?, hv] at hv'
  cases hv'
  exact h1

/-- an object against an object schema; `j` may be any term that unfolds to an object (`hj` is `rfl`) -/
theorem validate_object {j : Json} {l : List (List Char × Json)} (hj : j.obj? = some l) {props : SProps}
    {required : List (List Char)} (hreq : required.all (fun k => (j.get? k).isSome) = true)
    (hprops : validateProps props l = true) : validate (.mk [.object] props required .none) j = true := by
  cases j <;> cases hj
  simp [validate, JType.accepts, hreq, hprops, lookupKey_eq_get?]

theorem lookupKey_map_some {α : Type} (k : List Char) (f : α → List Char × Json) (l : List α) (v : Json)
    (h : lookupKey k (l.map f) = some v) : ∃ x ∈ l, v = (f x).2 := by
  rw [lookupKey_eq_get?, Json.get?, Option.map_eq_some_iff] at h
  obtain ⟨kv, hkv, rfl⟩ := h
  obtain ⟨x, hx, rfl⟩ := List.mem_map.1 (List.mem_of_find?_eq_some hkv)
  exact ⟨x, hx, rfl⟩

theorem lookupKey_map_isSome {α : Type} (f : α → List Char × Json) (l : List α) (x : α) (hx : x ∈ l) :
    (lookupKey (f x).1 (l.map f)).isSome = true := by
  rw [lookupKey_eq_get?, Json.get?, Option.isSome_map, List.find?_isSome]
  exact ⟨f x, List.mem_map_of_mem hx, beq_self_eq_true _⟩

abbrev strS : Schema := Schema.mk [.string] .nil [] .none
abbrev intS : Schema := Schema.mk [.integer] .nil [] .none
abbrev strArrS : Schema := Schema.mk [.array] .nil [] (.some strS)

theorem validate_strS (s : List Char) : validate strS (.str s) = true := by
  simp [validate, JType.accepts]
theorem validate_intS (n : Int) : validate intS (.int n) = true := by
  simp [validate, JType.accepts]
theorem validate_strArrS {α : Type} (f : α → List Char) (l : List α) :
    validate strArrS (.arr (l.map fun x => Json.str (f x))) = true := by
  simp [validate, JType.accepts, validateItems_map]

abbrev dealS : Schema :=
  Schema.mk [.object] (.cons "N".toList strArrS (.cons "E".toList strArrS (.cons "S".toList strArrS
    (.cons "W".toList strArrS .nil)))) ["N".toList, "E".toList, "S".toList, "W".toList] .none

theorem validate_dealS (h : Hands) : validate dealS (dealJson h) = true := by
  simp [validate, JType.accepts, validateProps, validateItems_map, lookupKey, dealJson, jkey, jstr]

abbrev rowS : Schema :=
  Schema.mk [.object] (.cons "C".toList intS (.cons "D".toList intS (.cons "H".toList intS (.cons "S".toList intS
    (.cons "NT".toList intS .nil))))) ["C".toList, "D".toList, "H".toList, "S".toList, "NT".toList] .none

theorem validate_rowS (row : List (Suit × Int)) (hc : ∀ s ∈ Suit.all, s ∈ row.map (·.1)) :
    validate rowS (.obj (row.map fun (s, v) => (s.name, Json.int v))) = true := by
  have hi : ∀ k v, lookupKey k (row.map fun (x : Suit × Int) => (x.1.name, Json.int x.2)) = some v →
      validate intS v = true := by
    intro k v hv
    obtain ⟨x, _, rfl⟩ := lookupKey_map_some _ _ _ _ hv
    exact validate_intS _
  have hr : ∀ s : Suit, (lookupKey s.name (row.map fun (x : Suit × Int) => (x.1.name, Json.int x.2))).isSome = true := by
    intro s
    have hs : s ∈ Suit.all := by cases s <;> decide
    obtain ⟨x, hx, rfl⟩ := List.mem_map.1 (hc s hs)
    exact lookupKey_map_isSome (fun (x : Suit × Int) => (x.1.name, Json.int x.2)) row x hx
  refine validate_object rfl ?_ ?_
  · simp only [List.all_cons, List.all_nil, ← lookupKey_eq_get?, Bool.and_true, Bool.and_eq_true]
    exact ⟨hr .C, hr .D, hr .H, hr .S, hr .NT⟩
  · repeat' apply validateProps_cons_of
    all_goals first | exact hi _ | simp [validateProps]

abbrev ddaS : Schema :=
  Schema.mk [.object] (.cons "N".toList rowS (.cons "E".toList rowS (.cons "S".toList rowS
    (.cons "W".toList rowS .nil)))) [] .none

theorem validate_ddaS (d : Dda) (hc : DdaComplete d) : validate ddaS (ddaJson d) = true := by
  have hi : ∀ k v, lookupKey k (d.map fun (x : Seat × List (Suit × Int)) =>
      (x.1.name, Json.obj (x.2.map fun (s, v) => (s.name, Json.int v)))) = some v → validate rowS v = true := by
    intro k v hv
    obtain ⟨x, hx, rfl⟩ := lookupKey_map_some _ _ _ _ hv
    exact validate_rowS x.2 (hc x hx)
  refine validate_object (j := ddaJson d) rfl rfl ?_
  repeat' apply validateProps_cons_of
  all_goals first | exact hi _ | simp [validateProps]

abbrev playersS : Schema :=
  Schema.mk [.object] (.cons "N".toList strS (.cons "E".toList strS (.cons "S".toList strS
    (.cons "W".toList strS .nil)))) [] .none
abbrev trickS : Schema :=
  Schema.mk [.object] (.cons "leader".toList strS (.cons "cards".toList strArrS .nil)) [] .none
abbrev scoresS : Schema :=
  Schema.mk [.object] (.cons "NS".toList intS (.cons "EW".toList intS .nil)) [] .none

/-- the schema of one log record -/
abbrev logItemS : Schema :=
  Schema.mk [.object]
    (.cons "players".toList playersS
    (.cons "board_id".toList strS
    (.cons "dealer".toList strS
    (.cons "deal".toList dealS
    (.cons "vulnerability".toList strS
    (.cons "bid_history".toList strArrS
    (.cons "contract".toList strS
    (.cons "declarer".toList (Schema.mk [.string, .null] .nil [] .none)
    (.cons "play_history".toList (Schema.mk [.array, .null] .nil [] (.some trickS))
    (.cons "taken_trick".toList (Schema.mk [.integer, .null] .nil [] .none)
    (.cons "score_type".toList strS
    (.cons "scores".toList scoresS
    (.cons "dda".toList ddaS .nil)))))))))))))
    ["board_id".toList, "dealer".toList, "deal".toList, "vulnerability".toList, "declarer".toList,
      "contract".toList, "taken_trick".toList] .none

/-- the schema of one board-setting record -/
abbrev settingItemS : Schema :=
  Schema.mk [.object]
    (.cons "board_id".toList strS
    (.cons "dealer".toList strS
    (.cons "deal".toList dealS
    (.cons "vulnerability".toList strS
    (.cons "dda".toList ddaS .nil)))))
    ["board_id".toList, "dealer".toList, "deal".toList, "vulnerability".toList] .none

/-- the generated schema terms, structured -/
theorem logSchema_eq : Generated.logSchema =
    Schema.mk [.object] (.cons "logs".toList (Schema.mk [.array] .nil [] (.some logItemS)) .nil) [] .none := rfl
theorem settingSchema_eq : Generated.settingSchema =
    Schema.mk [.object] (.cons "board_settings".toList (Schema.mk [.array] .nil [] (.some settingItemS)) .nil) []
      .none := rfl

theorem validate_playersS (a b c d : List Char) :
    validate playersS (.obj [(jkey "N", jstr a), (jkey "E", jstr b), (jkey "S", jstr c), (jkey "W", jstr d)]) = true := by
  simp [validate, JType.accepts, validateProps, lookupKey, jkey, jstr]

theorem validate_trickS (t : Trick) : validate trickS (trickJson t) = true := by
  simp [validate, JType.accepts, validateProps, validateItems_map, lookupKey, trickJson, jkey, jstr]

theorem validate_scoresS (a b : Int) :
    validate scoresS (.obj [(jkey "NS", .int a), (jkey "EW", .int b)]) = true := by
  simp [validate, JType.accepts, validateProps, lookupKey, jkey]

theorem validate_declarer (b : Bool) (s : List Char) :
    validate (Schema.mk [.string, .null] .nil [] .none) (if b then .null else jstr s) = true := by
  cases b <;> simp [validate, JType.accepts, jstr]

theorem validate_play (p : Option (List Trick)) :
    validate (Schema.mk [.array, .null] .nil [] (.some trickS))
      (match p with | none => .null | some ts => .arr (ts.map trickJson)) = true := by
  cases p with
  | none => simp [validate, JType.accepts]
  | some ts =>
    have := validate_trickS
    simp [validate, JType.accepts, validateItems_map] at this ⊢
    intro t _
    exact this t

theorem validate_tricks (t : Option Int) :
    validate (Schema.mk [.integer, .null] .nil [] .none) (match t with | none => .null | some n => .int n) = true := by
  cases t <;> simp [validate, JType.accepts]

theorem validate_ddaMember (o : Option Dda) (hc : ∀ d, o = some d → DdaComplete d) (v : Json)
    (hv : o.map ddaJson = some v) : validate ddaS v = true := by
  cases o with
  | none => cases hv
  | some d => cases hv; exact validate_ddaS d (hc d rfl)

theorem validate_logItem (e : LogEntry) (hc : ∀ d, e.dda = some d → DdaComplete d) :
    validate logItemS (logJson e) = true := by
  have get := get?_of_keys (logJson_members e).1
  have cons := @validateProps_cons_get (logJson e) _ rfl
  refine validate_object rfl ?_ ?_
  · simp only [List.all_cons, List.all_nil, Bool.and_true, Bool.and_eq_true]
    have req := fun i {k v} h => Option.isSome_of_eq_some (get i (k := k) (v := v) h)
    exact ⟨req 1 rfl, req 2 rfl, req 3 rfl, req 4 rfl, req 7 rfl, req 6 rfl, req 9 rfl⟩
  · refine cons (get 0 rfl) (validate_playersS _ _ _ _) <| cons (get 1 rfl) (validate_strS _) <|
      cons (get 2 rfl) (validate_strS _) <| cons (get 3 rfl) (validate_dealS _) <|
      cons (get 4 rfl) (validate_strS _) <| cons (get 5 rfl) (validate_strArrS _ _) <|
      cons (get 6 rfl) (validate_strS _) <| cons (get 7 rfl) (validate_declarer _ _) <|
      cons (get 8 rfl) (validate_play _) <| cons (get 9 rfl) (validate_tricks _) <|
      cons (get 10 rfl) (validate_strS _) <| cons (get 11 rfl) (validate_scoresS _ _) <|
      validateProps_cons_of _ _ _ _ (fun v hv => ?_) (by rw [validateProps])
    rw [lookupKey_eq_get?] at hv
    exact validate_ddaMember e.dda hc v ((logJson_members e).2 ▸ hv)

theorem validate_settingItem (e : SettingEntry) (hc : ∀ d, e.dda = some d → DdaComplete d) :
    validate settingItemS (settingJson e) = true := by
  have get := get?_of_keys (settingJson_members e).1
  have cons := @validateProps_cons_get (settingJson e) _ rfl
  refine validate_object rfl ?_ ?_
  · simp only [List.all_cons, List.all_nil, Bool.and_true, Bool.and_eq_true]
    have req := fun i {k v} h => Option.isSome_of_eq_some (get i (k := k) (v := v) h)
    exact ⟨req 0 rfl, req 1 rfl, req 2 rfl, req 3 rfl⟩
  · refine cons (get 0 rfl) (validate_strS _) <| cons (get 1 rfl) (validate_strS _) <|
      cons (get 2 rfl) (validate_dealS _) <| cons (get 3 rfl) (validate_strS _) <|
      validateProps_cons_of _ _ _ _ (fun v hv => ?_) (by rw [validateProps])
    rw [lookupKey_eq_get?] at hv
    exact validate_ddaMember e.dda hc v ((settingJson_members e).2 ▸ hv)

theorem validate_doc {α : Type} (tag : String) (item : Schema) (f : α → Json) (l : List α)
    (h : ∀ x ∈ l, validate item (f x) = true) :
    validate (Schema.mk [.object] (.cons tag.toList (Schema.mk [.array] .nil [] (.some item)) .nil) [] .none)
      (.obj [(jkey tag, .arr (l.map f))]) = true := by
  simp [validate, validateProps, lookupKey, jkey, JType.accepts, validateItems_map]
  exact h

/-- every log document conforms to the published log schema (complete double-dummy rows, as the schema requires) -/
theorem validate_logDoc (es : List LogEntry)
    (hc : ∀ e ∈ es, ∀ d, e.dda = some d → DdaComplete d ∧ DdaWF d) :
    validate Generated.logSchema (logDoc es) = true := by
  rw [logSchema_eq]
  exact validate_doc "logs" logItemS logJson es fun e he => validate_logItem e fun d hd => (hc e he d hd).1

theorem validate_settingsDoc (es : List SettingEntry)
    (hc : ∀ e ∈ es, ∀ d, e.dda = some d → DdaComplete d ∧ DdaWF d) :
    validate Generated.settingSchema (settingsDoc es) = true := by
  rw [settingSchema_eq]
  exact validate_doc "board_settings" settingItemS settingJson es fun e he =>
    validate_settingItem e fun d hd => (hc e he d hd).1

end Bridge
