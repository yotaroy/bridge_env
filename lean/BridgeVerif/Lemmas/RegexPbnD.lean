import BridgeVerif.Lemmas.RegexPbnC
/-!
# `"[^"]*"|[ \t\r\n]+` under `finditer`, spliced by `subJoin`, is `collapseWs`  (R11, part D)
-/
namespace Bridge.RegexPbn
open Bridge Bridge.Re

def Avos (pos : Nat) (rest : Str) : Option MatchObj :=
  match rest with
  | [] => none
  | c :: r =>
    if c = '"' then
      (match r.drop (r.takeWhile (· ≠ '"')).length with
        | '"' :: _ => some ⟨(pos, pos + (r.takeWhile (· ≠ '"')).length + 2), []⟩
        | _ => none)
    else if isPbnWs c then some ⟨(pos, pos + 1 + (r.takeWhile isPbnWs).length), []⟩
    else none

theorem den_vos_nil (k : St → Re.Res St) (pos : Nat) : den false vosRe k ⟨pos, [], []⟩ = .fail := by
  simp [vosRe, notqC, wsC, den_alt, den_seq, den_lit_nil, den_rep_cls, repDen_plus]

theorem anchored_vos (fuel : Nat) : Anchored vosRe fuel Avos where
  core := by
    intro pos rest mustAdv hf
    rw [matchCore_eq_den false vosRe rfl fuel pos rest false mustAdv hf]
    show (match den false vosRe (kfin pos false mustAdv) ⟨pos, rest, []⟩ with
      | .ok st => .ok { span := (pos, st.pos), groups := st.caps }
      | .fail => .fail
      | .oof => .oof : Re.Res MatchObj) = _
    cases rest with
    | nil => rw [den_vos_nil]; rfl
    | cons c r =>
      rw [den_vos]
      unfold Avos
      by_cases hc : c = '"'
      · subst hc
        simp only [if_true]
        generalize (r.takeWhile (fun x => decide (x ≠ '"'))).length = n
        cases hd : r.drop n with
        | nil => rfl
        | cons y ys =>
          by_cases hy : y = '"'
          · subst hy
            have hne : ¬ (pos + n + 2 = pos) := by omega
            simp [kfin, hne]
          · simp [hy]
      · simp only [hc, if_false]
        by_cases hw : isPbnWs c = true
        · simp only [hw, if_true]
          have hne : ¬ (pos + 1 + (r.takeWhile isPbnWs).length = pos) := by omega
          have hk : kfin pos false mustAdv ⟨pos + 1 + (r.takeWhile isPbnWs).length,
              r.drop (r.takeWhile isPbnWs).length, []⟩ = .ok ⟨pos + 1 + (r.takeWhile isPbnWs).length,
              r.drop (r.takeWhile isPbnWs).length, []⟩ := by simp [kfin, hne]
          rw [star_greedy isPbnWs _ [] r (pos + 1) (by rw [hk]; simp), hk]
        · simp [hw]
  span := by
    intro pos rest m h
    unfold Avos at h
    split at h
    · cases h
    · rename_i c r
      have l2 := takeWhile_len_le isPbnWs r
      split at h
      · split at h
        · rename_i y ys hd
          have hl := congrArg List.length hd
          simp only [List.length_drop, List.length_cons] at hl
          cases h
          refine ⟨rfl, ?_, ?_⟩ <;> simp only [List.length_cons] <;> omega
        · cases h
      · split at h
        · cases h
          refine ⟨rfl, ?_, ?_⟩ <;> simp only [List.length_cons] <;> omega
        · cases h

theorem take_len_succ (a : Str) (x : Char) (b : Str) : (a ++ x :: b).take (a.length + 1) = a ++ [x] := by
  induction a with
  | nil => simp
  | cons y ys ih => simpa using ih
theorem drop_len_succ (a : Str) (x : Char) (b : Str) : (a ++ x :: b).drop (a.length + 1) = b := by
  induction a with
  | nil => simp
  | cons y ys ih => simpa using ih

/-- the replacement text of one match -/
def pieceOf (rest : Str) (a b : Nat) : Str :=
  if ((rest.drop a).take b).head? = some '"' then (rest.drop a).take b else [' ']

theorem collapse_nomatch (f pos : Nat) (c : Char) (r : Str) (h : Avos pos (c :: r) = none) :
    collapseWs (f + 1) (c :: r) = c :: collapseWs f r := by
  unfold Avos at h
  simp only at h
  by_cases hc : c = '"'
  · subst hc
    simp only [if_true] at h
    simp only [collapseWs, if_true]
    cases hd : r.drop (r.takeWhile (fun x => decide (x ≠ '"'))).length with
    | nil => rfl
    | cons y ys =>
      rw [hd] at h
      by_cases hy : y = '"'
      · subst hy; simp at h
      · simp [hy]
  · simp only [hc, if_false] at h
    by_cases hw : isPbnWs c = true
    · simp [hw] at h
    · simp [collapseWs, hc, hw]

theorem nextVos_collapse : ∀ (rest : Str) (pos f2 : Nat), rest.length + 1 ≤ f2 →
    (nextM Avos rest pos = none → collapseWs f2 rest = rest) ∧
    (∀ m, nextM Avos rest pos = some m → ∃ f2', (rest.drop (m.span.2 - pos)).length + 1 ≤ f2' ∧
      collapseWs f2 rest = rest.take (m.span.1 - pos) ++ pieceOf rest (m.span.1 - pos) (m.span.2 - m.span.1)
        ++ collapseWs f2' (rest.drop (m.span.2 - pos))) := by
  intro rest
  induction rest with
  | nil =>
    intro pos f2 h
    obtain ⟨f, rfl⟩ : ∃ f, f2 = f + 1 := ⟨f2 - 1, by omega⟩
    simp [collapseWs, nextM, Avos]
  | cons c r ih =>
    intro pos f2 h
    obtain ⟨f, rfl⟩ : ∃ f, f2 = f + 1 := ⟨f2 - 1, by omega⟩
    simp only [List.length_cons] at h
    simp only [nextM]
    cases hA : Avos pos (c :: r) with
    | none =>
      simp only
      rw [collapse_nomatch f pos c r hA]
      obtain ⟨ih1, ih2⟩ := ih (pos + 1) f (by omega)
      refine ⟨fun hn => by rw [ih1 hn], ?_⟩
      intro m hm
      obtain ⟨f2', h1, h2⟩ := ih2 m hm
      have hs := nextM_span (anchored_vos 0) r (pos + 1) m hm
      have e1 : m.span.1 - pos = (m.span.1 - (pos + 1)) + 1 := by omega
      have e2 : m.span.2 - pos = (m.span.2 - (pos + 1)) + 1 := by omega
      refine ⟨f2', ?_, ?_⟩
      · rw [e2, List.drop_succ_cons]; exact h1
      · rw [e1, e2, List.drop_succ_cons, List.take_succ_cons, h2]
        simp only [pieceOf, List.drop_succ_cons, List.cons_append]
    | some m0 =>
      simp only [reduceCtorEq, false_imp_iff, Option.some.injEq, true_and]
      intro m hm
      subst hm
      unfold Avos at hA
      simp only at hA
      by_cases hc : c = '"'
      · subst hc
        simp only [if_true] at hA
        have hr := takeWhile_append_drop (fun x => decide (x ≠ '"')) r
        simp only [collapseWs, if_true]
        generalize hval : r.takeWhile (fun x => decide (x ≠ '"')) = val at hA hr
        cases hd : r.drop val.length with
        | nil => rw [hd] at hA; simp at hA
        | cons y ys =>
          rw [hd] at hA hr
          by_cases hy : y = '"'
          · subst hy
            simp only [Option.some.injEq] at hA
            subst hA
            have e1 : pos + val.length + 2 - pos = val.length + 1 + 1 := by omega
            simp only [Nat.sub_self, e1, List.take_zero, List.nil_append, List.drop_succ_cons, pieceOf, List.drop_zero,
              List.take_succ_cons, List.head?_cons, if_true]
            rw [← hr, take_len_succ, drop_len_succ]
            refine ⟨f, ?_, by simp⟩
            have := congrArg List.length hr
            simp at this
            omega
          · simp [hy] at hA
      · simp only [hc, if_false] at hA
        by_cases hw : isPbnWs c = true
        · simp only [hw, if_true, Option.some.injEq] at hA
          subst hA
          have e1 : pos + 1 + (r.takeWhile isPbnWs).length - pos = (r.takeWhile isPbnWs).length + 1 := by omega
          have hc' : ¬ (c = '"') := hc
          simp only [Nat.sub_self, e1, List.take_zero, List.nil_append, List.drop_succ_cons, pieceOf, List.drop_zero,
            List.take_succ_cons, List.head?_cons, collapseWs, hc, hw, if_true, if_false, Option.some.injEq,
            drop_tw]
          refine ⟨f, ?_, by simp⟩
          have := takeWhile_len_le isPbnWs r
          rw [← drop_tw]
          simp only [List.length_drop]
          omega
        · simp [hw] at hA


theorem allM_vos_join (s : Str) : ∀ (cnt : Nat) (rest : Str) (pos f2 : Nat), rest.length + 1 ≤ cnt →
    rest.length + 1 ≤ f2 → s.drop pos = rest →
    subJoin s pos (allM Avos cnt pos rest) = collapseWs f2 rest := by
  intro cnt
  induction cnt with
  | zero => intro rest pos f2 h; omega
  | succ k ih =>
    intro rest pos f2 hc hf hs
    obtain ⟨h1, h2⟩ := nextVos_collapse rest pos f2 hf
    simp only [allM]
    cases hm : nextM Avos rest pos with
    | none => simp only [subJoin]; rw [h1 hm, hs]
    | some m =>
      obtain ⟨f2', hf2', hcw⟩ := h2 m hm
      have hsp := nextM_span (anchored_vos 0) rest pos m hm
      have hd1 : s.drop m.span.1 = rest.drop (m.span.1 - pos) := drop_of_drop s rest pos _ hs hsp.1
      have hd2 : s.drop m.span.2 = rest.drop (m.span.2 - pos) := drop_of_drop s rest pos _ hs (by omega)
      simp only [subJoin, slice]
      rw [ih (rest.drop (m.span.2 - pos)) m.span.2 f2' (by simp only [List.length_drop]; omega) hf2' hd2, hcw, hs]
      simp only [hd1, pieceOf]

theorem sub_value_or_space_proof (s : Str) :
    (Re.pyFinditer false VALUE_OR_SPACE_PATTERN s).map (subJoin s 0) = some (collapseWs (s.length + 1) s) := by
  unfold pyFinditer
  rw [parse_vos]
  simp only
  rw [allMatches_eq (anchored_vos _) _ s 0 false (by omega) (fuel_ok _ _ _ (Nat.le_refl _))]
  simp only [Option.map_some]
  rw [allM_vos_join s _ s 0 (s.length + 1) (by omega) (Nat.le_refl _) rfl]

/-- every match of a pattern with an `Anchored` description is non-empty and inside the subject -/
theorem allM_spans {re : Re} {fuel : Nat} {A : Nat → Str → Option MatchObj} (hA : Anchored re fuel A) :
    ∀ (cnt : Nat) (rest : Str) (pos : Nat) (m : MatchObj), m ∈ allM A cnt pos rest →
      pos ≤ m.span.1 ∧ m.span.1 < m.span.2 ∧ m.span.2 ≤ pos + rest.length := by
  intro cnt
  induction cnt with
  | zero => intro rest pos m h; simp [allM] at h
  | succ k ih =>
    intro rest pos m h
    simp only [allM] at h
    cases hm : nextM A rest pos with
    | none => rw [hm] at h; simp at h
    | some m0 =>
      rw [hm] at h
      have hs := nextM_span hA rest pos m0 hm
      simp only [List.mem_cons] at h
      cases h with
      | inl h => subst h; exact hs
      | inr h =>
        have := ih _ _ m h
        simp only [List.length_drop] at this
        omega

/-- the matches of `_VALUE_OR_SPACE_PATTERN` are never empty (so `m.group(0)[0]` is defined) -/
theorem sub_matches_nonempty (s : Str) (ms : List MatchObj)
    (h : Re.pyFinditer false VALUE_OR_SPACE_PATTERN s = some ms) :
    ∀ m ∈ ms, Re.slice s m.span.1 m.span.2 ≠ [] := by
  unfold pyFinditer at h
  rw [parse_vos] at h
  simp only at h
  rw [allMatches_eq (anchored_vos _) _ s 0 false (by omega) (fuel_ok _ _ _ (Nat.le_refl _))] at h
  simp only [Option.some.injEq] at h
  subst h
  intro m hm
  have hs := allM_spans (anchored_vos 0) _ s 0 m hm
  intro he
  have := congrArg List.length he
  simp only [slice, List.length_take, List.length_drop, List.length_nil] at this
  omega

end Bridge.RegexPbn
