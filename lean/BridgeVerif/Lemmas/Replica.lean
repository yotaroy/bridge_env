import BridgeVerif.Spec.Replica
import BridgeVerif.Lemmas.SessionC08
import BridgeVerif.Lemmas.Deal
import BridgeVerif.Props.C06
import BridgeVerif.Props.C11a
import BridgeVerif.Props.C19
/-! Helper lemmas for C11 (protocol half): the table manager's and the clients' reading of a board's messages. -/
namespace Bridge

/-! ## the auction -/

/-- every call text parses, for the seat on turn, to the decided call (`TextsConform.calls` from call number `j`) -/
def CallTexts (dealer : Seat) (j : Nat) (l : List (Call × Text)) : Prop :=
  ∀ i (h : i < l.length), parseBid? (preprocessBid l[i].2) (dealer.rot (j + i)).formal = some l[i].1

theorem callTexts_cons {dealer : Seat} {j : Nat} {c : Call} {t : Text} {l : List (Call × Text)}
    (h : CallTexts dealer j ((c, t) :: l)) :
    parseBid? (preprocessBid t) (dealer.rot j).formal = some c ∧ CallTexts dealer (j + 1) l := by
  refine ⟨h 0 (by simp), fun i hi => ?_⟩
  have := h (i + 1) (by simp; omega)
  simpa [Nat.add_assoc, Nat.add_comm 1 i] using this

theorem callTexts_of_conform {b : BoardSetting} {d : Decisions} (ht : TextsConform b d) :
    CallTexts b.dealer 0 d.calls := fun i h => by simpa using ht.calls i h

theorem callTexts_take {dealer : Seat} {l : List (Call × Text)} (h : CallTexts dealer 0 l) (k : Nat) :
    CallTexts dealer 0 (l.take k) := by
  intro i hi
  have := h i (by rw [List.length_take] at hi; omega)
  simpa [List.getElem_take] using this

theorem serverCalls_of_parse (dealer : Seat) : ∀ (l : List (Call × Text)) (j : Nat), CallTexts dealer j l →
    serverCalls dealer j l = some (l.map (·.1)) := by
  intro l
  induction l with
  | nil => intro j _; rfl
  | cons x rest ih =>
    intro j h
    obtain ⟨c, text⟩ := x
    obtain ⟨h0, hr⟩ := callTexts_cons h
    simp [serverCalls, h0, ih _ hr]

theorem clientCalls_of_parse (p dealer : Seat) : ∀ (l : List (Call × Text)) (j : Nat), CallTexts dealer j l →
    clientCalls p dealer j l = some (l.map (·.1)) := by
  intro l
  induction l with
  | nil => intro j _; rfl
  | cons x rest ih =>
    intro j h
    obtain ⟨c, text⟩ := x
    obtain ⟨h0, hr⟩ := callTexts_cons h
    rw [clientCalls]
    split <;> simp [h0, ih _ hr]

theorem serverCalls_conform (b : BoardSetting) (d : Decisions) (ht : TextsConform b d) :
    serverCalls b.dealer 0 d.calls = some (d.calls.map (·.1)) :=
  serverCalls_of_parse _ _ 0 (callTexts_of_conform ht)

theorem clientCalls_conform (b : BoardSetting) (d : Decisions) (ht : TextsConform b d) (p : Seat) (k : Nat) :
    ∃ cs, clientCalls p b.dealer 0 (d.calls.take k) = some cs ∧
          serverCalls b.dealer 0 (d.calls.take k) = some cs ∧
          auctionAfter b cs = auctionAfter b ((d.calls.take k).map (·.1)) :=
  ⟨(d.calls.take k).map (·.1), clientCalls_of_parse p b.dealer _ 0 (callTexts_take (callTexts_of_conform ht) k),
    serverCalls_of_parse b.dealer _ 0 (callTexts_take (callTexts_of_conform ht) k), rfl⟩

theorem client_contract (b : BoardSetting) (d : Decisions) (ht : TextsConform b d) (p : Seat) :
    ∃ cs, clientCalls p b.dealer 0 d.calls = some cs ∧
      (auctionAfter b cs).contract = contractOfCalls b (d.calls.map (·.1)) :=
  ⟨d.calls.map (·.1), clientCalls_of_parse p _ _ 0 (callTexts_of_conform ht), rfl⟩

/-! ## the play -/

/-- every text parses, for the seat on turn, to the decided card (`TextsConform.cards` from an arbitrary state) -/
def CardTexts (s : PState) (l : List (Card × Text)) : Prop :=
  ∀ j (h : j < l.length), parseCard? l[j].2 (runPlay s ((l.take j).map (·.1))).active = some l[j].1

theorem cardTexts_nil (s : PState) : CardTexts s [] := by
  intro j h; simp at h

theorem cardTexts_cons (s : PState) (c : Card) (t : Text) (rest : List (Card × Text)) :
    CardTexts s ((c, t) :: rest) ↔ (parseCard? t s.active = some c ∧ CardTexts (playCard s c) rest) := by
  constructor
  · intro h
    refine ⟨h 0 (by simp), ?_⟩
    intro j hj
    have := h (j + 1) (by simp; omega)
    simpa using this
  · rintro ⟨h1, h2⟩ j hj
    cases j with
    | zero => simpa using h1
    | succ j =>
      have := h2 j (by simpa using hj)
      simpa using this

theorem playsAccepted_cons (w : WithHands) (c : Card) (cs : List Card) :
    playsAccepted w (c :: cs) =
      match w.play c w.base.active with
      | .ok w' => playsAccepted w' cs
      | .error _ => none := by
  unfold playsAccepted
  rw [List.foldlM_cons]
  cases w.play c w.base.active <;> rfl

theorem serverPlay_eq_playsAccepted : ∀ (l : List (Card × Text)) (w : WithHands), CardTexts w.base l →
    serverPlay w l = playsAccepted w (l.map (·.1)) := by
  intro l
  induction l with
  | nil => intro w _; rfl
  | cons x rest ih =>
    intro w h
    obtain ⟨c, t⟩ := x
    obtain ⟨h1, h2⟩ := (cardTexts_cons _ _ _ _).1 h
    rw [List.map_cons, playsAccepted_cons]
    cases hp : w.play c w.base.active with
    | error e => simp [serverPlay, h1, hp]
    | ok w1 =>
      have hb := play_base _ _ _ _ hp
      simp only [serverPlay, h1, hp, Option.bind_eq_bind, Option.bind_some]
      exact ih w1 (by rw [hb]; exact h2)

theorem cardTexts_of_conform (b : BoardSetting) (d : Decisions) (ht : TextsConform b d)
    (w0 : WithHands) (hw : WithHands.init (boardContract b d) b.deal = some w0) : CardTexts w0.base d.cards := by
  obtain ⟨s0, hs, rfl⟩ := withHands_init_some hw
  exact ht.cards s0 hs

theorem serverPlay_conform (b : BoardSetting) (d : Decisions) (ht : TextsConform b d) (hp : ConformingPlay b d)
    (w0 : WithHands) (hw : WithHands.init (boardContract b d) b.deal = some w0) :
    serverPlay w0 d.cards = playsAccepted w0 (d.cards.map (·.1)) ∧ (serverPlay w0 d.cards).isSome = true := by
  have h := serverPlay_eq_playsAccepted d.cards w0 (cardTexts_of_conform b d ht w0 hw)
  exact ⟨h, by rw [h]; exact (conformingPlay_some hp hw).2⟩

/-- the client of seat `p` follows the table manager card by card -/
theorem clientPlay_follows (p decl : Seat) (dh : List Card) :
    ∀ (l : List (Card × Text)) (w : WithHands) (o : Observed) (j : Nat),
    FInv w o → o.me = p → w.base.dummy = decl.partner → (j = 0 ↔ w.base.used = []) →
    (w.base.used = [] → w.hands decl.partner = dh) →
    CardTexts w.base l → (playsAccepted w (l.map (·.1))).isSome = true →
    ∀ k, ∃ w' o', serverPlay w (l.take k) = some w' ∧ clientPlay p decl dh o j (l.take k) = some o' ∧
      FInv w' o' := by
  intro l
  induction l with
  | nil => intro w o j hi _ _ _ _ _ _ k; exact ⟨w, o, by simp [serverPlay], by simp [clientPlay], hi⟩
  | cons x rest ih =>
    intro w o j hi hme hdum hj hdh ht hacc k
    obtain ⟨c, t⟩ := x
    cases k with
    | zero => exact ⟨w, o, by simp [serverPlay], by simp [clientPlay], hi⟩
    | succ k =>
      obtain ⟨h1, h2⟩ := (cardTexts_cons _ _ _ _).1 ht
      rw [List.map_cons, playsAccepted_cons] at hacc
      cases hp : w.play c w.base.active with
      | error e => rw [hp] at hacc; simp at hacc
      | ok w1 =>
        rw [hp] at hacc
        have hb := play_base _ _ _ _ hp
        obtain ⟨o1, hoplay, hi1, hme1⟩ := finv_step w w1 o c _ hi hp
        have hact : o.base.active = w.base.active := by rw [hi.rel.base]
        have hdum1 : w1.base.dummy = decl.partner := by rw [hb, playCard_dummy]; exact hdum
        have ho1me : o1.me = p := ((C05.observed_conservation o o1 c _ hoplay).2.1).trans hme
        have hused1 : w1.base.used ≠ [] := by rw [hb, playCard_used]; exact setAdd_ne_nil _ _
        -- the replica the client continues with is the one of the feed
        have hsame : (if j = 0 ∧ p ≠ decl.partner then o1.setDummy dh else o1) =
            (if w.base.used = [] ∧ o1.me ≠ w1.base.dummy then o1.setDummy (w1.hands w1.base.dummy) else o1) := by
          rw [ho1me, hdum1]
          by_cases hu : w.base.used = []
          · have hj0 : j = 0 := hj.2 hu
            have hne : w.base.active ≠ decl.partner := by rw [← hdum]; exact hi.lead hu
            have hh : w1.hands decl.partner = dh := by
              rw [(C05.accepted_effect w w1 c _ hp).2.1 decl.partner (fun e => hne e.symm)]
              exact hdh hu
            simp [hu, hj0, hh]
          · have hj0 : j ≠ 0 := fun e => hu (hj.1 e)
            simp [hu, hj0]
        rw [← hsame] at hi1 hme1
        obtain ⟨w', o', hs, hc, hi'⟩ := ih w1 _ (j + 1) hi1 (hme1.trans hme) hdum1
          ⟨fun e => by omega, fun e => absurd e hused1⟩ (fun e => absurd e hused1)
          (by rw [hb]; exact h2) hacc k
        refine ⟨w', o', ?_, ?_, hi'⟩
        · simp only [List.take_succ_cons, serverPlay, h1, hp, Option.bind_eq_bind, Option.bind_some]
          exact hs
        · rw [← hact] at hoplay h1
          rw [List.take_succ_cons, clientPlay]
          split <;> simp only [h1, hoplay, Option.bind_eq_bind, Option.bind_some] <;> exact hc

theorem clientPlay_conform (b : BoardSetting) (d : Decisions) (ht : TextsConform b d) (hp : ConformingPlay b d)
    (decl : Seat) (hdecl : (boardContract b d).declarer = some decl) (p : Seat)
    (w0 : WithHands) (hw : WithHands.init (boardContract b d) b.deal = some w0)
    (o0 : Observed) (ho : Observed.init (boardContract b d) p (b.deal p) = some o0) (k : Nat) :
    ∃ w o, serverPlay w0 (d.cards.take k) = some w ∧
           clientPlay p decl (b.deal decl.partner) o0 0 (d.cards.take k) = some o ∧ ObsRel w o := by
  obtain ⟨hi, hme⟩ := finv_init hw ho
  have hct := cardTexts_of_conform b d ht w0 hw
  have hacc := (conformingPlay_some hp hw).2
  obtain ⟨s0, hs, rfl⟩ := withHands_init_some hw
  obtain ⟨bb, dd, _, hd, rfl⟩ := init_some hs
  have hdd : dd = decl := by rw [hd] at hdecl; exact Option.some.inj hdecl
  subst hdd
  obtain ⟨w, o, h1, h2, h3⟩ := clientPlay_follows p dd (b.deal dd.partner) d.cards _ o0 0 hi hme rfl
    ⟨fun _ => rfl, fun _ => rfl⟩ (fun _ => rfl) hct hacc k
  exact ⟨w, o, h1, h2, h3.rel⟩

/-! ## the bundled example client: the auction 1♣ – pass – pass – pass -/

theorem weak_calls (d : Seat) : (weakBidCalls d).map (·.1) = [.bid ⟨0, by omega⟩, .pass, .pass, .pass] := rfl

theorem weak_contract (d : Seat) (v : Vul) :
    (runAuction (AState.init d v) [.bid ⟨0, by omega⟩, .pass, .pass, .pass]).1.contract =
      some ⟨some ⟨0, by omega⟩, false, false, v, some d⟩ := by
  cases d <;> rfl

theorem weak_legal (d : Seat) : LegalLaw d [.pass, .pass, .pass, .bid ⟨0, by omega⟩] :=
  .cons (.cons (.cons (.cons .nil rfl rfl) rfl rfl) rfl rfl) rfl rfl

theorem weak_ended : EndedLaw [.pass, .pass, .pass, .bid ⟨0, by omega⟩] :=
  Or.inr ⟨_, [], by simp, rfl⟩

/-- the bundled client's call texts carry no alert: the table manager parses them as they are -/
theorem weak_no_alert (c : Call) (hc : c = .bid ⟨0, by omega⟩ ∨ c = .pass) (p : Seat) :
    preprocessBid (bidMsg c p.formal) = bidMsg c p.formal := by
  rcases hc with rfl | rfl <;> cases p <;> decide +kernel

theorem weak_parse (c : Call) (hc : c = .bid ⟨0, by omega⟩ ∨ c = .pass) (p : Seat) :
    parseBid? (preprocessBid (bidMsg c p.formal)) p.formal = some c := by
  rw [weak_no_alert c hc p]
  exact C19.bid_msg_round_trip c p _ rfl

theorem bundled_boardContract (b : BoardSetting) (choose : List Card → Card) :
    boardContract b (bundledDecisions b choose) = ⟨some ⟨0, by omega⟩, false, false, b.vul, some b.dealer⟩ := by
  show (contractOfCalls b ((weakBidCalls b.dealer).map (·.1))).getD _ = _
  rw [weak_calls, contractOfCalls, weak_contract]; rfl

/-! ## the bundled example client: 52 accepted cards -/

theorem seat_rot_cases (l q : Seat) : ∃ i, i < 4 ∧ q = l.rot i := by
  cases l <;> cases q <;>
    first
    | exact ⟨0, by omega, rfl⟩
    | exact ⟨1, by omega, rfl⟩
    | exact ⟨2, by omega, rfl⟩
    | exact ⟨3, by omega, rfl⟩

theorem seat_rot_inj (l : Seat) (i j : Nat) (hi : i < 4) (hj : j < 4) (h : l.rot i = l.rot j) : i = j := by
  have h1 : i = 0 ∨ i = 1 ∨ i = 2 ∨ i = 3 := by omega
  have h2 : j = 0 ∨ j = 1 ∨ j = 2 ∨ j = 3 := by omega
  rcases h1 with rfl | rfl | rfl | rfl <;> rcases h2 with rfl | rfl | rfl | rfl <;>
    first
    | rfl
    | (exfalso; revert h; cases l <;> decide)

/-- hand sizes after `n` accepted cards of four 13-card hands: a seat that has already played to the current trick
holds one card less than a seat that has not -/
structure HS (w : WithHands) (n : Nat) : Prop where
  played : ∀ i, i < n % 4 → (w.hands (w.base.leader.rot i)).length + n / 4 + 1 = 13
  toPlay : ∀ i, n % 4 ≤ i → i < 4 → (w.hands (w.base.leader.rot i)).length + n / 4 = 13

theorem hs_step {w w' : WithHands} {n : Nat} {c : Card} (hp : PInv w.base n) (hs : HS w n)
    (hw : w.play c w.base.active = .ok w') : HS w' (n + 1) := by
  have hact : w.base.active = w.base.leader.rot (n % 4) := by rw [hp.act, hp.len]
  have hn4 : n % 4 < 4 := Nat.mod_lt _ (by omega)
  obtain ⟨herase, hsame, hb, _⟩ := C05.accepted_effect w w' c _ hw
  have hmem : c ∈ w.hands w.base.active := ((play_ok_iff w c _ w').1 hw).2.1
  have hpos : 0 < (w.hands w.base.active).length := List.length_pos_of_mem hmem
  have hel : (w'.hands w.base.active).length + 1 = (w.hands w.base.active).length := by
    rw [herase, List.length_erase_of_mem hmem]; omega
  have hcur := hs.toPlay (n % 4) (Nat.le_refl _) hn4
  rw [← hact] at hcur
  by_cases h3 : w.base.trick.length = 3
  · have hn3 : n % 4 = 3 := by rw [← hp.len]; exact h3
    constructor
    · intro i hi; omega
    · intro i _ hi
      generalize w'.base.leader.rot i = q
      obtain ⟨i', hi', rfl⟩ := seat_rot_cases w.base.leader q
      by_cases h : i' = 3
      · subst h
        rw [← hn3, ← hact]
        omega
      · have hne : w.base.leader.rot i' ≠ w.base.active := by
          rw [hact]; intro e
          have := seat_rot_inj _ _ _ hi' hn4 e
          omega
        rw [hsame _ hne]
        have := hs.played i' (by omega)
        omega
  · have hn3 : n % 4 ≠ 3 := by rw [← hp.len]; exact h3
    have hl : w'.base.leader = w.base.leader := by rw [hb, playCard_incomplete _ _ h3]
    constructor
    · intro i hi
      rw [hl]
      by_cases h : i = n % 4
      · subst h
        rw [← hact]
        omega
      · have hne : w.base.leader.rot i ≠ w.base.active := by
          rw [hact]; intro e
          exact h (seat_rot_inj _ _ _ (by omega) hn4 e)
        rw [hsame _ hne]
        have := hs.played i (by omega)
        omega
    · intro i h1 h2
      rw [hl]
      have hne : w.base.leader.rot i ≠ w.base.active := by
        rw [hact]; intro e
        have := seat_rot_inj _ _ _ h2 hn4 e
        omega
      rw [hsame _ hne]
      have := hs.toPlay i (by omega) h2
      omega

/-- `RandomPlay` never runs out of cards before the 52nd: with `n` cards played, `fuel ≤ 52 - n` further rounds
produce `fuel` cards, each accepted by the table manager, each announced by a text that parses to it -/
theorem randomPlay_spec (choose : List Card → Card) (hc : ChoiceOK choose) :
    ∀ (fuel : Nat) (w : WithHands) (n : Nat), PInv w.base n → HS w n →
    (∀ q, ∀ x ∈ w.hands q, x.ok = true) → n + fuel ≤ 52 →
    (randomPlayCards choose fuel w).length = fuel ∧
    (playsAccepted w ((randomPlayCards choose fuel w).map (·.1))).isSome = true ∧
    CardTexts w.base (randomPlayCards choose fuel w) := by
  intro fuel
  induction fuel with
  | zero => intro w n _ _ _ _; exact ⟨rfl, rfl, cardTexts_nil _⟩
  | succ fuel ih =>
    intro w n hp hs hok hn
    have hact : w.base.active = w.base.leader.rot (n % 4) := by rw [hp.act, hp.len]
    have hlen : (w.hands w.base.active).length + n / 4 = 13 := by
      rw [hact]; exact hs.toPlay _ (Nat.le_refl _) (Nat.mod_lt _ (by omega))
    have hne : w.hands w.base.active ≠ [] := by
      intro e; rw [e] at hlen; simp at hlen; omega
    obtain ⟨_, hmem⟩ := C06.random_play_in_available choose hc w.base _ hne
    generalize hcdef : choose (w.base.currentAvailable (w.hands w.base.active)) = c at hmem
    obtain ⟨w', hplay⟩ := (C05.accepted_iff w c w.base.active).2 ⟨rfl, hmem⟩
    have hrp : randomPlayCards choose (fuel + 1) w =
        (c, playMsg w.base.active c false) :: randomPlayCards choose fuel w' := by
      rw [randomPlayCards]
      simp only [hcdef, hplay]
    obtain ⟨herase, hsame, hb, _⟩ := C05.accepted_effect w w' c _ hplay
    have hok' : ∀ q, ∀ x ∈ w'.hands q, x.ok = true := by
      intro q x hx
      by_cases hq : q = w.base.active
      · subst hq
        rw [herase] at hx
        exact hok _ x (List.mem_of_mem_erase hx)
      · rw [hsame q hq] at hx
        exact hok q x hx
    obtain ⟨i1, i2, i3⟩ := ih w' (n + 1) (by rw [hb]; exact pinv_step hp c) (hs_step hp hs hplay) hok'
      (by omega)
    rw [hrp]
    refine ⟨by simp [i1], ?_, ?_⟩
    · rw [List.map_cons, playsAccepted_cons]
      simp only [hplay]
      exact i2
    · refine (cardTexts_cons _ _ _ _).2 ⟨?_, by rw [← hb]; exact i3⟩
      exact C19.card_msg_round_trip c (mem_deck_of_ok (hok _ c hmem)) _ false _ rfl

theorem bundled_conform (b : BoardSetting) (choose : List Card → Card) (hc : ChoiceOK choose)
    (hdeal : PartialDeal b.deal) (h13 : ∀ p, (b.deal p).length = 13) :
    ConformingAuction b (bundledDecisions b choose) ∧ ConformingPlay b (bundledDecisions b choose) ∧
    TextsConform b (bundledDecisions b choose) := by
  have hcon := bundled_boardContract b choose
  -- the play starts: declarer is the dealer
  obtain ⟨s0, hs0, hldr, -⟩ := C04.opening_lead_and_dummy (boardContract b (bundledDecisions b choose))
    ⟨0, by omega⟩ b.dealer (by rw [hcon]) (by rw [hcon])
  have hw0 := withHands_init_of_init hs0 b.deal
  have hcards : (bundledDecisions b choose).cards = randomPlayCards choose 52 ⟨s0, b.deal⟩ := by
    have h : (bundledDecisions b choose).cards =
        match WithHands.init (boardContract b (bundledDecisions b choose)) b.deal with
        | some w0 => randomPlayCards choose 52 w0
        | none => [] := rfl
    rw [h, hw0]
  have hs : HS ⟨s0, b.deal⟩ 0 := ⟨fun i hi => by omega, fun i _ _ => by simpa using h13 _⟩
  obtain ⟨r1, r2, r3⟩ := randomPlay_spec choose hc 52 ⟨s0, b.deal⟩ 0 (pinv_init hs0) hs hdeal.ok (by omega)
  refine ⟨⟨weak_legal b.dealer, weak_ended⟩, ?_, ⟨?_, ?_⟩⟩
  · unfold ConformingPlay
    rw [hw0, hcards]
    exact ⟨r1, r2⟩
  · intro j h
    have h4 : j < 4 := h
    have hj : j = 0 ∨ j = 1 ∨ j = 2 ∨ j = 3 := by omega
    rcases hj with rfl | rfl | rfl | rfl
    · exact weak_parse _ (Or.inl rfl) b.dealer
    · exact weak_parse _ (Or.inr rfl) b.dealer.left
    · exact weak_parse _ (Or.inr rfl) b.dealer.left.left
    · exact weak_parse _ (Or.inr rfl) b.dealer.left.left.left
  · intro s0' hs0' 
    have : s0' = s0 := by rw [hs0] at hs0'; exact (Option.some.inj hs0').symm
    subst this
    rw [hcards]
    exact r3

/-- the session of four bundled clients completes under every schedule (C09 holds for every scenario) -/
theorem bundled_session_completes (ns ew : Text) (bs : List BoardSetting) (choose : List Card → Card)
    (us : List Tid) (n' : Net Tid Chan Text LogOp)
    (hr : Run parties (Net.init (sessionProg ⟨ns, ew, bs.map fun b => (b, bundledDecisions b choose)⟩)) us n') :
    ∃ vs nf, Run parties n' vs nf ∧ AllDone nf ∧ (∀ c, nf.chan c = []) := by
  obtain ⟨vs, nf, h1, _, h2, h3, _⟩ := C09.session_always_completes _ us n' hr
  exact ⟨vs, nf, h1, h2, h3⟩

end Bridge
