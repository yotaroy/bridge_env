import BridgeVerif.Model.ClientThread
import BridgeVerif.Lemmas.Replica
import BridgeVerif.Lemmas.SessionC08
import BridgeVerif.Lemmas.SessionC10
import BridgeVerif.Props.C03
import BridgeVerif.Props.C04
import BridgeVerif.Props.C05
import BridgeVerif.Props.C19
/-!
# The reactive bundled client (`Model/ClientThread.lean`) performs the straight-line client program of the session model

Fed the messages the seat thread of `p` sends it in a session (`sendsOn (s2c p) (sessionProg sc (.seat p))`) and the
decisions its bidding / playing systems return (`scenarioOwnCalls`, `scenarioOwnCards`), the client as the Python writes
it — parsing the header, its cards, every relayed call and card, the lead prompts and dummy's cards, keeping its own
auction and play replicas — performs exactly `sessionProg sc (.client p)`.
-/
namespace Bridge

/-! ## the decisions of seat `p` -/

/-- the calls seat `p` makes on a board: the calls at the positions `j` with `dealer.rot j = p` -/
def ownCalls (p dealer : Seat) : Nat → List (Call × Text) → List Call
  | _, [] => []
  | j, (c, _) :: rest => (if dealer.rot j = p then [c] else []) ++ ownCalls p dealer (j + 1) rest

/-- the cards seat `p` SENDS on a board (its own, and dummy's when it declares): the cards at the positions whose seat
on turn `a` has `senderOf decl a = p`; `s` = the public play state before the first card of the list -/
def ownCards (p decl : Seat) : PState → List (Card × Text) → List Card
  | _, [] => []
  | s, (c, _) :: rest => (if senderOf decl s.active = p then [c] else []) ++ ownCards p decl (playCard s c) rest

/-- the cards seat `p` sends on the board `(b, d)` (none when the board is passed out) -/
def boardOwnCards (p : Seat) (b : BoardSetting) (d : Decisions) : List Card :=
  match PState.init (boardContract b d), (boardContract b d).declarer with
  | some s0, some decl => ownCards p decl s0 d.cards
  | _, _ => []

def scenarioOwnCalls (sc : Scenario) (p : Seat) : List Call :=
  sc.boards.flatMap fun bd => ownCalls p bd.1.dealer 0 bd.2.calls

def scenarioOwnCards (sc : Scenario) (p : Seat) : List Card :=
  sc.boards.flatMap fun bd => boardOwnCards p bd.1 bd.2

/-- seat `p` is played by the bundled client on the board `(b, d)` -/
def BundledBoard (p : Seat) (b : BoardSetting) (d : Decisions) : Prop :=
  (∀ j (h : j < d.calls.length), b.dealer.rot j = p → d.calls[j].2 = bidMsg d.calls[j].1 p.formal) ∧
  (∀ s0 decl, PState.init (boardContract b d) = some s0 → (boardContract b d).declarer = some decl →
    ∀ j (h : j < d.cards.length),
      senderOf decl (runPlay s0 ((d.cards.take j).map (·.1))).active = p →
      d.cards[j].2 = playMsg (runPlay s0 ((d.cards.take j).map (·.1))).active d.cards[j].1 false)

/-- seat `p` is played by the bundled client: for every board, the text of every call of `p` is
`bidMsg c p.formal`, and the text of every card `p` sends (for the seat `a` on turn: itself, or dummy when `p`
declares) is `playMsg a c false` (rank then suit).  (The "ready" acknowledgements of the session model are already
the bundled client's: `readyFor …`.) -/
def BundledTexts (sc : Scenario) (p : Seat) : Prop :=
  ∀ bd ∈ sc.boards, BundledBoard p bd.1 bd.2

/-! ## step-wise forms of the text hypotheses -/

def CallsBundled (p dealer : Seat) (j : Nat) (l : List (Call × Text)) : Prop :=
  ∀ k (h : k < l.length), dealer.rot (j + k) = p → l[k].2 = bidMsg l[k].1 p.formal

theorem callsBundled_cons {p dealer : Seat} {j : Nat} {c : Call} {t : Text} {l : List (Call × Text)}
    (h : CallsBundled p dealer j ((c, t) :: l)) :
    (dealer.rot j = p → t = bidMsg c p.formal) ∧ CallsBundled p dealer (j + 1) l := by
  refine ⟨fun e => h 0 (by simp) (by simpa using e), ?_⟩
  intro k hk e
  have := h (k + 1) (by simp; omega) (by rw [← e]; congr 1; omega)
  simpa using this

def CardsBundled (p decl : Seat) (s : PState) (l : List (Card × Text)) : Prop :=
  ∀ k (h : k < l.length), senderOf decl (runPlay s ((l.take k).map (·.1))).active = p →
    l[k].2 = playMsg (runPlay s ((l.take k).map (·.1))).active l[k].1 false

theorem cardsBundled_cons {p decl : Seat} {s : PState} {c : Card} {t : Text} {l : List (Card × Text)}
    (h : CardsBundled p decl s ((c, t) :: l)) :
    (senderOf decl s.active = p → t = playMsg s.active c false) ∧ CardsBundled p decl (playCard s c) l := by
  refine ⟨fun e => ?_, ?_⟩
  · have := h 0 (by simp) (by simpa using e)
    simpa using this
  · intro k hk e
    have := h (k + 1) (by simp; omega) (by simpa using e)
    simpa using this

/-! ## the two streams of a phase seen from the client of seat `p` -/

/-- what the client of seat `p` does during a phase -/
def kOf (p : Seat) (ph : Phase Text LogOp) : ClientActs := phaseProg ph (.client p)

@[simp] theorem clientIn_recv_cons (m : Text) (r : List Text) (cl : List Call) (cd : List Card) :
    ClientIn.recv { s := m :: r, calls := cl, cards := cd } = some (m, { s := r, calls := cl, cards := cd }) := rfl
@[simp] theorem clientIn_nextCall_cons (s : List Text) (c : Call) (cl : List Call) (cd : List Card) :
    ClientIn.nextCall { s := s, calls := c :: cl, cards := cd } = some (c, { s := s, calls := cl, cards := cd }) := rfl
@[simp] theorem clientIn_nextCard_cons (s : List Text) (cl : List Call) (c : Card) (cd : List Card) :
    ClientIn.nextCard { s := s, calls := cl, cards := c :: cd } = some (c, { s := s, calls := cl, cards := cd }) := rfl

theorem s2cOf_call (p a : Seat) (name bid relay : Text) (ready : Seat → Text) :
    s2cOf p (.call a name bid relay ready) = if p = a then [] else [relay] := by
  by_cases h : p = a <;> simp [s2cOf, phaseProg, sendsOn, h]

theorem kOf_call (p a : Seat) (name bid relay : Text) (ready : Seat → Text) :
    kOf p (.call a name bid relay ready) =
      if p = a then [.send (.c2s p) bid] else [.send (.c2s p) (ready p), .recv (.s2c p)] := rfl

/-- what the seat thread sends during a card phase: the lead prompt, the relayed card, dummy's cards -/
theorem s2cOf_card3 (p a d : Seat) (lead opening : Bool) (ln prompt card : Text) (ready rd : Seat → Text)
    (dc : Text) :
    s2cOf p (.card a d lead opening ln prompt card ready rd dc) =
      (if lead = true ∧ p = cardPlayer a d then [prompt] else []) ++
      ((if p = cardPlayer a d then [] else [card]) ++
       (if opening = true ∧ p ≠ d.partner then [dc] else [])) := by
  rw [s2cOf_card, ← List.append_assoc]
  congr 1
  by_cases h : p = cardPlayer a d
  · subst h
    cases lead <;> simp
  · have h' : ¬ cardPlayer a d = p := fun e => h e.symm
    cases lead <;> simp [h, h']

/-- what the client does during a card phase: takes the lead prompt, sends the card or acknowledges, acknowledges
dummy -/
theorem kOf_card3 (p a d : Seat) (lead opening : Bool) (ln prompt card : Text) (ready rd : Seat → Text)
    (dc : Text) :
    kOf p (.card a d lead opening ln prompt card ready rd dc) =
      (if lead = true ∧ p = cardPlayer a d then [.recv (.s2c p)] else []) ++
      ((if p = cardPlayer a d then [.send (.c2s p) card] else [.send (.c2s p) (ready p), .recv (.s2c p)]) ++
       (if opening = true ∧ p ≠ d.partner then [.send (.c2s p) (rd p), .recv (.s2c p)] else [])) := by
  simp only [kOf, phaseProg]
  rw [← List.append_assoc]
  congr 1
  by_cases h : p = cardPlayer a d <;> cases lead <;> simp [h]

/-! ## deal -/

theorem hand_parse (name : Text) (hand : List Card) (hok : HandOK hand) :
    ∃ l, (parseCards? (cardsMsg name hand) name).bind parseHand? = some l ∧ l.Perm hand := by
  obtain ⟨h1, l, h2, h3⟩ := C19.hand_msg_round_trip name hand hok
  exact ⟨l, by rw [h1, Option.bind_some, h2], h3⟩

theorem clientDealR_run (p : Seat) (k : Nat) (b : BoardSetting) (hand : List Card)
    (hh : (parseCards? (cardsMsg p.formal (b.deal p)) p.formal).bind parseHand? = some hand)
    (tail : List Text) (cl : List Call) (cd : List Card) :
    clientDealR p { s := boardHeader k b.dealer b.vul :: cardsMsg p.formal (b.deal p) :: tail,
                    calls := cl, cards := cd } =
      some ([.send (.c2s p) (readyFor p "deal".toList), .recv (.s2c p),
             .send (.c2s p) (readyFor p "cards".toList), .recv (.s2c p)],
            (k, b.dealer, b.vul), hand, { s := tail, calls := cl, cards := cd }) := by
  simp only [clientDealR, clientIn_recv_cons, Option.bind_eq_bind, Option.bind_some,
    C19.board_header_round_trip, hh, Option.pure_def]

/-! ## auction -/

theorem clientBiddingR_step (p a : Seat) (fuel : Nat) (s s' : AState) (c : Call) (text : Text) (r : Res)
    (hact : s.active = some a) (hE : takeBid s c = .ok (s', r)) (hr : r ≠ .illegal)
    (hparse : parseBid? (preprocessBid text) a.formal = some c) (hb : a = p → text = bidMsg c p.formal)
    (S : List Text) (CL cl : List Call) (cd : List Card) (hCL : CL = (if a = p then [c] else []) ++ cl) :
    clientBiddingR p (fuel + 1) s
        { s := s2cOf p (Phase.call a a.formal text (preprocessBid text)
                  (fun q => readyFor q (a.formal ++ "'s bid".toList))) ++ S,
          calls := CL, cards := cd } =
      if r = .finished then
        some (kOf p (Phase.call a a.formal text (preprocessBid text)
                  (fun q => readyFor q (a.formal ++ "'s bid".toList))), s', { s := S, calls := cl, cards := cd })
      else
        (clientBiddingR p fuel s' { s := S, calls := cl, cards := cd }).bind fun x =>
          some (kOf p (Phase.call a a.formal text (preprocessBid text)
                  (fun q => readyFor q (a.formal ++ "'s bid".toList))) ++ x.1, x.2) := by
  subst hCL
  simp only [s2cOf_call, kOf_call, clientBiddingR, hact]
  by_cases hp : a = p
  · have ht := hb hp
    subst hp
    simp only [if_true, List.nil_append, List.cons_append, clientIn_nextCall_cons, Option.bind_eq_bind,
      Option.bind_some, Option.pure_def, ← ht, hE]
    cases r with
    | illegal => exact absurd rfl hr
    | finished => simp
    | ongoing => simp
  · have hp' : ¬ p = a := fun e => hp e.symm
    simp only [if_neg hp, if_neg hp', List.nil_append, List.cons_append, clientIn_recv_cons,
      Option.bind_eq_bind, Option.bind_some, Option.pure_def, hparse, hE]
    cases r with
    | illegal => exact absurd rfl hr
    | finished => simp
    | ongoing => simp

theorem clientBidding_run (p d : Seat) (v : Vul) (tail : List Text) (cl : List Call) (cd : List Card) :
    ∀ (l : List (Call × Text)) (j : Nat) (s : AState) (h : List Call) (fuel : Nat),
    AInv d v s h → h.length = j →
    Legal d ((l.map (·.1)).reverse ++ h) → over ((l.map (·.1)).reverse ++ h) = true → CallTexts d j l →
    CallsBundled p d j l →
    l.length < fuel →
    ∃ sf, AInv d v sf ((l.map (·.1)).reverse ++ h) ∧
      clientBiddingR p fuel s { s := (callPhases d j l).flatMap (s2cOf p) ++ tail,
                                calls := ownCalls p d j l ++ cl, cards := cd } =
        some ((callPhases d j l).flatMap (kOf p), sf, { s := tail, calls := cl, cards := cd }) := by
  intro l
  induction l with
  | nil =>
    intro j s h fuel hi hj hleg hov _ _ hfuel
    simp only [List.map_nil, List.reverse_nil, List.nil_append] at hleg hov ⊢
    obtain ⟨fuel, rfl⟩ : ∃ f, fuel = f + 1 := ⟨fuel - 1, by simp at hfuel; omega⟩
    have hact : s.active = none := by simp [hi.act, hov]
    refine ⟨s, hi, ?_⟩
    simp [clientBiddingR, hact, callPhases, ownCalls]
  | cons x l ih =>
    intro j s h fuel hi hj hleg hov hparse hbun hfuel
    obtain ⟨c, text⟩ := x
    obtain ⟨fuel, rfl⟩ : ∃ f, fuel = f + 1 := ⟨fuel - 1, by simp at hfuel; omega⟩
    have e : (((c, text) :: l).map (·.1)).reverse ++ h = (l.map (·.1)).reverse ++ (c :: h) := by simp
    rw [e] at hleg hov ⊢
    obtain ⟨hact, s', hE, hi'⟩ := ainv_next hi hleg
    rw [hj] at hact
    obtain ⟨h0, hparse'⟩ := callTexts_cons hparse
    obtain ⟨hb0, hbun'⟩ := callsBundled_cons hbun
    have hstep := clientBiddingR_step p (d.rot j) fuel s s' c text _ hact hE (by split <;> simp) h0
      (fun e => hb0 e) ((callPhases d (j + 1) l).flatMap (s2cOf p) ++ tail)
      (ownCalls p d j ((c, text) :: l) ++ cl) (ownCalls p d (j + 1) l ++ cl) cd
      (by simp only [ownCalls, List.append_assoc])
    simp only [callPhases, List.flatMap_cons, List.append_assoc]
    rw [hstep]
    cases hov1 : over (c :: h) with
    | true =>
      -- the auction has ended: no further call
      have hnil : l = [] := by
        cases l with
        | nil => rfl
        | cons y l' =>
          have e2 : ((y :: l').map (·.1)).reverse ++ (c :: h) = (l'.map (·.1)).reverse ++ (y.1 :: c :: h) := by
            simp
          rw [e2] at hleg
          cases legal_of_append d _ _ hleg with
          | cons _ hov2 _ => rw [hov1] at hov2; cases hov2
      subst hnil
      refine ⟨s', by simpa using hi', ?_⟩
      simp [callPhases, ownCalls]
    | false =>
      obtain ⟨sf, hisf, hrec⟩ := ih (j + 1) s' (c :: h) fuel hi' (by simp [hj]) hleg hov hparse' hbun'
        (by simp at hfuel; omega)
      refine ⟨sf, hisf, ?_⟩
      simp [hrec]

/-! ## the play: the full-information game with the hands as the client parsed them -/

/-- same public state, the same hands up to the order of the cards -/
structure WPerm (w w' : WithHands) : Prop where
  base : w'.base = w.base
  hands : ∀ q, (w'.hands q).Perm (w.hands q)

theorem wperm_play {w w' w1 : WithHands} (h : WPerm w w') {c : Card} {a : Seat} (hw : w.play c a = .ok w1) :
    ∃ w1', w'.play c a = .ok w1' ∧ WPerm w1 w1' := by
  obtain ⟨ha, hc, rfl⟩ := (play_ok_iff w c a w1).1 hw
  refine ⟨_, (play_ok_iff w' c a _).2 ⟨by rw [h.base]; exact ha, (h.hands a).mem_iff.2 hc, rfl⟩, ?_, ?_⟩
  · simp [h.base]
  · intro q
    by_cases hq : q = a
    · subst hq; simpa using (h.hands q).erase c
    · simpa [hq] using h.hands q

theorem wperm_accepted : ∀ (l : List Card) (w w' : WithHands), WPerm w w' →
    (playsAccepted w l).isSome = true → (playsAccepted w' l).isSome = true := by
  intro l
  induction l with
  | nil => intro w w' _ _; rfl
  | cons c l ih =>
    intro w w' h hacc
    rw [playsAccepted_cons] at hacc ⊢
    cases hp : w.play c w.base.active with
    | error e => rw [hp] at hacc; simp at hacc
    | ok w1 =>
      rw [hp] at hacc
      obtain ⟨w1', hp', h1⟩ := wperm_play h hp
      rw [h.base, hp']
      exact ih w1 w1' h1 hacc

/-- what is assumed of the cards still to be played from the state `w` -/
structure PlayHyp (p decl : Seat) (w : WithHands) (l : List (Card × Text)) : Prop where
  texts : CardTexts w.base l
  acc : (playsAccepted w (l.map (·.1))).isSome = true
  bun : CardsBundled p decl w.base l

theorem playHyp_cons {p decl : Seat} {w : WithHands} {c : Card} {t : Text} {l : List (Card × Text)}
    (h : PlayHyp p decl w ((c, t) :: l)) :
    ∃ w1, w.play c w.base.active = .ok w1 ∧ w1.base = playCard w.base c ∧
      parseCard? t w.base.active = some c ∧
      (senderOf decl w.base.active = p → t = playMsg w.base.active c false) ∧ PlayHyp p decl w1 l := by
  obtain ⟨h1, h2, h3⟩ := h
  obtain ⟨t1, t2⟩ := (cardTexts_cons _ _ _ _).1 h1
  obtain ⟨b1, b2⟩ := cardsBundled_cons h3
  rw [List.map_cons, playsAccepted_cons] at h2
  cases hp : w.play c w.base.active with
  | error e => rw [hp] at h2; simp at h2
  | ok w1 =>
    rw [hp] at h2
    have hb := play_base _ _ _ _ hp
    exact ⟨w1, rfl, hb, t1, b1, ⟨by rw [hb]; exact t2, h2, by rw [hb]; exact b2⟩⟩

/-! ## one iteration of the inner loop of `playing_phase`, in two halves -/

theorem cl_cardPlayer_cases (p a d : Seat) :
    (p = cardPlayer a d ∧ ((a = p ∧ p ≠ d.partner) ∨ (¬ (a = p ∧ p ≠ d.partner) ∧ a = d.partner ∧ p = d))) ∨
    (p ≠ cardPlayer a d ∧ ¬ (a = p ∧ p ≠ d.partner) ∧ ¬ (a = d.partner ∧ p = d)) := by
  cases p <;> cases a <;> cases d <;> decide

/-- the first half: dummy's hand is opened when dummy is on turn for the first time -/
def clientOpenR (p declarer a : Seat) (o : Observed) (opened : Bool) (i : ClientIn) :
    Option (ClientActs × Observed × Bool × ClientIn) :=
  let dummy := declarer.partner
  if a = dummy ∧ !opened then
    if dummy ≠ p then do
      let (m, i) ← i.recv
      let dh ← (parseCards? m "Dummy".toList).bind parseHand?
      pure ([Act.send (.c2s p) (readyFor p "dummy".toList), .recv (.s2c p)], o.setDummy dh, true, i)
    else pure ([], o, true, i)
  else pure ([], o, opened, i)

/-- the second half: the card of the seat on turn `a` -/
def clientCardR (p declarer a : Seat) (o : Observed) (i : ClientIn) : Option (ClientActs × Observed × ClientIn) :=
  let dummy := declarer.partner
  if a = p ∧ p ≠ dummy then do
    let (c, i) ← i.nextCard
    match o.play c p with
    | .error _ => none
    | .ok o' => pure ([Act.send (.c2s p) (playMsg p c false)], o', i)
  else if a = dummy ∧ p = declarer then do
    if o.dummyHand.isNone then none
    else do
      let (c, i) ← i.nextCard
      match o.play c dummy with
      | .error _ => none
      | .ok o' => pure ([Act.send (.c2s p) (playMsg dummy c false)], o', i)
  else do
    let who : Text := if a = dummy then "dummy".toList else a.formal
    let (m, i) ← i.recv
    let c ← parseCard? m a
    match o.play c a with
    | .error _ => none
    | .ok o' =>
      pure ([Act.send (.c2s p) (readyFor p (who ++ "'s card to trick ".toList ++ natStr o.base.trickNum)),
             .recv (.s2c p)], o', i)

theorem clientTrickR_succ (p declarer : Seat) (n : Nat) (o : Observed) (opened : Bool) (i : ClientIn) :
    clientTrickR p declarer (n + 1) o opened i = (do
      let (acts0, o1, opened1, i) ← clientOpenR p declarer o.base.active o opened i
      let (acts1, o2, i) ← clientCardR p declarer o.base.active o1 i
      let (rest, o3, opened3, i) ← clientTrickR p declarer n o2 opened1 i
      pure (acts0 ++ acts1 ++ rest, o3, opened3, i)) := by
  rw [clientTrickR]
  simp only [Option.bind_eq_bind, Option.pure_def]
  -- the inlined second half `?F` is read off the leaf where the first half does nothing, so that the second half is
  -- split once and not once per leaf of the first
  refine Eq.trans (b := (clientOpenR p declarer o.base.active o opened i).bind ?F) ?h1 ?h2
  case h1 =>
    unfold clientOpenR
    simp only [Option.bind_eq_bind, Option.pure_def]
    by_cases h1 : o.base.active = declarer.partner ∧ (!opened) = true
    case neg => simp only [if_neg h1]; rfl
    simp only [if_pos h1]
    by_cases h2 : declarer.partner ≠ p
    case neg => simp only [if_neg h2]
    simp only [if_pos h2]
    rcases i.recv with _ | ⟨m, i1⟩
    · rfl
    · simp only [Option.bind_some]
      cases (parseCards? m "Dummy".toList).bind parseHand? <;> rfl
  congr 1
  funext ⟨acts0, o1, opened1, i1⟩
  unfold clientCardR
  simp only [Option.bind_eq_bind, Option.pure_def]
  split
  · rcases hnc : ClientIn.nextCard _ with _ | x
    · rfl
    · simp only [Option.bind_some]
      split <;> (rename_i hq; simp only [hq]) <;> rfl
  · split
    · split
      · rfl
      · rcases hnc : ClientIn.nextCard _ with _ | x
        · rfl
        · simp only [Option.bind_some]
          split <;> (rename_i hq; simp only [hq]) <;> rfl
    · rcases hrc : ClientIn.recv _ with _ | x
      · rfl
      · simp only [Option.bind_some]
        rcases hpc : parseCard? _ _ with _ | c
        · rfl
        · simp only [Option.bind_some]
          split <;> (rename_i hq; simp only [hq]) <;> rfl
/-! ## the client's replica follows the table manager's game -/

/-- dummy's cards, still to be taken by the client: they are sent right after the opening lead (`j = 0`), the client
takes them when dummy is on turn for the first time (`j = 1`) -/
def pendS (p decl : Seat) (dc : Text) (j : Nat) : List Text :=
  if j = 1 ∧ p ≠ decl.partner then [dc] else []
def pendK (p decl : Seat) (j : Nat) : ClientActs :=
  if j = 1 ∧ p ≠ decl.partner then [.send (.c2s p) (readyFor p "dummy".toList), .recv (.s2c p)] else []

/-- the client's state (`o`, `opened`) before the `j`-th card (0-based) of a board declared by `decl`, against the
table manager's game `w` (with the hands as the client parsed them); `dh0` = dummy's hand as the client parses it -/
structure ClInv (p decl : Seat) (dh0 : List Card) (j : Nat) (w : WithHands) (o : Observed) (opened : Bool) :
    Prop where
  rel : ObsRel w o
  me : o.me = p
  dum : w.base.dummy = decl.partner
  pinv : PInv w.base j
  dnone : p = decl.partner → o.dummyHand = none
  a0 : j = 0 → w.base.active = decl.left
  a1 : j = 1 → w.base.active = decl.partner
  op : opened = decide (2 ≤ j)
  early : j ≤ 1 → o.dummyHand = none ∧ (p ≠ decl.partner → w.hands decl.partner = dh0)
  late : 2 ≤ j → p ≠ decl.partner → o.dummyHand ≠ none

theorem cl_left_left (d : Seat) : d.left.left = d.partner := by cases d <;> rfl
theorem cl_left_ne_partner (d : Seat) : d.left ≠ d.partner := by cases d <;> decide

theorem pendS_ne (p decl : Seat) (dc : Text) {j : Nat} (h : j ≠ 1) : pendS p decl dc j = [] := by
  simp [pendS, h]
theorem pendK_ne (p decl : Seat) {j : Nat} (h : j ≠ 1) : pendK p decl j = [] := by
  simp [pendK, h]

/-- the replica after the first half of the iteration -/
def preObs (p decl : Seat) (dh0 : List Card) (j : Nat) (o : Observed) : Observed :=
  if j = 1 ∧ p ≠ decl.partner then o.setDummy dh0 else o

/-- the first half of an iteration -/
theorem clientOpenR_run {p decl : Seat} {dh0 : List Card} {j : Nat} {w : WithHands} {o : Observed} {opened : Bool}
    (hI : ClInv p decl dh0 j w o opened) (dc : Text)
    (hdc : (parseCards? dc "Dummy".toList).bind parseHand? = some dh0)
    (S : List Text) (cl : List Call) (cd : List Card) :
    clientOpenR p decl w.base.active o opened { s := pendS p decl dc j ++ S, calls := cl, cards := cd } =
      some (pendK p decl j, preObs p decl dh0 j o, decide (1 ≤ j), { s := S, calls := cl, cards := cd }) := by
  have hop := hI.op
  unfold pendS pendK preObs
  by_cases hj : j = 1
  · have hop' : opened = false := by rw [hop, hj]; rfl
    have hc : w.base.active = decl.partner ∧ (!opened) = true := ⟨hI.a1 hj, by simp [hop']⟩
    by_cases hp : p = decl.partner
    · have hp' : ¬ decl.partner ≠ p := fun h => h hp.symm
      have hn : ¬ (j = 1 ∧ p ≠ decl.partner) := fun h => h.2 hp
      simp only [clientOpenR, if_pos hc, if_neg hp', if_neg hn, List.nil_append, Option.pure_def]
      subst hj; rfl
    · have hp' : decl.partner ≠ p := fun h => hp h.symm
      have hy : j = 1 ∧ p ≠ decl.partner := ⟨hj, hp⟩
      simp only [clientOpenR, if_pos hc, if_pos hp', if_pos hy, List.cons_append, List.nil_append,
        clientIn_recv_cons, Option.bind_eq_bind, Option.bind_some, hdc, Option.pure_def]
      subst hj; rfl
  · have hn : ¬ (j = 1 ∧ p ≠ decl.partner) := fun h => hj h.1
    have hc : ¬ (w.base.active = decl.partner ∧ (!opened) = true) := by
      rcases Nat.lt_or_ge j 1 with h | h
      · rw [hI.a0 (by omega)]; exact fun hh => cl_left_ne_partner decl hh.1
      · simp [hop]; omega
    have hd : opened = decide (1 ≤ j) := by
      rw [hop]; simp; omega
    simp only [clientOpenR, if_neg hc, if_neg hn, List.nil_append, Option.pure_def]
    rw [hd]

/-- the second half of an iteration, from what the replica accepts -/
theorem clientCardR_run (p decl a : Seat) (o o1 : Observed) (c : Card) (text : Text)
    (hplay : o.play c a = .ok o1) (hme : o.me = p) (hdum : o.base.dummy = decl.partner)
    (hparse : parseCard? text a = some c) (hb : senderOf decl a = p → text = playMsg a c false)
    (S : List Text) (cl : List Call) (CD cd : List Card)
    (hCD : CD = (if senderOf decl a = p then [c] else []) ++ cd) :
    clientCardR p decl a o { s := (if p = cardPlayer a decl then [] else [text]) ++ S, calls := cl, cards := CD } =
      some ((if p = cardPlayer a decl then [.send (.c2s p) text]
             else [.send (.c2s p) (readyFor p ((if a = decl.partner then "dummy".toList else a.formal) ++
                      "'s card to trick ".toList ++ natStr o.base.trickNum)), .recv (.s2c p)]),
            o1, { s := S, calls := cl, cards := cd }) := by
  subst hCD
  rcases cl_cardPlayer_cases p a decl with ⟨h1, h2 | ⟨h2, h3⟩⟩ | ⟨h1, h2, h3⟩
  · have hsp : senderOf decl a = p := h1.symm
    have ht := hb hsp
    rw [h2.1] at hplay ht
    simp only [clientCardR, if_pos h2, if_pos hsp, if_pos h1, List.nil_append, List.cons_append,
      clientIn_nextCard_cons, Option.bind_eq_bind, Option.bind_some, hplay, Option.pure_def, ht]
  · have hsp : senderOf decl a = p := h1.symm
    have ht := hb hsp
    rw [h3.1] at hplay ht
    have hnone : o.dummyHand.isNone = false := by
      obtain ⟨_, h | h | h⟩ := observed_play_ok o o1 c _ hplay
      · exact absurd h.1 (by rw [hme, h3.2]; cases decl <;> decide)
      · obtain ⟨_, _, dh, hdh, _⟩ := h
        simp [hdh]
      · exact absurd hdum.symm h.2.1
    simp only [clientCardR, if_neg h2, if_pos h3, if_pos hsp, if_pos h1, List.nil_append, List.cons_append, hnone,
      Bool.false_eq_true, if_false, clientIn_nextCard_cons, Option.bind_eq_bind, Option.bind_some, hplay,
      Option.pure_def, ht]
  · have h1' : ¬ senderOf decl a = p := fun e => h1 e.symm
    simp only [clientCardR, if_neg h2, if_neg h3, if_neg h1, if_neg h1', List.nil_append, List.cons_append,
      clientIn_recv_cons, Option.bind_eq_bind, Option.bind_some, hparse, hplay, Option.pure_def]

/-- the replica accepts what the table manager accepts, and the invariant is kept -/
theorem clinv_step {p decl : Seat} {dh0 : List Card} {j : Nat} {w w1 : WithHands} {o : Observed} {opened : Bool}
    {c : Card} (hI : ClInv p decl dh0 j w o opened) (hw : w.play c w.base.active = .ok w1) :
    ∃ o1, (preObs p decl dh0 j o).play c w.base.active = .ok o1 ∧
      ClInv p decl dh0 (j + 1) w1 o1 (decide (1 ≤ j)) := by
  obtain ⟨rel, me, dum, pinv, dnone, a0, a1, op, early, late⟩ := hI
  generalize hpre : preObs p decl dh0 j o = oPre
  unfold preObs at hpre
  have hpre_me : oPre.me = p := by
    rw [← hpre]; split <;> simp [Observed.setDummy, me]
  have hpre_rel : ObsRel w oPre := by
    rw [← hpre]
    split
    · next h =>
      have hdh := (early (by omega)).2 h.2
      refine ⟨rel.base, rel.hand, fun dh hd => ?_⟩
      simp only [Observed.setDummy, Option.some.injEq] at hd
      rw [dum, hdh, hd]
    · exact rel
  have hpre_d1 : p = decl.partner → oPre.dummyHand = none := by
    intro h
    rw [← hpre, if_neg (fun hh => hh.2 h)]
    exact dnone h
  have hpre_early : j = 0 → oPre.dummyHand = none := by
    intro h
    rw [← hpre, if_neg (fun hh => by omega)]
    exact (early (by omega)).1
  have hpre_late : 1 ≤ j → p ≠ decl.partner → oPre.dummyHand ≠ none := by
    intro h hp
    rw [← hpre]
    by_cases h1 : j = 1
    · rw [if_pos ⟨h1, hp⟩]; simp [Observed.setDummy]
    · rw [if_neg (fun hh => h1 hh.1)]; exact late (by omega) hp
  have hd : w.base.active = w.base.dummy → w.base.active ≠ oPre.me → oPre.dummyHand ≠ none := by
    intro h1 h2
    rw [hpre_me] at h2
    rw [dum] at h1
    have hj : 1 ≤ j := by
      rcases Nat.eq_zero_or_pos j with h0 | h0
      · exact absurd ((a0 h0).symm.trans h1) (cl_left_ne_partner decl)
      · exact h0
    exact hpre_late hj (fun e => h2 (h1.trans e.symm))
  have hme : oPre.me = w.base.dummy → oPre.dummyHand = none := by
    intro h; rw [hpre_me, dum] at h; exact hpre_d1 h
  obtain ⟨o1, hplay, hR, hme1, hnone, hk⟩ := observer_simulates_strong w w1 oPre c _ hpre_rel hw hd hme
  obtain ⟨_, hsame, hb, _⟩ := C05.accepted_effect w w1 c _ hw
  refine ⟨o1, hplay, ⟨hR, hme1.trans hpre_me, by rw [hb, playCard_dummy]; exact dum, by rw [hb]; exact pinv_step pinv c,
    ?_, fun h => by omega, ?_, by simp, ?_, ?_⟩⟩
  · intro h
    apply hnone (hpre_d1 h)
    by_cases hpd : w.base.active = w.base.dummy
    · right; rw [hpd, dum, hpre_me, h]
    · left; exact hpd
  · intro h
    have h0 : j = 0 := by omega
    have hlen : w.base.trick.length ≠ 3 := by rw [pinv.len, h0]; decide
    rw [hb, playCard_incomplete _ _ hlen]
    simp [a0 h0, cl_left_left]
  · intro h
    have h0 : j = 0 := by omega
    have hne : w.base.active ≠ w.base.dummy := by rw [a0 h0, dum]; exact cl_left_ne_partner decl
    refine ⟨hnone (hpre_early h0) (Or.inl hne), fun hp => ?_⟩
    rw [hsame _ (by rw [a0 h0]; exact fun e => cl_left_ne_partner decl e.symm)]
    exact (early (by omega)).2 hp
  · intro h hp
    exact hk (hpre_late (by omega) hp)

theorem preObs_base (p decl : Seat) (dh0 : List Card) (j : Nat) (o : Observed) :
    (preObs p decl dh0 j o).base = o.base := by
  unfold preObs; split <;> rfl
theorem preObs_me (p decl : Seat) (dh0 : List Card) (j : Nat) (o : Observed) :
    (preObs p decl dh0 j o).me = o.me := by
  unfold preObs; split <;> rfl

/-- the acknowledgement / the card the client sends for the card of the seat on turn -/
def cardK (p decl : Seat) (s : PState) (text : Text) : ClientActs :=
  if p = cardPlayer s.active decl then [.send (.c2s p) text]
  else [.send (.c2s p) (readyFor p ((if s.active = decl.partner then "dummy".toList else s.active.formal) ++
          "'s card to trick ".toList ++ natStr s.trickNum)), .recv (.s2c p)]

/-- one whole iteration of the inner loop -/
theorem clientIter {p decl : Seat} {dh0 : List Card} {j : Nat} {w w1 : WithHands} {o : Observed} {opened : Bool}
    {c : Card} (text dc : Text) (n : Nat) (hI : ClInv p decl dh0 j w o opened)
    (hdc : (parseCards? dc "Dummy".toList).bind parseHand? = some dh0)
    (hw : w.play c w.base.active = .ok w1) (hparse : parseCard? text w.base.active = some c)
    (hb : senderOf decl w.base.active = p → text = playMsg w.base.active c false)
    (S : List Text) (cl : List Call) (CD cd : List Card)
    (hCD : CD = (if senderOf decl w.base.active = p then [c] else []) ++ cd) :
    ∃ o1, ClInv p decl dh0 (j + 1) w1 o1 (decide (1 ≤ j)) ∧
      clientTrickR p decl (n + 1) o opened
          { s := pendS p decl dc j ++ ((if p = cardPlayer w.base.active decl then [] else [text]) ++ S),
            calls := cl, cards := CD } =
        (clientTrickR p decl n o1 (decide (1 ≤ j)) { s := S, calls := cl, cards := cd }).bind fun r =>
          some (pendK p decl j ++ (cardK p decl w.base text ++ r.1), r.2) := by
  obtain ⟨o1, hplay, hI1⟩ := clinv_step hI hw
  refine ⟨o1, hI1, ?_⟩
  have hbase : o.base = w.base := hI.rel.base
  have hcard := clientCardR_run p decl w.base.active (preObs p decl dh0 j o) o1 c text hplay
    ((preObs_me p decl dh0 j o).trans hI.me)
    (by rw [preObs_base, hbase]; exact hI.dum) hparse hb S cl CD cd hCD
  rw [preObs_base, hbase] at hcard
  rw [clientTrickR_succ, hbase, clientOpenR_run hI dc hdc]
  simp only [Option.bind_eq_bind, Option.bind_some, hcard, Option.pure_def, cardK, List.append_assoc]

theorem pend_succ_iff (p decl : Seat) (j : Nat) :
    (decide (j = 0) = true ∧ p ≠ decl.partner) ↔ (j + 1 = 1 ∧ p ≠ decl.partner) := by simp

/-- the streams of a card phase, the lead prompt apart -/
theorem card_phase_streams (p decl : Seat) (deal : Hands) (s : PState) (j : Nat) (c : Card) (text : Text)
    (rest : List (Card × Text)) :
    (cardPhases decl deal s j ((c, text) :: rest)).flatMap (s2cOf p) =
      (if decide (s.trick = []) = true ∧ p = cardPlayer s.active decl then
          [if s.active = decl.partner then "Dummy to lead".toList else s.active.formal ++ " to lead".toList]
        else []) ++
      ((if p = cardPlayer s.active decl then [] else [text]) ++
       (pendS p decl (cardsMsg "Dummy".toList (deal decl.partner)) (j + 1) ++
        (cardPhases decl deal (playCard s c) (j + 1) rest).flatMap (s2cOf p))) ∧
    (cardPhases decl deal s j ((c, text) :: rest)).flatMap (kOf p) =
      (if decide (s.trick = []) = true ∧ p = cardPlayer s.active decl then [.recv (.s2c p)] else []) ++
      (cardK p decl s text ++
       (pendK p decl (j + 1) ++ (cardPhases decl deal (playCard s c) (j + 1) rest).flatMap (kOf p))) := by
  simp only [cardPhases, List.flatMap_cons, s2cOf_card3, kOf_card3, pendS, pendK, pend_succ_iff, cardK,
    List.append_assoc]
  trivial

/-- the cards of a trick after the lead -/
theorem clientTrick_tail (p decl : Seat) (dh0 : List Card) (deal : Hands)
    (hdc : (parseCards? (cardsMsg "Dummy".toList (deal decl.partner)) "Dummy".toList).bind parseHand? = some dh0)
    (rest : List (Card × Text)) (tail : List Text) (cl : List Call) (cd : List Card) :
    ∀ (l : List (Card × Text)) (idx j : Nat) (w : WithHands) (o : Observed) (opened : Bool),
    1 ≤ idx → idx + l.length = 4 → j % 4 = idx % 4 → ClInv p decl dh0 j w o opened →
    PlayHyp p decl w (l ++ rest) →
    ∃ w' o' opened' X, ClInv p decl dh0 (j + l.length) w' o' opened' ∧ PlayHyp p decl w' rest ∧
      clientTrickR p decl l.length o opened
          { s := pendS p decl (cardsMsg "Dummy".toList (deal decl.partner)) j ++
                   ((cardPhases decl deal w.base j (l ++ rest)).flatMap (s2cOf p) ++ tail),
            calls := cl, cards := ownCards p decl w.base (l ++ rest) ++ cd } =
        some (X, o', opened',
          { s := pendS p decl (cardsMsg "Dummy".toList (deal decl.partner)) (j + l.length) ++
                   ((cardPhases decl deal w'.base (j + l.length) rest).flatMap (s2cOf p) ++ tail),
            calls := cl, cards := ownCards p decl w'.base rest ++ cd }) ∧
      pendK p decl j ++ (cardPhases decl deal w.base j (l ++ rest)).flatMap (kOf p) =
        X ++ (pendK p decl (j + l.length) ++
          (cardPhases decl deal w'.base (j + l.length) rest).flatMap (kOf p)) := by
  intro l
  induction l with
  | nil =>
    intro idx j w o opened _ _ _ hI hyp
    exact ⟨w, o, opened, [], hI, hyp, by simp [clientTrickR], by simp⟩
  | cons x l ih =>
    intro idx j w o opened hidx hlen hmod hI hyp
    obtain ⟨c, text⟩ := x
    obtain ⟨w1, hw, hb1, hparse, hbun, hyp1⟩ := playHyp_cons hyp
    have hlead : decide (w.base.trick = []) = false := by
      have h1 := hI.pinv.len
      simp at hlen
      have : w.base.trick.length ≠ 0 := by omega
      simpa using fun e => this (by rw [e]; rfl)
    obtain ⟨hS, hK⟩ := card_phase_streams p decl deal w.base j c text (l ++ rest)
    simp only [hlead, Bool.false_eq_true, false_and, if_false, List.nil_append] at hS hK
    obtain ⟨o1, hI1, hrun⟩ := clientIter text (cardsMsg "Dummy".toList (deal decl.partner)) l.length hI hdc hw
      hparse hbun
      (pendS p decl (cardsMsg "Dummy".toList (deal decl.partner)) (j + 1) ++
        ((cardPhases decl deal w1.base (j + 1) (l ++ rest)).flatMap (s2cOf p) ++ tail)) cl
      (ownCards p decl w.base ((c, text) :: l ++ rest) ++ cd) (ownCards p decl w1.base (l ++ rest) ++ cd)
      (by simp only [List.cons_append, ownCards, hb1, List.append_assoc])
    obtain ⟨w', o', opened', X, hI', hyp', hrun', hK'⟩ := ih (idx + 1) (j + 1) w1 o1 _ (by omega)
      (by simp at hlen; omega) (by omega) hI1 hyp1
    have e1 : j + 1 + l.length = j + ((c, text) :: l).length := by simp; omega
    rw [e1] at hI' hrun' hK'
    refine ⟨w', o', opened', pendK p decl j ++ (cardK p decl w.base text ++ X), hI', hyp', ?_, ?_⟩
    · rw [List.cons_append, hS, ← hb1, List.length_cons]
      simp only [List.append_assoc]
      rw [List.cons_append] at hrun
      rw [hrun, hrun']
      rfl
    · rw [List.cons_append, hK, ← hb1]
      simp only [List.append_assoc]
      rw [← hK']

/-! ## one trick, the tricks of a board -/

theorem cl_prompt_iff (p a d : Seat) :
    ((a = p ∧ p ≠ d.partner) ∨ (a = d.partner ∧ p = d)) ↔ p = cardPlayer a d := by
  cases p <;> cases a <;> cases d <;> decide

theorem cl_parseLeader (a d : Seat) :
    parseLeader? (if a = d.partner then "Dummy to lead".toList else a.formal ++ " to lead".toList) d.partner =
      some a := by
  by_cases h : a = d.partner
  · rw [if_pos h, h]
    exact C19.lead_prompt_round_trip none d.partner
  · rw [if_neg h]
    exact C19.lead_prompt_round_trip (some a) d.partner

/-- one iteration of the outer loop of `playing_phase`: the lead prompt if the client leads, then four cards -/
theorem clientPlaying_trick (p decl : Seat) (dh0 : List Card) (deal : Hands)
    (hdc : (parseCards? (cardsMsg "Dummy".toList (deal decl.partner)) "Dummy".toList).bind parseHand? = some dh0)
    (rest : List (Card × Text)) (tail : List Text) (cl : List Call) (cd : List Card)
    (x : Card × Text) (l3 : List (Card × Text)) (hl3 : l3.length = 3) (j : Nat) (hj : j % 4 = 0) (hj52 : j < 52)
    (w : WithHands) (o : Observed) (opened : Bool) (hI : ClInv p decl dh0 j w o opened)
    (hyp : PlayHyp p decl w (x :: l3 ++ rest)) (fuel : Nat) :
    ∃ w' o' opened' X, ClInv p decl dh0 (j + 4) w' o' opened' ∧ PlayHyp p decl w' rest ∧
      clientPlayingR p decl (fuel + 1) o opened
          { s := (cardPhases decl deal w.base j (x :: l3 ++ rest)).flatMap (s2cOf p) ++ tail,
            calls := cl, cards := ownCards p decl w.base (x :: l3 ++ rest) ++ cd } =
        (clientPlayingR p decl fuel o' opened'
          { s := (cardPhases decl deal w'.base (j + 4) rest).flatMap (s2cOf p) ++ tail,
            calls := cl, cards := ownCards p decl w'.base rest ++ cd }).bind (fun r => some (X ++ r.1, r.2)) ∧
      (cardPhases decl deal w.base j (x :: l3 ++ rest)).flatMap (kOf p) =
        X ++ (cardPhases decl deal w'.base (j + 4) rest).flatMap (kOf p) := by
  obtain ⟨c, text⟩ := x
  obtain ⟨w1, hw, hb1, hparse, hbun, hyp1⟩ := playHyp_cons hyp
  have hbase : o.base = w.base := hI.rel.base
  have hlead : decide (w.base.trick = []) = true := by
    have h1 := hI.pinv.len
    have : w.base.trick.length = 0 := by omega
    simpa using List.eq_nil_of_length_eq_zero this
  obtain ⟨hS, hK⟩ := card_phase_streams p decl deal w.base j c text (l3 ++ rest)
  simp only [hlead, true_and] at hS hK
  have hp0 := pendS_ne p decl (cardsMsg "Dummy".toList (deal decl.partner)) (show j ≠ 1 by omega)
  have hk0 := pendK_ne p decl (show j ≠ 1 by omega)
  have hp4 := pendS_ne p decl (cardsMsg "Dummy".toList (deal decl.partner)) (show j + 4 ≠ 1 by omega)
  have hk4 := pendK_ne p decl (show j + 4 ≠ 1 by omega)
  obtain ⟨o1, hI1, hrun⟩ := clientIter text (cardsMsg "Dummy".toList (deal decl.partner)) 3 hI hdc hw
    hparse hbun
    (pendS p decl (cardsMsg "Dummy".toList (deal decl.partner)) (j + 1) ++
      ((cardPhases decl deal w1.base (j + 1) (l3 ++ rest)).flatMap (s2cOf p) ++ tail)) cl
    (ownCards p decl w.base ((c, text) :: l3 ++ rest) ++ cd) (ownCards p decl w1.base (l3 ++ rest) ++ cd)
    (by simp only [List.cons_append, ownCards, hb1, List.append_assoc])
  obtain ⟨w', o', opened', X, hI', hyp', hrun', hK'⟩ := clientTrick_tail p decl dh0 deal hdc rest tail cl cd
    l3 1 (j + 1) w1 o1 _ (by omega) (by omega) (by omega) hI1 hyp1
  have e1 : j + 1 + l3.length = j + 4 := by omega
  rw [e1, hp4] at hrun'
  rw [e1, hk4] at hK'
  rw [e1] at hI'
  rw [hl3] at hrun'
  rw [hp0, List.nil_append] at hrun
  rw [hk0] at hrun
  have hnd : w.base.hasDone = false := by
    have := hI.pinv.tn
    simp [PState.hasDone, this]; omega
  simp only [Nat.reduceAdd, List.nil_append] at hrun hrun' hK'
  refine ⟨w', o', opened', (if p = cardPlayer w.base.active decl then [.recv (.s2c p)] else []) ++
    (cardK p decl w.base text ++ X), hI', hyp', ?_, ?_⟩
  · rw [List.cons_append, hS, ← hb1]
    rw [List.cons_append] at hrun
    simp only [clientPlayingR, hbase, hnd, Bool.false_eq_true, if_false, cl_prompt_iff, Option.bind_eq_bind,
      Option.pure_def]
    rcases Classical.propComplete (p = cardPlayer w.base.active decl) with hpl | hpl <;>
      simp only [hpl, if_true, if_false, List.cons_append, List.nil_append, List.append_assoc, clientIn_recv_cons,
        Option.bind_some, cl_parseLeader] at hrun ⊢ <;>
      rw [hrun, hrun'] <;>
      simp only [Option.bind_some, List.append_assoc]
  · rw [List.cons_append, hK, ← hb1, hK']
    simp only [List.append_assoc]

/-- `n` whole tricks, down to the end of the play -/
theorem clientPlaying_tricks (p decl : Seat) (dh0 : List Card) (deal : Hands)
    (hdc : (parseCards? (cardsMsg "Dummy".toList (deal decl.partner)) "Dummy".toList).bind parseHand? = some dh0)
    (tail : List Text) (cl : List Call) (cd : List Card) :
    ∀ (n : Nat) (l : List (Card × Text)) (j : Nat) (w : WithHands) (o : Observed) (opened : Bool) (fuel : Nat),
    l.length = 4 * n → j + 4 * n = 52 → n < fuel → ClInv p decl dh0 j w o opened → PlayHyp p decl w l →
    ∃ o', clientPlayingR p decl fuel o opened
        { s := (cardPhases decl deal w.base j l).flatMap (s2cOf p) ++ tail,
          calls := cl, cards := ownCards p decl w.base l ++ cd } =
      some ((cardPhases decl deal w.base j l).flatMap (kOf p), o', { s := tail, calls := cl, cards := cd }) := by
  intro n
  induction n with
  | zero =>
    intro l j w o opened fuel hl hj hf hI _
    have : l = [] := List.eq_nil_of_length_eq_zero (by simpa using hl)
    subst this
    obtain ⟨fuel, rfl⟩ : ∃ f, fuel = f + 1 := ⟨fuel - 1, by omega⟩
    have hd : o.base.hasDone = true := by
      rw [hI.rel.base]
      have := hI.pinv.tn
      simp [PState.hasDone, this]; omega
    exact ⟨o, by simp [clientPlayingR, hd, cardPhases, ownCards]⟩
  | succ n ih =>
    intro l j w o opened fuel hl hj hf hI hyp
    obtain ⟨fuel, rfl⟩ : ∃ f, fuel = f + 1 := ⟨fuel - 1, by omega⟩
    match l, hl, hyp with
    | x1 :: x2 :: x3 :: x4 :: rest, hl, hyp =>
      obtain ⟨w', o', opened', X, hI', hyp', hrun, hK⟩ := clientPlaying_trick p decl dh0 deal hdc rest tail cl cd
        x1 [x2, x3, x4] rfl j (by omega) (by omega) w o opened hI hyp fuel
      obtain ⟨of, hrec⟩ := ih rest (j + 4) w' o' opened' fuel (by simp at hl; omega) (by omega) (by omega) hI' hyp'
      refine ⟨of, ?_⟩
      simp only [List.cons_append, List.nil_append] at hrun hK
      rw [hrun, hrec, hK]
      rfl

/-! ## the play of a board -/

/-- the board's hands with `p`'s and dummy's as the client parsed them -/
def clHands (p decl : Seat) (hand dh0 : List Card) (deal : Hands) : Hands :=
  fun q => if q = p then hand else if q = decl.partner then dh0 else deal q

theorem clientPlay_board (p : Seat) (b : BoardSetting) (d : Decisions)
    (hcp : ConformingPlay b d) (htx : TextsConform b d) (hbun : BundledBoard p b d)
    (s0 : PState) (decl : Seat) (hs0 : PState.init (boardContract b d) = some s0)
    (hdecl : (boardContract b d).declarer = some decl)
    (hand dh0 : List Card) (hhand : hand.Perm (b.deal p)) (hdh : dh0.Perm (b.deal decl.partner))
    (hdc : (parseCards? (cardsMsg "Dummy".toList (b.deal decl.partner)) "Dummy".toList).bind parseHand? = some dh0)
    (tail : List Text) (cl : List Call) (cd : List Card) :
    ∃ o', clientPlayingR p decl 14 { base := s0, me := p, hand := hand, dummyHand := none } false
        { s := (cardPhases decl b.deal s0 0 d.cards).flatMap (s2cOf p) ++ tail,
          calls := cl, cards := ownCards p decl s0 d.cards ++ cd } =
      some ((cardPhases decl b.deal s0 0 d.cards).flatMap (kOf p), o', { s := tail, calls := cl, cards := cd }) := by
  obtain ⟨bb, dd, hfb, hd, hs0eq⟩ := init_some hs0
  have hdd : dd = decl := by rw [hd] at hdecl; exact Option.some.inj hdecl
  subst hdd
  obtain ⟨h52, hacc⟩ := conformingPlay_some hcp (withHands_init_of_init hs0 b.deal)
  have hperm : WPerm ⟨s0, b.deal⟩ ⟨s0, clHands p dd hand dh0 b.deal⟩ := by
    refine ⟨rfl, fun q => ?_⟩
    show (clHands p dd hand dh0 b.deal q).Perm (b.deal q)
    unfold clHands
    by_cases h1 : q = p
    · rw [if_pos h1, h1]; exact hhand
    · rw [if_neg h1]
      by_cases h2 : q = dd.partner
      · rw [if_pos h2, h2]; exact hdh
      · rw [if_neg h2]
  have hyp : PlayHyp p dd ⟨s0, clHands p dd hand dh0 b.deal⟩ d.cards :=
    ⟨htx.cards s0 hs0, wperm_accepted _ _ _ hperm hacc, hbun.2 s0 dd hs0 hdecl⟩
  have hI : ClInv p dd dh0 0 ⟨s0, clHands p dd hand dh0 b.deal⟩
      { base := s0, me := p, hand := hand, dummyHand := none } false := by
    refine ⟨⟨rfl, ?_, fun dh h => by cases h⟩, rfl, by rw [hs0eq], pinv_init hs0, fun _ => rfl,
      fun _ => by rw [hs0eq], fun h => by omega, rfl, fun _ => ⟨rfl, fun hp => ?_⟩, fun h => by omega⟩
    · show hand = clHands p dd hand dh0 b.deal p
      simp [clHands]
    · show clHands p dd hand dh0 b.deal dd.partner = dh0
      have : ¬ dd.partner = p := fun e => hp e.symm
      simp [clHands, this]
  exact clientPlaying_tricks p dd dh0 b.deal hdc tail cl cd 13 d.cards 0 ⟨s0, clHands p dd hand dh0 b.deal⟩ _ false 14
    (by omega) (by omega) (by omega) hI hyp

/-! ## one board -/

theorem kOf_clFinal (sc : Scenario) (p : Seat) (last : Bool) (b : BoardSetting) (d : Decisions) :
    kOf p (clFinalPhase sc last b d) = [.recv (.s2c p)] := by
  cases last <;> rfl

theorem cl_msg_facts : MSG_START ≠ MSG_END := by decide

theorem clientBoardsR_board (sc : Scenario) (p : Seat) (k : Nat) (last : Bool) (b : BoardSetting) (d : Decisions)
    (hca : ConformingAuction b d) (hcp : ConformingPlay b d) (htx : TextsConform b d) (hbun : BundledBoard p b d)
    (hok : ∀ q, HandOK (b.deal q)) (fuel : Nat) (tail : List Text) (cl : List Call) (cd : List Card) :
    clientBoardsR p (fuel + 1)
        { s := (boardPhases sc k last b d).flatMap (s2cOf p) ++ tail,
          calls := ownCalls p b.dealer 0 d.calls ++ cl, cards := boardOwnCards p b d ++ cd } =
      if last then some ((boardPhases sc k last b d).flatMap (kOf p), { s := tail, calls := cl, cards := cd })
      else (clientBoardsR p fuel { s := tail, calls := cl, cards := cd }).map fun r =>
        ((boardPhases sc k last b d).flatMap (kOf p) ++ r.1, r.2) := by
  obtain ⟨hand, hhparse, hhperm⟩ := hand_parse p.formal (b.deal p) (hok p)
  have hbc := boardContract_conforming b d hca
  obtain ⟨hleg, hov, hlen⟩ := conformingAuction_legal hca
  rw [cl_boardPhases_eq]
  simp only [List.flatMap_cons, List.flatMap_append, List.flatMap_nil, s2cOf_deal, s2cOf_auctionEnd,
    s2cOf_clFinal, List.append_assoc, List.cons_append, List.nil_append]
  have hkdeal : kOf p (Phase.deal (boardHeader k b.dealer b.vul) (fun p => cardsMsg p.formal (b.deal p))
        (fun p => readyFor p "deal".toList) (fun p => readyFor p "cards".toList)) =
      [.send (.c2s p) (readyFor p "deal".toList), .recv (.s2c p),
       .send (.c2s p) (readyFor p "cards".toList), .recv (.s2c p)] := rfl
  have hkend : ∀ x y : Text, kOf p (Phase.auctionEnd x y) = [] := fun _ _ => rfl
  rw [hkdeal, hkend, kOf_clFinal]
  rw [clientBoardsR]
  simp only [Option.bind_eq_bind, clientDealR_run p k b hand hhparse, Option.bind_some]
  obtain ⟨sf, hisf, hbid⟩ := clientBidding_run p b.dealer b.vul
    ((clPlayPhases b d).flatMap (s2cOf p) ++ ((if last = true then MSG_END else MSG_START) :: tail)) cl
    (boardOwnCards p b d ++ cd) d.calls 0 (AState.init b.dealer b.vul) [] (320 + 1) (ainv_init _ _) rfl
    (by simpa using hleg) (by simpa using hov) (callTexts_of_conform htx)
    (fun j hj e => hbun.1 j hj (by simpa using e)) (by omega)
  simp only [List.append_nil] at hisf
  have hcon : sf.contract = some (boardContract b d) := by
    rw [hbc]; exact C03.contract_is_spec _ _ _ _ ⟨hisf, hleg⟩ hca.2
  rw [hbid]
  rcases specContract_shape b.dealer b.vul (d.calls.map (·.1)).reverse with ⟨hf, hd⟩ | ⟨bi, decl, hf, hd⟩
  · rw [← hbc] at hf hd
    have hpo : (boardContract b d).isPassedOut = true := by simp [Contract.isPassedOut, hf]
    have hinit : PState.init (boardContract b d) = none := by simp [PState.init, hf]
    have hplay : clPlayPhases b d = [] := by simp [clPlayPhases, hinit]
    have hown : boardOwnCards p b d = [] := by simp [boardOwnCards, hinit]
    simp only [Option.bind_some, hcon, hpo, if_true, Option.pure_def, hplay, hown, List.flatMap_nil, List.nil_append,
      clientIn_recv_cons]
    cases last <;> simp [cl_msg_facts, Option.map_eq_bind, Function.comp_def]
  · rw [← hbc] at hf hd
    have hpo : (boardContract b d).isPassedOut = false := by simp [Contract.isPassedOut, hf]
    obtain ⟨s0, hs0, -⟩ := C04.opening_lead_and_dummy (boardContract b d) bi decl hf hd
    have hplay : clPlayPhases b d = Phase.playStart decl.formal :: cardPhases decl b.deal s0 0 d.cards := by
      simp [clPlayPhases, hs0, hd]
    have hown : boardOwnCards p b d = ownCards p decl s0 d.cards := by simp [boardOwnCards, hs0, hd]
    obtain ⟨dh0, hdc, hdperm⟩ := hand_parse "Dummy".toList (b.deal decl.partner) (hok decl.partner)
    have hoinit : Observed.init (boardContract b d) p hand =
        some { base := s0, me := p, hand := hand, dummyHand := none } := by
      simp [Observed.init, hs0]
    have hkps : kOf p (Phase.playStart decl.formal) = [] := rfl
    obtain ⟨of, hpl⟩ := clientPlay_board p b d hcp htx hbun s0 decl hs0 hd hand dh0 hhperm hdperm hdc
      ((if last = true then MSG_END else MSG_START) :: tail) cl cd
    simp only [Option.bind_some, hcon, hpo, Bool.false_eq_true, if_false, hd, hoinit, hplay, hown, List.flatMap_cons,
      s2cOf_playStart, hkps, List.nil_append, hpl, Option.pure_def, clientIn_recv_cons]
    cases last <;> simp [cl_msg_facts, Option.map_eq_bind, Function.comp_def]
/-! ## the boards of a session -/

/-- what is assumed of a board -/
def BoardOK (p : Seat) (b : BoardSetting) (d : Decisions) : Prop :=
  ConformingAuction b d ∧ ConformingPlay b d ∧ TextsConform b d ∧ BundledBoard p b d ∧ ∀ q, HandOK (b.deal q)

theorem cl_boardsPhases_s_length (sc : Scenario) (p : Seat) :
    ∀ (boards : List (BoardSetting × Decisions)) (k : Nat),
    boards.length ≤ ((boardsPhases sc k boards).flatMap (s2cOf p)).length :=
  boardsPhases_length_le sc (s2cOf p) fun h cards r1 r2 => by simp

theorem clientBoardsR_boards (sc : Scenario) (p : Seat) (tail : List Text) (cl : List Call) (cd : List Card) :
    ∀ (boards : List (BoardSetting × Decisions)) (k fuel : Nat), boards ≠ [] →
      (∀ bd ∈ boards, BoardOK p bd.1 bd.2) → boards.length ≤ fuel →
      clientBoardsR p fuel
          { s := (boardsPhases sc k boards).flatMap (s2cOf p) ++ tail,
            calls := (boards.flatMap fun bd => ownCalls p bd.1.dealer 0 bd.2.calls) ++ cl,
            cards := (boards.flatMap fun bd => boardOwnCards p bd.1 bd.2) ++ cd } =
        some ((boardsPhases sc k boards).flatMap (kOf p), { s := tail, calls := cl, cards := cd }) := by
  intro boards
  induction boards with
  | nil => intro k fuel h; exact absurd rfl h
  | cons x r ih =>
    intro k fuel _ hp hf
    obtain ⟨b, d⟩ := x
    obtain ⟨f, rfl⟩ : ∃ f, fuel = f + 1 := ⟨fuel - 1, by simp at hf; omega⟩
    obtain ⟨h1, h2, h3, h4, h5⟩ := hp (b, d) List.mem_cons_self
    cases r with
    | nil =>
      simp only [boardsPhases, List.flatMap_cons, List.flatMap_nil, List.append_nil]
      rw [clientBoardsR_board sc p k true b d h1 h2 h3 h4 h5]
      simp
    | cons y r' =>
      have ih := ih (k + 1) f (by simp) (fun bd h => hp bd (List.mem_cons_of_mem _ h))
        (by simp at hf ⊢; omega)
      rw [boardsPhases_cons₂]
      generalize y :: r' = R at ih ⊢
      simp only [List.flatMap_cons, List.flatMap_append, List.append_assoc]
      rw [clientBoardsR_board sc p k false b d h1 h2 h3 h4 h5, ih]
      simp

/-! ## the session -/

/-- fed the messages the seat thread of `p` sends it in a session (conforming decisions, texts that mean what was
decided, `p`'s own texts those of the bundled client, valid duplicate-free hands, team names without quote / line
break) and the decisions its bidding and playing systems return, the reactive bundled client performs exactly the
straight-line client program of the session model -/
theorem clientReactive_session_of_handOK (sc : Scenario) (h : sc.boards ≠ []) (p : Seat)
    (hc : ∀ bd ∈ sc.boards, ConformingAuction bd.1 bd.2 ∧ ConformingPlay bd.1 bd.2 ∧ TextsConform bd.1 bd.2)
    (hb : BundledTexts sc p)
    (hd : ∀ bd ∈ sc.boards, ∀ q, HandOK (bd.1.deal q))
    (hn : NameOK sc.nsName ∧ NameOK sc.ewName) :
    clientReactive p (scenarioOwnCalls sc p) (scenarioOwnCards sc p)
        (sendsOn (Chan.s2c p) (sessionProg sc (.seat p)))
      = some (sessionProg sc (.client p)) := by
  have hs : sendsOn (Chan.s2c p) (sessionProg sc (.seat p)) =
      teamsMsg sc.nsName sc.ewName :: MSG_START :: (boardsPhases sc 1 sc.boards).flatMap (s2cOf p) := by
    unfold sessionProg sessionPhases
    rw [sendsOn_progOfPhases, List.flatMap_cons]
    show s2cOf p _ ++ List.flatMap (s2cOf p) _ = _
    rw [s2cOf_seating]; rfl
  have hk : sessionProg sc (.client p) =
      [.recv (.s2c p), .send (.c2s p) (p.formal ++ " ready to start".toList), .recv (.s2c p)] ++
        (boardsPhases sc 1 sc.boards).flatMap (kOf p) := by
    unfold sessionProg sessionPhases progOfPhases
    rw [List.flatMap_cons]
    rfl
  have hrun := clientBoardsR_boards sc p [] [] [] sc.boards 1
    ((teamsMsg sc.nsName sc.ewName :: MSG_START :: (boardsPhases sc 1 sc.boards).flatMap (s2cOf p)).length + 1) h
    (fun bd hbd => ⟨(hc bd hbd).1, (hc bd hbd).2.1, (hc bd hbd).2.2, hb bd hbd, hd bd hbd⟩)
    (by have := cl_boardsPhases_s_length sc p sc.boards 1; simp only [List.length_cons]; omega)
  simp only [List.append_nil] at hrun
  rw [hs, hk]
  simp only [clientReactive, clientIn_recv_cons, Option.bind_eq_bind, Option.bind_some,
    C19.team_names_round_trip _ _ hn.1 hn.2, if_true, scenarioOwnCalls, scenarioOwnCards, hrun, Option.pure_def]

/-- the same with the hypothesis on the deals in the form used for the bundled scenarios (`bundled_conform`) -/
theorem clientReactive_session (sc : Scenario) (h : sc.boards ≠ []) (p : Seat)
    (hc : ∀ bd ∈ sc.boards, ConformingAuction bd.1 bd.2 ∧ ConformingPlay bd.1 bd.2 ∧ TextsConform bd.1 bd.2)
    (hb : BundledTexts sc p)
    (hd : ∀ bd ∈ sc.boards, PartialDeal bd.1.deal ∧ ∀ q, (bd.1.deal q).length = 13)
    (hn : NameOK sc.nsName ∧ NameOK sc.ewName) :
    clientReactive p (scenarioOwnCalls sc p) (scenarioOwnCards sc p)
        (sendsOn (Chan.s2c p) (sessionProg sc (.seat p)))
      = some (sessionProg sc (.client p)) := by
  refine clientReactive_session_of_handOK sc h p hc hb (fun bd hbd q => ?_) hn
  obtain ⟨⟨hnd, hok, _⟩, _⟩ := hd bd hbd
  refine ⟨?_, hok q⟩
  unfold handsAll at hnd
  cases q
  · exact (List.nodup_append.1 (List.nodup_append.1 (List.nodup_append.1 hnd).1).1).1
  · exact (List.nodup_append.1 (List.nodup_append.1 (List.nodup_append.1 hnd).1).1).2.1
  · exact (List.nodup_append.1 (List.nodup_append.1 hnd).1).2.1
  · exact (List.nodup_append.1 hnd).2.1

end Bridge
