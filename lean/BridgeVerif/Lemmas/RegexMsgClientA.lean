import BridgeVerif.Lemmas.RegexConnectA
/-!
# The regular expressions of the bundled client's parsers : general tools  (part A)

`Client.parse_team_names`, `Client.parse_board`, `Client.parse_leader_message` match (through
`MessageInterface.parse_match_base`, `re.IGNORECASE`)

* `Teams : N/S : "(.*)".? E/W : "(.*)"`
* `Board number (\d+)\. Dealer (.*)\. (.*) vulnerable\.`
* `(.*) to lead`

On top of `Lemmas/RegexConnectA.lean` (`rel_lits`, `rel_dotStar`) this file adds, in the `Rel` framework of
`Lemmas/RegexHandsA.lean`:
* the end of a pattern (`rel_end`) and a pattern that ends with a literal (`den_lits_last`);
* a `(\d+)` group in the MIDDLE of a pattern, followed by something that no digit can start (`rel_digits_mid`):
  backtracking into the digits never succeeds, so the group is `takeWhile isDigit`;
* the greedy optional `.?` (`rel_optAny`);
* a congruence for `dotStar` (`dotStar_congr`) and `eqCI '"' c ↔ c = '"'` for every character (`eqCI_quote`).
-/
namespace Bridge.RegexMsgClient
open Bridge Bridge.Re Bridge.RegexPbn Bridge.RegexHands Bridge.RegexConnect

/-! ### the end of the pattern -/
theorem rel_end (s : List Char) (N : Nat) : Rel s N N (kfin 0 false false) (fun _ => some []) :=
  RegexConnect.rel_end s N

theorem denLits_append (ic : Bool) (K : St → Re.Res St) : ∀ (p q : List Char),
    denLits ic (p ++ q) K = denLits ic p (denLits ic q K) := by
  intro p
  induction p with
  | nil => intro q; rfl
  | cons c p ih => intro q; funext st; simp only [List.cons_append, denLits, ih]

/-- a run of literals whose last one closes the pattern (the parser does not append `eps`) -/
theorem den_lits_last (ic : Bool) (k : St → Re.Res St) (p : List Char) (c : Char) :
    den ic (lits p (.lit c)) k = denLits ic (p ++ [c]) k := by
  funext st
  rw [den_lits, denLits_append]
  rfl

/-! ### `(\d+)` in the middle -/
/-- the scanner: the longest run of ASCII digits, non-empty, then the continuation -/
def digitsThen (cont : List Char → Option (List (List Char))) (r : List Char) : Option (List (List Char)) :=
  if r.takeWhile Bridge.isDigit = [] then none
  else (cont (r.drop (r.takeWhile Bridge.isDigit).length)).map fun gs => r.takeWhile Bridge.isDigit :: gs

theorem rel_digits_mid (ic : Bool) (s : List Char) (hs : ∀ x ∈ s, Re.isDigit x = Bridge.isDigit x) (N j : Nat)
    (hj : j < N) (K' : St → Re.Res St) (cont : List Char → Option (List (List Char)))
    (h : Rel s N (j + 1) K' cont) (hcont : ∀ x xs, Bridge.isDigit x = true → cont (x :: xs) = none) :
    Rel s N j (den ic (digG (j + 1)) K') (digitsThen cont) :=
  rel_digits ic s hs N j hj K' cont h (.inl hcont)

/-! ### the greedy optional `.?` -/
/-- the scanner: first try to consume one character other than a line feed -/
def optAny (cont : List Char → Option (List (List Char))) (r : List Char) : Option (List (List Char)) :=
  match r with
  | c :: r' => if c ≠ '\n' then (cont r').or (cont r) else cont r
  | [] => cont r

def optAnyRe : Re := .rep 0 (some 1) .any

theorem repDen_one (p : Char → Bool) (K : St → Re.Res St) (caps : Caps) (pos : Nat) (xs : List Char) :
    repDen p 0 (some 1) K caps 1 pos xs = K ⟨pos, xs, caps⟩ := by
  cases xs <;> simp [repDen, mxOk]

/-- a greedy optional one-character item `r?` : first try to consume a character of the class -/
theorem rel_opt (ic : Bool) (r : Re) (p : Char → Bool) (hr : charPred ic r = some p) (s : List Char) (N j : Nat)
    (K : St → Re.Res St) (cont : List Char → Option (List (List Char))) (h : Rel s N j K cont) :
    Rel s N j (den ic (.rep 0 (some 1) r) K) (fun rest =>
      match rest with
      | c :: r' => if p c = true then (cont r').or (cont rest) else cont rest
      | [] => cont rest) := by
  intro pos rest caps hd hl
  have hden : den ic (.rep 0 (some 1) r) K ⟨pos, rest, caps⟩ = repDen p 0 (some 1) K caps 0 pos rest := by
    simp only [den, hr]
  rw [hden]
  cases rest with
  | nil => simpa [repDen] using h pos [] caps hd hl
  | cons x xs =>
    have h0 := h pos (x :: xs) caps hd hl
    have h1 := h (pos + 1) xs caps (drop_succ_of_cons s pos x xs hd) hl
    by_cases hx : p x = true
    · simp only [repDen, Nat.not_lt_zero, if_false, mxOk, Nat.lt_add_one, decide_true, if_true, hx, Nat.zero_add]
      rw [repDen_one]
      exact absRes_orFail s _ _ _ _ _ h1 h0
    · simp only [repDen, Nat.not_lt_zero, if_false, mxOk, Nat.lt_add_one, decide_true, if_true, hx]
      exact h0

theorem rel_optAny (ic : Bool) (s : List Char) (N j : Nat) (K : St → Re.Res St)
    (cont : List Char → Option (List (List Char))) (h : Rel s N j K cont) :
    Rel s N j (den ic optAnyRe K) (optAny cont) := by
  intro pos rest caps hd hl
  rw [optAnyRe, rel_opt ic .any notNl rfl s N j K cont h pos rest caps hd hl]
  cases rest with
  | nil => rfl
  | cons c r' => by_cases hc : c = '\n' <;> simp [optAny, notNl, hc]

/-! ### `dotStar` only looks at splits of its subject -/
theorem greedy_congr {α : Type} (s : List Char) (k k' : List Char → List Char → Option α)
    (h : ∀ m, k (s.take m) (s.drop m) = k' (s.take m) (s.drop m)) : ∀ n, greedy s k n = greedy s k' n := by
  intro n
  induction n with
  | zero => simpa [greedy] using h 0
  | succ n ih => simp only [greedy, h (n + 1), ih]

theorem dotStar_congr {α : Type} (s : List Char) (k k' : List Char → List Char → Option α)
    (h : ∀ m, k (s.take m) (s.drop m) = k' (s.take m) (s.drop m)) : dotStar s k = dotStar s k' :=
  greedy_congr s k k' h _

/-! ### the double quote folds onto nothing else -/
theorem foldC_quote_ascii : ∀ n : Fin 128, foldC (Char.ofNat n.val) = '"' → Char.ofNat n.val = '"' := by
  decide +kernel

theorem foldC_quote (c : Char) (h : foldC c = '"') : c = '"' := by
  by_cases hc : c.toNat < 128
  · have := foldC_quote_ascii ⟨c.toNat, hc⟩
    simp only [Char.ofNat_toNat] at this
    exact this h
  · unfold foldC at h
    split at h
    · exact absurd h (by decide)
    · split at h
      · exact absurd h (by decide)
      · split at h
        · exact absurd h (by decide)
        · split at h
          · exact absurd h (by decide)
          · unfold lowerA at h
            split at h
            · rename_i hz
              have : c.toNat ≤ 90 := hz.2
              omega
            · subst h
              exact absurd (by decide) hc

theorem eqCI_quote (c : Char) : eqCI '"' c = (c == '"') := by
  rw [Bool.eq_iff_iff]
  simp only [eqCI, beq_iff_eq]
  constructor
  · intro h
    exact foldC_quote c (by rw [← h]; decide)
  · intro h; subst h; rfl

theorem stripPrefixCI_quote (t : List Char) :
    stripPrefixCI ['"'] t = (match t with | '"' :: t2 => some t2 | _ => none) := by
  cases t with
  | nil => rfl
  | cons c cs =>
    simp only [stripPrefixCI, eqCI_quote]
    by_cases hc : c = '"'
    · subst hc; rfl
    · simp only [beq_iff_eq, hc, if_false]
      split
      · rename_i heq; cases heq; exact absurd rfl hc
      · rfl

end Bridge.RegexMsgClient
