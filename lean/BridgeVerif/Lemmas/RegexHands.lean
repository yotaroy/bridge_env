import BridgeVerif.Lemmas.RegexHandsB
import BridgeVerif.Lemmas.RegexHandsC
/-!
# The regular expressions of `hands.py` are the hand scanners of `Model/Hands.lean`  (Appendix F, R1)

`handsRegexFacts : HandsRegexFacts` (statements in `Lemmas/RegexHandsFacts.lean`):
* `match_deal` (`Lemmas/RegexHandsC.lean`): for every subject, `re.match(DEAL_PATTERN, s)` is `dealFields? s`;
* `match_hand` (`Lemmas/RegexHandsB.lean`): for every subject without a line feed, the groups of
  `re.match(HAND_PATTERN, f)` are `matchGroups 3 f`.
Both go through the fuel-free denotation `den` of `Lemmas/RegexPbnA.lean` (`Lemmas/RegexHandsA.lean` has the tools).
-/
namespace Bridge.RegexHands
open Bridge

theorem handsRegexFacts : HandsRegexFacts := ⟨match_deal, match_hand⟩

/-- why `match_hand` excludes line feeds: the scanner's separator is any character, the pattern's `.` is not -/
theorem match_hand_newline_counterexample :
    (Re.pyMatch false HAND_PATTERN "A\nK.Q.J".toList).map (Option.map (groupTexts "A\nK.Q.J".toList))
      ≠ some ((matchGroups 3 "A\nK.Q.J".toList).map (·.map some)) := by
  -- the characters of a string literal, without decoding it
  rw [show HAND_PATTERN = _ from String.toList_ofList, show "A\nK.Q.J".toList = _ from String.toList_ofList]
  decide +kernel

end Bridge.RegexHands
