import BridgeVerif.Props.C15
import BridgeVerif.Translated.Notation
import BridgeVerif.Translated.Contract
/-!
# C15 — the same statements for the code AS TRANSLATED from the source on this run
(kept apart from Props/C15.lean so that the lemma files which reuse the property theorems do not depend on the generated
program; audited with the property)
-/
namespace Bridge.C15t
open Bridge.C15

/-! ## The notation functions AS TRANSLATED from the source on this run are the model functions above:
`Translated/Notation.lean` (kernel evaluation of `Generated/PyCoreBase.lean` under the MiniPy interpreter over the complete
finite domains) and `Translated/Contract.lean` (from one equation per method, `ContractMethods.lean`); audited with this property. -/

theorem translated_contract_is_model (c : Contract) : Translated.contractAgrees c = true :=
  Translated.contract_class_translated c


end Bridge.C15t
