import BridgeVerif.Translated.ThreadsMainCLemmasBoard
import BridgeVerif.Translated.ThreadsMainCLemmasAccept
/-! Translated `MainThread.run`: the `for board_number in range(1, max_board_num)` loop is `mainBoardsR`; `emit close`, the
`End of session` puts, the `join`s; the statements before the accept loop, and between the accept loop and the board loop -/
set_option linter.unusedSimpArgs false
namespace Bridge.Translated.MainC

section
open Bridge Bridge.Py Bridge.Generated.PyCore Bridge.Translated.MainA Bridge.Translated.MainB

/-- the parse hypotheses of the boards, walking the streams like `mainBoardsR` -/
def BoardsParse (sc : Scenario) (F : Nat) : Nat → List BoardSetting → MainIn → Prop
  | _, [], _ => True
  | k, b :: rest, i => BoardParses F b i ∧
      ∀ acts i', mainBoardR sc k rest.isEmpty b i = some (acts, i') → BoardsParse sc F (k + 1) rest i'

/-- the seat table after `m` boards (two barrier waits each) -/
def advBoards : Nat → Val → List Val → Val × List Val
  | 0, t, ts => (t, ts)
  | m + 1, t, ts => advBoards m (tableAfterDeal t ts).1 (tableAfterDeal t ts).2

/-- the values `k, k+1, …` (`m` of them) of `range` -/
def boardItems (k m : Nat) : List Val := (List.range' k m).map fun (j : Nat) => .int (j : Int)
theorem boardItems_succ (k m : Nat) : boardItems k (m + 1) = .int (k : Int) :: boardItems (k + 1) m := by
  simp only [boardItems, List.range'_succ, List.map_cons]

theorem mainBoardsR_one (sc : Scenario) (k : Nat) (b : BoardSetting) (i : MainIn) :
    mainBoardsR sc k [b] i = (mainBoardR sc k true b i).map (·.1) := by
  rw [mainBoardsR]
theorem mainBoardsR_more (sc : Scenario) (k : Nat) (b b' : BoardSetting) (rest : List BoardSetting) (i : MainIn) :
    mainBoardsR sc k (b :: b' :: rest) i = (do
      let (acts, i) ← mainBoardR sc k false b i
      let more ← mainBoardsR sc (k + 1) (b' :: rest) i
      pure (acts ++ more)) := by
  rw [mainBoardsR]
  · intro h; cases h

def loopVars : List Id := n_board_number :: boardVars

theorem mc_boards_for (sc : Scenario) (F n : Nat) (boards : List BoardSetting) (hn : boards.length = n)
    (more : List (Val × Val)) :
    ∀ (rest : List BoardSetting) (k : Nat) (i : MainIn) (acts : MainActs),
    rest ≠ [] → 1 ≤ k → boards.drop (k-1) = rest →
    mainBoardsR sc k rest i = some acts → BoardsParse sc F k rest i →
    (∀ b ∈ rest, ∀ p, ∀ c ∈ b.deal p, 2 ≤ c.rank ∧ c.rank ≤ 14) →
    ∃ opsS i', encMainActs encRecord acts = some (stripSleep opsS ++ lastOps True) ∧
      ∀ (env : Env) (out : List Val) (table : Val) (tables : List Val) (g : Nat),
      lookup env K.self
        = some (encMainThread (encMainWorld i out table tables more) (.tuple (boards.map encBoardSetting))) →
      lookup env n_max_board_num = some (.int ((n : Int) + 1)) →
      lookup env n_ns_team_name = some (.str sc.nsName) →
      lookup env n_ew_team_name = some (.str sc.ewName) → F + 700 ≤ g →
      ∃ env', forF (mkRec P g) [n_board_number] mcBoardBody env (boardItems k rest.length) = .ok (env', .next) ∧
        lookup env' K.self = some (encMainThread (encMainWorld i' (out ++ opsS) (advBoards rest.length table tables).1
          (advBoards rest.length table tables).2 more) (.tuple (boards.map encBoardSetting))) ∧
        Frame loopVars env env' := by
  intro rest
  induction rest with
  | nil => intro k i acts h; exact absurd rfl h
  | cons b rest' ih =>
    intro k i acts _ h1 hdrop hm hparse hok
    have hb : boards[k-1]? = some b := by
      have := congrArg List.head? hdrop
      simpa [List.head?_drop] using this
    have hdrop' : boards.drop (k + 1 - 1) = rest' := by
      have := congrArg List.tail hdrop
      simp only [List.tail_drop, List.tail_cons] at this
      rw [show k + 1 - 1 = k - 1 + 1 by omega]; exact this
    have hlen : n - (k - 1) = rest'.length + 1 := by
      have := congrArg List.length hdrop
      simp only [List.length_drop, List.length_cons, hn] at this; exact this
    have henv1 : ∀ (env : Env) (out : List Val) (table : Val) (tables : List Val),
        lookup env K.self
          = some (encMainThread (encMainWorld i out table tables more) (.tuple (boards.map encBoardSetting))) →
        lookup env n_max_board_num = some (.int ((n : Int) + 1)) →
        lookup env n_ns_team_name = some (.str sc.nsName) →
        lookup env n_ew_team_name = some (.str sc.ewName) →
        lookup (update env n_board_number (.int (k : Int))) K.self
          = some (encMainThread (encMainWorld i out table tables more) (.tuple (boards.map encBoardSetting))) ∧
        lookup (update env n_board_number (.int (k : Int))) n_board_number = some (.int (k : Int)) ∧
        lookup (update env n_board_number (.int (k : Int))) n_max_board_num = some (.int ((n : Int) + 1)) ∧
        lookup (update env n_board_number (.int (k : Int))) n_ns_team_name = some (.str sc.nsName) ∧
        lookup (update env n_board_number (.int (k : Int))) n_ew_team_name = some (.str sc.ewName) ∧
        Frame loopVars env (update env n_board_number (.int (k : Int))) := by
      intro env out table tables hself hmax hns hew
      exact ⟨(lookup_update_ne env _ _ _ (by decide)).trans hself, lookup_update_same env _ _,
        (lookup_update_ne env _ _ _ (by decide)).trans hmax, (lookup_update_ne env _ _ _ (by decide)).trans hns,
        (lookup_update_ne env _ _ _ (by decide)).trans hew, Frame.update (Frame.refl _ _) _ _ (by decide)⟩
    cases rest' with
    | nil =>
      have hkn : k = n := by simp only [List.length_nil] at hlen; omega
      rw [mainBoardsR_one] at hm
      cases hmb : mainBoardR sc k true b i with
      | none => rw [hmb] at hm; cases hm
      | some x =>
        obtain ⟨acts', i'⟩ := x
        rw [hmb] at hm
        simp only [Option.map_some, Option.some.injEq] at hm
        subst hm
        have hmb' : mainBoardR sc k (decide (k = n)) b i = some (acts', i') := by
          rw [show decide (k = n) = true from decide_eq_true hkn]; exact hmb
        obtain ⟨opsS, hops, hrun⟩ := mc_board sc F k n b i i' acts' hmb' hparse.1
          (hok b (List.mem_cons_self ..)) boards h1 hb more
        refine ⟨opsS, i', ?_, ?_⟩
        · rw [hops]; simp only [lastOps, hkn, if_true]
        · intro env out table tables g hself hmax hns hew hg
          obtain ⟨hself1, hk1, hmax1, hns1, hew1, hfr1⟩ := henv1 env out table tables hself hmax hns hew
          obtain ⟨e2, h2, hs2, hf2⟩ := hrun _ out table tables hself1 hk1 hmax1 hns1 hew1 g hg
          rw [if_pos hkn] at h2
          refine ⟨e2, ?_, ?_, hfr1.trans (hf2.mono (by decide))⟩
          · have h2' : (mkRec P g).exec (update env n_board_number (.int (k : Int))) mcBoardBody = .ok (e2, .brk) := h2
            have e0 : boardItems (k + 1) 0 = [] := rfl
            rw [show [b].length = 0 + 1 from rfl, boardItems_succ, e0]
            simp only [forF, pure_eq, bind_ok, h2']
          · rw [hs2]; rfl
    | cons b' rest'' =>
      have hkn : ¬ k = n := by simp only [List.length_cons] at hlen; omega
      rw [mainBoardsR_more] at hm
      cases hmb : mainBoardR sc k false b i with
      | none => rw [hmb] at hm; cases hm
      | some x =>
        obtain ⟨acts1, i1⟩ := x
        rw [hmb] at hm
        simp only [Option.bind_eq_bind, Option.bind_some] at hm
        cases hmr : mainBoardsR sc (k + 1) (b' :: rest'') i1 with
        | none => rw [hmr] at hm; cases hm
        | some more' =>
          rw [hmr] at hm
          simp only [Option.bind_some, Option.pure_def, Option.some.injEq] at hm
          subst hm
          have hmb' : mainBoardR sc k (decide (k = n)) b i = some (acts1, i1) := by
            rw [show decide (k = n) = false from decide_eq_false hkn]; exact hmb
          obtain ⟨ops1, hops1, hrun1⟩ := mc_board sc F k n b i i1 acts1 hmb' hparse.1
            (hok b (List.mem_cons_self ..)) boards h1 hb more
          have hparse' : BoardsParse sc F (k + 1) (b' :: rest'') i1 := hparse.2 acts1 i1 hmb
          obtain ⟨ops2, i', hops2, hrun2⟩ := ih (k + 1) i1 more' (by simp) (by omega) hdrop'
            hmr hparse' (fun b0 hb0 => hok b0 (List.mem_cons_of_mem _ hb0))
          refine ⟨ops1 ++ ops2, i', ?_, ?_⟩
          · have hl : lastOps (k = n) = [] := by simp only [lastOps, hkn, if_false]
            rw [hl, List.append_nil] at hops1
            rw [MainA.encMainActs_append encRecord _ _ _ _ hops1 hops2, stripSleep_append, List.append_assoc]
          · intro env out table tables g hself hmax hns hew hg
            obtain ⟨hself1, hk1, hmax1, hns1, hew1, hfr1⟩ := henv1 env out table tables hself hmax hns hew
            obtain ⟨e2, h2, hs2, hf2⟩ := hrun1 _ out table tables hself1 hk1 hmax1 hns1 hew1 g hg
            rw [if_neg hkn] at h2
            obtain ⟨e3, h3, hs3, hf3⟩ := hrun2 e2 (out ++ ops1) _ _ g hs2
              (by rw [hf2 _ (by decide)]; exact hmax1) (by rw [hf2 _ (by decide)]; exact hns1)
              (by rw [hf2 _ (by decide)]; exact hew1) hg
            refine ⟨e3, ?_, ?_, (hfr1.trans (hf2.mono (by decide))).trans hf3⟩
            · rw [show (b :: b' :: rest'').length = (b' :: rest'').length + 1 from rfl, boardItems_succ]
              have h2' : (mkRec P g).exec (update env n_board_number (.int (k : Int))) mcBoardBody = .ok (e2, .next) := h2
              rw [forF_cons_next _ _ _ _ _ _ _ h2']
              exact h3
            · rw [hs3, List.append_assoc]; rfl

end

section
open Bridge Bridge.Py Bridge.Generated.PyCore Bridge.Translated.MainA Bridge.Translated.MainB

theorem mcBoardLoop_eq : mcBoardLoop
    = .for [n_board_number] (.builtin .range [.const (.int 1), .var n_max_board_num]) mcBoardBody := rfl

theorem mc_range_items (n : Nat) :
    (List.range ((n : Int) + 1 - 1).toNat).map (fun i => Val.int (1 + Int.ofNat i)) = boardItems 1 n := by
  have e : ((n : Int) + 1 - 1).toNat = n := by omega
  rw [e, boardItems, List.range'_eq_map_range, List.map_map]
  apply List.map_congr_left
  intro a _
  show Val.int (1 + (a : Int)) = Val.int ((1 + a : Nat) : Int)
  congr 1

theorem mc_range_call (r : Rec) (n : Nat) :
    builtinF r P .range [.int 1, .int ((n : Int) + 1)] = .ok (.tuple (boardItems 1 n)) := by
  simp only [builtinF, asInt?]
  rw [mc_range_items]; rfl

/-- the `for` statement over `range(1, max_board_num)` is the loop over the items -/
theorem mc_boardLoop_stmt (f : Nat) (env : Env) (n : Nat)
    (hmax : lookup env n_max_board_num = some (.int ((n : Int) + 1))) :
    execStmtF (mkRec P (f+3)) P env mcBoardLoop
      = forF (mkRec P (f+3)) [n_board_number] mcBoardBody env (boardItems 1 n) := by
  rw [mcBoardLoop_eq]
  simp only [execStmtF, eval_succ, evalF, mapR, lookup, hmax, bind_ok, pure_eq, mc_range_call, iterItems_tuple]

def opJoin (t : Val) : Val := .tuple [vstr "join", t]

def mcJoinLoop : Stmt := m_MainThread_run.body.getD 17 .pass
def mcJoinBody : List Stmt := match mcJoinLoop with
  | .for _ _ b => b
  | _ => []
theorem mcJoinLoop_eq : mcJoinLoop = .for [n_thread] (.var n_threads) mcJoinBody := rfl

theorem mc_join_for (f : Nat) (i : Seat → List Str) (table : Val) (tables : List Val) (more : List (Val × Val)) (bs : Val) :
    ∀ (thr : List Val) (env : Env) (out : List Val),
    lookup env K.self = some (encMainThread (encMainWorld i out table tables more) bs) →
    ∃ env', forF (mkRec P (f+30)) [n_thread] mcJoinBody env thr = .ok (env', .next) ∧
      lookup env' K.self = some (encMainThread (encMainWorld i (out ++ thr.map opJoin) table tables more) bs) ∧
      Frame [K.self, n_thread] env env' := by
  intro thr
  induction thr with
  | nil => intro env out hself; exact ⟨env, rfl, by simpa using hself, Frame.refl _ _⟩
  | cons t thr ih =>
    intro env out hself
    have h1 : ∃ e1, (mkRec P (f+30)).exec (update env n_thread t) mcJoinBody = .ok (e1, .next) ∧
        lookup e1 K.self = some (encMainThread (encMainWorld i (out ++ [opJoin t]) table tables more) bs) ∧
        Frame [K.self, n_thread] env e1 := by
      simp only [encMainThread] at hself ⊢
      refine ⟨?_, ?_, ?_, ?_⟩
      rotate_left
      · simp only [mcJoinBody, mcJoinLoop, m_MainThread_run, List.getD_cons_zero, List.getD_cons_succ]
        ppsimp [pyworld, forF, hself]
        rfl
      · lk_tac
      · frame_tac
    obtain ⟨e1, h1e, hs1, hf1⟩ := h1
    obtain ⟨e2, h2e, hs2, hf2⟩ := ih e1 _ hs1
    refine ⟨e2, ?_, ?_, hf1.trans hf2⟩
    · rw [forF_cons_next _ _ _ _ _ _ _ h1e]; exact h2e
    · rw [hs2]; simp [List.append_assoc]

/-- what follows the board loop: `emit close`, the four `End of session` puts, the `join`s -/
def mcAfterLoop : List Stmt := m_MainThread_run.body.drop 15
def mcCloseEnd : List Stmt := (m_MainThread_run.body.drop 15).take 2
theorem mcAfterLoop_eq : mcAfterLoop = mcCloseEnd ++ [mcJoinLoop] := rfl

theorem mc_close_end (f : Nat) (env : Env) (i : Seat → List Str) (out : List Val) (table : Val) (tables : List Val)
    (more : List (Val × Val)) (bs : Val)
    (hself : lookup env K.self = some (encMainThread (encMainWorld i out table tables more) bs)) :
    ∃ env', execF (mkRec P (f+30)) P env mcCloseEnd = .ok (env', .next) ∧
      lookup env' K.self = some (encMainThread (encMainWorld i (out ++ lastOps True) table tables more) bs) ∧
      Frame [K.self, n_player] env env' := by
  simp only [encMainThread] at hself ⊢
  refine ⟨?_, ?_, ?_, ?_⟩
  rotate_left
  · simp only [mcCloseEnd, m_MainThread_run, List.drop, List.take]
    ppsimp [pyworld, forF, hself, mc_mth_w_emit, mc_w_emit_call]
    rfl
  · lk_tac
  · frame_tac

theorem mc_after_loop (f : Nat) (env : Env) (i : Seat → List Str) (out : List Val) (table : Val) (tables : List Val)
    (more : List (Val × Val)) (bs : Val) (thr : List Val)
    (hself : lookup env K.self = some (encMainThread (encMainWorld i out table tables more) bs))
    (hthr : lookup env n_threads = some (.tuple thr)) :
    ∃ env', execF (mkRec P (f+31)) P env mcAfterLoop = .ok (env', .next) ∧
      lookup env' K.self = some (encMainThread (encMainWorld i (out ++ lastOps True ++ thr.map opJoin) table tables more) bs) := by
  obtain ⟨e1, h1, hs1, hf1⟩ := mc_close_end (f+1) env i out table tables more bs hself
  have hthr1 : lookup e1 n_threads = some (.tuple thr) := by rw [hf1 _ (by decide), hthr]
  obtain ⟨e2, h2, hs2, _⟩ := mc_join_for (f+1) i table tables more bs thr e1 _ hs1
  refine ⟨e2, ?_, hs2⟩
  have h1' : execF (mkRec P (f+31)) P env mcCloseEnd = .ok (e1, .next) := h1
  rw [mcAfterLoop_eq, execF_append_next _ h1']
  have h2' : forF (mkRec P (f+31)) [n_thread] mcJoinBody e1 thr = .ok (e2, .next) := h2
  simp only [execF, mcJoinLoop_eq, execStmtF, eval_succ, evalF, hthr1, bind_ok, pure_eq, iterItems_tuple, h2']

end

section
open Bridge Bridge.Py Bridge.Generated.PyCore Bridge.Translated.MainA Bridge.Translated.MainB Bridge.Translated.SeatB

def opBind : Val := .tuple [vstr "bind", .none]
def opListen : Val := .tuple [vstr "listen", .int 4]
def opEmitOpen : Val := .tuple [vstr "emit", vstr "open", .none]

def mcPre : List Stmt := m_MainThread_run.body.take 4
def mcMid : List Stmt := (m_MainThread_run.body.drop 5).take 9
theorem mcRunBody_eq : m_MainThread_run.body = mcPre ++ (mcAcceptWhile :: (mcMid ++ (mcBoardLoop :: mcAfterLoop))) := rfl

/-- `bind`, `listen(4)`, the empty seat table, no threads yet -/
theorem mc_pre (f : Nat) (env : Env) (i : Seat → List Str) (out : List Val) (table : Val) (tables : List Val)
    (more : List (Val × Val)) (bs : Val)
    (hself : lookup env K.self = some (encMainThread (encMainWorld i out table tables more) bs)) :
    ∃ env', execF (mkRec P (f+30)) P env mcPre = .ok (env', .next) ∧
      lookup env' K.self = some (encMainThread (encMainWorld i (out ++ [opBind, opListen]) (encTable Table.empty) tables more) bs) ∧
      lookup env' n_threads = some (.tuple []) ∧
      Frame [K.self, n_threads] env env' := by
  simp only [encMainThread] at hself ⊢
  refine ⟨?_, ?_, ?_, ?_, ?_⟩
  rotate_left
  · simp only [mcPre, m_MainThread_run, List.take]
    ppsimp [pyworld, forF, hself, updateD, beq_enum]
    simp only [mb_world_def]
    ppsimp [pyworld, forF, hself, updateD, beq_enum]
    rfl
  · lk_tac
  · lk_tac
  · frame_tac

theorem mc_lookup_table_E (t : Table) : lookupD (tableKvs t) (.enum n_Player 2) = some (encOpt .str (t .E)) :=
  sb_lookup_table t .E
theorem mc_lookup_table_S (t : Table) : lookupD (tableKvs t) (.enum n_Player 3) = some (encOpt .str (t .S)) :=
  sb_lookup_table t .S
theorem mc_lookup_table_W (t : Table) : lookupD (tableKvs t) (.enum n_Player 4) = some (encOpt .str (t .W)) :=
  sb_lookup_table t .W

theorem mc_attr_table (r : Rec) (i : Seat → List Str) (out : List Val) (table : Val) (tables : List Val)
    (more : List (Val × Val)) : getAttrF r P (encMainWorld i out table tables more) n_table = .ok table := rfl

/-- the variables the statements between the two loops write -/
def midVars : List Id := [K.self, n_ns_team_name, n_ew_team_name, n_max_board_num]

/-- the two assertions on the seat table, the team names, the seating barrier, `max_board_num`, the log opened -/
theorem mc_mid (f : Nat) (env : Env) (i : Seat → List Str) (out : List Val) (t : Table) (tables : List Val)
    (more : List (Val × Val)) (boards : List Val) (ns ew : Str)
    (hN : t .N = some ns) (hS : t .S = some ns) (hE : t .E = some ew) (hW : t .W = some ew)
    (hself : lookup env K.self = some (encMainThread (encMainWorld i out (encTable t) tables more) (.tuple boards))) :
    ∃ env', execF (mkRec P (f+40)) P env mcMid = .ok (env', .next) ∧
      lookup env' K.self = some (encMainThread (encMainWorld i (out ++ [syncOp, opEmitOpen])
        (advTable (encTable t) tables).1 (advTable (encTable t) tables).2 more) (.tuple boards)) ∧
      lookup env' n_ns_team_name = some (.str ns) ∧ lookup env' n_ew_team_name = some (.str ew) ∧
      lookup env' n_max_board_num = some (.int ((boards.length : Int) + 1)) ∧
      Frame midVars env env' := by
  have hsync : ∀ g out, callF (mkRec P (g+20)) m_MainThread__sync_event
        [encMainThread (encMainWorld i out (encTable t) tables more) (.tuple boards), .none, .none]
      = .ok (.none, encMainThread (encMainWorld i (out ++ [.tuple [vstr "sync"]]) (advTable (encTable t) tables).1
                (advTable (encTable t) tables).2 more) (.tuple boards)) :=
    fun g out => mt_sync_event_call g (mainIns i more) out (encTable t) tables false (.tuple boards) .none .none
  simp only [encMainThread, encTable] at hself hsync ⊢
  refine ⟨?_, ?_, ?_, ?_, ?_, ?_, ?_⟩
  rotate_left
  · simp only [mcMid, m_MainThread_run, List.drop, List.take]
    ppsimp [pyworld, forF, hself, mc_attr_table, encTable, sb_lookup_table_N, mc_lookup_table_E, mc_lookup_table_S, mc_lookup_table_W,
      hN, hS, hE, hW, beq_str, beq_self_eq_true, mc_beq_str_none, mt_mth_sync_event, hsync, mc_beq_tuple_none,
      mc_mth_w_emit, mc_w_emit_call]
    rfl
  · lk_tac
  · lk_tac
  · lk_tac
  · lk_tac
  · frame_tac

end

end Bridge.Translated.MainC
