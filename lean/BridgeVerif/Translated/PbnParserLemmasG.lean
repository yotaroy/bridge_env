import BridgeVerif.Translated.PbnParserLemmasF
/-! Translated PBN parser = model: `%` lines and content lines of `parse_stream` -/
namespace Bridge.Translated
open Bridge Bridge.Py Bridge.Generated.PyCore Bridge.RegexPbn

theorem pp_m_group_call1 (f : Nat) (g0 g1 : Val) (gs : List Val) :
    callF (mkRec P (f+6)) m__Match_group [.obj n__Match [(n_texts, .tuple (g0 :: g1 :: gs))], .int 1]
      = .ok (g1, .obj n__Match [(n_texts, .tuple (g0 :: g1 :: gs))]) := rfl
theorem pp_m_group_call2 (f : Nat) (g0 g1 g2 : Val) (gs : List Val) :
    callF (mkRec P (f+6)) m__Match_group [.obj n__Match [(n_texts, .tuple (g0 :: g1 :: g2 :: gs))], .int 2]
      = .ok (g2, .obj n__Match [(n_texts, .tuple (g0 :: g1 :: g2 :: gs))]) := rfl
theorem pp_int_str (r : Rec) (s : Str) (n : Int) (h : parseInt? s = some n) : builtinF r P .int [.str s] = .ok (.int n) := by
  simp only [builtinF, h]; rfl
theorem pp_lstrip (r : Rec) (s : Str) : builtinF r P .lstrip [.str s] = .ok (.str (s.dropWhile isSpaceC)) := rfl

/-- a `%` line outside a comment (not semi-empty) -/
theorem pp_step_pct (hf : PbnRegexFacts) (f N : Nat) (fpv : Val) (rest : Str)
    (hp : pctLineOk ('%' :: rest) = true) (buf : List Str) (cl cb : List Str) (games : List Game) (tail : Env) :
    ∃ cl' tail', execF (mkRec P (f + 4 * N + 31)) P
        (psEnv ⟨false, buf⟩ cl cb fpv games (update tail n_line (.str ('%' :: rest)))) psBody
      = .ok (psEnv ⟨false, buf⟩ cl' cb fpv games tail', .cont) := by
  obtain ⟨mv, hmv, hb⟩ := pp_fullmatch_builtin hf ('%' :: rest)
  have hse : semiEmpty ('%' :: rest) = false := rfl
  rw [hse] at hmv
  simp only [pctLineOk, Bool.and_eq_true] at hp
  obtain ⟨m1, hb1, hm1⟩ := pp_version_builtin _ hp.1
  obtain ⟨m2, hb2⟩ := pp_export_builtin _ hp.2
  simp only [PBN_VERSION_PATTERN] at hb1
  simp only [PBN_EXPORT_PATTERN] at hb2
  simp only [psBody, m_PbnParser_parse_stream, List.getD_cons_succ, List.getD_cons_zero, psEnv, encPbnParser]
  rcases hm1 with rfl | ⟨g0, a, b, gs, na, nb, rfl, hna, hnb⟩
  · refine ⟨cl ++ [(sliceList ('%' :: rest) (some 1) none).dropWhile isSpaceC], ?_⟩
    ppsimp [pp_mth_replace, pp_replace_call, hb, hmv, pp_index_str0, pp_beq_pct, hb1, hb2, pp_truthy_none, ite_self,
      pp_lstrip, List.map_append, List.map_cons, List.map_nil]
    exact ⟨_, rfl⟩
  · refine ⟨cl ++ [(sliceList ('%' :: rest) (some 1) none).dropWhile isSpaceC], ?_⟩
    ppsimp [pp_mth_replace, pp_replace_call, hb, hmv, pp_index_str0, pp_beq_pct, hb1, hb2, pp_truthy_obj, ite_self,
      pp_lstrip, List.map_append, List.map_cons, List.map_nil, pp_mth_m_group, pp_m_group_call1, pp_m_group_call2,
      pp_int_str _ a na hna, pp_int_str _ b nb hnb]
    exact ⟨_, rfl⟩

theorem pp_truthy_beq_pct (c : Char) : truthy (.bool ((Val.str [c]).beq (.str ['%']))) = decide (c = '%') := by
  rw [Py.truthy_bool, pp_beq_pct]

/-- a line handed to `extract_content` -/
theorem pp_step_content (hf : PbnRegexFacts) (f N : Nat) (fpv : Val) (c : Char) (rest : Str) (ic : Bool)
    (h1 : (semiEmpty (c :: rest) && !ic) = false) (h2 : (decide (c = '%') && !ic) = false)
    (hlen : (c :: rest).length + 1 < 2 * N) (buf : List Str) (cl cb : List Str) (games : List Game) (tail : Env) :
    ∃ cl' cb' tail', execF (mkRec P (f + 4 * N + 31)) P
        (psEnv ⟨ic, buf⟩ cl cb fpv games (update tail n_line (.str (c :: rest)))) psBody
      = .ok (psEnv (extractContent ((c :: rest).length + 1) ⟨ic, buf⟩ (c :: rest)) cl' cb' fpv games tail', .next) := by
  obtain ⟨mv, hmv, hb⟩ := pp_fullmatch_builtin hf (c :: rest)
  have hm : (c :: rest).length + (PbnSt.mk ic buf).inComment.toNat < 2 * N := by
    cases ic
    · exact (show (c :: rest).length + 0 < 2 * N by omega)
    · exact hlen
  obtain ⟨cl', cb', hec⟩ := pp_extract_call hf N (f + 14) ((c :: rest).length + 1) ⟨ic, buf⟩ cl cb (c :: rest) hm
    (Nat.lt_succ_self _)
  have e : f + 14 + 4 * N + 16 = f + 4 * N + 30 := by omega
  rw [e] at hec
  refine ⟨cl', cb', ?_⟩
  generalize extractContent ((c :: rest).length + 1) ⟨ic, buf⟩ (c :: rest) = st' at hec ⊢
  simp only [encPbnParser] at hec
  simp only [psBody, m_PbnParser_parse_stream, List.getD_cons_succ, List.getD_cons_zero, psEnv, encPbnParser]
  cases hsem : semiEmpty (c :: rest) <;> rw [hsem] at hmv h1 <;> cases hd : decide (c = '%') <;> cases ic <;> rw [hd] at h2 <;>
    simp only [Bool.not_false, Bool.not_true, Bool.and_true, Bool.and_false, 
      Bool.true_eq_false] at h1 h2
  all_goals
    ppsimp [pp_mth_replace, pp_replace_call, hb, hmv, pp_index_str0, pp_beq_pct, hd, pp_mth_extract, hec]
    exact ⟨_, rfl⟩

/-- one (non-empty) line of `parse_stream` = `streamStep` -/
theorem pp_step (hf : PbnRegexFacts) (hne : PbnSubNonempty) (f N : Nat) (fpv : Val) (c : Char) (rest : Str)
    (hlen : (c :: rest).length + 1 < 2 * N) (hpct : c = '%' → pctLineOk (c :: rest) = true)
    (st : PbnSt) (cl cb : List Str) (games : List Game) (tail : Env) :
    ∃ cl' cb' tail' fl, (fl = .next ∨ fl = .cont) ∧
      execF (mkRec P (f + 4 * N + 31)) P (psEnv st cl cb fpv games (update tail n_line (.str (c :: rest)))) psBody
        = .ok (psEnv (streamStep (st, games) (c :: rest)).1 cl' cb' fpv (streamStep (st, games) (c :: rest)).2 tail', fl) := by
  obtain ⟨ic, buf⟩ := st
  cases h1 : (semiEmpty (c :: rest) && !ic) with
  | true =>
    simp only [Bool.and_eq_true, Bool.not_eq_true'] at h1
    obtain ⟨hse, rfl⟩ := h1
    obtain ⟨tail', hs⟩ := pp_step_semi hf hne f N fpv (c :: rest) hse buf cl cb games tail
    exact ⟨[], [], tail', .cont, Or.inr rfl, hs⟩
  | false =>
    have hss : streamStep (⟨ic, buf⟩, games) (c :: rest)
        = if (decide (c = '%') && !ic) = true then (⟨ic, buf⟩, games)
          else (extractContent ((c :: rest).length + 1) ⟨ic, buf⟩ (c :: rest), games) := by
      simp only [streamStep, h1, Bool.false_eq_true, if_false, List.head?_cons, Option.some.injEq]
    rw [hss]
    cases h2 : (decide (c = '%') && !ic) with
    | true =>
      simp only [Bool.and_eq_true, Bool.not_eq_true', decide_eq_true_eq] at h2
      obtain ⟨rfl, rfl⟩ := h2
      obtain ⟨cl', tail', hs⟩ := pp_step_pct hf f N fpv rest (hpct rfl) buf cl cb games tail
      exact ⟨cl', cb, tail', .cont, Or.inr rfl, hs⟩
    | false =>
      obtain ⟨cl', cb', tail', hs⟩ := pp_step_content hf f N fpv c rest ic h1 h2 hlen buf cl cb games tail
      exact ⟨cl', cb', tail', .next, Or.inl rfl, hs⟩

/-- the empty line: `line[0]` raises `IndexError` -/
theorem pp_step_empty (hf : PbnRegexFacts) (f N : Nat) (fpv : Val) (st : PbnSt) (cl cb : List Str) (games : List Game)
    (tail : Env) :
    execF (mkRec P (f + 4 * N + 31)) P (psEnv st cl cb fpv games (update tail n_line (.str []))) psBody
      = .error (.exc K.IndexError) := by
  obtain ⟨mv, hmv, hb⟩ := pp_fullmatch_builtin hf []
  have hse : semiEmpty [] = false := rfl
  rw [hse] at hmv
  simp only [psBody, m_PbnParser_parse_stream, List.getD_cons_succ, List.getD_cons_zero, psEnv, encPbnParser]
  ppsimp [pp_mth_replace, pp_replace_call, hb, hmv, pw_index_empty]

/-- the condition on the lines: non-empty, short enough for the fuel, `%` lines harmless -/
def LinesOk (N : Nat) (lines : List Str) : Prop :=
  ∀ l ∈ lines, l ≠ [] ∧ l.length + 1 < 2 * N ∧ (l.head? = some '%' → pctLineOk l = true)

theorem pp_linesOk (N B : Nat) (hB : B + 1 < 2 * N) (lines : List Str) (hok : ∀ l ∈ lines, l ≠ [] ∧ l.length ≤ B)
    (hpct : ∀ l ∈ lines, l.head? = some '%' → pctLineOk l = true) : LinesOk N lines :=
  fun l hl => ⟨(hok l hl).1, by have := (hok l hl).2; omega, hpct l hl⟩

end Bridge.Translated
