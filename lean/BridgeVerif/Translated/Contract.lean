import BridgeVerif.Translated.ContractMethods
import BridgeVerif.Lemmas.ContractText
/-!
# contract.py AS TRANSLATED is the model of it, on EVERY contract  (C15, C07, C03)

36 final bids (35 + passed out) × doubled × redoubled flags × 4 vulnerabilities × 5 declarers (4 + none): `is_passed_out`,
`level`, `trump`, `necessary_tricks`, `is_vul`, `__str__`, `str_to_contract` of the printed text, and the constructor.
Each is the lemma about that method in `ContractMethods.lean` (the body executed symbolically, the fields it does not read
left as variables), taken in `PB` at the fuel `topFuel` of `meth` / `PB.runNew`.
-/
namespace Bridge.Translated
open Bridge Bridge.Py Bridge.Generated.PyCore

theorem meth_of_call (c m : Id) {c' : Id} {fd : FuncDef} {args : List Val} {r : R (Val × Val)}
    (hm : PB.method? classDepth c m = some (c', fd)) (h : (mkRec PB topFuel).call fd args = r) :
    meth c m args = r.map (·.1) := by
  subst h
  simp only [meth, Program.runMethod, hm, callFn]

theorem encContract_beq_self (c : Contract) : (encContract c).beq (encContract c) = true := by
  obtain ⟨ob, x, xx, v, d⟩ := c
  cases ob <;> cases d <;> simp [encContract, Val.beq, beqF, encOpt, encBid, encVul, encSeat]

theorem contract_class_translated (c : Contract) : contractAgrees c = true := by
  obtain ⟨ob, x, xx, v, d⟩ := c
  have hQ := Program.Ext.refl PB
  simp only [contractAgrees, Bool.and_eq_true]
  refine ⟨⟨⟨⟨⟨⟨⟨?_, ?_⟩, ?_⟩, ?_⟩, ?_⟩, ?_⟩, ?_⟩, ?_⟩
  · rw [meth_of_call n_Contract n_is_passed_out rfl (passed_out_call PB topFuel (by decide) _)]
    simp [Except.map, R.bool?, Contract.isPassedOut]
  · rw [meth_of_call n_Contract n_level rfl (level_call hQ topFuel (by decide) _)]
    cases ob <;> simp [Except.map, intOrNone, encOpt, R.isNone, R.int?, Contract.level]
  · rw [meth_of_call n_Contract n_trump rfl (trump_call hQ topFuel (by decide) _)]
    cases ob <;> simp [Except.map, enumOrNone, encOpt, R.isNone, enumOf, encSuit, Contract.trump]
  · rw [meth_of_call n_Contract n_necessary_tricks rfl (necessary_tricks_call hQ topFuel (by decide) _)]
    cases ob <;> simp [Except.map, intOrNone, encOpt, R.isNone, R.int?, Contract.level]
  · cases d with
    | none => rw [meth_of_call n_Contract n_is_vul rfl (is_vul_call_none PB topFuel (by decide) ob x xx v)]; cases v <;> rfl
    | some p =>
      rw [meth_of_call n_Contract n_is_vul rfl (is_vul_call_some hQ topFuel (by decide) ob x xx v p)]
      cases v <;> cases p <;> rfl
  · rw [meth_of_call n_Contract K.str__ rfl (str_call hQ topFuel (by decide) _)]
    simp [Except.map, R.str?]
  · cases hs : strToContract? (contractStr ⟨ob, x, xx, v, d⟩) v d with
    | some c' =>
      rw [meth_of_call n_Contract n_str_to_contract rfl (str_to_contract_call hQ topFuel (by decide) _ v d c' hs),
        pyContract_eq_enc]
      · exact encContract_beq_self _
      · cases ob with
        | none => exact fun _ => rfl
        | some b => rw [strToContract?_contractStr_bid] at hs; cases hs; exact nofun
    | none =>
      cases ob with
      | some b => rw [strToContract?_contractStr_bid] at hs; cases hs
      | none =>
        cases d with
        | none => cases hs
        | some p =>
          show valOrRaises none (meth n_Contract n_str_to_contract [_, .str "Passed_out".toList, _, encSeat p]) = true
          rw [meth_of_call n_Contract n_str_to_contract rfl (str_to_contract_declarer PB topFuel (by decide) v p)]
          rfl
  · have h : PB.runNew n_Contract [encOpt encBid ob, .bool x, .bool xx, encVul v, encOpt encSeat d]
        = .ok (encContract ⟨ob, x, xx, v, d⟩) :=
      contract_new hQ topFuel (by decide) _ _ _ _ _ (by cases ob <;> simp [encOpt, beq_encBid_dbl, Val.beq])
        (by cases ob <;> simp [encOpt, beq_encBid_rdbl, Val.beq])
    rw [h]
    exact encContract_beq_self _

end Bridge.Translated
