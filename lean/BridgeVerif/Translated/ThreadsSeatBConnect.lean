import BridgeVerif.Translated.ThreadsSeatBWorld
/-! Translated `SeatThread._connect`: the seat table as a MiniPy dictionary, the model's reply texts, the six outcomes of
the method by symbolic execution of its body -/
namespace Bridge.Translated.SeatB
open Bridge Bridge.Py Bridge.Generated.PyCore

/-! ## the seat table -/
def tableKvs (t : Table) : List (Val × Val) :=
  [(encSeat .N, encOpt .str (t .N)), (encSeat .E, encOpt .str (t .E)), (encSeat .S, encOpt .str (t .S)),
   (encSeat .W, encOpt .str (t .W))]

/-- the dictionary `{Player.N: …, Player.E: …, Player.S: …, Player.W: …}` (team name or `None`) of a `Table` -/
def encTable (t : Table) : Val := .dict (tableKvs t)

theorem sb_lookup_table (t : Table) (p : Seat) : lookupD (tableKvs t) (encSeat p) = some (encOpt .str (t p)) := by
  cases p <;> simp [lookupD, tableKvs, encSeat, Val.beq, Seat.value]

theorem sb_update_table (t : Table) (p : Seat) (name : Str) :
    updateD (tableKvs t) (encSeat p) (.str name) = tableKvs (t.set p name) := by
  cases p <;> simp [updateD, tableKvs, encSeat, Val.beq, Seat.value, Table.set, encOpt]

theorem sb_lookup_table_N (t : Table) : lookupD (tableKvs t) (.enum n_Player 1) = some (encOpt .str (t .N)) :=
  sb_lookup_table t .N
theorem sb_lookup_table_E (t : Table) : lookupD (tableKvs t) (.enum n_Player 2) = some (encOpt .str (t .E)) :=
  sb_lookup_table t .E

theorem sb_headD_tables (l : List Table) (t : Table) : (l.map encTable).headD (encTable t) = encTable (l.headD t) := by
  cases l <;> rfl
theorem sb_tail_tables (l : List Table) : (l.map encTable).tail = l.tail.map encTable := by
  cases l <;> rfl

theorem sb_index_table (r : Rec) (t : Table) (p : Seat) :
    indexF r P (encTable t) (encSeat p) = .ok (encOpt .str (t p)) := by
  simp only [encTable, Py.index_dict, sb_lookup_table]
theorem sb_index_table_N (r : Rec) (t : Table) : indexF r P (encTable t) (.enum n_Player 1) = .ok (encOpt .str (t .N)) :=
  sb_index_table r t .N
theorem sb_index_table_E (r : Rec) (t : Table) : indexF r P (encTable t) (.enum n_Player 2) = .ok (encOpt .str (t .E)) :=
  sb_index_table r t .E

theorem sb_w_set_table' (f : Nat) (ins : List (Val × Val)) (out : List Val) (t : Table) (tbs : List Val)
    (eof : Bool) (p : Seat) (name : Str) :
    callF (mkRec P (f+8)) m__World_w_set_table [encWorld ins out (encTable t) tbs eof, encSeat p, .str name]
      = .ok (.none, encWorld ins (out ++ [.tuple [vstr "table", encSeat p, .str name]]) (encTable (t.set p name)) tbs eof) := by
  rw [encTable, sb_w_set_table, sb_update_table]; rfl

theorem sbu_w_set_table (f : Nat) (p0 : Seat) (q c : List Str) (out : List Val) (t : Table) (tbs : List Val) (p : Seat)
    (name : Str) :
    callF (mkRec P (f+8)) m__World_w_set_table [encSeatWorld p0 q c out (encTable t) tbs, encSeat p, .str name]
      = .ok (.none, encSeatWorld p0 q c (out ++ [.tuple [vstr "table", encSeat p, .str name]]) (encTable (t.set p name))
          tbs) :=
  sb_w_set_table' f _ out t tbs false p name

/-! the model's texts, unfolded (by `rfl`: generating the equation lemmas of `replyText` would evaluate the string literals) -/
theorem sb_reply_seated (r : Request) (t : Table) :
    replyText r t .seated = r.seat.formal ++ " ".toList ++ r.team ++ " seated".toList := rfl
theorem sb_reply_bad (r : Request) (t : Table) : replyText r t .badVersion =
    "ERROR: Protocol version is not ".toList ++ natStr PROTOCOL_VERSION ++ " but ".toList ++
      natStr r.version ++ ".".toList := rfl
theorem sb_reply_taken (r : Request) (t : Table) : replyText r t .seatTaken =
    "ERROR: Player ".toList ++ r.seat.formal ++ " is already seated.".toList := rfl
theorem sb_reply_mismatch (r : Request) (t : Table) : replyText r t .teamMismatch =
    "ERROR: Team name \"".toList ++ r.team ++ "\" is not same as partner's team name \"".toList ++
      ((t r.seat.partner).getD []) ++ "\".".toList := rfl
theorem sb_teamsMsg (ns ew : List Char) :
    teamsMsg ns ew = "Teams : N/S : \"".toList ++ ns ++ "\" E/W : \"".toList ++ ew ++ ['"'] := rfl

/-- closing step: unfold the encodings and the model's texts on the right, normalise the f-string on the left -/
macro "sbtext" "[" ls:Lean.Parser.Tactic.simpLemma,* "]" : tactic =>
  `(tactic| simp only [sb_reply_seated, sb_reply_bad, sb_reply_taken, sb_reply_mismatch, sb_teamsMsg, encSeatThread, vstr,
      String.reduceToList, List.flatten_cons, List.flatten_nil, List.append_nil, List.append_assoc, List.cons_append,
      List.nil_append, $ls,*])

theorem sb_mth_parse : P.method? classDepth n_PlayerThread n_parse_connection_info
    = some (n_PlayerThread, m_PlayerThread_parse_connection_info) := rfl

theorem sb_getAttr_table (r : Rec) (p : Seat) (q c : List Str) (out : List Val) (tb : Val) (tbs : List Val) :
    getAttrF r P (encSeatWorld p q c out tb tbs) n_table = .ok tb := rfl

attribute [pyworld] sb_getAttr_table sbu_w_set_table sb_index_table

theorem sb_beq_18 : (Val.int ((18 : Nat) : Int)).beq (.int 18) = true := by
  rw [beq_int]; rfl

/-- the third test (`partner_team_name is not None and partner_team_name != team_name`) when the partner's seat is free
or taken for the same team, in the shape the symbolic execution leaves it in -/
theorem sb_partner_test (o : Option Str) (team : Str) (hp : ∀ pt, o = some pt → pt = team) :
    (if (encOpt Val.str o).beq .none = false then (Except.ok (Val.bool !(encOpt Val.str o).beq (.str team)) : R Val)
      else .ok (.bool !(encOpt Val.str o).beq .none)) = .ok (.bool false) := by
  cases o with
  | none => simp only [pp_encOpt_none, beq_none_none, Bool.true_eq_false, if_false, Bool.not_true]
  | some pt => rw [hp pt rfl]; simp only [pp_encOpt_some, sb_str_beq_none, sb_str_beq, decide_true, if_true, Bool.not_true]

/-- the thread's new name `Thread-<Seat>-(<team>)` -/
def threadName (seat : Seat) (team : Str) : Str :=
  "Thread-".toList ++ seat.formal ++ "-(".toList ++ team ++ ")".toList
theorem sb_threadName (seat : Seat) (team : Str) :
    threadName seat team = "Thread-".toList ++ seat.formal ++ "-(".toList ++ team ++ ")".toList := rfl

theorem sb_connect_badVersion (M : Nat) (p0 : Seat) (q c : List Str) (req : Str) (out : List Val) (t : Table)
    (tbs : List Val) (team : Str) (seat : Seat) (version : Nat) (s' : Val)
    (hparse : callF (mkRec P (M+21)) m_PlayerThread_parse_connection_info [.str req]
      = .ok (.tuple [.str team, encSeat seat, .int version], s'))
    (hv : version ≠ 18) :
    callF (mkRec P (M+24)) m_SeatThread__connect
        [.obj n_SeatThread [(n__w, encSeatWorld p0 q (req :: c) out (encTable t) tbs)]]
      = .ok (.bool false, encSeatThread seat (encSeatWorld p0 q c (out ++ [.tuple [vstr "recv"],
          .tuple [vstr "send", .str (replyText ⟨team, seat, version⟩ t .badVersion)], .tuple [vstr "close", .none],
          .tuple [vstr "event_set", .none]]) (encTable t) tbs) []) := by
  have hb : (Val.int (version : Int)).beq (.int 18) = false := by
    rw [beq_int, beq_eq_false_iff_ne]; omega
  rw [callF_def]
  simp only [m_SeatThread__connect, bindParams, Option.map]
  ppsimp [pyworld, sb_mth_parse, hparse, hb]
  rw [sb_intStr_18, sb_intStr_nat]
  sbtext []

theorem sb_connect_seatTaken (M : Nat) (p0 : Seat) (q c : List Str) (req : Str) (out : List Val) (t : Table)
    (tbs : List Val) (team : Str) (seat : Seat) (s' : Val) (x : Str)
    (hparse : callF (mkRec P (M+21)) m_PlayerThread_parse_connection_info [.str req]
      = .ok (.tuple [.str team, encSeat seat, .int (18 : Nat)], s'))
    (ht : t seat = some x) :
    callF (mkRec P (M+24)) m_SeatThread__connect
        [.obj n_SeatThread [(n__w, encSeatWorld p0 q (req :: c) out (encTable t) tbs)]]
      = .ok (.bool false, encSeatThread seat (encSeatWorld p0 q c (out ++ [.tuple [vstr "recv"],
          .tuple [vstr "send", .str (replyText ⟨team, seat, 18⟩ t .seatTaken)], .tuple [vstr "close", .none],
          .tuple [vstr "event_set", .none]]) (encTable t) tbs) []) := by
  rw [callF_def]
  simp only [m_SeatThread__connect, bindParams, Option.map]
  ppsimp [pyworld, sb_mth_parse, hparse, sb_beq_18, ht]
  sbtext []

theorem sb_connect_teamMismatch (M : Nat) (p0 : Seat) (q c : List Str) (req : Str) (out : List Val) (t : Table)
    (tbs : List Val) (team : Str) (seat : Seat) (s' : Val) (pt : Str)
    (hparse : callF (mkRec P (M+21)) m_PlayerThread_parse_connection_info [.str req]
      = .ok (.tuple [.str team, encSeat seat, .int (18 : Nat)], s'))
    (ht : t seat = none) (hp : t seat.partner = some pt) (hne : pt ≠ team) :
    callF (mkRec P (M+24)) m_SeatThread__connect
        [.obj n_SeatThread [(n__w, encSeatWorld p0 q (req :: c) out (encTable t) tbs)]]
      = .ok (.bool false, encSeatThread seat (encSeatWorld p0 q c (out ++ [.tuple [vstr "recv"],
          .tuple [vstr "send", .str (replyText ⟨team, seat, 18⟩ t .teamMismatch)], .tuple [vstr "close", .none],
          .tuple [vstr "event_set", .none]]) (encTable t) tbs) []) := by
  rw [callF_def]
  simp only [m_SeatThread__connect, bindParams, Option.map]
  ppsimp [pyworld, sb_mth_parse, hparse, sb_beq_18, ht, getAttr_partner, hp, sb_str_beq, hne, truthy]
  sbtext [hp, Option.getD_some]

/-- seated, but the client's next message is not `<Seat> ready for teams`: the error is sent, the connection closed, the
verdict signalled, `False` returned — the seat STAYS written (the code does not undo it) -/
theorem sb_connect_seated_notReady (M : Nat) (p0 : Seat) (q c : List Str) (req ready : Str) (out : List Val) (t : Table)
    (tbs : List Val) (team : Str) (seat : Seat) (s' : Val)
    (hparse : callF (mkRec P (M+21)) m_PlayerThread_parse_connection_info [.str req]
      = .ok (.tuple [.str team, encSeat seat, .int (18 : Nat)], s'))
    (ht : t seat = none) (hp : ∀ pt, t seat.partner = some pt → pt = team)
    (hr : failsCheck (seat.formal ++ " ready for teams".toList) ready) :
    callF (mkRec P (M+24)) m_SeatThread__connect
        [.obj n_SeatThread [(n__w, encSeatWorld p0 q (req :: ready :: c) out (encTable t) tbs)]]
      = .ok (.bool false, encSeatThread seat (encSeatWorld p0 q c (out ++ [.tuple [vstr "recv"],
          .tuple [vstr "table", encSeat seat, .str team],
          .tuple [vstr "send", .str (replyText ⟨team, seat, 18⟩ t .seated)], .tuple [vstr "recv"],
          .tuple [vstr "send", vstr "ERROR: Unexpected message received."], .tuple [vstr "close", .none],
          .tuple [vstr "event_set", .none]]) (encTable (t.set seat team)) tbs) []) := by
  rw [callF_def]
  simp only [m_SeatThread__connect, bindParams, Option.map]
  simp only [String.reduceToList] at hr
  have hc := fun f out tb tbs rest => sb_check_fail f p0 q c ready _ out tb tbs rest hr
  ppsimp [pyworld, sb_mth_parse, hparse, sb_beq_18, ht, getAttr_partner, sb_partner_test _ _ hp, sb_flat2, hc]
  sbtext []

/-- seated and past the barrier, but the client's answer to the `Teams` message is not `<Seat> ready to start`: the error
is sent, the connection closed, `False` returned (the verdict was signalled before the barrier) -/
theorem sb_connect_seated_notStart (M : Nat) (p0 : Seat) (q c : List Str) (req ready start : Str) (out : List Val)
    (t : Table) (tables : List Table) (team : Str) (seat : Seat) (s' : Val)
    (hparse : callF (mkRec P (M+21)) m_PlayerThread_parse_connection_info [.str req]
      = .ok (.tuple [.str team, encSeat seat, .int (18 : Nat)], s'))
    (ht : t seat = none) (hp : ∀ pt, t seat.partner = some pt → pt = team)
    (hr : passesCheck (seat.formal ++ " ready for teams".toList) ready)
    (hs : failsCheck (seat.formal ++ " ready to start".toList) start) :
    callF (mkRec P (M+24)) m_SeatThread__connect
        [.obj n_SeatThread [(n__w, encSeatWorld p0 q (req :: ready :: start :: c) out (encTable t) (tables.map encTable))]]
      = .ok (.bool false, encSeatThread seat (encSeatWorld p0 q c (out ++ [.tuple [vstr "recv"],
          .tuple [vstr "table", encSeat seat, .str team],
          .tuple [vstr "send", .str (replyText ⟨team, seat, 18⟩ t .seated)], .tuple [vstr "recv"],
          .tuple [vstr "event_set", .none], .tuple [vstr "sync"],
          .tuple [vstr "send", .str (teamsMsg (optText ((tables.headD (t.set seat team)) .N))
            (optText ((tables.headD (t.set seat team)) .E)))],
          .tuple [vstr "recv"], .tuple [vstr "send", vstr "ERROR: Unexpected message received."],
          .tuple [vstr "close", .none]]) (encTable (tables.headD (t.set seat team))) (tables.tail.map encTable)) []) := by
  rw [callF_def]
  simp only [m_SeatThread__connect, bindParams, Option.map]
  simp only [String.reduceToList] at hr hs
  have hc1 := fun f out tb tbs rest => sb_check_pass f p0 q (start :: c) ready _ out tb tbs rest hr
  have hc2 := fun f out tb tbs rest => sb_check_fail f p0 q c start _ out tb tbs rest hs
  ppsimp [pyworld, sb_mth_parse, hparse, sb_beq_18, ht, getAttr_partner, sb_partner_test _ _ hp, sb_flat2, hc1, hc2,
    sb_headD_tables, sb_tail_tables, sb_index_table_N, sb_index_table_E]
  sbtext []

theorem sb_connect_seated (M : Nat) (p0 : Seat) (q c : List Str) (req ready start : Str) (out : List Val) (t : Table)
    (tables : List Table) (team : Str) (seat : Seat) (s' : Val)
    (hparse : callF (mkRec P (M+21)) m_PlayerThread_parse_connection_info [.str req]
      = .ok (.tuple [.str team, encSeat seat, .int (18 : Nat)], s'))
    (ht : t seat = none) (hp : ∀ pt, t seat.partner = some pt → pt = team)
    (hr : passesCheck (seat.formal ++ " ready for teams".toList) ready)
    (hs : passesCheck (seat.formal ++ " ready to start".toList) start) :
    callF (mkRec P (M+24)) m_SeatThread__connect
        [.obj n_SeatThread [(n__w, encSeatWorld p0 q (req :: ready :: start :: c) out (encTable t) (tables.map encTable))]]
      = .ok (.bool true, encSeatThread seat (encSeatWorld p0 q c (out ++ [.tuple [vstr "recv"],
          .tuple [vstr "table", encSeat seat, .str team],
          .tuple [vstr "send", .str (replyText ⟨team, seat, 18⟩ t .seated)], .tuple [vstr "recv"],
          .tuple [vstr "event_set", .none], .tuple [vstr "sync"],
          .tuple [vstr "send", .str (teamsMsg (optText ((tables.headD (t.set seat team)) .N))
            (optText ((tables.headD (t.set seat team)) .E)))],
          .tuple [vstr "recv"]]) (encTable (tables.headD (t.set seat team))) (tables.tail.map encTable))
          [(K.name, .str (threadName seat team))]) := by
  rw [callF_def]
  simp only [m_SeatThread__connect, bindParams, Option.map]
  simp only [String.reduceToList] at hr hs
  have hc1 := fun f out tb tbs rest => sb_check_pass f p0 q (start :: c) ready _ out tb tbs rest hr
  have hc2 := fun f out tb tbs rest => sb_check_pass f p0 q c start _ out tb tbs rest hs
  ppsimp [pyworld, sb_mth_parse, hparse, sb_beq_18, ht, getAttr_partner, sb_partner_test _ _ hp, sb_flat2, hc1, hc2,
    sb_headD_tables, sb_tail_tables, sb_index_table_N, sb_index_table_E]
  sbtext [sb_threadName]

end Bridge.Translated.SeatB
