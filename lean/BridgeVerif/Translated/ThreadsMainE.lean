import BridgeVerif.Translated.ThreadsMainD
/-!
# The parse hypotheses of the main-thread capstone, discharged for EVERY plain-ASCII text

`ThreadsMainD.session_boards_parse` discharges `BoardsParse` (`BidMsgsOK`, `PlayParses`) for the finite families of protocol
texts.  Here: for ANY texts — whatever the players word, in any letter case, with alerts, explanations, trailing text —
all of whose characters are ASCII and none of U+001C..U+001F (`PlainAscii`): the translated `remove_alert_word` /
`parse_bid` / `parse_card` read them as the model's `removeAlert` / `parseBid?` / `parseCard?` do (`good_of_plain_ascii`,
ThreadsMainCLemmasParse.lean, from Translated/MsgParsers*.lean and the regular-expression theorems Lemmas/RegexMsgBid*.lean),
hence `BoardsParse` holds (`session_boards_parse_ascii`) and the capstone needs no parse hypothesis
(`translated_main_thread_is_session_program_ascii`).
-/
namespace Bridge.Translated.MainE
open Bridge Bridge.Py Bridge.Generated.PyCore
open Bridge.Translated.MainA Bridge.Translated.MainB Bridge.Translated.SeatB
open Bridge.Translated.MainC Bridge.Translated.MainD Bridge.Translated.MsgParsers Bridge.RegexMsgBid
open Bridge.Admission

set_option linter.unusedVariables false in
/-- `BoardsParse` OF THE SESSION'S STREAMS HOLDS (at fuel 22) for ANY plain-ASCII texts -/
theorem session_boards_parse_ascii (sc : Scenario)
    (hc : ∀ bd ∈ sc.boards, ConformingAuction bd.1 bd.2 ∧ ConformingPlay bd.1 bd.2 ∧ TextsConform bd.1 bd.2)
    (hp : AsciiTexts sc) :
    BoardsParse sc 22 1 (sc.boards.map (·.1)) (fun p => sendsOn (Chan.t2m p) (sessionProg sc (.seat p))) :=
  boardsParse_of_good sc 22 _ 1 _ (allGood_of_plain_ascii 22 (Nat.le_refl _) _ (session_streams_ascii sc hp))

/-- (1) + (2) of `ThreadsMainD` WITHOUT THE PARSE HYPOTHESIS, for any plain-ASCII texts -/
theorem translated_main_thread_is_session_program_ascii (sc : Scenario) (h : sc.boards ≠ [])
    (hc : ∀ bd ∈ sc.boards, ConformingAuction bd.1 bd.2 ∧ ConformingPlay bd.1 bd.2 ∧ TextsConform bd.1 bd.2)
    (hp : AsciiTexts sc)
    (hok : ∀ b ∈ sc.boards.map (·.1), ∀ p, ∀ c ∈ b.deal p, 2 ≤ c.rank ∧ c.rank ≤ 14)
    (reqs : List (List Char × List Char)) (opss : List (List Op)) (mops : List MainOp) (tf : Table) (conns : List Conn)
    (hacc : acceptLoopR Table.empty reqs = some (opss, mops, tf)) (hfull : tf.full = true)
    (hlen : conns.length = opss.length)
    (hN : tf .N = some sc.nsName) (hS : tf .S = some sc.nsName) (hE : tf .E = some sc.ewName) (hW : tf .W = some sc.ewName)
    (table0 : Val) (later accR ntR alR : List Val) (rest : List (Val × Val)) :
    ∃ opsS i' out,
      out = [opBind, opListen] ++ (conns.flatMap fun c => roundOps c.conn c.thread) ++ opsS ++
                ((conns.filter (·.alive)).map (·.thread)).map opJoin ∧
      encMainActs encRecord (sessionProg sc .main) = some (stripSleep opsS) ∧
      opsS.filter isEmitOp = (emitsOf (sessionProg sc .main)).map (encLogOp encRecord) ∧
      out.filter isEmitOp = (emitsOf (sessionProg sc .main)).map (encLogOp encRecord) ∧
      out.filter isEmitOp = sessionLogOps sc ∧
      ∀ f, 22 + conns.length + 800 ≤ f →
        callFn P f m_MainThread_run [encMainThread (encMainWorld
            (fun p => sendsOn (Chan.t2m p) (sessionProg sc (.seat p))) [] table0
            ((acceptSnapshots Table.empty reqs).map encTable ++ later)
            (acceptMore (conns.map (fun c => .tuple [c.conn, c.addr]) ++ accR) (conns.map (·.thread) ++ ntR)
              (conns.map (fun c => .bool c.alive) ++ alR) rest)) (.tuple ((sc.boards.map (·.1)).map encBoardSetting))]
          = .ok (.none, encMainThread (encMainWorld i' out
              (advBoards sc.boards.length (advTable (encTable tf) later).1 (advTable (encTable tf) later).2).1
              (advBoards sc.boards.length (advTable (encTable tf) later).1 (advTable (encTable tf) later).2).2
              (acceptMore accR ntR alR rest)) (.tuple ((sc.boards.map (·.1)).map encBoardSetting))) :=
  translated_main_thread_writes_the_session_log sc h hc 22 (session_boards_parse_ascii sc hc hp) hok reqs opss mops tf conns
    hacc hfull hlen hN hS hE hW table0 later accR ntR alR rest

/-! ## non-vacuity: texts OUTSIDE the protocol families that the theorems cover -/
example : PlainAscii "north BIDS 3nt \t ALERT.  ".toList ∧
    parseBid? (preprocessBid "north BIDS 3nt \t ALERT.  ".toList) Seat.N.formal = some (Call.bid ⟨14, by decide⟩) := by
  decide +kernel
example : PlainAscii "WEST REDoubles  alert. ".toList ∧
    parseBid? (preprocessBid "WEST REDoubles  alert. ".toList) Seat.W.formal = some .rdbl := by decide +kernel
example : PlainAscii "south PLAYS tH with pleasure".toList ∧
    parseCard? "south PLAYS tH with pleasure".toList .S = some ⟨10, .H⟩ := by decide +kernel

end Bridge.Translated.MainE
