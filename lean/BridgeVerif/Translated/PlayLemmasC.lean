import BridgeVerif.Translated.PlayLemmasB
/-! Translated playing phases = model: `available_cards` (a set comprehension), `current_available_cards` -/
namespace Bridge.Translated
open Bridge Bridge.Py Bridge.Generated.PyCore

/-! ## `available_cards` -/
theorem mth_available_cards :
    P.method? classDepth n_PlayingPhase n_available_cards = some (n_PlayingPhase, m_PlayingPhase_available_cards) := rfl

/-- `{card for card in hand if card.suit is suit}` -/
theorem comp_same_suit (f : Nat) (env : Env) (su : Suit) (hs : lookup env n_suit = some (encSuit su)) (l : List Card) :
    compF (mkRec P (f+5)) env n_card (some (.cmp .is (.attr (.var n_card) n_suit) (.var n_suit))) (.var n_card)
        (l.map encCard)
      = .ok ((l.filter fun c => decide (c.suit = su)).map encCard) := by
  induction l with
  | nil => rfl
  | cons c l ih =>
    simp only [List.map_cons, compF, ih]
    by_cases h : c.suit = su
    · ppsimp [hs, h, List.filter_cons, List.map_cons]
    · ppsimp [hs, h, List.filter_cons, List.map_cons]

theorem len_cards (r : Rec) (l : List Card) : builtinF r P .len [.tuple (l.map encCard)] = .ok (.int l.length) := by
  simp only [builtinF, List.length_map]; rfl

theorem len_tuple (r : Rec) (xs : List Val) : builtinF r P .len [.tuple xs] = .ok (.int xs.length) := rfl
theorem natCast_beq_zero (n : Nat) : ((n : Int) == 0) = decide (n = 0) := by
  rw [Bool.eq_iff_iff]; simp only [beq_iff_eq, decide_eq_true_eq, Int.natCast_eq_zero]

theorem available_cards_call (f : Nat) (hand : List Card) (first : Option Card) :
    callF (mkRec P (f+12)) m_PlayingPhase_available_cards [encCards hand, encOpt encCard first]
      = .ok (encCards (availableCards hand first), encCards hand) := by
  rw [callF_def]
  simp only [m_PlayingPhase_available_cards, bindParams, Option.map]
  cases first with
  | none => ppsimp [availableCards]
  | some fc =>
    ppsimp [availableCards, beq_encCard_none, encCards, iterItems_tuple]
    rw [comp_same_suit _ _ fc.suit rfl]
    generalize List.filter (fun c => decide (c.suit = fc.suit)) hand = fl
    by_cases h0 : fl.length = 0 <;> ppsimp [len_cards, beq_int, natCast_beq_zero, h0]

theorem available_cards_call_none (f : Nat) (hand : List Card) :
    callF (mkRec P (f+12)) m_PlayingPhase_available_cards [.tuple (hand.map encCard), .none]
      = .ok (.tuple ((availableCards hand none).map encCard), .tuple (hand.map encCard)) :=
  available_cards_call f hand none
theorem available_cards_call_some (f : Nat) (hand : List Card) (fc : Card) :
    callF (mkRec P (f+12)) m_PlayingPhase_available_cards [.tuple (hand.map encCard), encCard fc]
      = .ok (.tuple ((availableCards hand (some fc)).map encCard), .tuple (hand.map encCard)) :=
  available_cards_call f hand (some fc)

/-! ## `current_available_cards` (on an instance of `PlayingPhase` or of a subclass) -/

theorem current_available_call (f : Nat) (k : Id) (ex : List (Id × Val)) (c : Contract) (s : PState) (hand : List Card) :
    callF (mkRec P (f+20)) m_PlayingPhase_current_available_cards [ppObj k c s ex, encCards hand]
      = .ok (encCards (s.currentAvailable hand), ppObj k c s ex) := by
  rw [callF_def]
  simp only [m_PlayingPhase_current_available_cards, bindParams, Option.map, ppObj, baseFields, PState.currentAvailable]
  cases s.trick with
  | nil =>
    ppsimp [encCards, len_cards, beq_int, mth_available_cards, available_cards_call_none, List.head?]
  | cons t ts =>
    ppsimp [encCards, len_tuple, beq_int, mth_available_cards, available_cards_call_some, List.head?, natCast_beq_zero,
      index_tuple, List.length_map, normIndex_zero_succ, List.map_cons, List.getD_cons_zero, Nat.add_one_ne_zero]

end Bridge.Translated
