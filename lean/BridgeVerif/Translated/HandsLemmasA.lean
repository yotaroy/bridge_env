import BridgeVerif.Translated.PlayLemmasH
import BridgeVerif.Lemmas.Deal
/-! Translated `Hands` (hands.py) = model: the encoder of the instance, `__getitem__`, `to_dict`, `int(card)`,
`to_binary` (the inner loop `for card in self[p]: binary[int(card)] = 1` by induction; the outer `for p in Player`
unrolled) -/
namespace Bridge.Translated
open Bridge Bridge.Py Bridge.Generated.PyCore

/-- the `Hands` instance -/
def encHands (h : Hands) : Val :=
  .obj n_Hands [(n_north, .tuple ((h .N).map encCard)), (n_east, .tuple ((h .E).map encCard)),
                (n_south, .tuple ((h .S).map encCard)), (n_west, .tuple ((h .W).map encCard))]

theorem hands_mth_getitem : P.method? classDepth n_Hands K.getitem__ = some (n_Hands, m_Hands___getitem__) := rfl

theorem hd_enum_N : Val.enum n_Player 1 = encSeat .N := rfl
theorem hd_enum_E : Val.enum n_Player 2 = encSeat .E := rfl
theorem hd_enum_S : Val.enum n_Player 3 = encSeat .S := rfl
theorem hd_enum_W : Val.enum n_Player 4 = encSeat .W := rfl

theorem hands_getitem_call (f : Nat) (h : Hands) (p : Seat) :
    callF (mkRec P (f+8)) m_Hands___getitem__ [encHands h, encSeat p]
      = .ok (.tuple ((h p).map encCard), encHands h) := by
  rw [callF_def]
  simp only [m_Hands___getitem__, bindParams, Option.map, encHands]
  cases p <;> ppsimp [hd_enum_N, hd_enum_E, hd_enum_S, hd_enum_W]

theorem hands_getitem_call_bad (f : Nat) (h : Hands) (k : Val) (hk : ∀ p, k.beq (encSeat p) = false) :
    callF (mkRec P (f+8)) m_Hands___getitem__ [encHands h, k] = .error (.exc K.KeyError) := by
  rw [callF_def]
  simp only [m_Hands___getitem__, bindParams, Option.map, encHands]
  ppsimp [hd_enum_N, hd_enum_E, hd_enum_S, hd_enum_W, hk]

theorem hands_to_dict_call (f : Nat) (h : Hands) :
    callF (mkRec P (f+8)) m_Hands_to_dict [encHands h] = .ok (.dict (handsKvs h), encHands h) := by
  rw [callF_def]
  simp only [m_Hands_to_dict, bindParams, Option.map, encHands]
  ppsimp [List.map, updateD, Val.beq, handsKvs, encCards, encSeat, Seat.value]
  rfl
/-- Python's `int(card)` computed in the integers -/
def idxZ (c : Card) : Int := (c.rank : Int) - 2 + ((c.suit.value : Int) - 1) * 13

theorem hd_idxZ (c : Card) (h : 2 ≤ c.rank) : idxZ c = (c.idx : Int) := by
  have : 1 ≤ c.suit.value := by cases c.suit <;> decide
  simp only [idxZ, Card.idx]; omega

theorem hd_mth_card_int : P.method? classDepth n_Card K.int__ = some (n_Card, m_Card___int__) := rfl

theorem hd_card_int_call (f : Nat) (c : Card) :
    callF (mkRec P (f+8)) m_Card___int__ [encCard c] = .ok (.int (idxZ c), encCard c) := by
  rw [callF_def]
  simp only [m_Card___int__, bindParams, Option.map, encCard]
  ppsimp [encSuit, idxZ]

theorem hd_builtin_int_card (f : Nat) (c : Card) :
    builtinF (mkRec P (f+9)) P .int [encCard c] = .ok (.int (idxZ c)) := by
  have e : builtinF (mkRec P (f+9)) P .int [encCard c]
      = (callF (mkRec P (f+8)) m_Card___int__ [encCard c] >>= fun x => pure x.1) := rfl
  rw [e, hd_card_int_call]; rfl

/-! ## `to_binary` -/
def tbOuter : List Stmt := match m_Hands_to_binary.body.getD 1 .pass with
  | .for _ _ b => b
  | _ => []
def tbInner : List Stmt := match tbOuter.getD 1 .pass with
  | .for _ _ b => b
  | _ => []

theorem hd_normIndex_nat (n len : Nat) (h : n < len) : normIndex len (n : Int) = some n := by
  simp [normIndex, h]

/-- slot `c.idx` set for every card of `cs` -/
def setBits (cs : List Card) (xs : List Val) : List Val := cs.foldl (fun acc c => replaceAt acc c.idx (.int 1)) xs

theorem hd_replaceAt_length (xs : List Val) (n : Nat) (v : Val) : (replaceAt xs n v).length = xs.length := by
  rw [replaceAt_eq_set, List.length_set]

theorem hands_tb_inner (f : Nat) (sv bv pv : Val) : ∀ (cs : List Card) (xs : List Val) (tail : Env),
    (∀ c ∈ cs, 2 ≤ c.rank ∧ c.idx < xs.length) →
    forF (mkRec P (f+14)) [n_card] tbInner
        ((K.self, sv) :: (n_binaries, bv) :: (n_p, pv) :: (n_binary, .tuple xs) :: tail) (cs.map encCard)
      = .ok ((K.self, sv) :: (n_binaries, bv) :: (n_p, pv) :: (n_binary, .tuple (setBits cs xs))
              :: cs.foldl (fun t c => update t n_card (encCard c)) tail, .next) := by
  intro cs
  induction cs with
  | nil => intro xs tail _; rfl
  | cons c cs ih =>
    intro xs tail hc
    have h1 := (hc c (List.mem_cons_self ..)).1
    have h2 := (hc c (List.mem_cons_self ..)).2
    simp only [List.map_cons, forF, tbInner, tbOuter, m_Hands_to_binary, List.getD_cons_succ, List.getD_cons_zero]
    ppsimp [hd_builtin_int_card, hd_idxZ c h1, hd_normIndex_nat _ _ h2]
    have := ih (replaceAt xs c.idx (.int 1)) (update tail n_card (encCard c)) (by
      intro d hd; rw [hd_replaceAt_length]; exact hc d (List.mem_cons_of_mem _ hd))
    simp only [tbInner, tbOuter, m_Hands_to_binary, List.getD_cons_succ, List.getD_cons_zero] at this
    rw [this]; rfl

theorem hd_index_hands (r : Rec) (h : Hands) (iv : Val) :
    indexF r P (encHands h) iv
      = (callMethod r P n_Hands K.getitem__ [encHands h, iv] (.exc K.TypeError)) >>= fun x => .ok x.1 := rfl

theorem hands_getitem_call_N (f : Nat) (h : Hands) :
    callF (mkRec P (f+8)) m_Hands___getitem__ [encHands h, .enum n_Player 1] = .ok (.tuple ((h .N).map encCard), encHands h) :=
  hands_getitem_call f h .N
theorem hands_getitem_call_E (f : Nat) (h : Hands) :
    callF (mkRec P (f+8)) m_Hands___getitem__ [encHands h, .enum n_Player 2] = .ok (.tuple ((h .E).map encCard), encHands h) :=
  hands_getitem_call f h .E
theorem hands_getitem_call_S (f : Nat) (h : Hands) :
    callF (mkRec P (f+8)) m_Hands___getitem__ [encHands h, .enum n_Player 3] = .ok (.tuple ((h .S).map encCard), encHands h) :=
  hands_getitem_call f h .S
theorem hands_getitem_call_W (f : Nat) (h : Hands) :
    callF (mkRec P (f+8)) m_Hands___getitem__ [encHands h, .enum n_Player 4] = .ok (.tuple ((h .W).map encCard), encHands h) :=
  hands_getitem_call f h .W

def zeros52 : List Val := List.replicate 52 (.int 0)
theorem hd_zeros : (List.replicate (Int.toNat 52) [Val.int 0]).flatten = zeros52 := by
  simp only [zeros52]; rfl
theorem hd_iter_player : iterItems P (.cls n_Player) = some [.enum n_Player 1, .enum n_Player 2, .enum n_Player 3, .enum n_Player 4] := rfl

theorem hands_to_binary_call (f : Nat) (h : Hands) (hok : ∀ p, ∀ c ∈ h p, 2 ≤ c.rank ∧ c.idx < 52) :
    callF (mkRec P (f+30)) m_Hands_to_binary [encHands h]
      = .ok (.dict [(encSeat .N, .tuple (setBits (h .N) zeros52)), (encSeat .E, .tuple (setBits (h .E) zeros52)),
                    (encSeat .S, .tuple (setBits (h .S) zeros52)), (encSeat .W, .tuple (setBits (h .W) zeros52))],
             encHands h) := by
  rw [callF_def]
  simp only [m_Hands_to_binary, bindParams, Option.map]
  have hl := fun p bv pv t => hands_tb_inner (f+14) (encHands h) bv pv (h p) zeros52 t (hok p)
  simp only [tbInner, tbOuter, m_Hands_to_binary, List.getD_cons_succ, List.getD_cons_zero] at hl
  ppsimp [hd_zeros, hd_iter_player, forF, hd_index_hands, hands_mth_getitem, hands_getitem_call_N, hands_getitem_call_E,
    hands_getitem_call_S, hands_getitem_call_W, List.map_nil, iterItems_tuple, hl, builtin_tuple_tuple, updateD, Val.beq]
  rfl

/-! the 52-slot vector as a predicate on the slots -/
def bitsOf (a : Nat → Bool) : List Val := (List.range 52).map fun i => .int (if a i then 1 else 0)

theorem hd_zeros_bits : zeros52 = bitsOf (fun _ => false) := by
  rfl

theorem hd_replaceAt_bits (a : Nat → Bool) (k : Nat) :
    replaceAt (bitsOf a) k (.int 1) = bitsOf (fun i => i == k || a i) := by
  rw [replaceAt_eq_set]
  apply List.ext_getElem
  · simp [bitsOf]
  · intro n h1 h2
    simp only [bitsOf, List.getElem_set, List.getElem_map, List.getElem_range]
    by_cases hk : k = n
    · subst hk; simp
    · have : (n == k) = false := by simp; omega
      simp [hk, this]

theorem hd_setBits_bits (cs : List Card) : ∀ a : Nat → Bool,
    setBits cs (bitsOf a) = bitsOf (fun i => a i || cs.any fun c => c.idx == i) := by
  induction cs with
  | nil => intro a; simp [setBits]
  | cons c cs ih =>
    intro a
    have := ih (fun i => i == c.idx || a i)
    simp only [setBits, List.foldl_cons] at this ⊢
    rw [hd_replaceAt_bits, this]
    congr 1; funext i
    simp only [List.any_cons]
    have e : (c.idx == i) = (i == c.idx) := Bool.beq_comm
    rw [e]
    cases a i <;> cases (i == c.idx) <;> rfl

/-- `to_binary()[p]` of the model as a tuple of `int`s -/
def encBits (l : List Nat) : Val := .tuple (l.map fun n => .int (Int.ofNat n))

theorem hd_setBits_toBinary (h : Hands) (p : Seat) : Val.tuple (setBits (h p) zeros52) = encBits (toBinary h p) := by
  rw [hd_zeros_bits, hd_setBits_bits, encBits]; unfold toBinary; rw [List.map_map, bitsOf]
  congr 2; funext i
  simp only [Bool.false_or, Function.comp]
  split <;> rfl
end Bridge.Translated
