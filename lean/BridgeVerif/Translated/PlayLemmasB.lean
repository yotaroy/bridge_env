import BridgeVerif.Translated.PlayLemmasA
/-! Translated playing phases = model: the simp set of the symbolic execution; `calc_highest` (a `for` loop over
`enumerate(cards)` with `continue`) -/
namespace Bridge.Translated
open Bridge Bridge.Py Bridge.Generated.PyCore

/-! ## what `pyexec` (Lemmas/MiniPyExec.lean) is given about the encoded values of the playing phase -/
theorem pp_getAttr_encSeat_value (r : Rec) (p : Seat) : getAttrF r P (encSeat p) K.value = .ok (.int p.value) := rfl
theorem pp_encOpt_some {α} (g : α → Val) (a : α) : encOpt g (some a) = g a := rfl
theorem pp_encOpt_none {α} (g : α → Val) : encOpt g none = .none := rfl
theorem getAttr_card_suit (r : Rec) (c : Card) : getAttrF r P (encCard c) n_suit = .ok (encSuit c.suit) := rfl
theorem getAttr_card_rank (r : Rec) (c : Card) : getAttrF r P (encCard c) n_rank = .ok (.int c.rank) := rfl
attribute [pyexec] pp_getAttr_encSeat_value pp_encOpt_some pp_encOpt_none getAttr_card_suit getAttr_card_rank beq_encSuit
  beq_encSeat beq_encCard


/-! ## `calc_highest` -/
theorem mth_calc_highest :
    P.method? classDepth n_PlayingPhase n_calc_highest = some (n_PlayingPhase, m_PlayingPhase_calc_highest) := rfl

def chBody : List Stmt := match m_PlayingPhase_calc_highest.body.getD 3 .pass with
  | .for _ _ b => b
  | _ => []

/-- `enumerate(cards)` from position `i` -/
def enumFrom (i : Nat) : List Card → List Val
  | [] => []
  | c :: cs => .tuple [.int i, encCard c] :: enumFrom (i+1) cs

theorem mapIdx_enum (cs : List Card) (i : Nat) :
    (cs.map encCard).mapIdx (fun j x => Val.tuple [.int (Int.ofNat (j + i)), x]) = enumFrom i cs := by
  induction cs generalizing i with
  | nil => rfl
  | cons c cs ih =>
    simp only [List.map_cons, List.mapIdx_cons, enumFrom, Nat.zero_add]
    congr 1
    rw [← ih (i+1)]
    congr 1; funext j x; rw [show j + (i + 1) = j + 1 + i by omega]

theorem ch_loop (f : Nat) (su : Suit) (cv : Val) : ∀ (cs : List Card) (i : Nat) (n hi : Int) (tail : Env),
    ∃ hi' tail', forF (mkRec P (f+10)) [n_i, n_card] chBody
        ((n_suit, encSuit su) :: (n_cards, cv) :: (n_n, .int n) :: (n_highest, .int hi) :: tail) (enumFrom i cs)
      = .ok ((n_suit, encSuit su) :: (n_cards, cv) :: (n_n, .int (calcHighestAux su cs i n hi)) :: (n_highest, .int hi') :: tail',
             .next) := by
  intro cs
  induction cs with
  | nil => intro i n hi tail; exact ⟨hi, tail, rfl⟩
  | cons c cs ih =>
    intro i n hi tail
    simp only [enumFrom, forF, chBody, m_PlayingPhase_calc_highest, List.getD_cons_succ, List.getD_cons_zero]
    by_cases h1 : c.suit = su
    · by_cases h2 : hi < (c.rank : Int)
      · ppsimp [h1, h2]
        have e : calcHighestAux su (c :: cs) i n hi = calcHighestAux su cs (i + 1) i c.rank := by
          simp only [calcHighestAux, h1, ne_eq, not_true_eq_false, if_false, h2, if_true]
        rw [e]; exact ih (i + 1) i c.rank _
      · ppsimp [h1, h2]
        have e : calcHighestAux su (c :: cs) i n hi = calcHighestAux su cs (i + 1) n hi := by
          simp only [calcHighestAux, h1, ne_eq, not_true_eq_false, if_false, h2]
        rw [e]; exact ih (i + 1) n hi _
    · ppsimp [h1]
      have e : calcHighestAux su (c :: cs) i n hi = calcHighestAux su cs (i + 1) n hi := by
        simp only [calcHighestAux, ne_eq, h1, not_false_eq_true, if_true]
      rw [e]; exact ih (i + 1) n hi _

theorem beq_encSuit_NT (su : Suit) : (encSuit su).beq (.enum n_Suit 5) = decide (su = .NT) := beq_encSuit su .NT

theorem enumerate_cards (r : Rec) (cs : List Card) :
    builtinF r P .enumerate [encCards cs] = .ok (.tuple (enumFrom 0 cs)) := by
  have := mapIdx_enum cs 0
  simp only [Nat.add_zero] at this
  simp only [builtinF, encCards, iterItems, this]; rfl
theorem iterItems_tuple (xs : List Val) : iterItems P (.tuple xs) = some xs := rfl

theorem calc_highest_call (f : Nat) (su : Suit) (cs : List Card) :
    callF (mkRec P (f+12)) m_PlayingPhase_calc_highest [encSuit su, encCards cs]
      = .ok (.int (calcHighest su cs), encSuit su) := by
  rw [callF_def]
  simp only [m_PlayingPhase_calc_highest, bindParams, Option.map]
  by_cases h : su = .NT
  · subst h
    ppsimp [calcHighest, beq_encSuit_NT]
  · obtain ⟨hi', tail', hl⟩ := ch_loop (f+1) su (encCards cs) cs 0 (-1) (-1) []
    simp only [chBody, m_PlayingPhase_calc_highest, List.getD_cons_succ, List.getD_cons_zero] at hl
    ppsimp [calcHighest, beq_encSuit_NT, h, enumerate_cards, iterItems_tuple, hl]

end Bridge.Translated
