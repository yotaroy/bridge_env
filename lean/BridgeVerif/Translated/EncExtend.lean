import BridgeVerif.Translated.Enc
import BridgeVerif.Lemmas.MiniPyExtend
/-! The whole translated program `P` extends the base program `PB`: what a function of the value classes or of the
scoring computes in `PB` without `isinstance`, it computes in `P` (`Bridge.Py.callFn_extend`). -/
namespace Bridge.Translated
open Bridge.Py Bridge.Generated.PyCore

theorem PB_ext_P : PB.Ext P := by
  refine .of_append (cs := ?_) (fs := ?_) (gs := ?_) ?hc ?hf ?hg (by decide)
  case hc => simp only [P, PB, program, programBase, List.append_assoc]; rfl
  case hf => simp only [P, PB, program, programBase, List.append_assoc]; rfl
  case hg => simp only [P, PB, program, programBase, List.append_assoc]; rfl

end Bridge.Translated
