import BridgeVerif.Translated.MsgParsersC
/-! Translated `MessageInterface.parse_bid` (socket_interface.py) = model, part D: `parse_bid(content, formal_name)` returns the
encoding of the call `parseBid? content formal_name` reads, and raises when it reads none — for EVERY ASCII text, every seat's name, every fuel ≥ 22. -/
namespace Bridge.Translated.MsgParsers
open Bridge Bridge.Py Bridge.Generated.PyCore Bridge.Translated Bridge.RegexHands Bridge.RegexMsgBid
open Bridge.Translated.HandsPbn

/-- `match.group(i)` on a match object with three texts -/
theorem mp_group_call3 (f : Nat) (x0 x1 x2 : Val) (i : Int) (k : Nat) (h : normIndex 3 i = some k) :
    callF (mkRec P (f+6)) m__Match_group [.obj n__Match [(n_texts, .tuple [x0, x1, x2])], .int i]
      = .ok ([x0, x1, x2].getD k .none, .obj n__Match [(n_texts, .tuple [x0, x1, x2])]) := by
  rw [callF_def]
  simp only [m__Match_group, bindParams, Option.map]
  ppsimp [index_tuple, h]

theorem mp_builtin_int (r : Rec) (s : List Char) (n : Int) (h : parseInt? s = some n) :
    builtinF r P .int [.str s] = .ok (.int n) := by
  simp only [builtinF, h]; rfl

theorem mp_digit (d : Char) (h : Bridge.isDigit d = true) :
    digitVal? d = some (d.toNat - '0'.toNat) ∧ d.toNat - '0'.toNat < 10 := by
  simp only [Bridge.isDigit, decide_eq_true_eq] at h
  refine ⟨by simp [digitVal?, h], ?_⟩
  have h2 : d.toNat ≤ '9'.toNat := h.2
  have : '9'.toNat = 57 := rfl
  have : '0'.toNat = 48 := rfl
  omega

theorem mp_mth_parse_bid : P.method? classDepth n_MessageInterface n_parse_bid
    = some (n_MessageInterface, m_MessageInterface_parse_bid) := rfl

theorem mp_wordCall_some (content name : List Char) (call : Call) (h : wordCall? content name = some call) :
    ∃ r, stripPrefixCI (name ++ [' ']) content = some r ∧
      ((lowerS (r.takeWhile (· ≠ '\n')) = "passes".toList ∧ call = .pass) ∨
       (lowerS (r.takeWhile (· ≠ '\n')) ≠ "passes".toList ∧ lowerS (r.takeWhile (· ≠ '\n')) = "doubles".toList ∧ call = .dbl) ∨
       (lowerS (r.takeWhile (· ≠ '\n')) ≠ "passes".toList ∧ lowerS (r.takeWhile (· ≠ '\n')) ≠ "doubles".toList ∧
          lowerS (r.takeWhile (· ≠ '\n')) = "redoubles".toList ∧ call = .rdbl)) := by
  unfold wordCall? at h
  split at h
  · cases h
  · rename_i r hr
    refine ⟨r, hr, ?_⟩
    simp only at h
    split at h
    · rename_i h1; cases h; exact Or.inl ⟨h1, rfl⟩
    · rename_i h1
      split at h
      · rename_i h2; cases h; exact Or.inr (Or.inl ⟨h1, h2, rfl⟩)
      · rename_i h2
        split at h
        · rename_i h3; cases h; exact Or.inr (Or.inr ⟨h1, h2, h3, rfl⟩)
        · cases h

theorem mp_parse_bid_all (f : Nat) (content : List Char) (hs : ∀ x ∈ content, x.toNat < 128) (p : Seat)
    (C : R (Val × Val)) (hC : callF (mkRec P (f+21)) m_MessageInterface_parse_bid [.str content, .str p.formal] = C) :
    match parseBid? content p.formal with
    | some call => C.map (·.1) = .ok (encCall call)
    | none => ∃ c ∈ [K.ValueError, K.Exception], C = .error (.exc c) := by
  revert hC
  rw [mp_parseBid_eq]
  have hfact := match_bids_ascii p content hs
  rw [bidsPat, show " bids (\\d)(C|D|H|S|NT)".toList = _ from String.toList_ofList] at hfact
  have hfact2 := match_name p content (fun x hx => agree_ascii x (hs x hx))
  rw [namePat, show " (.*)".toList = _ from String.toList_ofList] at hfact2
  rw [callF_def]
  simp only [m_MessageInterface_parse_bid, bindParams, Option.map]
  cases hb : (stripPrefixCI (p.formal ++ " bids ".toList) content).bind bidTail with
  | some gs =>
    rw [hb] at hfact
    have hr : ∃ r, stripPrefixCI (p.formal ++ " bids ".toList) content = some r ∧ bidTail r = some gs := by
      cases hr : stripPrefixCI (p.formal ++ " bids ".toList) content with
      | none => rw [hr] at hb; cases hb
      | some r => rw [hr] at hb; exact ⟨r, rfl, hb⟩
    obtain ⟨r, hr1, hr2⟩ := hr
    obtain ⟨d, g, rfl, hd, hgr, hshape⟩ := mp_bidTail_shape r gs hr2
    have hrs : ∀ x ∈ r, x ∈ content := by
      intro x hx
      have := (strip_spec _ _ _ hr1).1
      rw [← this] at hx
      exact List.mem_of_mem_drop hx
    have hsu := mp_suit_text g (fun x hx => hs x (hrs x (hgr x hx))) hshape
    obtain ⟨hdv, hlt⟩ := mp_digit d hd
    have hint := fun (rr : Rec) => mp_builtin_int rr [d] _ (jp_digit_parse d _ hdv)
    have hcall := fun k => mp_lstb k (suitOfG g) _ hlt
    obtain ⟨g0, hre⟩ := mp_reMatch_some _ content [[d], g] hfact
    simp only [List.map_cons, List.map_nil] at hre
    simp only
    ppsimp [mapR, strOfF, List.flatten, List.append_eq, List.append_nil, hre, hp_truthy_obj, hp_mth_group,
      mp_group_call3 _ _ _ _ _ _ (by decide : normIndex 3 1 = some 1),
      mp_group_call3 _ _ _ _ _ _ (by decide : normIndex 3 2 = some 2), List.getD_cons_succ, List.getD_cons_zero,
      hint, mp_builtin_upper, jp_cls_Suit, jp_member_suit _ _ hsu, mp_mth_lstb, hcall]
    rintro rfl
    cases levelSuitToCall? (↑(d.toNat - '0'.toNat)) (suitOfG g) with
    | none => exact ⟨K.ValueError, by simp, rfl⟩
    | some call => rfl
  | none =>
    rw [hb] at hfact
    have hre := fun (rr : Rec) => mp_reMatch_none rr _ content hfact
    unfold wordCall?
    cases hr : stripPrefixCI (p.formal ++ [' ']) content with
    | none =>
      rw [hr] at hfact2
      ppsimp [mapR, strOfF, List.flatten, List.append_eq, List.append_nil, hre, hp_truthy_none, mp_mth_pmb, mp_pmb_none _ _ _ hfact2]
      rintro rfl
      exact ⟨K.Exception, by simp, rfl⟩
    | some r =>
      rw [hr] at hfact2
      obtain ⟨g0, hpmb⟩ := mp_pmb_some _ content [r.takeWhile (· ≠ '\n')] hfact2
      ppsimp [mapR, strOfF, List.flatten, List.append_eq, List.append_nil, hre, hp_truthy_none, mp_mth_pmb, hpmb, List.map_cons, List.map_nil,
        hp_mth_group, mp_group_call2 _ _ _ _ _ (by decide : normIndex 2 1 = some 1), List.getD_cons_succ, List.getD_cons_zero,
        mp_builtin_lower, beq_str_decide]
      simp only [show "passes".toList = ['p', 'a', 's', 's', 'e', 's'] from rfl,
        show "doubles".toList = ['d', 'o', 'u', 'b', 'l', 'e', 's'] from rfl,
        show "redoubles".toList = ['r', 'e', 'd', 'o', 'u', 'b', 'l', 'e', 's'] from rfl]
      by_cases h1 : lowerS (List.takeWhile (fun x => decide ¬x = '\n') r) = ['p', 'a', 's', 's', 'e', 's']
      · simp only [h1, if_true]; rintro rfl; rfl
      by_cases h2 : lowerS (List.takeWhile (fun x => decide ¬x = '\n') r) = ['d', 'o', 'u', 'b', 'l', 'e', 's']
      · simp only [h2, if_true]; rintro rfl; rfl
      by_cases h3 : lowerS (List.takeWhile (fun x => decide ¬x = '\n') r) = ['r', 'e', 'd', 'o', 'u', 'b', 'l', 'e', 's']
      · simp only [h3, if_true]; rintro rfl; rfl
      simp only [h1, h2, h3, if_false]
      rintro rfl
      exact ⟨K.Exception, by simp, rfl⟩
/-- `parse_bid(content, formal_name)` when the model reads the call `call` -/
theorem mp_parse_bid_call (f : Nat) (content : List Char) (hs : ∀ x ∈ content, x.toNat < 128) (p : Seat) (call : Call)
    (h : parseBid? content p.formal = some call) :
    (callF (mkRec P (f+21)) m_MessageInterface_parse_bid [.str content, .str p.formal]).map (·.1) = .ok (encCall call) := by
  have := mp_parse_bid_all f content hs p _ rfl
  rw [h] at this
  exact this

/-- TRANSLATED `parse_bid` = MODEL, for every ASCII text, every seat's formal name, every fuel ≥ 22: whenever the model's
`parseBid?` reads a call, the generated `MessageInterface.parse_bid` returns its encoding (the shape `BidMsgsOK` asks) -/
theorem parse_bid_translated_ascii (content : List Char) (hs : ∀ x ∈ content, x.toNat < 128) (p : Seat) (call : Call)
    (h : parseBid? content p.formal = some call) :
    ∀ f, 22 ≤ f →
      (callFn P f m_MessageInterface_parse_bid [.str content, .str p.formal]).map (·.1) = .ok (encCall call) := by
  intro f hf
  obtain ⟨g, rfl⟩ : ∃ g, f = g + 22 := ⟨f - 22, by omega⟩
  exact mp_parse_bid_call g content hs p call h

end Bridge.Translated.MsgParsers
