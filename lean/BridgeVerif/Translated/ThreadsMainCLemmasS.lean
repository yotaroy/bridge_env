import BridgeVerif.Translated.EncExtend
import BridgeVerif.Translated.CalcScore
/-! `calc_score(contract, taken_tricks)` called INSIDE the whole translated program `P` (`Server.run` calls the function
there): Translated/CalcScore.lean executes its body in every program that extends the base program `PB`, which `P` does
(Translated/EncExtend.lean) — and the result is the model's `calcScore`. -/
namespace Bridge.Translated.MainC
open Bridge Bridge.Py Bridge.Generated.PyCore Bridge.Translated

theorem mc_passed_out_method :
    P.method? classDepth n_Contract n_is_passed_out = some (n_Contract, m_Contract_is_passed_out) := rfl
theorem mc_is_vul_method : P.method? classDepth n_Contract n_is_vul = some (n_Contract, m_Contract_is_vul) := rfl
theorem mc_calc_bid_score_func : findFunc P.funcs n_calc_bid_score = some f_calc_bid_score := rfl

section attrs
variable (r : Rec) (c : Contract)
theorem mc_attr_final_bid : getAttrF r P (encContract c) n_final_bid = .ok (encOpt encBid c.finalBid) := rfl
theorem mc_attr_x : getAttrF r P (encContract c) n_x = .ok (.bool c.x) := rfl
theorem mc_attr_xx : getAttrF r P (encContract c) n_xx = .ok (.bool c.xx) := rfl
theorem mc_methF_contract (m : Id) (args : List Val) :
    methF r P (encContract c) m args = callMethod r P n_Contract m (encContract c :: args) (.exc K.AttributeError) := rfl
end attrs

theorem mc_sideVulnerable_eq (v : Vul) (d : Seat) : sideVulnerable v d = d.isVul v := by
  cases v <;> cases d <;> rfl

/-- `calc_score(contract, t)` INSIDE `P`, for a contract with a final bid and a declarer, 0..13 tricks: the model's
`calcScore` -/
theorem mc_calc_score_call (c : Contract) (b : Fin 35) (d : Seat) (hb : c.finalBid = some b) (hd : c.declarer = some d)
    (t : Nat) (ht : t ≤ 13) (f : Nat) (hf : 121 ≤ f) :
    callFn P f f_calc_score [encContract c, .int t] = .ok (.int ((calcScore c t).getD 0), encContract c) := by
  obtain ⟨g, rfl⟩ : ∃ g, f = g + 120 := ⟨f - 120, by omega⟩
  obtain ⟨ob, x, xx, v, od⟩ := c
  simp only at hb hd
  subst hb; subst hd
  have h := calc_score_call_ok PB_ext_P b x xx v (some d) t ht g _ _
    (is_vul_call_some PB_ext_P (g + 116) (by omega) (some b) x xx v d)
  show (mkRec P (g + 120)).call f_calc_score _ = _
  rw [h]
  have e : (calcScore ⟨some b, x, xx, v, some d⟩ t).getD 0 = calcBidScore b x xx (sideVulnerable v d) t := by
    rw [mc_sideVulnerable_eq]
    cases v <;> cases d <;> rfl
  rw [e, C07.table_fin b x xx _ ⟨t, by omega⟩]
  rfl

end Bridge.Translated.MainC
