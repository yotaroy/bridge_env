import BridgeVerif.Translated.HandsPbnLemmasB
/-! Translated `Hands.convert_pbn` (hands.py) = model, part C: the classmethod at any sufficient fuel — `DEAL_PATTERN` does not
match (`Exception`); it matches: `Player[match.group(1)]` exists, one turn of the loop `for i in range(2, 6)` with the seat,
the dictionary and the remaining turns as variables, the four look-ups `hands[Player.X]` by cases on the first seat. -/
namespace Bridge.Translated.HandsPbn
open Bridge Bridge.Py Bridge.Generated.PyCore Bridge.Translated Bridge.RegexHands

theorem hp_mth_convert_pbn : P.method? classDepth n_Hands n_convert_pbn = some (n_Hands, m_Hands_convert_pbn) := rfl

theorem hp_norm6 : normIndex 6 1 = some 1 ∧ normIndex 6 2 = some 2 ∧ normIndex 6 3 = some 3 ∧ normIndex 6 4 = some 4
    ∧ normIndex 6 5 = some 5 := by decide

theorem hp_range26 (r : Rec) : builtinF r P .range [.int 2, .int 6] = .ok (.tuple [.int 2, .int 3, .int 4, .int 5]) := rfl

theorem hp_enc_seat (p : Seat) : Val.enum n_Player (p.value : Int) = encSeat p := rfl

/-- `DEAL_PATTERN` does not match: `Exception` -/
theorem hp_convert_pbn_call_nomatch (hf : HandsRegexFacts) (f : Nat) (cv : Val) (s : List Char) (h : dealFields? s = none) :
    callF (mkRec P (f+50)) m_Hands_convert_pbn [cv, .str s] = .error (.exc K.Exception) := by
  have hfact := hf.match_deal s
  rw [h] at hfact
  rw [callF_def]
  simp only [m_Hands_convert_pbn, bindParams, Option.map]
  ppsimp [hp_glob_deal_pattern, hp_reMatch_none _ _ _ hfact, hp_truthy_none]

/-- the body of `for i in range(2, 6)` -/
def cpBody : List Stmt := match m_Hands_convert_pbn.body.getD 4 .pass with
  | .for _ _ b => b
  | _ => []

/-- one turn of `for i in range(2, 6)`: `hands[player] = Hands._hand_parser(match.group(i)); player = player.next_player` -/
theorem hp_cp_step (hf : HandsRegexFacts) (f : Nat) (a b : Val) (xs : List Val) (p : Seat) (kvs : List (Val × Val))
    (tail : Env) (i : Int) (k : Nat) (fld : List Char) (hk : normIndex xs.length i = some k)
    (hx : xs.getD k .none = .str fld) (hnl : '\n' ∉ fld) (items : List Val) :
    forF (mkRec P (f+41)) [n_i] cpBody ((n_cls, a) :: (n_pbn_hands, b) :: (n_match, .obj n__Match [(n_texts, .tuple xs)])
        :: (n_player, encSeat p) :: (n_hands, .dict kvs) :: tail) (.int i :: items)
      = match pyHandParser? fld with
        | some l => forF (mkRec P (f+41)) [n_i] cpBody ((n_cls, a) :: (n_pbn_hands, b)
            :: (n_match, .obj n__Match [(n_texts, .tuple xs)]) :: (n_player, encSeat p.left)
            :: (n_hands, .dict (updateD kvs (encSeat p) (.tuple (l.map encCard)))) :: update tail n_i (.int i)) items
        | none => .error (.exc K.Exception) := by
  have hc := fun g => hp_hand_parser_call hf g fld hnl
  simp only [cpBody, m_Hands_convert_pbn, List.getD_cons_succ, List.getD_cons_zero, forF]
  cases e : pyHandParser? fld <;>
    ppsimp [hp_mth_group, hp_group_call _ _ _ _ hk, hx, hp_mth_hand_parser, hc, e, getAttr_next]

/-- `hands[Player.X]` after the loop -/
theorem hp_rotation_lookup (first : Seat) (l0 l1 l2 l3 : List Card) (p : Seat) :
    lookupD (updateD (updateD (updateD (updateD [] (encSeat first) (.tuple (l0.map encCard)))
        (encSeat first.left) (.tuple (l1.map encCard))) (encSeat first.left.left) (.tuple (l2.map encCard)))
        (encSeat first.left.left.left) (.tuple (l3.map encCard))) (encSeat p)
      = some (.tuple ((assemble first l0 l1 l2 l3 p).map encCard)) := by
  cases first <;> cases p <;> simp +decide only [updateD, lookupD, beq_encSeat, Seat.left, assemble, ↓reduceIte]

/-- `DEAL_PATTERN` matches with the first seat `c` and the fields `h0..h3` -/
theorem hp_convert_pbn_call_match (hf : HandsRegexFacts) (f : Nat) (cv : Val) (s : List Char) (c : Char)
    (h0 h1 h2 h3 : List Char) (first : Seat) (h : dealFields? s = some [[c], h0, h1, h2, h3])
    (hfirst : seatOfName? [c] = some first) (n0 : '\n' ∉ h0) (n1 : '\n' ∉ h1) (n2 : '\n' ∉ h2) (n3 : '\n' ∉ h3) :
    callF (mkRec P (f+50)) m_Hands_convert_pbn [cv, .str s]
      = match pyHandParser? h0, pyHandParser? h1, pyHandParser? h2, pyHandParser? h3 with
        | some l0, some l1, some l2, some l3 => .ok (encHands (assemble first l0 l1 l2 l3), cv)
        | _, _, _, _ => .error (.exc K.Exception) := by
  have hfact := hf.match_deal s
  rw [h] at hfact
  obtain ⟨g0, hre⟩ := hp_reMatch_some _ _ _ hfact
  simp only [List.map_cons, List.map_nil] at hre
  have st := fun p kvs tail i k fld hk hx hnl items =>
    hp_cp_step hf (f+8) cv (.str s) [.str g0, .str [c], .str h0, .str h1, .str h2, .str h3] p kvs tail i k fld hk hx hnl items
  simp only [cpBody, m_Hands_convert_pbn, List.getD_cons_succ, List.getD_cons_zero] at st
  rw [callF_def]
  simp only [m_Hands_convert_pbn, bindParams, Option.map]
  ppsimp [hp_glob_deal_pattern, hre, hp_truthy_obj, hp_mth_group, hp_group_call _ [_, _, _, _, _, _] _ _ hp_norm6.1,
    List.getD_cons_succ, List.getD_cons_zero, jp_cls_Player, jp_member_seat _ _ hfirst, hp_enc_seat, List.map_nil, hp_range26,
    iterItems_tuple]
  rw [st _ _ _ 2 2 h0 hp_norm6.2.1 rfl n0]
  cases pyHandParser? h0 with
  | none => rfl
  | some l0 =>
    dsimp only
    rw [st _ _ _ 3 3 h1 hp_norm6.2.2.1 rfl n1]
    cases pyHandParser? h1 with
    | none => rfl
    | some l1 =>
      dsimp only
      rw [st _ _ _ 4 4 h2 hp_norm6.2.2.2.1 rfl n2]
      cases pyHandParser? h2 with
      | none => rfl
      | some l2 =>
        dsimp only
        rw [st _ _ _ 5 5 h3 hp_norm6.2.2.2.2 rfl n3]
        cases pyHandParser? h3 with
        | none => rfl
        | some l3 =>
          ppsimp [forF, hd_enum_N, hd_enum_E, hd_enum_S, hd_enum_W, hp_rotation_lookup, hd_construct_hands]
          rfl
end Bridge.Translated.HandsPbn
