import BridgeVerif.Translated.PbnSettings
import BridgeVerif.Translated.PbnWriter
import BridgeVerif.Props.C18
/-!
# The PBN export round trip INSIDE the translated code  (C18)

`PbnWriter(file); write_header(); write_board_result(r₁); …` as translated (Translated/PbnWriter.lean,
`runPbnDocument`) leaves a file object holding chunks; the text of the file is their concatenation; a text-mode file
object yields `pyLines text`; the translated `PbnParser().parse_all` / `parse_board_settings` (Translated/PbnParserWide.lean,
Translated/PbnSettings.lean) read those lines.  Composed with the model-level theorems of Props/C18.lean:

* `pe_export_round_trip_translated` — for every list of results `rs`: the translated writer succeeds, and the translated
  `parse_all` on the lines of the written text returns exactly `tagss.map encGame`, where
  `rs.mapM resultTags? = some tagss` (the fifteen (tag, value) pairs of every result: `C18.fifteen_tags_in_order`), one game
  per result, in order.  `pe_export_round_trip_translated_no_header`: the same without `write_header()`.
* `pe_export_as_settings_translated` — the translated `parse_board_settings` on the same lines returns records `es'`,
  one per result, with `SameBoard es'[i] ⟨str(board number), dealer, deal, vulnerability, None⟩` and duplicate-free hands.
* a concrete result by instantiation (end of the file).

Hypotheses that REMAIN: `∀ r ∈ rs, r.WF` (`PbnResult.WF`, Spec/PbnLayout.lean: the hypothesis of `C18.export_round_trip`)
and `∀ r ∈ rs, PbnWF r` (Translated/PbnWriterLemmasC.lean: the hypothesis of `pw_document_translated`: ranks 2..14 in a
13-card hand, texts of at most 199000 characters — the writer's fuel).  Nothing else:
* the line-length condition of the parser theorems (≤ 478 / ≤ 466) is DERIVED: the lines are the written chunks
  (`export_is_layout`, `pyLines_text`), and every chunk has at most 255 characters and ends with a line feed
  (`C18.written_lines_at_most_255`); non-emptiness from the final line feed;
* the two header lines `% PBN 2.1`, `% EXPORT` pass `pctLineOk` (`decide +kernel`: the regular-expression engine run on
  them) and leave the parser's state unchanged; no other written line starts with `%` (a tag line starts with `[`, the
  line that ends a game is the line feed);
* the regular-expression facts are the proved ones (`pbnRegexFacts`, `sub_matches_nonempty`, `handsRegexFacts`).
-/
namespace Bridge.Translated
open Bridge Bridge.Py Bridge.Generated.PyCore

/-- the text of the header -/
theorem pe_pyLines_header (t : Str) :
    pyLines (writeHeader.flatten ++ t) = "% PBN 2.1\n".toList :: "% EXPORT\n".toList :: pyLines t := by
  rw [writeHeader]
  repeat rw [String.toList_ofList]
  rfl

/-- the two header lines do not change what the parser reads -/
theorem pe_parseStream_header (L : List Str) :
    parseStream ("% PBN 2.1\n".toList :: "% EXPORT\n".toList :: L) = parseStream L := by
  repeat rw [String.toList_ofList]
  rfl

theorem pe_header_pct : pctLineOk "% PBN 2.1\n".toList = true ∧ pctLineOk "% EXPORT\n".toList = true := by
  repeat rw [String.toList_ofList]
  decide +kernel

/-- the lines of the written text are the written chunks; each has at most 255 characters, is not empty and does not
start with `%` -/
theorem pe_written_lines (rs : List PbnResult) (h : ∀ r ∈ rs, r.WF) :
    ∃ tagss css, rs.mapM resultTags? = some tagss ∧ rs.mapM writeBoardResult? = some css ∧
      pyLines css.flatten.flatten = css.flatten ∧ parseStream css.flatten = tagss ∧
      (∀ l ∈ css.flatten, l ≠ [] ∧ l.length ≤ 255) ∧ (∀ l ∈ css.flatten, l.head? ≠ some '%') := by
  obtain ⟨tagss, css, h1, h2, h3, h4⟩ := export_is_layout rs h
  obtain ⟨tagss', css', h1', h2', h5⟩ := C18.export_round_trip rs h
  rw [h1] at h1'; rw [h2] at h2'
  cases h1'; cases h2'
  have htext : css.flatten.flatten = (exportFile tagss).text := by rw [h3]; rfl
  have hl : pyLines css.flatten.flatten = css.flatten := by rw [htext, pyLines_text _ h4, h3]
  refine ⟨tagss, css, h1, h2, hl, by rw [← hl]; exact h5, ?_, ?_⟩
  · intro l hl
    obtain ⟨cs, hcs, hlc⟩ := List.mem_flatten.1 hl
    obtain ⟨r, _, hr⟩ := mapM_mem_some h2 cs hcs
    have := C18.written_lines_at_most_255 r cs hr l hlc
    refine ⟨?_, this.1⟩
    intro e; rw [e] at this; cases this.2
  · intro l hl
    rw [h3] at hl
    simp only [exportFile, FileL.lines, List.map_nil, List.nil_append, List.mem_flatMap, List.mem_map, GameL.lines,
      resultGame, List.mem_append, PbnItem.text] at hl
    obtain ⟨g, ⟨tags, _, rfl⟩, hl⟩ := hl
    rcases hl with ⟨i, hi, rfl⟩ | hl
    · obtain ⟨tc, _, rfl⟩ := List.mem_map.1 hi
      simp
    · simp only [List.mem_cons, List.not_mem_nil, or_false] at hl
      obtain ⟨s, rfl, rfl⟩ := hl
      simp

/-- C18 inside the translated code: writer (with header) then `parse_all` -/
theorem pe_export_round_trip_translated (rs : List PbnResult) (hwf : ∀ r ∈ rs, r.WF) (hpw : ∀ r ∈ rs, PbnWF r) :
    ∃ (tagss : List (List (Str × Str))) (chunks : List Str) (self' : Val),
      rs.mapM resultTags? = some tagss ∧
      runPbnDocument [] rs = .ok (encPbnWriter chunks) ∧
      P.runMethod n_PbnParser n_parse_all [encPbnParser {} [] [], .tuple ((pyLines chunks.flatten).map Val.str)]
        = .ok (.tuple (tagss.map encGame), self') := by
  obtain ⟨tagss, css, h1, h2, hl, hp, hok, hno⟩ := pe_written_lines rs hwf
  have hlines : pyLines (writeHeader ++ css.flatten).flatten
      = "% PBN 2.1\n".toList :: "% EXPORT\n".toList :: css.flatten := by
    rw [List.flatten_append, pe_pyLines_header, hl]
  obtain ⟨self', hr⟩ := pp_parse_all_wide_closed ("% PBN 2.1\n".toList :: "% EXPORT\n".toList :: css.flatten)
    (by
      intro l hl
      rcases List.mem_cons.1 hl with rfl | hl
      · exact ⟨by decide, by decide⟩
      rcases List.mem_cons.1 hl with rfl | hl
      · exact ⟨by decide, by decide⟩
      · exact ⟨(hok l hl).1, Nat.le_trans (hok l hl).2 (by decide)⟩)
    (by
      intro l hl hh
      rcases List.mem_cons.1 hl with rfl | hl
      · exact pe_header_pct.1
      rcases List.mem_cons.1 hl with rfl | hl
      · exact pe_header_pct.2
      · exact absurd hh (hno l hl))
  refine ⟨tagss, writeHeader ++ css.flatten, self', h1, pw_document_translated rs hpw css h2, ?_⟩
  rw [hlines, hr, pe_parseStream_header, hp]

/-- the same without `write_header()`: `PbnWriter(file); write_board_result(r₁); …` -/
theorem pe_export_round_trip_translated_no_header (rs : List PbnResult) (hwf : ∀ r ∈ rs, r.WF)
    (hpw : ∀ r ∈ rs, PbnWF r) :
    ∃ (tagss : List (List (Str × Str))) (chunks : List Str) (self' : Val),
      rs.mapM resultTags? = some tagss ∧
      rs.foldlM (fun w r => selfAfter n_PbnWriter n_write_board_result (w :: resultArgs r)) (encPbnWriter [])
        = .ok (encPbnWriter chunks) ∧
      P.runMethod n_PbnParser n_parse_all [encPbnParser {} [] [], .tuple ((pyLines chunks.flatten).map Val.str)]
        = .ok (.tuple (tagss.map encGame), self') := by
  obtain ⟨tagss, css, h1, h2, hl, hp, hok, hno⟩ := pe_written_lines rs hwf
  obtain ⟨self', hr⟩ := pp_parse_all_wide_closed_no_pct css.flatten
    (fun l hl => ⟨(hok l hl).1, Nat.le_trans (hok l hl).2 (by decide)⟩) hno
  refine ⟨tagss, css.flatten, self', h1, ?_, ?_⟩
  · have := pw_results rs [] css hpw h2
    simpa using this
  · rw [hl, hr, hp]

/-- the export read as board settings by the translated `parse_board_settings` -/
theorem pe_export_as_settings_translated (rs : List PbnResult) (hwf : ∀ r ∈ rs, r.WF) (hpw : ∀ r ∈ rs, PbnWF r) :
    ∃ (chunks : List Str) (es' : List SettingEntry) (self' : Val),
      runPbnDocument [] rs = .ok (encPbnWriter chunks) ∧
      P.runMethod n_PbnParser n_parse_board_settings
          [encPbnParser {} [] [], .tuple ((pyLines chunks.flatten).map Val.str)]
        = .ok (.tuple (es'.map encSetting), self') ∧
      es'.length = rs.length ∧
      ∀ i (h₁ : i < es'.length) (h₂ : i < rs.length),
        SameBoard es'[i] ⟨intRepr rs[i].boardNum, rs[i].dealer, rs[i].deal, rs[i].contract.vul, none⟩ ∧
        ∀ p, (es'[i].deal p).Nodup := by
  obtain ⟨tagss, css, h1, h2, hl, hp, hok, hno⟩ := pe_written_lines rs hwf
  obtain ⟨css', ss, h2', hs, hlen, hsb⟩ := C18.export_as_settings rs hwf
  rw [h2] at h2'; cases h2'
  rw [hl] at hs
  have hlines : pyLines (writeHeader ++ css.flatten).flatten
      = "% PBN 2.1\n".toList :: "% EXPORT\n".toList :: css.flatten := by
    rw [List.flatten_append, pe_pyLines_header, hl]
  have hs' : pbnBoardSettings? ("% PBN 2.1\n".toList :: "% EXPORT\n".toList :: css.flatten) = some ss := by
    rw [← hs]; unfold pbnBoardSettings?; rw [pe_parseStream_header]
  obtain ⟨es', self', hsame, hr⟩ := pp_parse_board_settings_wide_closed_some
    ("% PBN 2.1\n".toList :: "% EXPORT\n".toList :: css.flatten)
    (by
      intro l hl
      rcases List.mem_cons.1 hl with rfl | hl
      · exact ⟨by decide, by decide⟩
      rcases List.mem_cons.1 hl with rfl | hl
      · exact ⟨by decide, by decide⟩
      · exact ⟨(hok l hl).1, Nat.le_trans (hok l hl).2 (by decide)⟩)
    (by
      intro l hl hh
      rcases List.mem_cons.1 hl with rfl | hl
      · exact pe_header_pct.1
      rcases List.mem_cons.1 hl with rfl | hl
      · exact pe_header_pct.2
      · exact absurd hh (hno l hl)) ss hs'
  refine ⟨writeHeader ++ css.flatten, es', self', pw_document_translated rs hpw css h2, by rw [hlines]; exact hr,
    hsame.length_eq.trans hlen, fun i h₁ h₂ => ?_⟩
  have hi : i < ss.length := by rw [← hsame.length_eq]; exact h₁
  obtain ⟨a1, a2, a3, a4, a5, a6⟩ := hsame.getElem i h₁ hi
  obtain ⟨b1, b2, b3, b4, b5⟩ := hsb i hi h₂
  exact ⟨⟨a1.trans b1, a2.trans b2, a3.trans b3, fun p => (a5 p).trans (b4 p), a4.trans b5⟩, a6⟩

/-! ## non-vacuity: two (passed-out) boards written and read back -/
theorem pe_exResult_pwf : PbnWF exResult :=
  pw_wf_of_bounds exResult (by intro p c hc; simp [exResult] at hc) (by decide +kernel) (by intro n h; cases h)
    (by decide) (by decide) (by decide) (by decide) (by decide) (by decide) (by decide) (by decide) (by decide)

def peExampleTags : List (Str × Str) :=
  [("Event".toList, ['a']), ("Site".toList, ['a']), ("Date".toList, "2024.01.02".toList),
   ("Board".toList, ['1']), ("West".toList, ['a']), ("North".toList, ['a']), ("East".toList, ['a']),
   ("South".toList, ['a']), ("Dealer".toList, ['N']), ("Vulnerable".toList, "None".toList),
   ("Deal".toList, "N:- - - -".toList), ("Scoring".toList, "IMP".toList), ("Declarer".toList, []),
   ("Contract".toList, "Pass".toList), ("Result".toList, [])]

/-- the translated writer writes the header and two results; the translated `parse_all` reads two games of fifteen
tags each -/
theorem pe_example :
    ∃ (chunks : List Str) (self' : Val),
      runPbnDocument [] [exResult, exResult] = .ok (encPbnWriter chunks) ∧
      P.runMethod n_PbnParser n_parse_all [encPbnParser {} [] [], .tuple ((pyLines chunks.flatten).map Val.str)]
        = .ok (.tuple ([peExampleTags, peExampleTags].map encGame), self') := by
  obtain ⟨tagss, chunks, self', h1, h2, h3⟩ := pe_export_round_trip_translated [exResult, exResult]
    (by intro r hr; simp only [List.mem_cons, List.not_mem_nil, or_false, or_self] at hr; rw [hr]; exact exResult_wf)
    (by intro r hr; simp only [List.mem_cons, List.not_mem_nil, or_false, or_self] at hr; rw [hr]; exact pe_exResult_pwf)
  have ht : tagss = [peExampleTags, peExampleTags] := by
    simp only [List.mapM_cons, List.mapM_nil, exResult_tags, Option.pure_def, Option.bind_eq_bind, Option.bind_some,
      Option.some.injEq] at h1
    exact h1.symm
  rw [ht] at h3
  exact ⟨chunks, self', h2, h3⟩

end Bridge.Translated
