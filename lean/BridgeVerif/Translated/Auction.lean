import BridgeVerif.Translated.AuctionLemmasD
/-!
# bidding_phase.py AS TRANSLATED is the hand-written model of the auction  (C01, C02, C03)

`encState s` (AuctionLemmasA.lean) is the `BiddingPhase` instance the MiniPy interpreter holds for the model state `s`.
The theorems below say that the TRANSLATED `__init__`, `has_done`, `take_bid` and `contract` (Generated/PyCore.lean,
re-written from the Python source on every run), executed by the interpreter, compute exactly `AState.init`,
`AState.hasDone`, `takeBid` and `AState.contract` — for EVERY state `s` (reachable or not) and every call, with syntactic
equality of the resulting `Val`s.  The proofs are symbolic executions of the interpreter on the symbolic state
(AuctionLemmasA–D).
-/
namespace Bridge.Translated
open Bridge Bridge.Py Bridge.Generated.PyCore

/-- `encState`, written out: the eleven attributes in the order `__init__` assigns them -/
theorem encState_explicit (s : AState) : encState s =
    .obj n_BiddingPhase
      [(n___dealer, encSeat s.dealer), (n___vul, encVul s.vul), (n___active_player, encOpt encSeat s.active),
       (n___last_bidder, encOpt encSeat s.lastBidder), (n___last_bid, encOpt encBid s.lastBid),
       (n___called_x, .bool s.calledX), (n___called_xx, .bool s.calledXX),
       (n___bid_history, .tuple (s.history.reverse.map encCall)),
       (n___players_bid_history, .dict
         [(encSeat .N, .tuple ((s.perSeat .N).reverse.map encCall)), (encSeat .E, .tuple ((s.perSeat .E).reverse.map encCall)),
          (encSeat .S, .tuple ((s.perSeat .S).reverse.map encCall)), (encSeat .W, .tuple ((s.perSeat .W).reverse.map encCall))]),
       (n___declarer_check, .dict
         [(encSide .NS, .dict [(encSuit .C, encOpt encSeat (s.declCheck .NS .C)), (encSuit .D, encOpt encSeat (s.declCheck .NS .D)),
            (encSuit .H, encOpt encSeat (s.declCheck .NS .H)), (encSuit .S, encOpt encSeat (s.declCheck .NS .S)),
            (encSuit .NT, encOpt encSeat (s.declCheck .NS .NT))]),
          (encSide .EW, .dict [(encSuit .C, encOpt encSeat (s.declCheck .EW .C)), (encSuit .D, encOpt encSeat (s.declCheck .EW .D)),
            (encSuit .H, encOpt encSeat (s.declCheck .EW .H)), (encSuit .S, encOpt encSeat (s.declCheck .EW .S)),
            (encSuit .NT, encOpt encSeat (s.declCheck .EW .NT))])]),
       (n___available_bid, .tuple ((List.range 38).map fun k => .int (if s.avail (callOfIdx k) then 1 else 0)))] := rfl

/-- slot `k` of the vector is the call with `idx = k` (`Call.ofIdx?` of Core.lean) -/
theorem callOfIdx_ofIdx : ∀ k : Fin 38, Call.ofIdx? k.val = some (callOfIdx k.val) := by decide

theorem init_translated (d : Seat) (v : Vul) :
    P.runNew n_BiddingPhase [encSeat d, encVul v] = .ok (encState (AState.init d v)) :=
  construct_bidding 995 d v

theorem has_done_translated (s : AState) :
    P.runMethod n_BiddingPhase n_has_done [encState s] = .ok (.bool s.hasDone, encState s) := by
  have run : P.runMethod n_BiddingPhase n_has_done [encState s]
      = callF (mkRec P 999) m_BiddingPhase_has_done [encState s] := rfl
  rw [run]
  pysimp [m_BiddingPhase_has_done, encState, beq_encOptSeat_none, AState.hasDone]

/-- the body of `take_bid` on the encoded state -/
theorem take_bid_body (f : Nat) (s : AState) (c : Call) :
    execF (mkRec P (f+30)) P (envOf s c) m_BiddingPhase_take_bid.body =
      match takeBid s c with
      | .error () => .error (.exc K.Exception)
      | .ok (s', r) => .ok (envOf s' c, .ret (encRes r)) := by
  rw [tb_body]
  cases ha : s.active with
  | none => rw [tb_head_none f s c ha]; simp only [takeBid, ha]
  | some p =>
    rw [tb_head_some f s c p ha]
    rcases Bool.eq_false_or_eq_true (s.avail c) with hv | hv
    · simp only [takeBid, ha, hv, Bool.true_eq_false, if_false]
      cases c with
      | pass =>
        by_cases hc : 3 ≤ s.history.length ∧ s.history.head? = some .pass ∧ s.history.tail.head? = some .pass
        · simp only [execF, tb_kind_pass_fin f s p ha hc, bind_ok, pure_eq, hc, and_self, if_true]
        · simp only [execF, tb_kind_pass_go f s hc, bind_ok, hc, if_false, tb_tail f s .pass p ha]
      | dbl =>
        simp only [execF, tb_kind_dbl, bind_ok, tb_tail f { s with calledX := true } .dbl p ha]
        simp only [ha]
      | rdbl =>
        simp only [execF, tb_kind_rdbl, bind_ok, tb_tail f { s with calledXX := true } .rdbl p ha]
        simp only [ha]
      | bid i =>
        have ha' : (bidState s p i).active = some p := ha
        simp only [execF, tb_kind_bid f s p i ha, bind_ok, tb_tail f (bidState s p i) (.bid i) p ha']
    · simp only [takeBid, ha, hv, if_true]

/-- `take_bid` called at any sufficiently large fuel -/
theorem take_bid_call (f : Nat) (s : AState) (c : Call) :
    callF (mkRec P (f+31)) m_BiddingPhase_take_bid [encState s, encCall c] =
      match takeBid s c with
      | .error () => .error (.exc K.Exception)
      | .ok (s', r) => .ok (encRes r, encState s') := by
  have run : callF (mkRec P (f+31)) m_BiddingPhase_take_bid [encState s, encCall c]
      = ((mkRec P (f+31)).exec (envOf s c) m_BiddingPhase_take_bid.body >>= fun x =>
          match x.2 with
          | .ret v => pure (v, (lookup x.1 K.self).getD .none)
          | _ => pure (.none, (lookup x.1 K.self).getD .none)) := rfl
  rw [run, exec_succ, take_bid_body f s c]
  cases h : takeBid s c with
  | error u => cases u; rfl
  | ok x => obtain ⟨s', r⟩ := x; cases r <;> rfl

theorem take_bid_translated (s : AState) (c : Call) :
    P.runMethod n_BiddingPhase n_take_bid [encState s, encCall c] =
      match takeBid s c with
      | .error () => .error (.exc K.Exception)
      | .ok (s', r) => .ok (encRes r, encState s') :=
  take_bid_call 968 s c

theorem mth_contract_post : P.method? classDepth n_Contract K.postInit = some (n_Contract, m_Contract___post_init__) := rfl

theorem beq_none_enum (c : Id) (n : Int) : Val.none.beq (.enum c n) = false := by simp [Val.beq]

theorem beq_encBid_none (b : Fin 35) : (encBid b).beq .none = false := beq_bid_none b

theorem cls_Contract : ∃ cd, P.cls? n_Contract = some cd ∧ cd.isEnum = false ∧ cd.isDataclass = true ∧
    cd.fields = [(n_final_bid, none), (n_x, some (.bool false)), (n_xx, some (.bool false)),
      (n_vul, some (.enum n_Vul 1)), (n_declarer, some .none)] :=
  ⟨_, rfl, rfl, rfl, rfl⟩

theorem construct_contract (f : Nat) (fb x xx v d : Val)
    (h1 : fb.beq (.enum n_Bid 37) = false) (h2 : fb.beq (.enum n_Bid 38) = false) :
    constructF (mkRec P (f+12)) P n_Contract [fb, x, xx, v, d] =
      .ok (.obj n_Contract [(n_final_bid, fb), (n_x, x), (n_xx, xx), (n_vul, v), (n_declarer, d)]) := by
  obtain ⟨cd, e1, e2, e3, e4⟩ := cls_Contract
  simp only [constructF, e1, e2, e3, e4, mth_contract_post]
  pysimp [m_Contract___post_init__, List.map, List.filterMap, h1, h2]

theorem construct_contract4 (f : Nat) (fb x xx v : Val)
    (h1 : fb.beq (.enum n_Bid 37) = false) (h2 : fb.beq (.enum n_Bid 38) = false) :
    constructF (mkRec P (f+12)) P n_Contract [fb, x, xx, v] =
      .ok (.obj n_Contract [(n_final_bid, fb), (n_x, x), (n_xx, xx), (n_vul, v), (n_declarer, .none)]) := by
  obtain ⟨cd, e1, e2, e3, e4⟩ := cls_Contract
  simp only [constructF, e1, e2, e3, e4, mth_contract_post]
  pysimp [m_Contract___post_init__, List.map, List.filterMap, h1, h2]

/-- `contract()` called at any sufficiently large fuel -/
theorem contract_call (f : Nat) (s : AState) (h : s.contract.isSome ∨ s.active.isSome) :
    callF (mkRec P (f+40)) m_BiddingPhase_contract [encState s] = .ok (encOpt encContract s.contract, encState s) := by
  obtain ⟨dealer, vul, active, lastBidder, lastBid, calledX, calledXX, history, perSeat, declCheck, avail⟩ := s
  simp only [AState.contract, encState] at h ⊢
  cases active with
  | some p => pysimp [m_BiddingPhase_contract, ↓has_done_obj, beq_encSeat_none]
  | none =>
    cases lastBid with
    | none =>
      pysimp [m_BiddingPhase_contract, ↓has_done_obj, construct_contract4, beq_none_enum]
      rfl
    | some b =>
      cases lastBidder with
      | none => simp at h
      | some lb =>
        pysimp [m_BiddingPhase_contract, ↓has_done_obj, construct_contract, beq_encBid_dbl, beq_encBid_rdbl, getAttr_suit,
          getAttr_pair, lookup_declKvs, lookup_declRow, beq_encSeat_none, beq_encSuit_none, beq_encBid_none]
        rfl

/-- `contract()`: `None` while the auction is going on; the passed-out contract `Contract(None, False, False, vul)`; the
contract with the declarer looked up in the declarer-check table.  The hypothesis excludes exactly the states in which
the Python code fails its assertion `last_bidder is not None` (auction over, a last bid but no last bidder — the model
returns `none` there; see `contract_translated_unreachable`). -/
theorem contract_translated (s : AState) (h : s.contract.isSome ∨ s.active.isSome) :
    (P.runMethod n_BiddingPhase n_contract [encState s]).map (·.1) = .ok (encOpt encContract s.contract) := by
  have run : P.runMethod n_BiddingPhase n_contract [encState s]
      = callF (mkRec P (959+40)) m_BiddingPhase_contract [encState s] := rfl
  rw [run, contract_call 959 s h]
  rfl

/-- the case excluded above: the translated code raises `AssertionError` -/
theorem contract_translated_unreachable (s : AState) (h1 : s.active = none) (b : Fin 35) (h2 : s.lastBid = some b)
    (h3 : s.lastBidder = none) :
    P.runMethod n_BiddingPhase n_contract [encState s] = .error (.exc K.AssertionError) := by
  have run : P.runMethod n_BiddingPhase n_contract [encState s]
      = callF (mkRec P 999) m_BiddingPhase_contract [encState s] := rfl
  rw [run]
  obtain ⟨dealer, vul, active, lastBidder, lastBid, calledX, calledXX, history, perSeat, declCheck, avail⟩ := s
  simp only [encState] at h1 h2 h3 ⊢; subst h1; subst h2; subst h3
  pysimp [m_BiddingPhase_contract, ↓has_done_obj, beq_encBid_none]

/-- any sequence of calls offered to a translated auction; a raised exception leaves the state as it is -/
def runTranslated (st : Val) : List Call → Val × List (Except Err Val)
  | [] => (st, [])
  | c :: cs =>
    match P.runMethod n_BiddingPhase n_take_bid [st, encCall c] with
    | .error e => let r := runTranslated st cs; (r.1, .error e :: r.2)
    | .ok (res, st') => let r := runTranslated st' cs; (r.1, .ok res :: r.2)

/-- from ANY model state: results and final state of the translated auction are the model's -/
theorem run_translated_from (s : AState) (cs : List Call) :
    runTranslated (encState s) cs =
      ((encState (runAuction s cs).1), (runAuction s cs).2.map (fun r => match r with
        | .error () => .error (.exc K.Exception) | .ok r => .ok (encRes r))) := by
  induction cs generalizing s with
  | nil => rfl
  | cons c cs ih =>
    simp only [runTranslated, runAuction, take_bid_translated s c]
    cases h : takeBid s c with
    | error u => cases u; simp only [ih s, List.map_cons]
    | ok x => obtain ⟨s', r⟩ := x; simp only [ih s', List.map_cons]

/-- any sequence of calls offered to a fresh translated auction: results and final state are the model's -/
theorem run_translated (d : Seat) (v : Vul) (cs : List Call) :
    runTranslated (encState (AState.init d v)) cs =
      ((encState (runAuction (AState.init d v) cs).1), (runAuction (AState.init d v) cs).2.map (fun r => match r with
        | .error () => .error (.exc K.Exception) | .ok r => .ok (encRes r))) :=
  run_translated_from (AState.init d v) cs

end Bridge.Translated
