import BridgeVerif.Translated.MsgParsersB
import BridgeVerif.Lemmas.RegexMsgBidD
/-! Translated `MessageInterface.parse_bid` (socket_interface.py) = model, part C: the model's `parseBid?` written over the
scanner `bidTail` of the bid pattern; the denomination text in upper case names the suit (ASCII); `Bid.level_suit_to_bid`
on a one-digit level. -/
namespace Bridge.Translated.MsgParsers
open Bridge Bridge.Py Bridge.Generated.PyCore Bridge.Translated Bridge.RegexHands Bridge.RegexMsgBid

theorem mp_eqCI_comm (a b : Char) : eqCI a b = eqCI b a := by
  unfold eqCI; rw [Bool.eq_iff_iff]; simp only [beq_iff_eq]; exact eq_comm

/-- the suit a denomination text stands for (decided by its first letter, `NT` last — as the ordered alternation) -/
def suitOfG : List Char → Suit
  | c :: _ => if eqCI 'C' c then .C else if eqCI 'D' c then .D else if eqCI 'H' c then .H else if eqCI 'S' c then .S else .NT
  | [] => .NT

/-- the second attempt of `parse_bid` : `'{name} (.*)'`, lower case, one of three words -/
def wordCall? (content name : List Char) : Option Call :=
  match stripPrefixCI (name ++ [' ']) content with
  | none => none
  | some r =>
    let w := lowerS (r.takeWhile (· ≠ '\n'))
    if w = "passes".toList then some .pass else if w = "doubles".toList then some .dbl
    else if w = "redoubles".toList then some .rdbl else none

/-- `parseBid?` over the scanner of the bid pattern -/
theorem mp_parseBid_eq (content name : List Char) :
    parseBid? content name =
      match (stripPrefixCI (name ++ " bids ".toList) content).bind bidTail with
      | some [[d], g] => levelSuitToCall? ((d.toNat - '0'.toNat : Nat) : Int) (suitOfG g)
      | some _ => none
      | none => wordCall? content name := by
  unfold parseBid? wordCall?
  cases hs1 : stripPrefixCI (name ++ " bids ".toList) content with
  | none => rfl
  | some r =>
    cases r with
    | nil => rfl
    | cons d rest =>
      by_cases hd : Bridge.isDigit d = true
      · cases rest with
        | nil => simp only [hd, if_true, Option.bind_some, bidTail, Option.map_none]; rfl
        | cons c r2 =>
          simp only [mp_eqCI_comm c, Option.bind_some, bidTail, hd, if_true]
          by_cases hC : eqCI 'C' c = true
          · simp only [hC, suitOfG, if_true, Option.map_some, Bool.true_or]
          · simp only [Bool.not_eq_true] at hC
            by_cases hD : eqCI 'D' c = true
            · simp only [hC, hD, suitOfG, if_true, Option.map_some, Bool.true_or, Bool.or_true, Bool.false_eq_true, if_false]
            · simp only [Bool.not_eq_true] at hD
              by_cases hH : eqCI 'H' c = true
              · simp only [hC, hD, hH, suitOfG, if_true, Option.map_some, Bool.true_or, Bool.or_true, Bool.false_eq_true, if_false]
              · simp only [Bool.not_eq_true] at hH
                by_cases hS : eqCI 'S' c = true
                · simp only [hC, hD, hH, hS, suitOfG, if_true, Option.map_some, Bool.or_true, Bool.false_eq_true, if_false]
                · simp only [Bool.not_eq_true] at hS
                  by_cases hN : eqCI 'N' c = true
                  · cases r2 with
                    | nil => simp only [hC, hD, hH, hS, hN, if_true, Option.map_none, Bool.or_self, Bool.false_eq_true, if_false]; rfl
                    | cons t r3 =>
                      simp only [mp_eqCI_comm t]
                      by_cases hT : eqCI 'T' t = true
                      · simp only [hC, hD, hH, hS, hN, hT, suitOfG, if_true, Option.map_some, Bool.or_self, Bool.false_eq_true, if_false]
                      · simp only [Bool.not_eq_true] at hT
                        simp only [hC, hD, hH, hS, hN, hT, if_true, Option.map_none, Bool.or_self, Bool.false_eq_true, if_false]; rfl
                  · simp only [Bool.not_eq_true] at hN
                    simp only [hC, hD, hH, hS, hN, Option.map_none, Bool.or_self, Bool.false_eq_true, if_false]; rfl
      · simp only [Bool.not_eq_true] at hd
        cases rest <;> simp only [hd, bidTail, Option.bind_some, Bool.false_eq_true, if_false] <;> rfl

/-! ## the shape of the scanner's groups -/
theorem mp_bidTail_shape (r : List Char) (gs : List (List Char)) (h : bidTail r = some gs) :
    ∃ d g, gs = [[d], g] ∧ Bridge.isDigit d = true ∧ (∀ x ∈ g, x ∈ r) ∧
      ((∃ c, g = [c] ∧ (eqCI 'C' c || eqCI 'D' c || eqCI 'H' c || eqCI 'S' c) = true) ∨
       (∃ c t, g = [c, t] ∧ (eqCI 'C' c || eqCI 'D' c || eqCI 'H' c || eqCI 'S' c) = false ∧ eqCI 'N' c = true ∧
          eqCI 'T' t = true)) := by
  unfold bidTail at h
  split at h
  · rename_i d c r2
    split at h
    · rename_i hd
      split at h
      · rename_i hc
        cases h
        exact ⟨d, [c], rfl, hd, by simp, Or.inl ⟨c, rfl, hc⟩⟩
      · rename_i hc
        split at h
        · rename_i hn
          split at h
          · rename_i t r3
            split at h
            · rename_i ht
              cases h
              exact ⟨d, [c, t], rfl, hd, by simp, Or.inr ⟨c, t, rfl, by simpa using hc, hn, ht⟩⟩
            · cases h
          · cases h
        · cases h
    · cases h
  · cases h

/-- on ASCII letters: the upper-cased denomination text is the member name of the suit -/
def lettersOK (c : Char) : Bool :=
  (!eqCI 'C' c || upperA c == 'C') && (!eqCI 'D' c || upperA c == 'D') && (!eqCI 'H' c || upperA c == 'H') &&
  (!eqCI 'S' c || upperA c == 'S') && (!eqCI 'N' c || upperA c == 'N') && (!eqCI 'T' c || upperA c == 'T')

theorem mp_letters_ofNat : ∀ n : Fin 128, lettersOK (Char.ofNat n.val) = true := by decide +kernel
theorem mp_letters (c : Char) (h : c.toNat < 128) : lettersOK c = true := by
  have := mp_letters_ofNat ⟨c.toNat, h⟩
  simpa [Char.ofNat_toNat] using this

theorem mp_suit_text (g : List Char) (hg : ∀ x ∈ g, x.toNat < 128)
    (h : (∃ c, g = [c] ∧ (eqCI 'C' c || eqCI 'D' c || eqCI 'H' c || eqCI 'S' c) = true) ∨
       (∃ c t, g = [c, t] ∧ (eqCI 'C' c || eqCI 'D' c || eqCI 'H' c || eqCI 'S' c) = false ∧ eqCI 'N' c = true ∧
          eqCI 'T' t = true)) :
    suitOfName? (upperS g) = some (suitOfG g) := by
  rcases h with ⟨c, rfl, hc⟩ | ⟨c, t, rfl, hc, hn, ht⟩
  · have := mp_letters c (hg c (by simp))
    simp only [lettersOK, Bool.and_eq_true, Bool.or_eq_true, Bool.not_eq_true', beq_iff_eq] at this
    obtain ⟨⟨⟨⟨⟨lC, lD⟩, lH⟩, lS⟩, _⟩, _⟩ := this
    simp only [upperS, List.map_cons, List.map_nil, suitOfG]
    by_cases hC : eqCI 'C' c = true
    · rw [lC.resolve_left (by simp [hC])]; simp [hC, suitOfName?]
    · simp only [Bool.not_eq_true] at hC
      by_cases hD : eqCI 'D' c = true
      · rw [lD.resolve_left (by simp [hD])]; simp [hC, hD, suitOfName?]
      · simp only [Bool.not_eq_true] at hD
        by_cases hH : eqCI 'H' c = true
        · rw [lH.resolve_left (by simp [hH])]; simp [hC, hD, hH, suitOfName?]
        · simp only [Bool.not_eq_true] at hH
          by_cases hS : eqCI 'S' c = true
          · rw [lS.resolve_left (by simp [hS])]; simp [hC, hD, hH, hS, suitOfName?]
          · simp [hC, hD, hH, hS] at hc
  · have h1 := mp_letters c (hg c (by simp))
    have h2 := mp_letters t (hg t (by simp))
    simp only [lettersOK, Bool.and_eq_true, Bool.or_eq_true, Bool.not_eq_true', beq_iff_eq] at h1 h2
    simp only [Bool.or_eq_false_iff] at hc
    obtain ⟨⟨⟨hC, hD⟩, hH⟩, hS⟩ := hc
    simp only [upperS, List.map_cons, List.map_nil, suitOfG, hC, hD, hH, hS, Bool.false_eq_true, if_false]
    rw [h1.1.2.resolve_left (by simp [hn]), h2.2.resolve_left (by simp [ht])]
    rfl

/-! ## `Bid.level_suit_to_bid` on a one-digit level -/
theorem mp_mth_lstb : P.method? classDepth n_Bid n_level_suit_to_bid = some (n_Bid, m_Bid_level_suit_to_bid) := rfl

theorem mp_construct_bid (r : Rec) (v : Int) :
    constructF r P n_Bid [.int v] =
      if (memberName? (clsOf n_Bid) v).isSome then .ok (.enum n_Bid v) else .error (.exc K.ValueError) := rfl

/-- the members of `Bid` and the range test, against `levelSuitToCall?` -/
theorem mp_lstb_table (su : Suit) : ∀ l : Fin 10,
    (if (l.val : Int) < 0 ∨ 7 < (l.val : Int) then none
     else if (memberName? (clsOf n_Bid) (((l.val : Int) - 1) * 5 + su.value)).isSome
       then some (((l.val : Int) - 1) * 5 + su.value) else none)
      = (levelSuitToCall? (l.val : Int) su).map fun c => (c.value : Int) := by
  cases su <;> decide +kernel

/-- `Bid.level_suit_to_bid` on a one-digit level, both outcomes -/
theorem mp_lstb (f : Nat) (su : Suit) (l : Nat) (hl : l < 10) :
    callF (mkRec P (f+12)) m_Bid_level_suit_to_bid [.cls n_Bid, .int (l : Int), .enum n_Suit su.value]
      = match levelSuitToCall? (l : Int) su with
        | some call => .ok (encCall call, .cls n_Bid)
        | none => .error (.exc K.ValueError) := by
  have key := mp_lstb_table su ⟨l, hl⟩
  have h0 : ¬ ((l : Int) < 0) := by omega
  rw [callF_def]
  simp only [m_Bid_level_suit_to_bid, bindParams, Option.map]
  by_cases h7 : 7 < (l : Int)
  · simp only [h0, h7, false_or, if_true] at key
    cases hc : levelSuitToCall? (l : Int) su with
    | some call => rw [hc] at key; cases key
    | none => ppsimp [h0, h7]
  · simp only [h0, h7, false_or, if_false] at key
    cases hc : levelSuitToCall? (l : Int) su with
    | some call =>
      rw [hc] at key
      split at key
      · rename_i hm
        have e : ((l : Int) - 1) * 5 + su.value = (call.value : Int) := Option.some.inj key
        rw [e] at hm
        ppsimp [h0, h7, mp_construct_bid, e, hm, encCall]
      · cases key
    | none =>
      rw [hc] at key
      split at key
      · cases key
      · rename_i hm
        ppsimp [h0, h7, mp_construct_bid, hm]

theorem mp_lstb_call (f : Nat) (su : Suit) (l : Nat) (hl : l < 10) (call : Call) (h : levelSuitToCall? (l : Int) su = some call) :
    callF (mkRec P (f+12)) m_Bid_level_suit_to_bid [.cls n_Bid, .int (l : Int), .enum n_Suit su.value]
      = .ok (encCall call, .cls n_Bid) := by
  rw [mp_lstb f su l hl, h]

end Bridge.Translated.MsgParsers
