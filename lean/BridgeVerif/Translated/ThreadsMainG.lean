import BridgeVerif.Translated.ThreadsMainF
/-!
# The table manager RAISES on a card text the model's parser refuses
-/
set_option linter.unusedSimpArgs false
namespace Bridge.Translated.MainB
open Bridge Bridge.Py Bridge.Generated.PyCore
open Bridge.Translated.MsgParsers Bridge.RegexMsgBid

/-- the class `parse_card` raises does not depend on the fuel -/
theorem parse_card_refuses_uniform (content : List Char) (hs : ∀ x ∈ content, agree x = true) (p : Seat)
    (h : parseCard? content p = none) :
    ∃ c ∈ cardErrs, ∀ f, 20 ≤ f →
      callFn P f m_MessageInterface_parse_card [.str content, encSeat p] = .error (.exc c) := by
  obtain ⟨c, hc, h20⟩ := parse_card_refuses content hs p h 20 (Nat.le_refl _)
  exact ⟨c, hc, fun f hf => callFn_fuel_mono P hf _ _ _ h20 (by intro e; cases e)⟩

/-- the head of the body of one card (`get`, `parse_card`, `play_card`) when `parse_card` raises -/
theorem mb_card_head_unparseable (f : Nat) (env : Env) (i i' : Seat → List Str) (out : List Val) (table : Val)
    (tables : List Val) (more : List (Val × Val)) (bs : Val) (c : Contract) (w : WithHands) (msg : Str) (e : Id)
    (hself : lookup env K.self = some (encMainThread (encMainWorld i out table tables more) bs))
    (hpe : lookup env n_playing_env = some (encWithHands c w))
    (hget : MainIn.get i (playedBy w) = some (msg, i'))
    (hparse : ∀ g, callF (mkRec P (g+20)) m_MessageInterface_parse_card [.str msg, encSeat w.base.active]
        = .error (.exc e)) :
    execF (mkRec P (f+70)) P env mbCardHead = .error (.exc e) := by
  simp only [encMainThread] at hself
  have hg := fun f out => MainA.mt_get_call f i i' (playedBy w) msg hget out table tables more
  by_cases hd : w.base.active = w.base.dummy
  · have hd' := decide_eq_true hd
    have hpb : playedBy w = w.base.declarer := by simp only [playedBy, hd, if_true]
    rw [hpb] at hg
    simp only [mbCardHead, mbCardBody, mbTrickBody, m_MainThread_playing_phase, List.getD_cons_zero, List.getD_cons_succ,
      List.take]
    ppsimp [pyworld, forF, hself, hpe, hd', hg, mp_mth_parse_card, hparse]
  · have hd' := decide_eq_false hd
    have hpb : playedBy w = w.base.active := by simp only [playedBy, hd, if_false]
    rw [hpb] at hg
    simp only [mbCardHead, mbCardBody, mbTrickBody, m_MainThread_playing_phase, List.getD_cons_zero, List.getD_cons_succ,
      List.take]
    ppsimp [pyworld, forF, hself, hpe, hd', hg, mp_mth_parse_card, hparse]

/-- ONE CARD, REFUSED: on an environment as in `main_trick_card_translated` (`self` is the thread on the streams `i`,
`playing_env` holds the state `w` — any position reached by accepted cards), if a message is in the queue of the seat that
plays, its characters are in the class `agree` (every ASCII text) and the model's `parseCard?` refuses it for the seat on
turn, then the body of `for i in range(4)` raises one of `cardErrs` — out of its head `mbCardHead` (`get`, `parse_card`),
i.e. BEFORE `play_card`, before the relay loop `mbRelayLoop` that tells the other seats, before dummy's cards -/
theorem main_card_unparseable_raises (decl : Seat) (c : Contract) (table : Val) (tables : List Val)
    (more : List (Val × Val)) (bs : Val) (env : Env) (w : WithHands) (i i' : MainIn) (out : List Val) (message : Text)
    (hself : lookup env K.self = some (encMainThread (encMainWorld i out table tables more) bs))
    (hpe : lookup env n_playing_env = some (encWithHands c w))
    (hinv : MInv decl w)
    (hget : MainIn.get i (playedM decl w) = some (message, i'))
    (hasc : ∀ x ∈ message, agree x = true)
    (hparse : parseCard? message w.base.active = none) :
    ∃ e ∈ cardErrs, ∀ f, 71 ≤ f →
      exec P f env mbCardHead = .error (.exc e) ∧ exec P f env mbCardBody = .error (.exc e) := by
  obtain ⟨e, he, hcall⟩ := parse_card_refuses_uniform message hasc w.base.active hparse
  refine ⟨e, he, fun f hf => ?_⟩
  obtain ⟨g, rfl⟩ : ∃ g, f = g + 71 := ⟨f - 71, by omega⟩
  have h := mb_card_head_unparseable g env i i' out table tables more bs c w message e hself hpe
    (by rw [playedBy_eq hinv]; exact hget) (fun k => hcall (k + 21) (by omega))
  refine ⟨h, ?_⟩
  show execF (mkRec P (g+70)) P env mbCardBody = _
  rw [mbCardBody_eq]
  exact MainA.mt_execF_append_err _ _ _ _ _ h

theorem main_card_unparseable_raises_ascii (decl : Seat) (c : Contract) (table : Val) (tables : List Val)
    (more : List (Val × Val)) (bs : Val) (env : Env) (w : WithHands) (i i' : MainIn) (out : List Val) (message : Text)
    (hself : lookup env K.self = some (encMainThread (encMainWorld i out table tables more) bs))
    (hpe : lookup env n_playing_env = some (encWithHands c w))
    (hinv : MInv decl w)
    (hget : MainIn.get i (playedM decl w) = some (message, i'))
    (hasc : ∀ x ∈ message, x.toNat < 128)
    (hparse : parseCard? message w.base.active = none) :
    ∃ e ∈ cardErrs, ∀ f, 71 ≤ f →
      exec P f env mbCardHead = .error (.exc e) ∧ exec P f env mbCardBody = .error (.exc e) :=
  main_card_unparseable_raises decl c table tables more bs env w i i' out message hself hpe hinv hget
    (fun x hx => agree_ascii x (hasc x hx)) hparse

/-! ## after any run of accepted cards of the trick -/
/-- the model's run of the remaining `n` cards of a trick comes to a message `parseCard?` refuses (after cards it accepted) -/
def mainTrickUnparseable (decl : Seat) : Nat → WithHands → MainIn → Bool
  | 0, _, _ => false
  | n + 1, w, i =>
    match MainIn.get i (playedM decl w) with
    | none => false
    | some (message, i1) =>
      match parseCard? message w.base.active with
      | none => true
      | some card =>
        match w.play card w.base.active with
        | .error _ => false
        | .ok w1 => mainTrickUnparseable decl n w1 i1

theorem mb_forF_err (r : Rec) (x : Id) (body : List Stmt) (env : Env) (it : Val) (items : List Val) (e : Err)
    (h : r.exec (update env x it) body = .error e) :
    forF r [x] body env (it :: items) = .error e := by
  simp only [forF, pure_eq, bind_ok, h, bind_err]

/-- the loop `for i in range(4)` from card `idx` on: the accepted cards are played and relayed (`mb_card`), then the refused
text makes the loop raise -/
theorem mb_cards_loop_unparseable (f : Nat) (decl : Seat) (c : Contract) (deal : Seat → List Card)
    (table : Val) (tables : List Val) (more : List (Val × Val)) (bs : Val) (k : Nat)
    (hok : ∀ c ∈ deal decl.partner, 2 ≤ c.rank ∧ c.rank ≤ 14) :
    ∀ (n idx : Nat), idx + n = 4 → ∀ (env : Env) (w : WithHands) (i : MainIn) (out : List Val),
      lookup env K.self = some (encMainThread (encMainWorld i out table tables more) bs) →
      lookup env n_playing_env = some (encWithHands c w) →
      lookup env n_trick_num = some (.int (Int.ofNat k)) →
      lookup env n_cards = some (.dict (handsKvs deal)) →
      MInv decl w →
      (∀ p, ∀ m ∈ i p, ∀ x ∈ m, agree x = true) →
      mainTrickUnparseable decl n w i = true →
      ∃ e ∈ cardErrs, forF (mkRec P (f+71)) [n_i] mbCardBody env (natItems idx n) = .error (.exc e) := by
  intro n
  induction n with
  | zero => intro idx _ env w i out _ _ _ _ _ _ h; simp [mainTrickUnparseable] at h
  | succ n ih =>
    intro idx hidx env w i out hself hpe htk hcards hinv hasc h
    have hne : ∀ y, n_i ≠ y → lookup (update env n_i (.int (Int.ofNat idx))) y = lookup env y :=
      fun y hy => lookup_update_ne _ _ _ _ hy
    cases hget : MainIn.get i (playedM decl w) with
    | none => simp [mainTrickUnparseable, hget] at h
    | some mi =>
      obtain ⟨message, i1⟩ := mi
      obtain ⟨hmem, hsub⟩ := get_mem hget
      have hmsg : ∀ x ∈ message, agree x = true := hasc _ message hmem
      cases hp : parseCard? message w.base.active with
      | none =>
        obtain ⟨e, he, hraise⟩ := main_card_unparseable_raises decl c table tables more bs
          (update env n_i (.int (Int.ofNat idx))) w i i1 out message (by rw [hne _ (by decide), hself])
          (by rw [hne _ (by decide), hpe]) hinv hget hmsg hp
        refine ⟨e, he, ?_⟩
        rw [natItems_succ]
        exact mb_forF_err _ _ _ _ _ _ _ (hraise (f + 71) (by omega)).2
      | some card =>
        cases hplay : w.play card w.base.active with
        | error er => simp [mainTrickUnparseable, hget, hp, hplay] at h
        | ok w1 =>
          simp only [mainTrickUnparseable, hget, hp, hplay] at h
          have hpt : ParsesTo message w.base.active card := parse_card_translated message hmsg _ card hp
          obtain ⟨e1, h1, hs1, hp1, hf1⟩ := mb_card f (update env n_i (.int (Int.ofNat idx))) i i1 out table tables more bs c
            w w1 card message (Int.ofNat k) (Int.ofNat idx) deal (by rw [hne _ (by decide), hself])
            (by rw [hne _ (by decide), hpe]) (by rw [hne _ (by decide), htk]) (lookup_update_same _ _ _)
            (by rw [hne _ (by decide), hcards]) hinv.1 (by rw [playedBy_eq hinv]; exact hget) hpt hplay
            (by rw [hinv.2.2]; exact hok)
          obtain ⟨e, he, h2⟩ := ih (idx + 1) (by omega) e1 w1 i1 _ hs1 hp1
            (by rw [hf1 _ (by decide), hne _ (by decide), htk]) (by rw [hf1 _ (by decide), hne _ (by decide), hcards])
            (minv_play hinv hplay) (fun p m hm => hasc p m (hsub p m hm)) h
          refine ⟨e, he, ?_⟩
          rw [natItems_succ, forF_cons_next _ _ _ _ e1 _ _ h1, h2]

/-- ONE TRICK with a refused card text: the body of `for trick_num in range(1, 14)` raises one of `cardErrs` — at an
arbitrary position (`playing_env` holds any state `w` at the start of a trick), after the cards of the trick the model
accepts -/
theorem main_trick_unparseable_raises (decl : Seat) (c : Contract) (deal : Seat → List Card)
    (table : Val) (tables : List Val) (more : List (Val × Val)) (bs : Val) (k : Nat)
    (env : Env) (w : WithHands) (i : MainIn) (out : List Val)
    (hself : lookup env K.self = some (encMainThread (encMainWorld i out table tables more) bs))
    (hpe : lookup env n_playing_env = some (encWithHands c w))
    (htk : lookup env n_trick_num = some (.int (Int.ofNat k)))
    (hcards : lookup env n_cards = some (.dict (handsKvs deal)))
    (hinv : MInv decl w)
    (hasc : ∀ p, ∀ m ∈ i p, ∀ x ∈ m, agree x = true)
    (hbad : mainTrickUnparseable decl 4 w i = true)
    (hok : ∀ c ∈ deal decl.partner, 2 ≤ c.rank ∧ c.rank ≤ 14) :
    ∀ f, 73 ≤ f → ∃ e ∈ cardErrs, exec P f env mbTrickBody = .error (.exc e) := by
  intro f hf
  obtain ⟨g, rfl⟩ : ∃ g, f = g + 73 := ⟨f - 73, by omega⟩
  obtain ⟨e1, h1, hs1, hl1, hf1⟩ := mb_trick_head (g+42) env i out table tables more bs c w hself hpe
  have h1' : execF (mkRec P (g+72)) P env mbTrickHead = .ok (e1, .next) := h1
  obtain ⟨e2, h2, hs2, hf2⟩ := mb_loop_leader (g+42) e1 i _ table tables more bs _ hs1 hl1
  have h2' : execStmtF (mkRec P (g+72)) P e1 mbLeaderLoop = .ok (e2, .next) := h2
  obtain ⟨e, he, h3⟩ := mb_cards_loop_unparseable (g+1) decl c deal table tables more bs k hok
    4 0 rfl e2 w i _ hs2 (by rw [hf2 _ (by decide), hf1 _ (by decide), hpe])
    (by rw [hf2 _ (by decide), hf1 _ (by decide), htk]) (by rw [hf2 _ (by decide), hf1 _ (by decide), hcards]) hinv hasc hbad
  have h3' : execStmtF (mkRec P (g+72)) P e2 mbCardLoop = .error (.exc e) := by
    rw [mb_cardLoop_stmt (g+70) e2]; exact h3
  refine ⟨e, he, ?_⟩
  show execF (mkRec P (g+72)) P env mbTrickBody = _
  rw [mbTrickBody_eq, execF_append_next _ h1', execF_cons_next _ h2']
  simp only [execF, h3', bind_err]

/-! ## non-vacuity: the example of ThreadsMainBLemmasE.lean with a garbled opening lead -/
def exInBadLead : MainIn := fun p => if p = .W then ["west plays zz".toList] else exIn p

def exEnvBad : Env :=
  [(K.self, encMainThread (encMainWorld exInBadLead [] (.dict []) [] []) .none), (n_contract, encContract exContract),
   (n_cards, .dict (handsKvs exDeal)), (n_playing_env, encWithHands exContract exW0), (n_trick_num, .int 1),
   (n_i, .int 0)]

example : ∃ e ∈ cardErrs, exec P 73 exEnvBad mbTrickBody = .error (.exc e) := by
  have hinv : MInv .S exW0 := minv_init exContract exDeal exW0 .S ex_init rfl
  have hbad : ∀ x ∈ "west plays zz".toList, x.toNat < 128 := by decide +kernel
  have hasc : ∀ p, ∀ m ∈ exInBadLead p, ∀ x ∈ m, agree x = true := by
    intro p m hm x hx
    by_cases hp : p = .W
    · simp only [exInBadLead, if_pos hp, List.mem_singleton] at hm
      rw [hm] at hx; exact agree_ascii x (hbad x hx)
    · simp only [exInBadLead, if_neg hp] at hm
      exact ex_agree p m hm x hx
  exact main_trick_unparseable_raises .S exContract exDeal (.dict []) [] [] .none 1 exEnvBad exW0 exInBadLead [] rfl rfl rfl rfl
    hinv hasc (by decide +kernel) (by decide) 73 (Nat.le_refl _)

end Bridge.Translated.MainB
