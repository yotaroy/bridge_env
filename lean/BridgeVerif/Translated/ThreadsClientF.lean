import BridgeVerif.Translated.ThreadsClientE
/-!
# `parse_team_names` / `parse_leader_message` translated = model on EVERY text; `connectParses` holds outright

With `Lemmas/RegexMsgClientB.lean` (the engine's Unicode case folding and the scanner's `eqCI` agree on every character
against the ASCII letters of the patterns) the class hypotheses of `Translated/ClientParsers{B,D}.lean` and
`Translated/ThreadsClientE.lean` disappear:

* `parse_team_names_all`, `parse_leader_message_all` : for EVERY text, at every fuel ≥ 31, the translated method returns
  the encoding of the model's result, or raises where the model has `none`;
* `connectParses_all` : the hypothesis `connectParses 31 i` of the bundled-client capstone holds for EVERY input `i`;
* `playParses_leader_all` : the field `leader` of `PlayParses 31 i` holds for EVERY input `i`;
* `parse_board_nodigit`, `dealParses_board_nodigit` : the same for `parse_board` on every header without a non-ASCII
  decimal digit (`\d` is Unicode-aware in `re`, the model's scanner reads ASCII digits: `"Board number ١٨. …"` is read by
  the translated code and refused by the model — outside the class).
-/
namespace Bridge.Translated.ClientE
open Bridge Bridge.Py Bridge.Generated.PyCore Bridge.Translated Bridge.Translated.ClientA Bridge.Translated.ClientB
open Bridge.Translated.ClientParsers Bridge.RegexMsgClient

/-- `Client.parse_team_names` translated, on EVERY text, at every fuel ≥ 31 -/
theorem parse_team_names_all (s : Str) (g : Nat) (hg : 31 ≤ g) :
    callFn P g m_Client_parse_team_names [.str s] =
      match parseTeamNames? s with
      | none => .error (.exc K.Exception)
      | some (ns, ew) => .ok (.tuple [.str ns, .str ew], .str s) :=
  parse_team_names_translated s (fun x _ => agreeTeams_all x) g hg

/-- `Client.parse_leader_message` translated, on EVERY text, at every fuel ≥ 31 -/
theorem parse_leader_message_all (s : Str) (dummy : Seat) (g : Nat) (hg : 31 ≤ g) :
    callFn P g m_Client_parse_leader_message [.str s, encSeat dummy] = leaderResult s dummy :=
  parse_leader_message_translated s (fun x _ => agreeLead_all x) dummy g hg

/-- … in terms of the model: success -/
theorem parse_leader_message_all_ok (s : Str) (dummy l : Seat) (h : parseLeader? s dummy = some l) (g : Nat)
    (hg : 31 ≤ g) : callFn P g m_Client_parse_leader_message [.str s, encSeat dummy] = .ok (encSeat l, .str s) :=
  parse_leader_message_ok s (fun x _ => agreeLead_all x) dummy l h g hg

/-- … failure: `Exception` (no match) or `ValueError` (unknown name) -/
theorem parse_leader_message_all_raises (s : Str) (dummy : Seat) (h : parseLeader? s dummy = none) (g : Nat)
    (hg : 31 ≤ g) :
    callFn P g m_Client_parse_leader_message [.str s, encSeat dummy] = .error (.exc K.Exception) ∨
    callFn P g m_Client_parse_leader_message [.str s, encSeat dummy] = .error (.exc K.ValueError) := by
  rcases parse_leader_message_raises s (fun x _ => agreeLead_all x) dummy h g hg with ⟨_, h⟩ | ⟨_, h⟩
  · exact .inl h
  · exact .inr h

/-- `Client.parse_board` translated, on every header without a non-ASCII decimal digit, at every fuel ≥ 31 -/
theorem parse_board_nodigit (s : Str) (hs : ∀ x ∈ s, x.toNat < 128 ∨ Re.isDigit x = false) (g : Nat) (hg : 31 ≤ g) :
    callFn P g m_Client_parse_board [.str s] = boardResult s :=
  parse_board_translated s (fun x hx => by
    rcases hs x hx with h | h
    · exact agreeBoard_ascii x h
    · exact agreeBoard_of_not_digit x h) g hg

/-- THE HYPOTHESIS `connectParses` OF THE BUNDLED-CLIENT CAPSTONE HOLDS FOR EVERY INPUT -/
theorem connectParses_all (i : ClientIn) : connectParses 31 i :=
  connectParses_of_agree i fun _ _ _ _ x _ => agreeTeams_all x

/-- … at any larger fuel bound as well -/
theorem connectParses_all' (N : Nat) (hN : 31 ≤ N) (i : ClientIn) : connectParses N i := by
  have h := connectParses_all i
  unfold connectParses at h ⊢
  split
  · rename_i reply teams rest heq
    rw [heq] at h
    exact fun ns ew hp => Returns.mono (h ns ew hp) hN
  · trivial

/-- the field `leader` of `PlayParses` holds for every input -/
theorem playParses_leader_all (i : ClientIn) :
    ∀ m ∈ i.s, ∀ (d l : Seat), parseLeader? m d = some l →
      Returns 31 m_Client_parse_leader_message [.str m, encSeat d] (encSeat l) :=
  playParses_leader i fun _ _ x _ => agreeLead_all x

/-- the first conjunct of `dealParses` on every header without a non-ASCII decimal digit -/
theorem dealParses_board_nodigit (header : Text) (h : ∀ x ∈ header, x.toNat < 128 ∨ Re.isDigit x = false) :
    ∀ k dealer vul, parseBoard? header = some (k, dealer, vul) →
      Returns 31 m_Client_parse_board [.str header] (.tuple [.int k, encSeat dealer, encVul vul]) :=
  dealParses_board header fun x hx => by
    rcases h x hx with h | h
    · exact agreeBoard_ascii x h
    · exact agreeBoard_of_not_digit x h

/-- the `Teams` message built from ANY two names without a double quote / line break -/
theorem teams_message_returns_all (ns ew : Text) (n1 : NameOK ns) (n2 : NameOK ew) :
    Returns 31 m_Client_parse_team_names [.str (teamsMsg ns ew)] (.tuple [.str ns, .str ew]) :=
  teams_message_returns ns ew n1 n2

end Bridge.Translated.ClientE
