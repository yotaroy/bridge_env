import BridgeVerif.Translated.ThreadsClientA
import BridgeVerif.Translated.ThreadsClientB
/-! Translated `ClientThread.run`: the model's board loop cut into one board (`clientBoardR`), what the phases do to the
three streams, the erasure of the decisions (`eraseDecisions`) -/
namespace Bridge.Translated.ClientC
open Bridge Bridge.Py Bridge.Generated.PyCore Bridge.Translated Bridge.Translated.ClientA Bridge.Translated.ClientB

/-! ## ONE board of `clientBoardsR` -/

/-- the playing part of one board of `clientBoardsR`: nothing when passed out, else `clientPlayingR` from
`Observed.init contract p hand` with fuel 14 -/
def clientPlayR (p : Seat) (contract : Contract) (hand : List Card) (i : ClientIn) : Option (ClientActs × ClientIn) :=
  if contract.isPassedOut then pure ([], i)
  else
    match contract.declarer, Observed.init contract p hand with
    | some decl, some o0 => do
      let (acts, _, i) ← clientPlayingR p decl 14 o0 false i
      pure (acts, i)
    | _, _ => none

/-- ONE board of `clientBoardsR`: `_deal`, `bidding_phase`, `playing_phase` unless passed out, the next message (returned);
the actions include the receipt of that message -/
def clientBoardR (p : Seat) (i : ClientIn) : Option (ClientActs × Text × ClientIn) := do
  let (d, (_, dealer, vul), hand, i) ← clientDealR p i
  let (b, s, i) ← clientBiddingR p (320 + 1) (AState.init dealer vul) i
  let contract ← s.contract
  let (pl, i) ← clientPlayR p contract hand i
  let (m, i) ← i.recv
  pure (d ++ b ++ pl ++ [.recv (.s2c p)], m, i)

/-- `clientBoardsR` is `clientBoardR`, then the test on the message received -/
theorem clientBoardsR_succ (p : Seat) (fuel : Nat) (i : ClientIn) :
    clientBoardsR p (fuel+1) i = (do
      let (pre, m, i) ← clientBoardR p i
      if m = MSG_END then pure (pre, i)
      else if lowerS m = lowerS MSG_START then do
        let (rest, i) ← clientBoardsR p fuel i
        pure (pre ++ rest, i)
      else none) := by
  rw [clientBoardsR]
  unfold clientBoardR clientPlayR
  cases hd : clientDealR p i with
  | none => rfl
  | some x =>
    obtain ⟨d, ⟨k, dealer, vul⟩, hand, i1⟩ := x
    simp only [Option.bind_eq_bind, Option.bind_some]
    cases hb : clientBiddingR p (320 + 1) (AState.init dealer vul) i1 with
    | none => rfl
    | some y =>
      obtain ⟨b, s, i2⟩ := y
      simp only [Option.bind_some]
      cases hc : s.contract with
      | none => rfl
      | some c =>
        simp only [Option.bind_some]
        cases hpo : c.isPassedOut with
        | true =>
          simp only [if_true, Option.pure_def, Option.bind_some]
          cases hr : i2.recv with
          | none => rfl
          | some z => rfl
        | false =>
          simp only [Bool.false_eq_true, if_false]
          cases hdecl : c.declarer with
          | none => rfl
          | some decl =>
            cases ho : Observed.init c p hand with
            | none => rfl
            | some o0 =>
              simp only []
              cases hpl : clientPlayingR p decl 14 o0 false i2 with
              | none => rfl
              | some w =>
                obtain ⟨pl, o', i3⟩ := w
                simp only [Option.bind_some, Option.pure_def]
                cases hr : i3.recv with
                | none => rfl
                | some z => rfl

/-! ## what the phases do to the three streams -/

/-- `clientBiddingR` leaves the cards alone and consumes the other two streams from the front -/
theorem clientBiddingR_streams (p : Seat) : ∀ (n : Nat) (s : AState) (i : ClientIn) (acts : ClientActs) (s' : AState)
    (i' : ClientIn), clientBiddingR p n s i = some (acts, s', i') →
    i'.cards = i.cards ∧ i'.s <:+ i.s ∧ i'.calls <:+ i.calls := by
  intro n
  induction n with
  | zero => intro s i acts s' i' h; simp [clientBiddingR] at h
  | succ n ih =>
    intro s i acts s' i' h
    rw [clientBiddingR_succ] at h
    cases hact : s.active with
    | none =>
      simp only [hact, Option.some.injEq, Prod.mk.injEq] at h
      obtain ⟨_, _, rfl⟩ := h
      exact ⟨rfl, List.suffix_refl _, List.suffix_refl _⟩
    | some a =>
      simp only [hact] at h
      obtain ⟨⟨c, tacts, ops, i1⟩, ht, h⟩ := Option.bind_eq_some_iff.1 h
      obtain ⟨_, t1, t2, t3, _⟩ := clientTurnR_spec ht
      cases htb : takeBid s c with
      | error e => simp only [htb] at h; cases h
      | ok x =>
        obtain ⟨s1, r⟩ := x
        simp only [htb] at h
        cases r with
        | illegal => cases h
        | finished =>
          simp only [Option.some.injEq, Prod.mk.injEq] at h
          obtain ⟨_, _, rfl⟩ := h
          exact ⟨t1, t2, t3⟩
        | ongoing =>
          obtain ⟨⟨acts1, s2, i2⟩, hrec, h⟩ := Option.bind_eq_some_iff.1 h
          simp only [Option.some.injEq, Prod.mk.injEq] at h
          obtain ⟨_, _, rfl⟩ := h
          obtain ⟨e1, e2, e3⟩ := ih s1 i1 acts1 s2 i2 hrec
          exact ⟨e1.trans t1, e2.trans t2, e3.trans t3⟩

/-- what the playing phase does to the streams: the calls are untouched, messages and cards are consumed from the front -/
def PlayInv (i i' : ClientIn) : Prop := i'.calls = i.calls ∧ i'.s <:+ i.s ∧ i'.cards <:+ i.cards

theorem PlayInv.refl (i : ClientIn) : PlayInv i i := ⟨rfl, List.suffix_refl _, List.suffix_refl _⟩
theorem PlayInv.trans {i j k : ClientIn} (h1 : PlayInv i j) (h2 : PlayInv j k) : PlayInv i k :=
  ⟨h2.1.trans h1.1, h2.2.1.trans h1.2.1, h2.2.2.trans h1.2.2⟩

theorem recv_inv {i i' : ClientIn} {m : Text} (h : i.recv = some (m, i')) : PlayInv i i' := by
  obtain ⟨st, calls, cards⟩ := i
  cases st with
  | nil => simp [ClientIn.recv] at h
  | cons x r =>
    simp only [ClientIn.recv, Option.some.injEq, Prod.mk.injEq] at h
    obtain ⟨_, rfl⟩ := h
    exact ⟨rfl, List.suffix_cons _ _, List.suffix_refl _⟩

theorem nextCard_inv {i i' : ClientIn} {c : Card} (h : i.nextCard = some (c, i')) : PlayInv i i' := by
  obtain ⟨st, calls, cards⟩ := i
  cases cards with
  | nil => simp [ClientIn.nextCard] at h
  | cons x r =>
    simp only [ClientIn.nextCard, Option.some.injEq, Prod.mk.injEq] at h
    obtain ⟨_, rfl⟩ := h
    exact ⟨rfl, List.suffix_refl _, List.suffix_cons _ _⟩

theorem clientOpenR_inv (p decl : Seat) (o o' : Observed) (opened opened' : Bool) (i i' : ClientIn) (acts : ClientActs)
    (h : clientOpenR p decl o opened i = some (acts, o', opened', i')) : PlayInv i i' := by
  unfold clientOpenR at h
  by_cases hA : o.base.active = decl.partner ∧ (!opened) = true
  · by_cases hB : decl.partner ≠ p
    · simp only [if_pos hA, if_pos hB, Option.bind_eq_bind] at h
      obtain ⟨⟨m, i1⟩, hr, h⟩ := Option.bind_eq_some_iff.1 h
      obtain ⟨dh, _, h⟩ := Option.bind_eq_some_iff.1 h
      simp only [Option.pure_def, Option.some.injEq, Prod.mk.injEq] at h
      obtain ⟨_, _, _, rfl⟩ := h
      exact recv_inv hr
    · simp only [if_pos hA, if_neg hB, Option.pure_def, Option.some.injEq, Prod.mk.injEq] at h
      obtain ⟨_, _, _, rfl⟩ := h
      exact PlayInv.refl _
  · simp only [if_neg hA, Option.pure_def, Option.some.injEq, Prod.mk.injEq] at h
    obtain ⟨_, _, _, rfl⟩ := h
    exact PlayInv.refl _

theorem clientMoveR_inv (p decl a : Seat) (o o' : Observed) (i i' : ClientIn) (acts : ClientActs)
    (h : clientMoveR p decl a o i = some (acts, o', i')) : PlayInv i i' := by
  unfold clientMoveR at h
  by_cases h1 : a = p ∧ p ≠ decl.partner
  · simp only [if_pos h1, Option.bind_eq_bind] at h
    obtain ⟨⟨c, i1⟩, hn, h⟩ := Option.bind_eq_some_iff.1 h
    dsimp only at h
    cases hp : o.play c p with
    | error e => rw [hp] at h; cases h
    | ok o1 =>
      rw [hp] at h
      simp only [Option.pure_def, Option.some.injEq, Prod.mk.injEq] at h
      obtain ⟨_, _, rfl⟩ := h
      exact nextCard_inv hn
  · simp only [if_neg h1] at h
    by_cases h2 : a = decl.partner ∧ p = decl
    · simp only [if_pos h2] at h
      cases hd : o.dummyHand.isNone with
      | true => simp [hd] at h
      | false =>
        simp only [hd, Bool.false_eq_true, if_false, Option.bind_eq_bind] at h
        obtain ⟨⟨c, i1⟩, hn, h⟩ := Option.bind_eq_some_iff.1 h
        dsimp only at h
        cases hp : o.play c decl.partner with
        | error e => rw [hp] at h; cases h
        | ok o1 =>
          rw [hp] at h
          simp only [Option.pure_def, Option.some.injEq, Prod.mk.injEq] at h
          obtain ⟨_, _, rfl⟩ := h
          exact nextCard_inv hn
    · simp only [if_neg h2, Option.bind_eq_bind] at h
      obtain ⟨⟨m, i1⟩, hr, h⟩ := Option.bind_eq_some_iff.1 h
      obtain ⟨c, _, h⟩ := Option.bind_eq_some_iff.1 h
      dsimp only at h
      cases hp : o.play c a with
      | error e => rw [hp] at h; cases h
      | ok o1 =>
        rw [hp] at h
        simp only [Option.pure_def, Option.some.injEq, Prod.mk.injEq] at h
        obtain ⟨_, _, rfl⟩ := h
        exact recv_inv hr

theorem clientCardR_inv (p decl : Seat) (o o' : Observed) (opened opened' : Bool) (i i' : ClientIn) (acts : ClientActs)
    (h : clientCardR p decl o opened i = some (acts, o', opened', i')) : PlayInv i i' := by
  unfold clientCardR at h
  simp only [Option.bind_eq_bind] at h
  obtain ⟨⟨a0, o1, op1, i1⟩, h0, h⟩ := Option.bind_eq_some_iff.1 h
  obtain ⟨⟨a1, o2, i2⟩, h1, h⟩ := Option.bind_eq_some_iff.1 h
  simp only [Option.pure_def, Option.some.injEq, Prod.mk.injEq] at h
  obtain ⟨_, _, _, rfl⟩ := h
  exact (clientOpenR_inv _ _ _ _ _ _ _ _ _ h0).trans (clientMoveR_inv _ _ _ _ _ _ _ _ h1)

theorem clientTrickR_inv (p decl : Seat) : ∀ (n : Nat) (o o' : Observed) (opened opened' : Bool) (i i' : ClientIn)
    (acts : ClientActs), clientTrickR p decl n o opened i = some (acts, o', opened', i') → PlayInv i i' := by
  intro n
  induction n with
  | zero =>
    intro o o' opened opened' i i' acts h
    simp only [clientTrickR, Option.some.injEq, Prod.mk.injEq] at h
    obtain ⟨_, _, _, rfl⟩ := h
    exact PlayInv.refl _
  | succ n ih =>
    intro o o' opened opened' i i' acts h
    rw [clientTrickR_succ] at h
    simp only [Option.bind_eq_bind] at h
    obtain ⟨⟨a0, o1, op1, i1⟩, h0, h⟩ := Option.bind_eq_some_iff.1 h
    obtain ⟨⟨a1, o2, op2, i2⟩, h1, h⟩ := Option.bind_eq_some_iff.1 h
    simp only [Option.pure_def, Option.some.injEq, Prod.mk.injEq] at h
    obtain ⟨_, _, _, rfl⟩ := h
    exact (clientCardR_inv _ _ _ _ _ _ _ _ _ h0).trans (ih _ _ _ _ _ _ _ h1)

theorem clientLeadR_inv (p decl : Seat) (o : Observed) (i i' : ClientIn) (acts : ClientActs)
    (h : clientLeadR p decl o i = some (acts, i')) : PlayInv i i' := by
  unfold clientLeadR at h
  by_cases hc : (o.base.active = p ∧ p ≠ decl.partner) ∨ (o.base.active = decl.partner ∧ p = decl)
  · simp only [if_pos hc, Option.bind_eq_bind] at h
    obtain ⟨⟨m, i1⟩, hr, h⟩ := Option.bind_eq_some_iff.1 h
    obtain ⟨l, _, h⟩ := Option.bind_eq_some_iff.1 h
    dsimp only at h
    by_cases hl : l = o.base.active
    · simp only [if_pos hl, Option.pure_def, Option.some.injEq, Prod.mk.injEq] at h
      obtain ⟨_, rfl⟩ := h
      exact recv_inv hr
    · simp only [if_neg hl] at h; cases h
  · simp only [if_neg hc, Option.pure_def, Option.some.injEq, Prod.mk.injEq] at h
    obtain ⟨_, rfl⟩ := h
    exact PlayInv.refl _

/-- `clientPlayingR` leaves the calls alone and consumes messages and cards from the front -/
theorem clientPlayingR_inv (p decl : Seat) : ∀ (n : Nat) (o o' : Observed) (opened : Bool) (i i' : ClientIn)
    (acts : ClientActs), clientPlayingR p decl n o opened i = some (acts, o', i') → PlayInv i i' := by
  intro n
  induction n with
  | zero => intro o o' opened i i' acts h; simp [clientPlayingR] at h
  | succ n ih =>
    intro o o' opened i i' acts h
    rw [clientPlayingR_succ] at h
    cases hd : o.base.hasDone with
    | true =>
      simp only [hd, if_true, Option.some.injEq, Prod.mk.injEq] at h
      obtain ⟨_, _, rfl⟩ := h
      exact PlayInv.refl _
    | false =>
      simp only [hd, Bool.false_eq_true, if_false, Option.bind_eq_bind] at h
      obtain ⟨⟨a0, i1⟩, h0, h⟩ := Option.bind_eq_some_iff.1 h
      obtain ⟨⟨t, o2, op2, i2⟩, h1, h⟩ := Option.bind_eq_some_iff.1 h
      obtain ⟨⟨r, o3, i3⟩, h2, h⟩ := Option.bind_eq_some_iff.1 h
      simp only [Option.pure_def, Option.some.injEq, Prod.mk.injEq] at h
      obtain ⟨_, _, rfl⟩ := h
      exact ((clientLeadR_inv _ _ _ _ _ _ h0).trans (clientTrickR_inv _ _ _ _ _ _ _ _ _ _ h1)).trans
        (ih _ _ _ _ _ _ h2)

/-! ## the erasure of the decisions -/

/-- drop the decisions of the bidding system (`bidAsk`) and of the playing system (`playAsk`) -/
def eraseDecisions (ops : List Val) : List Val := erasePlays (eraseAsks ops)

theorem eraseDecisions_append (a b : List Val) : eraseDecisions (a ++ b) = eraseDecisions a ++ eraseDecisions b := by
  simp [eraseDecisions, eraseAsks, erasePlays]

theorem erase_comm (ops : List Val) : erasePlays (eraseAsks ops) = eraseAsks (erasePlays ops) := by
  simp only [erasePlays, eraseAsks, List.filter_filter]
  congr 1
  funext v
  exact Bool.and_comm _ _

theorem encClientAct_clean (p : Seat) (a : SAct Text LogOp) (u : List Val) (h : encClientAct p a = some u) :
    eraseAsks u = u ∧ erasePlays u = u := by
  unfold encClientAct at h
  split at h
  · split at h
    · simp only [Option.some.injEq] at h
      subst h
      simp [eraseAsks, erasePlays, ct_send_beq, cb_send_beq]
    · cases h
  · split at h
    · simp only [Option.some.injEq] at h
      subst h
      simp [eraseAsks, erasePlays, ct_recv_beq, cb_recv_beq]
    · cases h
  · cases h

/-- the rendering of the model's actions contains no decision -/
theorem encClientActs_clean (p : Seat) : ∀ (acts : ClientActs) (xs : List Val), encClientActs p acts = some xs →
    eraseAsks xs = xs ∧ erasePlays xs = xs := by
  intro acts
  induction acts with
  | nil =>
    intro xs h
    simp only [encClientActs, Option.some.injEq] at h
    subst h
    exact ⟨rfl, rfl⟩
  | cons a r ih =>
    intro xs h
    simp only [encClientActs, Option.bind_eq_bind] at h
    obtain ⟨u, hu, h⟩ := Option.bind_eq_some_iff.1 h
    obtain ⟨v, hv, h⟩ := Option.bind_eq_some_iff.1 h
    simp only [Option.pure_def, Option.some.injEq] at h
    subst h
    obtain ⟨a1, a2⟩ := encClientAct_clean p a u hu
    obtain ⟨b1, b2⟩ := ih v hv
    constructor
    · have : eraseAsks (u ++ v) = eraseAsks u ++ eraseAsks v := by simp [eraseAsks]
      rw [this, a1, b1]
    · rw [erasePlays_append, a2, b2]

theorem eraseDecisions_clean (p : Seat) (acts : ClientActs) (xs : List Val) (h : encClientActs p acts = some xs) :
    eraseDecisions xs = xs := by
  obtain ⟨a, b⟩ := encClientActs_clean p acts xs h
  rw [eraseDecisions, a, b]

/-- operations whose `bidAsk`-erasure is the rendering of actions -/
theorem eraseDecisions_of_asks (p : Seat) (acts : ClientActs) (ops : List Val)
    (h : encClientActs p acts = some (eraseAsks ops)) : encClientActs p acts = some (eraseDecisions ops) := by
  rw [eraseDecisions, (encClientActs_clean p acts _ h).2]
  exact h

/-- operations whose `playAsk`-erasure is the rendering of actions -/
theorem eraseDecisions_of_plays (p : Seat) (acts : ClientActs) (ops : List Val)
    (h : encClientActs p acts = some (erasePlays ops)) : encClientActs p acts = some (eraseDecisions ops) := by
  rw [eraseDecisions, erase_comm, (encClientActs_clean p acts _ h).1]
  exact h

end Bridge.Translated.ClientC
