import BridgeVerif.Translated.HandsLemmasC
/-! Translated `Hands` (hands.py) = model: `_convert_hand_to_pbn` (the `for suit in (S, H, D, C)` loop unrolled) and
`to_pbn` (one turn of the `for _ in range(4)` loop with the seat, the list and the remaining turns as variables) -/
namespace Bridge.Translated
open Bridge Bridge.Py Bridge.Generated.PyCore

theorem hd_natCast_beq_13 (n : Nat) : ((n : Int) == 13) = decide (n = 13) := by
  rw [Bool.eq_iff_iff]; simp only [beq_iff_eq, decide_eq_true_eq]; omega

theorem hands_chp_call (f : Nat) (hand : List Card) (hr : hand.length = 13 → ∀ c ∈ hand, 2 ≤ c.rank ∧ c.rank ≤ 14) :
    callF (mkRec P (f+40)) m_Hands__convert_hand_to_pbn [.tuple (hand.map encCard)]
      = match handToPbn? hand with
        | some s => .ok (.str s, .tuple (hand.map encCard))
        | none => .error (.exc K.AssertionError) := by
  rw [callF_def]
  simp only [m_Hands__convert_hand_to_pbn, bindParams, Option.map]
  by_cases h0 : hand.length = 0
  · ppsimp [len_cards, beq_int, natCast_beq_zero, h0, handToPbn?]
  · by_cases h13 : hand.length = 13
    · have hr := hr h13
      have hc := fun su f env hs => hands_comp_suit f env su hs (sortDesc hand)
        fun c hc => hr c ((sortDesc_perm hand).mem_iff.1 hc)
      have hs : [Val.enum n_Suit 4, .enum n_Suit 3, .enum n_Suit 2, .enum n_Suit 1] = [Suit.S, .H, .D, .C].map encSuit := rfl
      ppsimp [len_cards, beq_int, natCast_beq_zero, hd_natCast_beq_13, h0, h13, builtin_tuple_tuple, hd_sortedDesc,
        hd_sortAscZ_reverse hand fun c hc => (hr c hc).1, builtin_tuple_nil, iterItems_tuple, hs, List.map_cons, List.map_nil,
        forF, hc .S, hc .H, hc .D, hc .C, hd_join_chars, hd_join_dots, handToPbn?, pbnSuits]
      rfl
    · ppsimp [len_cards, beq_int, natCast_beq_zero, hd_natCast_beq_13, h0, h13, handToPbn?]

/-! ## `to_pbn` -/
theorem hd_mth_chp : P.method? classDepth n_Hands n__convert_hand_to_pbn = some (n_Hands, m_Hands__convert_hand_to_pbn) := rfl
theorem hd_str_seat (f : Nat) (p : Seat) : strOfF (mkRec P (f+6)) P (encSeat p) = .ok p.name := by
  cases p <;> rfl
theorem hd_str_str (r : Rec) (s : List Char) : strOfF r P (.str s) = .ok s := rfl
theorem hd_normIndex_4 : normIndex 4 0 = some 0 ∧ normIndex 4 1 = some 1 ∧ normIndex 4 2 = some 2 ∧ normIndex 4 3 = some 3 := by
  decide

theorem hd_range4 : (List.range (Int.toNat 4)).map (fun i => Val.int (Int.ofNat i)) = [.int 0, .int 1, .int 2, .int 3] := rfl

/-- the body of `for _ in range(4)` -/
def tpBody : List Stmt := match m_Hands_to_pbn.body.getD 2 .pass with
  | .for _ _ b => b
  | _ => []

/-- one turn of `for _ in range(4)`: `cards.append(Hands._convert_hand_to_pbn(self[player])); player = player.next_player` -/
theorem hands_tp_step (f : Nat) (h : Hands) (hr : ∀ p, (h p).length = 13 → ∀ c ∈ h p, 2 ≤ c.rank ∧ c.rank ≤ 14)
    (dv : Val) (p : Seat) (acc : List Val) (tail : Env) (i : Val) (items : List Val) :
    forF (mkRec P (f+51)) [n__] tpBody
        ((K.self, encHands h) :: (n_dealer, dv) :: (n_player, encSeat p) :: (n_cards, .tuple acc) :: tail) (i :: items)
      = match handToPbn? (h p) with
        | some s => forF (mkRec P (f+51)) [n__] tpBody ((K.self, encHands h) :: (n_dealer, dv) :: (n_player, encSeat p.left)
            :: (n_cards, .tuple (acc ++ [.str s])) :: update tail n__ i) items
        | none => .error (.exc K.AssertionError) := by
  have hc := fun g => hands_chp_call g (h p) (hr p)
  simp only [tpBody, m_Hands_to_pbn, List.getD_cons_succ, List.getD_cons_zero, forF]
  cases e : handToPbn? (h p) <;>
    ppsimp [hd_index_hands, hands_mth_getitem, hands_getitem_call, hd_mth_chp, hc, e, getAttr_next]

theorem hands_to_pbn_call (f : Nat) (h : Hands) (first : Seat)
    (hr : ∀ p, (h p).length = 13 → ∀ c ∈ h p, 2 ≤ c.rank ∧ c.rank ≤ 14) :
    callF (mkRec P (f+60)) m_Hands_to_pbn [encHands h, encSeat first]
      = match toPbn? h first with
        | some s => .ok (.str s, encHands h)
        | none => .error (.exc K.AssertionError) := by
  have st := hands_tp_step (f+8) h hr (encSeat first)
  simp only [tpBody, m_Hands_to_pbn, List.getD_cons_succ, List.getD_cons_zero] at st
  rw [callF_def]
  simp only [m_Hands_to_pbn, bindParams, Option.map, toPbn?, seatsFrom, List.mapM_cons, List.mapM_nil, Option.bind_eq_bind,
    Option.pure_def]
  ppsimp [builtin_tuple_nil, builtin_range, iterItems_tuple, hd_range4]
  rw [st]
  cases handToPbn? (h first) with
  | none => rfl
  | some s0 =>
    dsimp only
    rw [st]
    cases handToPbn? (h first.left) with
    | none => rfl
    | some s1 =>
      dsimp only
      rw [st]
      cases handToPbn? (h first.left.left) with
      | none => rfl
      | some s2 =>
        dsimp only
        rw [st]
        cases handToPbn? (h first.left.left.left) with
        | none => rfl
        | some s3 =>
          ppsimp [forF, index_tuple, Nat.reduceAdd, hd_normIndex_4, List.getD_cons_zero, List.getD_cons_succ, hd_str_seat,
            hd_str_str]
          simp only [List.flatten_cons, List.flatten_nil, List.append_assoc, List.append_nil]
          rfl
end Bridge.Translated
