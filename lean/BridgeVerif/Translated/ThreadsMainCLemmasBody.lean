import BridgeVerif.Translated.ThreadsMainA
import BridgeVerif.Translated.ThreadsMainB
import BridgeVerif.Translated.JsonWriterLemmasA
import BridgeVerif.Model.Abort
/-! Translated `MainThread.run`: the body of the board loop in three parts — the board setting, `deal` and `bidding_phase`; the play
or not; the record, the `break` / the four `next board` puts -/
set_option linter.unusedSimpArgs false
namespace Bridge.Translated.MainC

section
open Bridge Bridge.Py Bridge.Generated.PyCore Bridge.Translated.MainA Bridge.Translated.MainB

/-- `deal` on any world, the cards given as the dictionary seat ↦ cards -/
theorem mc_deal_call (f : Nat) (k : Nat) (b : BoardSetting)
    (hok : ∀ p, ∀ c ∈ b.deal p, 2 ≤ c.rank ∧ c.rank ≤ 14)
    (ins : List (Val × Val)) (out : List Val) (table : Val) (tables : List Val) (eof : Bool) (bs : Val) :
    callF (mkRec P (f+60)) m_MainThread_deal
        [encMainThread (encWorld ins out table tables eof) bs, .int k, encSeat b.dealer, encVul b.vul,
          .dict (handsKvs b.deal), .none]
      = .ok (.none, encMainThread (encWorld ins (out ++ dealOps k b)
                (advTable (advTable table tables).1 (advTable table tables).2).1
                (advTable (advTable table tables).1 (advTable table tables).2).2 eof) bs) :=
  mt_deal_call f k b hok _ (fun g p => by rw [Py.index_dict, lookup_hands]; rfl) ins out table tables eof bs

end

section
open Bridge Bridge.Py Bridge.Generated.PyCore Bridge.Translated.MainA Bridge.Translated.MainB

/-! ## world methods on main's world -/
theorem mc_mth_w_emit : P.method? classDepth n__World n_w_emit = some (n__World, m__World_w_emit) := rfl
theorem mc_mth_deal : P.method? classDepth n_MainThread n_deal = some (n_MainThread, m_MainThread_deal) := rfl
theorem mc_mth_bidding : P.method? classDepth n_MainThread n_bidding_phase
    = some (n_MainThread, m_MainThread_bidding_phase) := rfl
theorem mc_mth_playing : P.method? classDepth n_MainThread n_playing_phase
    = some (n_MainThread, m_MainThread_playing_phase) := rfl

theorem mc_w_emit_call (f : Nat) (i : Seat → List Str) (out : List Val) (table : Val) (tables : List Val)
    (more : List (Val × Val)) (a b : Val) :
    callF (mkRec P (f+12)) m__World_w_emit [encMainWorld i out table tables more, a, b]
      = .ok (.none, encMainWorld i (out ++ [.tuple [.str ['e', 'm', 'i', 't'], a, b]]) table tables more) := by
  rw [callF_def]
  simp only [m__World_w_emit, bindParams, Option.map, mb_world_def]
  ppsimp [pyworld]

/-! ## a board setting -/
/-- the double-dummy table a configured board carries (`Dict[Player, Dict[Suit, int]]`, rows N, E, S, W) -/
def encDdaOpt (d : Option (Seat → Suit → Int)) : Val := encOpt jwEncDda (d.map ddaTable)

/-- a `BoardSetting` instance (NamedTuple `hands, dealer, vul, board_id, dda`), the hands a dictionary seat ↦ cards -/
def encBoardSetting (b : BoardSetting) : Val :=
  .obj n_BoardSetting [(n_hands, .dict (handsKvs b.deal)), (n_dealer, encSeat b.dealer), (n_vul, encVul b.vul),
    (n_board_id, .str b.boardId), (n_dda, encDdaOpt b.dda)]

theorem mc_index_boards (r : Rec) (vals : List Val) (k : Nat) (v : Val) (h1 : 1 ≤ k) (h : vals[k-1]? = some v) :
    indexF r P (.tuple vals) (.int ((k : Int) - 1)) = .ok v := by
  obtain ⟨j, rfl⟩ : ∃ j, k = j + 1 := ⟨k - 1, by omega⟩
  simp only [Nat.add_sub_cancel] at h
  have hlt : j < vals.length := by
    rcases Nat.lt_or_ge j vals.length with h' | h'
    · exact h'
    · rw [List.getElem?_eq_none h'] at h; cases h
  have e : ((j + 1 : Nat) : Int) - 1 = (j : Int) := by omega
  rw [e]
  simp only [indexF, asInt?, normIndex]
  have h0 : (0 : Int) ≤ (j : Int) := by omega
  rw [if_pos h0]
  simp only [Int.toNat_natCast, hlt, if_true]
  rw [List.getD_eq_getElem?_getD, h]; rfl

theorem mc_beq_tuple_none (xs : List Val) : (Val.tuple xs).beq .none = false := by simp [Val.beq]
theorem mc_beq_dict_none (xs : List (Val × Val)) : (Val.dict xs).beq .none = false := by simp [Val.beq]
theorem mc_beq_str_none (s : List Char) : (Val.str s).beq .none = false := by simp [Val.beq]
theorem mc_beq_encVul_none (v : Vul) : (encVul v).beq .none = false := by simp [encVul, Val.beq]
theorem mc_beq_none_none : (Val.none).beq .none = true := by simp [Val.beq]

/-! ## the body of the board loop -/
def mcBoardLoop : Stmt := m_MainThread_run.body.getD 14 .pass
def mcBoardBody : List Stmt := match mcBoardLoop with
  | .for _ _ b => b
  | _ => []
def mcHead : List Stmt := mcBoardBody.take 9
def mcPlayIte : Stmt := mcBoardBody.getD 9 .pass
def mcTail : List Stmt := mcBoardBody.drop 10
theorem mcBoardBody_eq : mcBoardBody = mcHead ++ mcPlayIte :: mcTail := rfl

/-- the variables the first part writes -/
def headVars : List Id := [K.self, n_cards, n_vul, n_dealer, n_board_id, n_dda, n_board_setting, n__t3, n_contract, n_bid_history]

theorem mc_head (f0 : Nat) (env : Env) (i i1 : MainIn) (out : List Val) (table : Val) (tables : List Val)
    (more : List (Val × Val)) (boards : List Val) (k : Nat) (b : BoardSetting) (c : Contract) (hist : List Call)
    (bidOps : List Val)
    (hself : lookup env K.self = some (encMainThread (encMainWorld i out table tables more) (.tuple boards)))
    (hk : lookup env n_board_number = some (.int k))
    (h1 : 1 ≤ k) (hb : boards[k-1]? = some (encBoardSetting b))
    (hok : ∀ p, ∀ c ∈ b.deal p, 2 ≤ c.rank ∧ c.rank ≤ 14)
    (hbid : ∀ j out T TS, callF (mkRec P (f0 + j)) m_MainThread_bidding_phase
        [encMainThread (encMainWorld i out T TS more) (.tuple boards), encSeat b.dealer, encVul b.vul]
      = .ok (.tuple [encContract c, .tuple (hist.map encCall)],
             encMainThread (encMainWorld i1 (out ++ bidOps) T TS more) (.tuple boards))) :
    ∃ env', execF (mkRec P (f0 + 100)) P env mcHead = .ok (env', .next) ∧
      lookup env' K.self = some (encMainThread (encMainWorld i1 (out ++ dealOps k b ++ bidOps)
        (advTable (advTable table tables).1 (advTable table tables).2).1
        (advTable (advTable table tables).1 (advTable table tables).2).2 more) (.tuple boards)) ∧
      lookup env' n_contract = some (encContract c) ∧
      lookup env' n_bid_history = some (.tuple (hist.map encCall)) ∧
      lookup env' n_cards = some (.dict (handsKvs b.deal)) ∧
      lookup env' n_dealer = some (encSeat b.dealer) ∧
      lookup env' n_board_id = some (.str b.boardId) ∧
      lookup env' n_dda = some (encDdaOpt b.dda) ∧
      Frame headVars env env' := by
  have hdeal : ∀ g out, callF (mkRec P (g+60)) m_MainThread_deal
        [encMainThread (encMainWorld i out table tables more) (.tuple boards), .int k, encSeat b.dealer, encVul b.vul,
          .dict (handsKvs b.deal), .none]
      = .ok (.none, encMainThread (encMainWorld i (out ++ dealOps k b)
                (advTable (advTable table tables).1 (advTable table tables).2).1
                (advTable (advTable table tables).1 (advTable table tables).2).2 more) (.tuple boards)) :=
    fun g out => mc_deal_call g k b hok (mainIns i more) out table tables false (.tuple boards)
  have hidx := fun r => mc_index_boards r boards k _ h1 hb
  simp only [encMainThread] at hself hdeal hbid ⊢
  refine ⟨?_, ?_, ?_, ?_, ?_, ?_, ?_, ?_, ?_, ?_⟩
  rotate_left
  · simp only [mcHead, mcBoardBody, mcBoardLoop, m_MainThread_run, List.getD_cons_zero, List.getD_cons_succ, List.take]
    ppsimp [pyworld, forF, hself, hk, mc_beq_tuple_none, hidx, encBoardSetting, mc_beq_dict_none, mc_beq_str_none, mc_beq_encVul_none,
      beq_encSeat_none, mc_mth_deal, hdeal, mc_mth_bidding, hbid]
    rfl
  · lk_tac
  · lk_tac
  · lk_tac
  · lk_tac
  · lk_tac
  · lk_tac
  · lk_tac
  · frame_tac

end

section
open Bridge Bridge.Py Bridge.Generated.PyCore Bridge.Translated.MainA Bridge.Translated.MainB

/-- the keyword arguments handed to `w_emit('write', {…})`, in the order of the code -/
def recDict (bid ew ns dealer cards bh cv ph tt scores dda : Val) : Val :=
  .dict [(.str ['b', 'o', 'a', 'r', 'd', '_', 'i', 'd'], bid),
    (.str ['w', 'e', 's', 't', '_', 'p', 'l', 'a', 'y', 'e', 'r'], ew),
    (.str ['n', 'o', 'r', 't', 'h', '_', 'p', 'l', 'a', 'y', 'e', 'r'], ns),
    (.str ['e', 'a', 's', 't', '_', 'p', 'l', 'a', 'y', 'e', 'r'], ew),
    (.str ['s', 'o', 'u', 't', 'h', '_', 'p', 'l', 'a', 'y', 'e', 'r'], ns),
    (.str ['d', 'e', 'a', 'l', 'e', 'r'], dealer),
    (.str ['d', 'e', 'a', 'l'], cards),
    (.str ['s', 'c', 'o', 'r', 'i', 'n', 'g'], .obj n_Scoring [(K.value, .str ['I', 'M', 'P']), (K.name, .str ['I', 'M', 'P'])]),
    (.str ['b', 'i', 'd', '_', 'h', 'i', 's', 't', 'o', 'r', 'y'], bh),
    (.str ['c', 'o', 'n', 't', 'r', 'a', 'c', 't'], cv),
    (.str ['p', 'l', 'a', 'y', '_', 'h', 'i', 's', 't', 'o', 'r', 'y'], ph),
    (.str ['t', 'a', 'k', 'e', 'n', '_', 't', 'r', 'i', 'c', 'k', '_', 'n', 'u', 'm'], tt),
    (.str ['s', 'c', 'o', 'r', 'e', 's'], scores),
    (.str ['d', 'd', 'a'], dda)]

/-- the `scores` dictionary the code builds: `{Pair.NS: 0, Pair.EW: 0}` without a declarer, else
`{declarer.pair: score, declarer.pair.opponent_pair: -score}` -/
def scoresVal (od : Option Seat) (score : Int) : Val :=
  match od with
  | none => .dict [(encSide .NS, .int 0), (encSide .EW, .int 0)]
  | some d => .dict [(encSide d.side, .int score), (encSide d.side.opp, .int (-score))]

def opEmitWrite (v : Val) : Val := .tuple [vstr "emit", vstr "write", v]

theorem mc_getAttr_opp (f : Nat) (s : Side) :
    getAttrF (mkRec P (f+12)) P (encSide s) n_opponent_pair = .ok (encSide s.opp) := by
  cases s <;> rfl


theorem mc_beq_side_opp (s : Side) : (encSide s).beq (encSide s.opp) = false := by
  cases s <;> simp [encSide, Val.beq, Side.opp, Side.value]

theorem mc_findFunc_calc_score : findFunc P.funcs n_calc_score = some f_calc_score := rfl

/-- the variables the second part writes -/
def tailVars : List Id := [K.self, n_play_history, n_taken_trick_num, n_score, n__t4, n_declarer, n_scores, n_player]

/-! ### the play, or not -/

theorem mc_play_passed_out (f : Nat) (env : Env) (c : Contract) (hpo : c.isPassedOut = true)
    (hc : lookup env n_contract = some (encContract c)) :
    ∃ env', execStmtF (mkRec P (f + 100)) P env mcPlayIte = .ok (env', .next) ∧
      lookup env' n_play_history = some .none ∧ lookup env' n_taken_trick_num = some .none ∧
      lookup env' n_score = some (.int 0) ∧ Frame [n_play_history, n_taken_trick_num, n_score] env env' := by
  refine ⟨?_, ?_, ?_, ?_, ?_, ?_⟩
  rotate_left
  · simp only [mcPlayIte, mcBoardBody, mcBoardLoop, m_MainThread_run, List.getD_cons_zero, List.getD_cons_succ]
    ppsimp [pyworld, forF, hc, mt_ipo_meth, hpo]
    rfl
  · lk_tac
  · lk_tac
  · lk_tac
  · frame_tac

theorem mc_play_played (f0 : Nat) (env : Env) (c : Contract) (hpo : c.isPassedOut = false)
    (i i2 : MainIn) (out : List Val) (table : Val) (tables : List Val) (more : List (Val × Val)) (bs : Val)
    (cards ph : Val) (t score : Int) (playOps : List Val) (x : Val)
    (hself : lookup env K.self = some (encMainThread (encMainWorld i out table tables more) bs))
    (hc : lookup env n_contract = some (encContract c))
    (hcards : lookup env n_cards = some cards)
    (hplay : ∀ j, callF (mkRec P (f0 + j)) m_MainThread_playing_phase
        [encMainThread (encMainWorld i out table tables more) bs, encContract c, cards]
      = .ok (.tuple [ph, .int t], encMainThread (encMainWorld i2 (out ++ playOps) table tables more) bs))
    (hscore : ∀ j, callF (mkRec P (f0 + j)) f_calc_score [encContract c, .int t] = .ok (.int score, x)) :
    ∃ env', execStmtF (mkRec P (f0 + 100)) P env mcPlayIte = .ok (env', .next) ∧
      lookup env' K.self = some (encMainThread (encMainWorld i2 (out ++ playOps) table tables more) bs) ∧
      lookup env' n_play_history = some ph ∧ lookup env' n_taken_trick_num = some (.int t) ∧
      lookup env' n_score = some (.int score) ∧ Frame tailVars env env' := by
  simp only [encMainThread] at hself hplay ⊢
  refine ⟨?_, ?_, ?_, ?_, ?_, ?_, ?_⟩
  rotate_left
  · simp only [mcPlayIte, mcBoardBody, mcBoardLoop, m_MainThread_run, List.getD_cons_zero, List.getD_cons_succ]
    ppsimp [pyworld, forF, hself, hc, hcards, mt_ipo_meth, hpo, mc_mth_playing, hplay, mc_findFunc_calc_score, hscore]
    rfl
  · lk_tac
  · lk_tac
  · lk_tac
  · lk_tac
  · frame_tac

/-! ### the record, the `break` on the last board, `next board` otherwise -/

def mcScores : List Stmt := mcTail.take 2
def mcEmit : Stmt := mcTail.getD 2 .pass
def mcLast : List Stmt := mcTail.drop 3
theorem mcTail_eq : mcTail = mcScores ++ mcEmit :: mcLast := rfl

/-- `declarer = contract.declarer`, then the `scores` dictionary -/
theorem mc_scores (f : Nat) (env : Env) (c : Contract) (score : Int)
    (hc : lookup env n_contract = some (encContract c))
    (hscore : lookup env n_score = some (.int score)) :
    ∃ env', execF (mkRec P (f + 100)) P env mcScores = .ok (env', .next) ∧
      lookup env' n_scores = some (scoresVal c.declarer score) ∧ Frame [n_declarer, n_scores] env env' := by
  cases hd : c.declarer with
  | none =>
    refine ⟨?_, ?_, ?_, ?_⟩
    rotate_left
    · simp only [mcScores, mcTail, mcBoardBody, mcBoardLoop, m_MainThread_run, List.getD_cons_zero, List.getD_cons_succ,
        List.drop, List.take]
      ppsimp [pyworld, forF, hc, hscore, getAttr_contract_declarer, hd, mc_beq_none_none, updateD, beq_enum]
      rfl
    · lk_tac
    · frame_tac
  | some d =>
    refine ⟨?_, ?_, ?_, ?_⟩
    rotate_left
    · simp only [mcScores, mcTail, mcBoardBody, mcBoardLoop, m_MainThread_run, List.getD_cons_zero, List.getD_cons_succ,
        List.drop, List.take]
      ppsimp [pyworld, forF, hc, hscore, getAttr_contract_declarer, hd, beq_encSeat_none, getAttr_pair, mc_getAttr_opp, mc_beq_side_opp,
        updateD, beq_enum]
      rfl
    · lk_tac
    · frame_tac

/-- `self._w.w_emit('write', {…})` -/
theorem mc_emit (f : Nat) (env : Env)
    (i : MainIn) (out : List Val) (table : Val) (tables : List Val) (more : List (Val × Val)) (bs : Val)
    (bid ew ns dealer cards bh cv ph tt scores dda : Val)
    (hself : lookup env K.self = some (encMainThread (encMainWorld i out table tables more) bs))
    (hc : lookup env n_contract = some cv)
    (hbid : lookup env n_board_id = some bid)
    (hew : lookup env n_ew_team_name = some ew)
    (hns : lookup env n_ns_team_name = some ns)
    (hdealer : lookup env n_dealer = some dealer)
    (hcards : lookup env n_cards = some cards)
    (hbh : lookup env n_bid_history = some bh)
    (hph : lookup env n_play_history = some ph)
    (htt : lookup env n_taken_trick_num = some tt)
    (hscores : lookup env n_scores = some scores)
    (hdda : lookup env n_dda = some dda) :
    ∃ env', execStmtF (mkRec P (f + 100)) P env mcEmit = .ok (env', .next) ∧
      lookup env' K.self = some (encMainThread (encMainWorld i
        (out ++ [opEmitWrite (recDict bid ew ns dealer cards bh cv ph tt scores dda)]) table tables more) bs) ∧
      Frame [K.self] env env' := by
  simp only [encMainThread] at hself ⊢
  refine ⟨?_, ?_, ?_, ?_⟩
  rotate_left
  · simp only [mcEmit, mcTail, mcBoardBody, mcBoardLoop, m_MainThread_run, List.getD_cons_zero, List.getD_cons_succ,
      List.drop]
    ppsimp [pyworld, forF, hself, hc, hbid, hew, hns, hdealer, hcards, hbh, hph, htt, hscores, hdda, updateD, beq_str, mc_mth_w_emit,
      mc_w_emit_call]
    rfl
  · lk_tac
  · frame_tac

/-- the `break` on the last board, the four `next board` puts otherwise -/
theorem mc_last (f : Nat) (env : Env)
    (i : MainIn) (out : List Val) (table : Val) (tables : List Val) (more : List (Val × Val)) (bs : Val) (k n : Nat)
    (hself : lookup env K.self = some (encMainThread (encMainWorld i out table tables more) bs))
    (hk : lookup env n_board_number = some (.int k))
    (hmax : lookup env n_max_board_num = some (.int ((n : Int) + 1))) :
    ∃ env', execF (mkRec P (f + 100)) P env mcLast = .ok (env', if k = n then .brk else .next) ∧
      lookup env' K.self = some (encMainThread (encMainWorld i
        (out ++ (if k = n then [] else opsPutAll MSG_NEXT)) table tables more) bs) ∧
      Frame [K.self, n_player] env env' := by
  simp only [encMainThread] at hself ⊢
  have hsub : (n : Int) + 1 - 1 = n := by omega
  have hbeq : (Val.int (k : Int)).beq (.int (n : Int)) = decide (k = n) := by
    rw [beq_int, Bool.eq_iff_iff]; simp only [beq_iff_eq, decide_eq_true_eq, Int.natCast_inj]
  by_cases hkn : k = n
  · subst hkn
    have hkn : k = k := rfl
    refine ⟨env, ?_, ?_, Frame.refl _ _⟩
    · simp only [mcLast, mcTail, mcBoardBody, mcBoardLoop, m_MainThread_run, List.getD_cons_zero, List.getD_cons_succ,
        List.drop]
      ppsimp [pyworld, forF, hk, hmax, hsub, hbeq, hkn, decide_true]
    · rw [if_pos hkn, List.append_nil]; exact hself
  · refine ⟨?_, ?_, ?_, ?_⟩
    rotate_left
    · simp only [mcLast, mcTail, mcBoardBody, mcBoardLoop, m_MainThread_run, List.getD_cons_zero, List.getD_cons_succ,
        List.drop]
      ppsimp [pyworld, forF, hself, hk, hmax, hsub, hbeq, hkn, decide_false]
      rfl
    · simp only [hkn, if_false]; lk_tac
    · frame_tac

end

end Bridge.Translated.MainC
