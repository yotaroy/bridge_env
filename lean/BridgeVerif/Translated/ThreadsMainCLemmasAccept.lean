import BridgeVerif.Translated.ThreadsMainCLemmasBody
import BridgeVerif.Translated.ThreadsSeatB
import BridgeVerif.Model.Admission
/-! Translated `MainThread.run`: the accept loop is `Admission.acceptLoopR` — the world methods `w_ask`, `w_wait_event`, the loop
condition, one round, the loop -/
set_option linter.unusedSimpArgs false
namespace Bridge.Translated.MainC

section
open Bridge Bridge.Py Bridge.Generated.PyCore Bridge.Translated.MainA Bridge.Translated.MainB Bridge.Translated.SeatB

/-- the streams the accept loop asks: what `accept()` returns (pairs connection, address), the threads created, the
answers of `is_alive()` -/
def acceptMore (acc nt al : List Val) (rest : List (Val × Val)) : List (Val × Val) :=
  (.str ['a', 'c', 'c', 'e', 'p', 't'], .tuple acc) :: (.str ['n', 'e', 'w', '_', 't', 'h', 'r', 'e', 'a', 'd'], .tuple nt) ::
    (.str ['i', 's', '_', 'a', 'l', 'i', 'v', 'e'], .tuple al) :: rest

theorem acceptMore_keys (acc nt al : List Val) (rest : List (Val × Val)) :
    acceptMore acc nt al rest
      = (vstr "accept", .tuple acc) :: (vstr "new_thread", .tuple nt) :: (vstr "is_alive", .tuple al) :: rest := rfl

theorem mc_mth_w_wait_event : P.method? classDepth n__World n_w_wait_event = some (n__World, m__World_w_wait_event) := rfl

theorem mc_beq_tuple_str (xs : List Val) (s : List Char) : (Val.tuple xs).beq (.str s) = false := by simp [Val.beq]

theorem mc_w_ask_accept (f : Nat) (i : Seat → List Str) (out : List Val) (table : Val) (tables : List Val)
    (x : Val) (acc nt al : List Val) (rest : List (Val × Val)) (arg : Val) :
    callF (mkRec P (f+12)) m__World_w_ask
        [encMainWorld i out table tables (acceptMore (x :: acc) nt al rest), .str ['a', 'c', 'c', 'e', 'p', 't'], arg]
      = .ok (x, encMainWorld i (out ++ [.tuple [.str ['a', 'c', 'c', 'e', 'p', 't'], arg]]) table tables
          (acceptMore acc nt al rest)) := by
  rw [callF_def]
  simp only [m__World_w_ask, bindParams, Option.map, mb_world_def, acceptMore]
  ppsimp [pyworld, lookupD, updateD, qkey, mc_beq_tuple_str, beq_str]

theorem mc_w_ask_new_thread (f : Nat) (i : Seat → List Str) (out : List Val) (table : Val) (tables : List Val)
    (x : Val) (acc nt al : List Val) (rest : List (Val × Val)) (arg : Val) :
    callF (mkRec P (f+12)) m__World_w_ask
        [encMainWorld i out table tables (acceptMore acc (x :: nt) al rest),
          .str ['n', 'e', 'w', '_', 't', 'h', 'r', 'e', 'a', 'd'], arg]
      = .ok (x, encMainWorld i (out ++ [.tuple [.str ['n', 'e', 'w', '_', 't', 'h', 'r', 'e', 'a', 'd'], arg]]) table tables
          (acceptMore acc nt al rest)) := by
  rw [callF_def]
  simp only [m__World_w_ask, bindParams, Option.map, mb_world_def, acceptMore]
  ppsimp [pyworld, lookupD, updateD, qkey, mc_beq_tuple_str, beq_str]

theorem mc_w_ask_is_alive (f : Nat) (i : Seat → List Str) (out : List Val) (table : Val) (tables : List Val)
    (x : Val) (acc nt al : List Val) (rest : List (Val × Val)) (arg : Val) :
    callF (mkRec P (f+12)) m__World_w_ask
        [encMainWorld i out table tables (acceptMore acc nt (x :: al) rest),
          .str ['i', 's', '_', 'a', 'l', 'i', 'v', 'e'], arg]
      = .ok (x, encMainWorld i (out ++ [.tuple [.str ['i', 's', '_', 'a', 'l', 'i', 'v', 'e'], arg]]) table tables
          (acceptMore acc nt al rest)) := by
  rw [callF_def]
  simp only [m__World_w_ask, bindParams, Option.map, mb_world_def, acceptMore]
  ppsimp [pyworld, lookupD, updateD, qkey, mc_beq_tuple_str, beq_str]

/-- `w_wait_event`: one `event_wait` operation, then the table advances to the next snapshot -/
theorem mc_w_wait_event_call (f : Nat) (i : Seat → List Str) (out : List Val) (table : Val) (tables : List Val)
    (more : List (Val × Val)) :
    callF (mkRec P (f+12)) m__World_w_wait_event [encMainWorld i out table tables more]
      = .ok (.none, encMainWorld i (out ++ [.tuple [.str ['e', 'v', 'e', 'n', 't', '_', 'w', 'a', 'i', 't']]])
          (advTable table tables).1 (advTable table tables).2 more) := by
  rw [callF_def]
  have h : ∀ g o, callF (mkRec P (g+8)) m__World_w_advance [encMainWorld i o table tables more]
      = .ok (.none, encMainWorld i o (advTable table tables).1 (advTable table tables).2 more) :=
    fun g o => by rw [advTable_eq]; exact sb_w_advance g (mainIns i more) o table tables false
  simp only [m__World_w_wait_event, bindParams, Option.map]
  simp only [mb_world_def] at h ⊢
  ppsimp [pyworld, sb_mth_w_advance, h]

/-! ## the accept loop -/
def mcAcceptWhile : Stmt := m_MainThread_run.body.getD 4 .pass
def mcAcceptCond : Expr := match mcAcceptWhile with
  | .while c _ => c
  | _ => .const .none
def mcAcceptBody : List Stmt := match mcAcceptWhile with
  | .while _ b => b
  | _ => []
theorem mcAcceptWhile_eq : mcAcceptWhile = .while mcAcceptCond mcAcceptBody := rfl

theorem mc_beq_encOptStr_none (o : Option Str) : (encOpt Val.str o).beq .none = o.isNone := by
  cases o <;> simp [encOpt, Val.beq]

theorem mc_items (r : Rec) (kvs : List (Val × Val)) :
    builtinF r P .items [.dict kvs] = .ok (.tuple (kvs.map fun (k, v) => Val.tuple [k, v])) := rfl
theorem mc_all (r : Rec) (xs : List Val) : builtinF r P .all [.tuple xs] = .ok (.bool (xs.all truthy)) := rfl

/-- `not all(name is not None for _, name in table.items())` is `not Table.full` -/
theorem mc_accept_cond (f : Nat) (env : Env) (i : Seat → List Str) (out : List Val) (t : Table) (tables : List Val)
    (more : List (Val × Val)) (bs : Val)
    (hself : lookup env K.self = some (encMainThread (encMainWorld i out (encTable t) tables more) bs)) :
    (mkRec P (f + 20)).eval env mcAcceptCond = .ok (.bool (!t.full)) := by
  simp only [encMainThread] at hself
  simp only [mcAcceptCond, mcAcceptWhile, m_MainThread_run, List.getD_cons_zero, List.getD_cons_succ]
  ppsimp [pyworld, forF, hself, mb_world_def, encTable, tableKvs, mc_items, iterItems_tuple, compTF, bindTargets, mc_beq_encOptStr_none,
    mc_all, List.all_cons, List.all_nil]
  simp only [Table.full, Seat.all, List.all_cons, List.all_nil, Bool.and_true]
  cases t .N <;> cases t .E <;> cases t .S <;> cases t .W <;> rfl

/-- the variables one round of the accept loop writes -/
def acceptVars : List Id := [K.self, n__t1, n_connection, n__, n_thread, n__t2, n_threads]

/-- the operations of the main thread per served connection -/
def roundOps (conn thread : Val) : List Val :=
  [.tuple [vstr "accept", .none], .tuple [vstr "new_thread", conn], .tuple [vstr "start", thread], .tuple [vstr "event_wait"],
   .tuple [vstr "sleep", .int 1], .tuple [vstr "is_alive", thread], .tuple [vstr "event_clear", .none]]

/-- ONE ROUND of the accept loop: `accept`, a new thread on the connection, `start`, wait for its verdict (the seat table
advances to the next snapshot), `sleep(1)`, `is_alive` (the thread is kept when alive), `event.clear()` -/
theorem mc_accept_round (f : Nat) (env : Env) (i : Seat → List Str) (out : List Val) (table : Val) (tables : List Val)
    (conn addr thread : Val) (alive : Bool) (acc nt al : List Val) (rest : List (Val × Val)) (bs : Val) (thr : List Val)
    (hself : lookup env K.self = some (encMainThread (encMainWorld i out table tables
      (acceptMore (.tuple [conn, addr] :: acc) (thread :: nt) (.bool alive :: al) rest)) bs))
    (hthr : lookup env n_threads = some (.tuple thr)) :
    ∃ env', execF (mkRec P (f + 40)) P env mcAcceptBody = .ok (env', .next) ∧
      lookup env' K.self = some (encMainThread (encMainWorld i (out ++ roundOps conn thread)
        (advTable table tables).1 (advTable table tables).2 (acceptMore acc nt al rest)) bs) ∧
      lookup env' n_threads = some (.tuple (if alive then thr ++ [thread] else thr)) ∧
      Frame acceptVars env env' := by
  simp only [encMainThread] at hself ⊢
  cases alive
  all_goals
    refine ⟨?_, ?_, ?_, ?_, ?_⟩
    rotate_left
    · simp only [mcAcceptBody, mcAcceptWhile, m_MainThread_run, List.getD_cons_zero, List.getD_cons_succ]
      ppsimp [pyworld, forF, hself, hthr, sb_mth_w_ask, mc_w_ask_accept, mc_w_ask_new_thread, mc_w_ask_is_alive, mc_mth_w_wait_event,
        mc_w_wait_event_call, beq_int]
      rfl
    · lk_tac
    · simp +decide only [↓reduceIte, Bool.false_eq_true, lookup_update_same, lookup_update_ne, ne_eq, not_false_eq_true,
        reduceCtorEq, hthr]
    · frame_tac

end

section
open Bridge Bridge.Py Bridge.Generated.PyCore Bridge.Translated.MainA Bridge.Translated.MainB Bridge.Translated.SeatB
open Bridge.Admission

/-- what the world answers per served connection: the pair `accept()` returns, the thread object created for the
connection, whether that thread is still alive after its verdict -/
structure Conn where
  conn : Val
  addr : Val
  thread : Val
  alive : Bool

/-- one operation of `Admission.acceptRound` as the world operations of the translated loop (`start` is the creation of
the thread object on the connection and its `start()`) -/
def encMainOp (c : Conn) : MainOp → List Val
  | .accept => [.tuple [vstr "accept", .none]]
  | .start => [.tuple [vstr "new_thread", c.conn], .tuple [vstr "start", c.thread]]
  | .waitVerdict => [.tuple [vstr "event_wait"]]
  | .sleep => [.tuple [vstr "sleep", .int 1]]
  | .isAlive => [.tuple [vstr "is_alive", c.thread]]
  | .clearVerdict => [.tuple [vstr "event_clear", .none]]

theorem roundOps_eq (c : Conn) : roundOps c.conn c.thread = acceptRound.flatMap (encMainOp c) := rfl

/-- the seat table after every served connection (the snapshots the world hands out at `w_wait_event`) -/
def acceptSnapshots : Table → List (List Char × List Char) → List Table
  | _, [] => []
  | t, (req, ready) :: rest =>
    if t.full then []
    else
      match connectR t req ready with
      | none => []
      | some (_, t', _) => t' :: acceptSnapshots t' rest

/-- the loop `while not all(name is not None …)` follows `Admission.acceptLoopR`, by induction over the connection
attempts; a round costs one level of the interpreter's fuel -/
theorem mc_accept_loop : ∀ (reqs : List (List Char × List Char)) (t : Table) (opss : List (List Op)) (mops : List MainOp)
    (tf : Table) (conns : List Conn) (env : Env) (i : Seat → List Str) (out later accR ntR alR : List Val)
    (rest : List (Val × Val)) (bs : Val) (thr : List Val) (g : Nat),
    acceptLoopR t reqs = some (opss, mops, tf) → tf.full = true → conns.length = opss.length →
    lookup env K.self = some (encMainThread (encMainWorld i out (encTable t)
      ((acceptSnapshots t reqs).map encTable ++ later)
      (acceptMore (conns.map (fun c => .tuple [c.conn, c.addr]) ++ accR) (conns.map (·.thread) ++ ntR)
        (conns.map (fun c => .bool c.alive) ++ alR) rest)) bs) →
    lookup env n_threads = some (.tuple thr) → conns.length + 45 ≤ g →
    mops = (conns.map fun _ => acceptRound).flatten ∧
    ∃ env', loopF (mkRec P g) env mcAcceptCond mcAcceptBody = .ok (env', .next) ∧
      lookup env' K.self = some (encMainThread (encMainWorld i (out ++ conns.flatMap fun c => roundOps c.conn c.thread)
        (encTable tf) later (acceptMore accR ntR alR rest)) bs) ∧
      lookup env' n_threads = some (.tuple (thr ++ (conns.filter (·.alive)).map (·.thread))) ∧
      Frame acceptVars env env' := by
  intro reqs
  induction reqs with
  | nil =>
    intro t opss mops tf conns env i out later accR ntR alR rest bs thr g hm hfull hlen hself hthr hg
    simp only [acceptLoopR, Option.some.injEq, Prod.mk.injEq] at hm
    obtain ⟨rfl, rfl, rfl⟩ := hm
    obtain rfl : conns = [] := List.eq_nil_of_length_eq_zero hlen
    obtain ⟨f0, rfl⟩ : ∃ f0, g = f0 + 20 := ⟨g - 20, by omega⟩
    have hc := mc_accept_cond f0 env i out t _ _ bs hself
    rw [hfull] at hc
    refine ⟨rfl, env, mt_loop_exit _ _ _ _ hc, ?_, ?_, Frame.refl _ _⟩
    · rw [hself]; simp [acceptSnapshots]
    · rw [hthr]; simp
  | cons rq reqs ih =>
    intro t opss mops tf conns env i out later accR ntR alR rest bs thr g hm hfull hlen hself hthr hg
    obtain ⟨req, ready⟩ := rq
    by_cases hft : t.full = true
    · simp only [acceptLoopR, hft, if_true, Option.some.injEq, Prod.mk.injEq] at hm
      obtain ⟨rfl, rfl, rfl⟩ := hm
      obtain rfl : conns = [] := List.eq_nil_of_length_eq_zero hlen
      obtain ⟨f0, rfl⟩ : ∃ f0, g = f0 + 20 := ⟨g - 20, by omega⟩
      have hc := mc_accept_cond f0 env i out t _ _ bs hself
      rw [hft] at hc
      refine ⟨rfl, env, mt_loop_exit _ _ _ _ hc, ?_, ?_, Frame.refl _ _⟩
      · rw [hself]; simp [acceptSnapshots, hft]
      · rw [hthr]; simp
    · have hft' : t.full = false := Bool.eq_false_iff.2 hft
      simp only [acceptLoopR, hft', Bool.false_eq_true, if_false] at hm
      cases hcn : connectR t req ready with
      | none => simp [hcn] at hm
      | some x =>
        obtain ⟨ops, t', sd⟩ := x
        simp only [hcn] at hm
        cases hrec : acceptLoopR t' reqs with
        | none => simp [hrec] at hm
        | some y =>
          obtain ⟨opss', mops', tf'⟩ := y
          simp only [hrec, Option.some.injEq, Prod.mk.injEq] at hm
          obtain ⟨rfl, rfl, rfl⟩ := hm
          cases conns with
          | nil => simp at hlen
          | cons c conns' =>
            simp only [List.length_cons, Nat.add_right_cancel_iff] at hlen
            obtain ⟨f0, rfl⟩ : ∃ f0, g = f0 + 41 := ⟨g - 41, by simp only [List.length_cons] at hg; omega⟩
            have hsnap : acceptSnapshots t ((req, ready) :: reqs) = t' :: acceptSnapshots t' reqs := by
              simp only [acceptSnapshots, hft', Bool.false_eq_true, if_false, hcn]
            rw [hsnap] at hself
            simp only [List.map_cons, List.cons_append] at hself
            have hc := mc_accept_cond (f0 + 21) env i out t _ _ bs hself
            rw [hft'] at hc
            obtain ⟨e1, h1, hs1, ht1, hf1⟩ := mc_accept_round f0 env i out (encTable t) _ c.conn c.addr c.thread c.alive _ _ _ rest
              bs thr hself hthr
            obtain ⟨hmops, e2, h2, hs2, ht2, hf2⟩ := ih t' opss' mops' tf' conns' e1 i _ later accR ntR alR rest bs _ (f0 + 40)
              hrec hfull hlen hs1 ht1 (by simp only [List.length_cons] at hg; omega)
            refine ⟨?_, e2, ?_, ?_, ?_, hf1.trans hf2⟩
            · rw [hmops]; simp
            · have h1' : (mkRec P (f0 + 40 + 1)).exec env mcAcceptBody = .ok (e1, .next) := h1
              have hc' : (mkRec P (f0 + 40 + 1)).eval env mcAcceptCond = .ok (.bool true) := hc
              rw [show f0 + 41 = f0 + 40 + 1 from rfl, mt_loop_step (f0 + 40) _ _ _ _ hc' h1', h2]
            · rw [hs2]; simp [List.flatMap_cons, List.append_assoc]
            · rw [ht2]
              cases hal : c.alive <;> simp [List.filter_cons, hal, List.append_assoc]

end

end Bridge.Translated.MainC
