import BridgeVerif.Translated.JsonWriterLemmasA
/-! Translated JSON writers = model: `Contract.is_passed_out`, `str(contract)`, `convert_deal`, the synthetic file
object, and the framing methods `open` / `close` / `_write_content` of the three writer classes -/
namespace Bridge.Translated
open Bridge Bridge.Py Bridge.Generated.PyCore

/-! ## `Contract` -/
theorem jw_mth_contract_ipo :
    P.method? classDepth n_Contract n_is_passed_out = some (n_Contract, m_Contract_is_passed_out) := rfl
theorem jw_mth_contract_str : P.method? classDepth n_Contract K.str__ = some (n_Contract, m_Contract___str__) := rfl
theorem jw_beq_none_enum (c : Id) (n : Int) : Val.none.beq (.enum c n) = false := by simp only [Val.beq]

theorem jw_contract_ipo_call (f : Nat) (c : Contract) :
    callF (mkRec P (f+10)) m_Contract_is_passed_out [encContract c] = .ok (.bool c.isPassedOut, encContract c) := by
  rw [callF_def]
  simp only [m_Contract_is_passed_out, bindParams, Option.map, encContract, Contract.isPassedOut]
  cases c.finalBid with
  | none => ppsimp [jw_beq_none_enum, truthy]
  | some b => ppsimp [beq_encBid_pass, beq_bid_none, truthy]

theorem jw_str_bid (f : Nat) (b : Fin 35) :
    builtinF (mkRec P (f+21)) P .str [encBid b] = .ok (.str (callStr (.bid b))) := by
  rw [← encCall_bid]; exact jw_str_call f (.bid b)

theorem jw_contract_str_call (f : Nat) (c : Contract) :
    callF (mkRec P (f+30)) m_Contract___str__ [encContract c] = .ok (.str (contractStr c), encContract c) := by
  rw [callF_def]
  obtain ⟨fb, x, xx, v, d⟩ := c
  have hp := jw_contract_ipo_call (f+17) ⟨fb, x, xx, v, d⟩
  simp only [m_Contract___str__, bindParams, Option.map, encContract, Contract.isPassedOut, contractStr, Nat.add_assoc,
    Nat.reduceAdd] at hp ⊢
  cases fb with
  | none =>
    simp only [pp_encOpt_none, Option.isNone_none] at hp ⊢
    ppsimp [jw_mth_contract_ipo, hp]
    rfl
  | some b =>
    simp only [pp_encOpt_some, Option.isNone_some] at hp ⊢
    cases xx <;> cases x <;> ppsimp [jw_mth_contract_ipo, hp, jw_str_bid, List.append_nil]

theorem jw_str_contract (f : Nat) (c : Contract) :
    builtinF (mkRec P (f+31)) P .str [encContract c] = .ok (.str (contractStr c)) :=
  jw_builtin_str_obj (f+30) _ _ _ _ jw_mth_contract_str _ _ (jw_contract_str_call f c)

/-! ## `convert_deal` -/
theorem jw_fn_convert_deal : findFunc P.funcs n_convert_deal = some f_convert_deal := rfl

theorem jw_convert_deal_call (f : Nat) (h : Hands) (hok : ∀ p, ∀ c ∈ h p, 2 ≤ c.rank ∧ c.rank ≤ 14) :
    callF (mkRec P (f+40)) f_convert_deal [encHands h] = .ok (dealVal h, encHands h) := by
  rw [callF_def]
  simp only [f_convert_deal, bindParams, Option.map]
  have hs : ∀ p, ∀ c ∈ sortAsc (h p), 2 ≤ c.rank ∧ c.rank ≤ 14 :=
    fun p c hc => hok p c ((sortAsc_perm (h p)).mem_iff.1 hc)
  ppsimp [hd_index_hands, hands_mth_getitem, hands_getitem_call_N, hands_getitem_call_E, hands_getitem_call_S,
    hands_getitem_call_W, jw_sorted_cards _ _ (hok .N), jw_sorted_cards _ _ (hok .E), jw_sorted_cards _ _ (hok .S),
    jw_sorted_cards _ _ (hok .W), iterItems_tuple, jw_comp_str_cards _ _ _ (hs .N), jw_comp_str_cards _ _ _ (hs .E),
    jw_comp_str_cards _ _ _ (hs .S), jw_comp_str_cards _ _ _ (hs .W), updateD, beq_str, List.map_cons, List.map_nil]
  rfl

/-! ## the file object and the framing -/
/-- the three writer classes -/
def IsWriterCls (cls : Id) : Prop := cls = n_JsonLogWriter ∨ cls = n_JsonBoardSettingWriter ∨ cls = n_JsonWriter
/-- the `TAG` class attribute -/
def jwTag (cls : Id) : Str :=
  if cls = n_JsonLogWriter then jkey "logs" else if cls = n_JsonBoardSettingWriter then jkey "board_settings" else []

theorem jw_mth_file_write : P.method? classDepth n__File n_write = some (n__File, m__File_write) := rfl

theorem jw_file_write_call (f : Nat) (chunks : List Str) (s : Str) :
    callF (mkRec P (f+8)) m__File_write [encFile chunks, .str s] = .ok (.none, encFile (chunks ++ [s])) := by
  rw [callF_def]
  simp only [m__File_write, bindParams, Option.map, encFile]
  ppsimp [List.map_append, List.map_cons, List.map_nil]

theorem jw_file_write_meth (f : Nat) (chunks : List Str) (s : Str) :
    methF (mkRec P (f+9)) P (encFile chunks) n_write [.str s] = .ok (.none, encFile (chunks ++ [s])) := by
  simp only [encFile, Py.meth_obj, callMethod, jw_mth_file_write, call_succ]
  exact jw_file_write_call f chunks s

theorem jw_open_text (tag : Str) : [['{', '\"'], tag, ['\"', ':', ' ', '[', '\n']].flatten = jsonOpen tag := by
  simp only [List.flatten_cons, List.flatten_nil, List.append_nil, jsonOpen, List.append_assoc]
  rfl

theorem jw_tag (f : Nat) (cls : Id) (hc : IsWriterCls cls) (fs : List (Id × Val)) (hl : lookup fs n_TAG = none) :
    getAttrF (mkRec P (f+6)) P (.obj cls fs) n_TAG = .ok (.str (jwTag cls)) := by
  rcases hc with rfl | rfl | rfl <;> (rw [Py.getAttr_obj]; simp only [hl]; rfl)

theorem jw_mth_open (cls : Id) (hc : IsWriterCls cls) :
    P.method? classDepth cls n_open = some (n_JsonWriter, m_JsonWriter_open) := by
  rcases hc with rfl | rfl | rfl <;> rfl
theorem jw_mth_close (cls : Id) (hc : IsWriterCls cls) :
    P.method? classDepth cls n_close = some (n_JsonWriter, m_JsonWriter_close) := by
  rcases hc with rfl | rfl | rfl <;> rfl
theorem jw_mth_write_content (cls : Id) (hc : IsWriterCls cls) :
    P.method? classDepth cls n__write_content = some (n_JsonWriter, m_JsonWriter__write_content) := by
  rcases hc with rfl | rfl | rfl <;> rfl

theorem jw_open_call (f : Nat) (cls : Id) (hc : IsWriterCls cls) (chunks : List Str) (o fl : Bool) :
    callF (mkRec P (f+20)) m_JsonWriter_open [encWriter cls chunks o fl]
      = .ok (.none, encWriter cls (chunks ++ [jsonOpen (jwTag cls)]) true true) := by
  rw [callF_def]
  simp only [m_JsonWriter_open, bindParams, Option.map, encWriter]
  have ht := fun f => jw_tag f cls hc [(n__writer, encFile chunks), (n__open, .bool o), (n__first_line, .bool fl)] rfl
  ppsimp [ht, strOfF, jw_file_write_meth, jw_open_text]

theorem jw_close_call (f : Nat) (cls : Id) (chunks : List Str) (o fl : Bool) :
    callF (mkRec P (f+20)) m_JsonWriter_close [encWriter cls chunks o fl]
      = .ok (.none, encWriter cls (chunks ++ [if fl then jkey "]}" else jkey "\n]}"]) false fl) := by
  rw [callF_def]
  simp only [m_JsonWriter_close, bindParams, Option.map, encWriter]
  cases fl <;> ppsimp [jw_file_write_meth] <;> rfl

theorem jw_write_content_call (f : Nat) (cls : Id) (chunks : List Str) (o fl : Bool) (d : Val) (j : Json)
    (hj : valToJson d = some j) :
    callF (mkRec P (f+20)) m_JsonWriter__write_content [encWriter cls chunks o fl, d]
      = .ok (.none, encWriter cls (chunks ++ (if fl then [] else [jkey ",\n"]) ++ [pyDumps j]) o false) := by
  rw [callF_def]
  simp only [m_JsonWriter__write_content, bindParams, Option.map, encWriter]
  cases fl <;> ppsimp [jw_file_write_meth, builtinF, hj, List.append_nil, List.append_assoc] <;> rfl

end Bridge.Translated
