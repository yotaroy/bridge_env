import BridgeVerif.Translated.ThreadsMainALemmasB
import BridgeVerif.Lemmas.MiniPyFuel
/-!
# `MainThread` AS TRANSLATED (`_sync_event`, `deal`, `bidding_phase`) is the reactive model of Model/MainThread.lean
-/
namespace Bridge.Translated.MainA
open Bridge Bridge.Py Bridge.Generated.PyCore

/-! ## (0) `_sync_event` -/

/-- the translated `Server._sync_event`: ONE world operation `sync` (= `arrive`; `depart` adds nothing), and the seat table
advances as `w_advance` says -/
theorem main_sync_event_translated (encRec : BoardRecord → Val) (i : MainIn) (out : List Val) (table : Val) (tables : List Val)
    (more : List (Val × Val)) (bs pe ev : Val) (f : Nat) (hf : 21 ≤ f) :
    ∃ ops, encMainActs encRec sync = some ops ∧
      callFn P f m_MainThread__sync_event [encMainThread (encMainWorld i out table tables more) bs, pe, ev]
        = .ok (.none, encMainThread (encMainWorld i (out ++ ops) (advTable table tables).1 (advTable table tables).2 more) bs) := by
  obtain ⟨g, rfl⟩ : ∃ g, f = g + 21 := ⟨f - 21, by omega⟩
  exact ⟨[syncOp], rfl, mt_sync_event_call g (mainIns i more) out table tables false bs pe ev⟩

/-- non-vacuity: one barrier wait on a world whose seat table has one later snapshot -/
example : callFn P 30 m_MainThread__sync_event
      [encMainThread (encMainWorld (fun _ => []) [] (.int 0) [.int 1] []) .none, .none, .none]
    = .ok (.none, encMainThread (encMainWorld (fun _ => []) [syncOp] (.int 1) [] []) .none) := by
  obtain ⟨ops, h1, h2⟩ := main_sync_event_translated (fun _ => .none) (fun _ => []) [] (.int 0) [.int 1] [] .none .none .none
    30 (by decide)
  have h : encMainActs (fun _ => Val.none) sync = some [syncOp] := rfl
  rw [h] at h1
  rw [← Option.some.inj h1] at h2
  exact h2

/-! ## (1) `deal` -/

/-- the operations of `Server.deal` -/
def dealOps (k : Nat) (b : BoardSetting) : List Val :=
  [putOp .N (boardHeader k b.dealer b.vul), putOp .N (cardsMsg Seat.N.formal (b.deal .N)),
   putOp .E (boardHeader k b.dealer b.vul), putOp .E (cardsMsg Seat.E.formal (b.deal .E)),
   putOp .S (boardHeader k b.dealer b.vul), putOp .S (cardsMsg Seat.S.formal (b.deal .S)),
   putOp .W (boardHeader k b.dealer b.vul), putOp .W (cardsMsg Seat.W.formal (b.deal .W)),
   syncOp, syncOp]

/-- they are the rendering of `mainDealR` -/
theorem main_deal_ops (encRec : BoardRecord → Val) (k : Nat) (b : BoardSetting) :
    encMainActs encRec (mainDealR k b) = some (dealOps k b) := rfl

/-- `deal` on any world (symbolic execution; the loop over the four seats unrolled), for any value `cv` of `cards` that
`cards[player]` indexes as the deal -/
theorem mt_deal_call (f : Nat) (k : Nat) (b : BoardSetting)
    (hok : ∀ p, ∀ c ∈ b.deal p, 2 ≤ c.rank ∧ c.rank ≤ 14) (cv : Val)
    (hidx : ∀ g p, indexF (mkRec P (g+9)) P cv (encSeat p) = .ok (.tuple ((b.deal p).map encCard)))
    (ins : List (Val × Val)) (out : List Val) (table : Val) (tables : List Val) (eof : Bool) (bs : Val) :
    callF (mkRec P (f+60)) m_MainThread_deal
        [encMainThread (encWorld ins out table tables eof) bs, .int k, encSeat b.dealer, encVul b.vul, cv, .none]
      = .ok (.none, encMainThread (encWorld ins (out ++ dealOps k b)
                (advTable (advTable table tables).1 (advTable table tables).2).1
                (advTable (advTable table tables).1 (advTable table tables).2).2 eof) bs) := by
  rw [callF_def]
  simp only [m_MainThread_deal, bindParams, Option.map, encMainThread]
  have hput := fun g o q k m => SeatB.sb_w_put (g+2) ins o table tables eof q k m
  have hsync := fun g i o t ts pe ev => mt_sync_event_call g i o t ts eof bs pe ev
  have hhs := fun g p => nh_hand_to_str_call g (b.deal p) (hok p)
  simp only [encWorld, encMainThread] at hput hsync ⊢
  ppsimp [mt_iter_player, forF, hput, hsync, SeatB.sb_mth_w_put, mt_mth_sync_event, mt_getAttr_formal, mt_mth_convert_vul,
    mt_convert_vul_call, nh_mth_hand_to_str, hhs, hidx, strOf_str, strOf_int, mt_header_eq, mt_cards_eq]
  simp only [dealOps, putOp, syncOp, List.append_assoc, List.cons_append, List.nil_append]
  rfl

/-- … the cards given as a `Hands` object -/
theorem main_deal_call (f : Nat) (k : Nat) (b : BoardSetting)
    (hok : ∀ p, ∀ c ∈ b.deal p, 2 ≤ c.rank ∧ c.rank ≤ 14)
    (ins : List (Val × Val)) (out : List Val) (table : Val) (tables : List Val) (eof : Bool) (bs : Val) :
    callF (mkRec P (f+60)) m_MainThread_deal
        [encMainThread (encWorld ins out table tables eof) bs, .int k, encSeat b.dealer, encVul b.vul, encHands b.deal, .none]
      = .ok (.none, encMainThread (encWorld ins (out ++ dealOps k b)
                (advTable (advTable table tables).1 (advTable table tables).2).1
                (advTable (advTable table tables).1 (advTable table tables).2).2 eof) bs) :=
  mt_deal_call f k b hok _ (fun g p => by
    rw [hd_index_hands]; simp only [callMethod, hands_mth_getitem, call_succ, hands_getitem_call, bind_ok]) ins out table tables eof bs

/-- THE TRANSLATED `Server.deal` IS `mainDealR`: for the board setting `b` with that dealer / vulnerability / deal, the call
returns `None`, the world has performed exactly the operations of `mainDealR k b` (header and cards to every seat, two
barrier waits), and the two barrier waits have advanced the seat table twice.  Hypothesis `hok`: every rank is in 2..14
(`Card.rank_int_to_str` raises outside — `nh_rank_hypothesis_needed`). -/
theorem main_deal_translated (encRec : BoardRecord → Val) (k : Nat) (dealer : Seat) (vul : Vul) (cards : Hands)
    (b : BoardSetting) (hd : b.dealer = dealer) (hv : b.vul = vul) (hc : b.deal = cards)
    (hok : ∀ p, ∀ c ∈ cards p, 2 ≤ c.rank ∧ c.rank ≤ 14)
    (i : MainIn) (out : List Val) (table : Val) (tables : List Val) (more : List (Val × Val)) (bs : Val)
    (f : Nat) (hf : 61 ≤ f) :
    ∃ ops, encMainActs encRec (mainDealR k b) = some ops ∧
      callFn P f m_MainThread_deal
          [encMainThread (encMainWorld i out table tables more) bs, .int k, encSeat dealer, encVul vul, encHands cards, .none]
        = .ok (.none, encMainThread (encMainWorld i (out ++ ops)
                (advTable (advTable table tables).1 (advTable table tables).2).1
                (advTable (advTable table tables).1 (advTable table tables).2).2 more) bs) := by
  obtain ⟨g, rfl⟩ : ∃ g, f = g + 61 := ⟨f - 61, by omega⟩
  subst hd; subst hv; subst hc
  exact ⟨dealOps k b, main_deal_ops encRec k b, main_deal_call g k b hok (mainIns i more) out table tables false bs⟩

/-! non-vacuity -/
/-- a (partial) deal: North holds ♠A ♥K ♥2, East ♣10, South and West nothing -/
def exBoard : BoardSetting :=
  { boardId := "7".toList, dealer := .E, vul := .ns,
    deal := fun p => match p with | .N => [⟨13, .H⟩, ⟨14, .S⟩, ⟨2, .H⟩] | .E => [⟨10, .C⟩] | _ => [] }

example : ∃ ops, encMainActs (fun _ => .none) (mainDealR 7 exBoard) = some ops ∧
    callFn P 100 m_MainThread_deal
        [encMainThread (encMainWorld (fun _ => []) [] (.dict []) [.int 1, .int 2, .int 3] []) .none, .int 7, encSeat .E, encVul .ns,
          encHands exBoard.deal, .none]
      = .ok (.none, encMainThread (encMainWorld (fun _ => []) ([] ++ ops) (.int 2) [.int 3] []) .none) :=
  main_deal_translated (fun _ => .none) 7 .E .ns exBoard.deal exBoard rfl rfl rfl
    (by intro p c hc; cases p <;> simp [exBoard] at hc <;> (try rcases hc with rfl | rfl | rfl) <;> (try subst hc) <;> decide)
    (fun _ => []) [] (.dict []) [.int 1, .int 2, .int 3] [] .none 100 (by decide)

/-- the same call evaluated by the kernel: ten operations, the first is the header put to North -/
example : (match callFn P 100 m_MainThread_deal
        [encMainThread (encMainWorld (fun _ => []) [] (.dict []) [.int 1, .int 2, .int 3] []) .none, .int 7, encSeat .E, encVul .ns,
          encHands exBoard.deal, .none] with
    | .ok (.none, .obj _ [(_, .obj _ [_, (_, .tuple (o :: out)), (_, t), (_, .tuple ts), _]), _]) =>
      o.beq (putOp .N "Board number 7. Dealer East. N/S vulnerable.".toList) && out.length == 9 && t.beq (.int 2) && ts.length == 1
    | _ => false) = true := by decide +kernel
example : cardsMsg Seat.N.formal (exBoard.deal .N) = "North's cards : S A. H K 2. D -. C -.".toList := by decide +kernel

/-! ## (2) `bidding_phase` -/

/-- (h1), (h2) for every message `msg` the loop consumes from queue `a`, walking the streams like `mainBiddingR`: at every
fuel `≥ F`
* (h1) the translated preprocessing `msg' := remove_alert_word(msg) if 'alert' in msg.lower() else msg` is the model's
  `preprocessBid msg`.  `hasAlert msg` is the test `'alert' in msg.lower()` as the interpreter computes it; it IS the
  model's test (`hasAlert_eq`, ThreadsMainALemmasB.lean), so nothing is asked when it fails
  (`preprocessBid_of_no_alert`), and when it holds the hypothesis says: `Server.remove_alert_word(msg)` returns
  `preprocessBid msg = removeAlert msg` (`preprocessBid_of_alert`);
* (h2) the translated `MessageInterface.parse_bid(msg', a.formal_name)` returns `encCall call` for the call
  `parseBid? msg' a.formal = some call` the model finds.
Nothing is assumed about the regular expressions themselves.  `bidMsg_fuel_lift` / `BidMsgsOK_of_check`: it is enough to
run the two translated functions at ONE fuel `F`. -/
def BidMsgsOK (F : Nat) : Nat → AState → MainIn → Prop
  | 0, _, _ => True
  | n + 1, s, i =>
    match s.active with
    | none => True
    | some a =>
      match i.get a with
      | none => True
      | some (msg, i1) =>
        (hasAlert msg = true →
          ∀ g, F ≤ g → (callFn P g m_Server_remove_alert_word [.str msg]).map (·.1) = .ok (.str (preprocessBid msg))) ∧
        match parseBid? (preprocessBid msg) a.formal with
        | none => True
        | some call =>
          (∀ g, F ≤ g →
            (callFn P g m_MessageInterface_parse_bid [.str (preprocessBid msg), .str a.formal]).map (·.1)
              = .ok (encCall call)) ∧
          match takeBid s call with
          | .ok (s1, _) => BidMsgsOK F n s1 i1
          | .error _ => True

/-- a value returned at ONE fuel is the value returned at every larger fuel (`callFn_fuel_mono`) -/
theorem bidMsg_fuel_lift (fd : FuncDef) (args : List Val) (v : Val) (F : Nat)
    (h : (callFn P F fd args).map (·.1) = .ok v) :
    ∀ g, F ≤ g → (callFn P g fd args).map (·.1) = .ok v := by
  intro g hg
  cases hr : callFn P F fd args with
  | error e => rw [hr] at h; cases h
  | ok x =>
    rw [callFn_fuel_mono P hg fd args _ hr (by intro hh; cases hh)]
    rw [hr] at h; exact h

/-- the hypotheses `BidMsgsOK` as ONE computation: the translated functions are run at fuel `F` only -/
def bidMsgsCheck (F : Nat) : Nat → AState → MainIn → Bool
  | 0, _, _ => true
  | n + 1, s, i =>
    match s.active with
    | none => true
    | some a =>
      match i.get a with
      | none => true
      | some (msg, i1) =>
        (!hasAlert msg ||
          R.str? ((callFn P F m_Server_remove_alert_word [.str msg]).map (·.1)) == some (preprocessBid msg)) &&
        match parseBid? (preprocessBid msg) a.formal with
        | none => true
        | some call =>
          (R.enum? ((callFn P F m_MessageInterface_parse_bid [.str (preprocessBid msg), .str a.formal]).map (·.1))
              == some (n_Bid, (call.value : Int))) &&
          match takeBid s call with
          | .ok (s1, _) => bidMsgsCheck F n s1 i1
          | .error _ => true

theorem mt_str?_eq (r : R Val) (t : List Char) (h : (r.str? == some t) = true) : r = .ok (.str t) := by
  cases r with
  | error e => simp [R.str?] at h
  | ok v => cases v <;> simp [R.str?] at h; subst h; rfl

theorem mt_enum?_eq (r : R Val) (c : Id) (n : Int) (h : (r.enum? == some (c, n)) = true) : r = .ok (.enum c n) := by
  cases r with
  | error e => simp [R.enum?] at h
  | ok v => cases v <;> simp [R.enum?] at h; obtain ⟨h1, h2⟩ := h; subst h1; subst h2; rfl

/-- the computation implies the hypotheses -/
theorem BidMsgsOK_of_check (F : Nat) : ∀ (n : Nat) (s : AState) (i : MainIn), bidMsgsCheck F n s i = true → BidMsgsOK F n s i := by
  intro n
  induction n with
  | zero => intro s i _; trivial
  | succ n ih =>
    intro s i h
    simp only [bidMsgsCheck, BidMsgsOK] at h ⊢
    cases ha : s.active with
    | none => exact True.intro
    | some a =>
      simp only [ha] at h ⊢
      cases hg : i.get a with
      | none => exact True.intro
      | some x =>
        obtain ⟨msg, i1⟩ := x
        simp only [hg, Bool.and_eq_true] at h ⊢
        obtain ⟨h1, h2⟩ := h
        refine ⟨?_, ?_⟩
        · intro hA
          rw [hA] at h1
          exact bidMsg_fuel_lift _ _ _ F (mt_str?_eq _ _ (by simpa using h1))
        · cases hp : parseBid? (preprocessBid msg) a.formal with
          | none => exact True.intro
          | some call =>
            simp only [hp, Bool.and_eq_true] at h2 ⊢
            obtain ⟨h3, h4⟩ := h2
            refine ⟨bidMsg_fuel_lift _ _ _ F (mt_enum?_eq _ _ _ h3), ?_⟩
            cases ht : takeBid s call with
            | error e => exact True.intro
            | ok y =>
              obtain ⟨s1, res⟩ := y
              rw [ht] at h4
              exact ih s1 i1 h4

/-- what a successful run of `mainBiddingR` did in its first turn -/
theorem mainBiddingR_inv (n : Nat) (s : AState) (i : MainIn) (acts : MainActs) (s' : AState) (i' : MainIn) (a : Seat)
    (ha : s.active = some a) (h : mainBiddingR (n+1) s i = some (acts, s', i')) :
    ∃ msg r call s1 res rest, i a = msg :: r ∧ parseBid? (preprocessBid msg) a.formal = some call ∧
      takeBid s call = .ok (s1, res) ∧ res ≠ .illegal ∧
      mainBiddingR n s1 (fun q => if q = a then r else i q) = some (rest, s', i') ∧
      acts = putAll a.formal ++ [.recv (.t2m a)] ++ putAllBut a (preprocessBid msg) ++ rest := by
  simp only [mainBiddingR, ha] at h
  cases hi : i a with
  | nil => simp [MainIn.get, hi] at h
  | cons msg r =>
    simp only [MainIn.get, hi, Option.bind_eq_bind, Option.bind_some] at h
    cases hp : parseBid? (preprocessBid msg) a.formal with
    | none => simp [hp] at h
    | some call =>
      simp only [hp, Option.bind_some] at h
      cases ht : takeBid s call with
      | error e => simp [ht] at h
      | ok x =>
        obtain ⟨s1, res⟩ := x
        simp only [ht] at h
        cases res with
        | illegal => simp at h
        | ongoing =>
          cases hr : mainBiddingR n s1 (fun q => if q = a then r else i q) with
          | none => simp [hr] at h
          | some y =>
            obtain ⟨rest, sf, i2⟩ := y
            simp only [hr, Option.bind_some, Option.pure_def, Option.some.injEq, Prod.mk.injEq] at h
            obtain ⟨h1, h2, h3⟩ := h
            subst h1; subst h2; subst h3
            exact ⟨msg, r, call, s1, .ongoing, rest, rfl, hp, ht, by simp, hr, rfl⟩
        | finished =>
          cases hr : mainBiddingR n s1 (fun q => if q = a then r else i q) with
          | none => simp [hr] at h
          | some y =>
            obtain ⟨rest, sf, i2⟩ := y
            simp only [hr, Option.bind_some, Option.pure_def, Option.some.injEq, Prod.mk.injEq] at h
            obtain ⟨h1, h2, h3⟩ := h
            subst h1; subst h2; subst h3
            exact ⟨msg, r, call, s1, .finished, rest, rfl, hp, ht, by simp, hr, rfl⟩

/-- THE LOOP `while not bidding_env.has_done()` of the translated `bidding_phase` follows `mainBiddingR`: started in the
encoded state `s` with the streams `i`, it ends in the encoded final state with the streams left, having performed the
operations of the model's actions except the closing ones (`finalOps`), by induction on the model's fuel; a turn of the
loop costs one level of the interpreter's fuel -/
theorem mt_loop (encRec : BoardRecord → Val) (F : Nat) (table : Val) (tables : List Val) (more : List (Val × Val))
    (bs dv vv : Val) : ∀ (n : Nat) (s : AState) (i : MainIn) (acts : MainActs) (s' : AState) (i' : MainIn) (out : List Val)
      (tail : Env) (g : Nat),
    mainBiddingR n s i = some (acts, s', i') → BidMsgsOK F n s i → LoopTail tail → n + F + 60 ≤ g →
    ∃ ops0 c tail', encMainActs encRec acts = some (ops0 ++ finalOps c) ∧ s'.contract = some c ∧ s'.active = none ∧
      LoopTail tail' ∧
      loopF (mkRec P g) (envL table tables more bs dv vv s i out tail) bpCond bpBody
        = .ok (envL table tables more bs dv vv s' i' (out ++ ops0) tail', .next) := by
  intro n
  induction n with
  | zero => intro s i acts s' i' out tail g h; simp [mainBiddingR] at h
  | succ n ih =>
    intro s i acts s' i' out tail g h hok htail hg
    obtain ⟨f0, rfl⟩ : ∃ f0, g = f0 + 51 := ⟨g - 51, by omega⟩
    have hc := mt_cond_eval (f0 + 39) table tables more bs dv vv s i out tail
    cases ha : s.active with
    | none =>
      simp only [mainBiddingR, ha] at h
      cases hcn : s.contract with
      | none => simp [hcn] at h
      | some c =>
        simp only [hcn, Option.some.injEq, Prod.mk.injEq] at h
        obtain ⟨h1, h2, h3⟩ := h
        subst h1; subst h2; subst h3
        refine ⟨[], c, tail, ?_, hcn, ha, htail, ?_⟩
        · exact mt_final_ops encRec c
        · rw [ha] at hc
          rw [mt_loop_exit _ _ _ _ hc, List.append_nil]
    | some a =>
      obtain ⟨msg, r, call, s1, res, rest, hi, hp, ht, hres, hr, hacts⟩ := mainBiddingR_inv n s i acts s' i' a ha h
      simp only [BidMsgsOK, ha, MainIn.get, hi, hp, ht] at hok
      obtain ⟨hpre, hparse, hrec⟩ := hok
      have hF : F ≤ f0 := by omega
      obtain ⟨xp, hxp⟩ := mt_of_map_fst _ _ _ F f0 hF hparse
      obtain ⟨xa, hxa⟩ := mt_alert_hyp F f0 hF msg hpre
      obtain ⟨tail1, htail1, hturn⟩ := mt_turn f0 i more out table tables bs dv vv s a ha msg r hi (preprocessBid msg) xa hxa
        call xp hxp s1 res ht tail htail
      rw [if_neg hres] at hturn
      obtain ⟨ops0, c, tail', hops, hcn, han, htail', hloop⟩ := ih s1 _ rest s' i'
        (out ++ (putAllOps a.formal ++ [getOp a] ++ putButOps a (preprocessBid msg))) tail1 (f0 + 50) hr hrec htail1 (by omega)
      refine ⟨putAllOps a.formal ++ [getOp a] ++ putButOps a (preprocessBid msg) ++ ops0, c, tail', ?_, hcn, han, htail', ?_⟩
      · rw [hacts, List.append_assoc _ ops0]
        exact encMainActs_append encRec _ _ _ _
          (encMainActs_append encRec _ _ _ _
            (encMainActs_append encRec _ _ _ _ (mt_putAll_ops encRec _) (mt_recv_ops encRec a))
            (mt_putAllBut_ops encRec a _)) hops
      · rw [ha] at hc
        have hturn' : (mkRec P (f0 + 50 + 1)).exec (envL table tables more bs dv vv s i out tail) bpBody = _ := hturn
        rw [mt_loop_step (f0 + 50) _ _ _ _ hc hturn', hloop, List.append_assoc]

/-- THE TRANSLATED `Server.bidding_phase` IS `mainBiddingR`: when the model, fed the streams `i`, runs the auction to its
end (`mainBiddingR n (AState.init dealer vul) i = some (acts, s', i')`), and the texts it consumes are parsed by the
translated `remove_alert_word` / `parse_bid` as the model parses them (`BidMsgsOK`), the call returns the pair
(contract, bid history as the translated `BiddingPhase` holds it: oldest call first), the world holds the streams left
`i'` and has performed exactly the operations of `acts`.  The seat table is not touched. -/
theorem main_bidding_translated (encRec : BoardRecord → Val) (F n : Nat) (dealer : Seat) (vul : Vul) (i : MainIn)
    (acts : MainActs) (s' : AState) (i' : MainIn)
    (hm : mainBiddingR n (AState.init dealer vul) i = some (acts, s', i'))
    (hmsgs : BidMsgsOK F n (AState.init dealer vul) i)
    (out : List Val) (table : Val) (tables : List Val) (more : List (Val × Val)) (bs : Val)
    (f : Nat) (hf : n + F + 70 ≤ f) :
    ∃ c ops, s'.contract = some c ∧ encMainActs encRec acts = some ops ∧
      callFn P f m_MainThread_bidding_phase
          [encMainThread (encMainWorld i out table tables more) bs, encSeat dealer, encVul vul]
        = .ok (.tuple [encContract c, .tuple (s'.history.reverse.map encCall)],
               encMainThread (encMainWorld i' (out ++ ops) table tables more) bs) := by
  obtain ⟨G, rfl⟩ : ∃ G, f = G + 52 := ⟨f - 52, by omega⟩
  obtain ⟨ops0, c, tail', hops, hcn, han, htail', hloop⟩ :=
    mt_loop encRec F table tables more bs (encSeat dealer) (encVul vul) n (AState.init dealer vul) i acts s' i' out []
      (G + 49) hm hmsgs (Or.inl rfl) (by omega)
  obtain ⟨env', hself, hafter⟩ := mt_after G (envL table tables more bs (encSeat dealer) (encVul vul) s' i' (out ++ ops0) tail')
    table tables more bs s' i' (out ++ ops0) c rfl rfl hcn
  refine ⟨c, ops0 ++ finalOps c, hcn, hops, ?_⟩
  have hw : execF (mkRec P (G + 50)) P (envL table tables more bs (encSeat dealer) (encVul vul) (AState.init dealer vul) i out [])
      [bpWhile] = .ok (envL table tables more bs (encSeat dealer) (encVul vul) s' i' (out ++ ops0) tail', .next) := by
    simp only [execF, bpWhile_eq, execStmtF, loop_succ, hloop, bind_ok, pure_eq]
  have hbody : execF (mkRec P (G + 50)) P
      [(K.self, mtObj i out table tables more bs), (n_dealer, encSeat dealer), (n_vul, encVul vul)]
      m_MainThread_bidding_phase.body
      = .ok (env', .ret (.tuple [encContract c, .tuple (s'.history.reverse.map encCall)])) := by
    rw [bp_body_eq, execF_append_next _ (mt_init_stmt (G + 5) _ dealer vul)]
    exact (execF_append_next _ hw).trans hafter
  show callF (mkRec P (G + 51)) m_MainThread_bidding_phase [mtObj i out table tables more bs, encSeat dealer, encVul vul] = _
  rw [callF_def]
  have hp : m_MainThread_bidding_phase.params = [K.self, n_dealer, n_vul] := rfl
  have hd : m_MainThread_bidding_phase.defaults = [] := rfl
  rw [hp, hd]
  simp only [bindParams, Option.map, exec_succ, hbody, bind_ok, hself, Option.getD_some, List.append_assoc]
  rfl

/-! non-vacuity -/
/-- North opens 1NT, East passes (with an alert word), South and West pass -/
def exIn : MainIn := fun p => match p with
  | .N => ["North bids 1NT".toList]
  | .E => ["East passes  Alert. ".toList]
  | .S => ["South passes".toList]
  | .W => ["West passes".toList]

theorem ex_bidding_model : (mainBiddingR 5 (AState.init .N .none) exIn).isSome = true := by decide +kernel
theorem ex_bidding_check : bidMsgsCheck 40 5 (AState.init .N .none) exIn = true := by decide +kernel

example : (mainBiddingR 5 (AState.init .N .none) exIn).isSome = true := ex_bidding_model
example : bidMsgsCheck 40 5 (AState.init .N .none) exIn = true := ex_bidding_check

example : hasAlert "East passes  Alert. ".toList = true ∧ preprocessBid "East passes  Alert. ".toList = "East passes".toList := by
  decide +kernel

example : ∃ acts s' i' c ops, mainBiddingR 5 (AState.init .N .none) exIn = some (acts, s', i') ∧ s'.contract = some c ∧
    encMainActs (fun _ => .none) acts = some ops ∧
    callFn P 200 m_MainThread_bidding_phase [encMainThread (encMainWorld exIn [] (.dict []) [] []) .none, encSeat .N, encVul .none]
      = .ok (.tuple [encContract c, .tuple (s'.history.reverse.map encCall)],
             encMainThread (encMainWorld i' ([] ++ ops) (.dict []) [] []) .none) := by
  obtain ⟨⟨acts, s', i'⟩, hm⟩ := Option.isSome_iff_exists.1 ex_bidding_model
  obtain ⟨c, ops, hc, hops, hcall⟩ := main_bidding_translated (fun _ => .none) 40 5 .N .none exIn acts s' i' hm
    (BidMsgsOK_of_check 40 5 _ _ ex_bidding_check) [] (.dict []) [] [] .none 200 (by decide)
  exact ⟨acts, s', i', c, ops, hm, hc, hops, hcall⟩

/-- the same call evaluated by the kernel: the contract is 1NT by North, four calls in the history, 40 operations -/
example : (match callFn P 200 m_MainThread_bidding_phase
      [encMainThread (encMainWorld exIn [] (.dict []) [] []) .none, encSeat .N, encVul .none] with
    | .ok (.tuple [c, .tuple h], .obj _ [(_, .obj _ [_, (_, .tuple out), _, _, _]), _]) =>
      c.beq (encContract ⟨some ⟨4, by decide⟩, false, false, .none, some .N⟩) && h.length == 4 && out.length == 40
    | _ => false) = true := by decide +kernel

/-! ## (3) the illegal-call branch -/

/-- the model's run comes to a call that `take_bid` answers with `illegal` (the branch `.ok (_, .illegal) => none` of
`mainBiddingR`) -/
def mainBiddingIllegal : Nat → AState → MainIn → Bool
  | 0, _, _ => false
  | n + 1, s, i =>
    match s.active with
    | none => false
    | some a =>
      match i.get a with
      | none => false
      | some (msg, i1) =>
        match parseBid? (preprocessBid msg) a.formal with
        | none => false
        | some call =>
          match takeBid s call with
          | .error _ => false
          | .ok (_, .illegal) => true
          | .ok (s1, _) => mainBiddingIllegal n s1 i1

/-- in the model this is a run that ends in `none` -/
theorem mainBiddingIllegal_model : ∀ (n : Nat) (s : AState) (i : MainIn), mainBiddingIllegal n s i = true →
    mainBiddingR n s i = none := by
  intro n
  induction n with
  | zero => intro s i h; rfl
  | succ n ih =>
    intro s i h
    cases ha : s.active with
    | none => simp [mainBiddingIllegal, ha] at h
    | some a =>
      cases hg : i.get a with
      | none => simp [mainBiddingIllegal, ha, hg] at h
      | some x =>
        obtain ⟨msg, i1⟩ := x
        cases hp : parseBid? (preprocessBid msg) a.formal with
        | none => simp [mainBiddingIllegal, ha, hg, hp] at h
        | some call =>
          cases ht : takeBid s call with
          | error e => simp [mainBiddingIllegal, ha, hg, hp, ht] at h
          | ok y =>
            obtain ⟨s1, res⟩ := y
            simp only [mainBiddingIllegal, ha, hg, hp, ht] at h
            simp only [mainBiddingR, ha, hg, hp, ht, Option.bind_eq_bind, Option.bind_some]
            cases res with
            | illegal => rfl
            | ongoing => simp only [ih s1 i1 h, Option.bind_none]
            | finished => simp only [ih s1 i1 h, Option.bind_none]

/-- the loop, when the model's run comes to a refused call: `Exception` propagates out of the `while` -/
theorem mt_loop_illegal (F : Nat) (table : Val) (tables : List Val) (more : List (Val × Val))
    (bs dv vv : Val) : ∀ (n : Nat) (s : AState) (i : MainIn) (out : List Val) (tail : Env) (g : Nat),
    mainBiddingIllegal n s i = true → BidMsgsOK F n s i → LoopTail tail → n + F + 60 ≤ g →
      loopF (mkRec P g) (envL table tables more bs dv vv s i out tail) bpCond bpBody = .error (.exc K.Exception) := by
  intro n
  induction n with
  | zero => intro s i out tail g h; exact absurd h (by simp [mainBiddingIllegal])
  | succ n ih =>
    intro s i out tail g h hok htail hg
    obtain ⟨f0, rfl⟩ : ∃ f0, g = f0 + 51 := ⟨g - 51, by omega⟩
    have hc := mt_cond_eval (f0 + 39) table tables more bs dv vv s i out tail
    have hF : F ≤ f0 := by omega
    cases ha : s.active with
    | none => simp [mainBiddingIllegal, ha] at h
    | some a =>
      cases hi : i a with
      | nil => simp [mainBiddingIllegal, ha, MainIn.get, hi] at h
      | cons msg r =>
        cases hp : parseBid? (preprocessBid msg) a.formal with
        | none => simp [mainBiddingIllegal, ha, MainIn.get, hi, hp] at h
        | some call =>
          cases ht : takeBid s call with
          | error e => simp [mainBiddingIllegal, ha, MainIn.get, hi, hp, ht] at h
          | ok y =>
            obtain ⟨s1, res⟩ := y
            simp only [BidMsgsOK, ha, MainIn.get, hi, hp, ht] at hok
            obtain ⟨hpre, hparse, hrec⟩ := hok
            obtain ⟨xp, hxp⟩ := mt_of_map_fst _ _ _ F f0 hF hparse
            obtain ⟨xa, hxa⟩ := mt_alert_hyp F f0 hF msg hpre
            rw [ha] at hc
            obtain ⟨tail1, htail1, hturn⟩ := mt_turn f0 i more out table tables bs dv vv s a ha msg r hi
              (preprocessBid msg) xa hxa call xp hxp s1 res ht tail htail
            have hturn' : (mkRec P (f0 + 50 + 1)).exec (envL table tables more bs dv vv s i out tail) bpBody = _ := hturn
            by_cases hres : res = .illegal
            · rw [if_pos hres] at hturn'
              exact mt_loop_err (f0 + 50) _ _ _ _ hc hturn'
            · have h' : mainBiddingIllegal n s1 (fun q => if q = a then r else i q) = true := by
                simp only [mainBiddingIllegal, ha, MainIn.get, hi, hp, ht] at h
                cases res with
                | illegal => exact absurd rfl hres
                | ongoing => exact h
                | finished => exact h
              rw [if_neg hres] at hturn'
              rw [mt_loop_step (f0 + 50) _ _ _ _ hc hturn']
              exact ih s1 _ _ tail1 (f0 + 50) h' hrec htail1 (by omega)

/-- an exception out of the `while` loop is the exception of the call -/
theorem mt_call_of_loop_err (G : Nat) (i : MainIn) (out : List Val) (table : Val) (tables : List Val)
    (more : List (Val × Val)) (bs : Val) (dealer : Seat) (vul : Vul) (e : Err)
    (hloop : loopF (mkRec P (G + 49)) (envL table tables more bs (encSeat dealer) (encVul vul) (AState.init dealer vul) i out [])
      bpCond bpBody = .error e) :
    callFn P (G + 52) m_MainThread_bidding_phase
        [encMainThread (encMainWorld i out table tables more) bs, encSeat dealer, encVul vul] = .error e := by
  have hw : execF (mkRec P (G + 50)) P (envL table tables more bs (encSeat dealer) (encVul vul) (AState.init dealer vul) i out [])
      [bpWhile] = .error e := by
    simp only [execF, bpWhile_eq, execStmtF, loop_succ, hloop, bind_err]
  have hbody : execF (mkRec P (G + 50)) P
      [(K.self, mtObj i out table tables more bs), (n_dealer, encSeat dealer), (n_vul, encVul vul)]
      m_MainThread_bidding_phase.body = .error e := by
    rw [bp_body_eq, execF_append_next _ (mt_init_stmt (G + 5) _ dealer vul)]
    exact mt_execF_append_err _ _ _ _ _ hw
  show callF (mkRec P (G + 51)) m_MainThread_bidding_phase [mtObj i out table tables more bs, encSeat dealer, encVul vul] = _
  rw [callF_def]
  have hp : m_MainThread_bidding_phase.params = [K.self, n_dealer, n_vul] := rfl
  have hd : m_MainThread_bidding_phase.defaults = [] := rfl
  rw [hp, hd]
  simp only [bindParams, Option.map, exec_succ, hbody, bind_err]

/-- THE ILLEGAL-CALL BRANCH: when the model's run comes to a call that `take_bid` refuses, the translated
`bidding_phase` raises `Exception` (after putting `illegal bid` to the bidder and `error detected` to the others) -/
theorem main_bidding_illegal_raises (F n : Nat) (dealer : Seat) (vul : Vul) (i : MainIn)
    (hm : mainBiddingIllegal n (AState.init dealer vul) i = true)
    (hmsgs : BidMsgsOK F n (AState.init dealer vul) i)
    (out : List Val) (table : Val) (tables : List Val) (more : List (Val × Val)) (bs : Val)
    (f : Nat) (hf : n + F + 70 ≤ f) :
    callFn P f m_MainThread_bidding_phase
        [encMainThread (encMainWorld i out table tables more) bs, encSeat dealer, encVul vul]
      = .error (.exc K.Exception) := by
  obtain ⟨G, rfl⟩ : ∃ G, f = G + 52 := ⟨f - 52, by omega⟩
  have hloop := mt_loop_illegal F table tables more bs (encSeat dealer) (encVul vul) n (AState.init dealer vul) i out []
      (G + 49) hm hmsgs (Or.inl rfl) (by omega)
  exact mt_call_of_loop_err G i out table tables more bs dealer vul _ hloop

/-- North opens 1NT, East "bids" 1C -/
def exInBad : MainIn := fun p => match p with
  | .N => ["North bids 1NT".toList]
  | .E => ["East bids 1C".toList]
  | _ => []

example : callFn P 200 m_MainThread_bidding_phase
    [encMainThread (encMainWorld exInBad [] (.dict []) [] []) .none, encSeat .N, encVul .none] = .error (.exc K.Exception) :=
  main_bidding_illegal_raises 40 3 .N .none exInBad (by decide +kernel) (BidMsgsOK_of_check 40 3 _ _ (by decide +kernel))
    [] (.dict []) [] [] .none 200 (by decide)

end Bridge.Translated.MainA
