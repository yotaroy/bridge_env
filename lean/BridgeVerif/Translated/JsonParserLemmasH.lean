import BridgeVerif.Translated.JsonParserLemmasG
/-! Translated JSON parser (parser.py) = model: `JsonParser.parse_board_logs` / `parse_board_settings`: `json.load(fp)` on a file object, the `for`
loop over the records by induction, a text `json.loads` refuses -/
namespace Bridge.Translated
open Bridge Bridge.Py Bridge.Generated.PyCore

/-! ## `JsonParser.parse_board_logs` / `parse_board_settings` -/
/-- the `BoardLog` instance `convert_board_log` builds for the record `j`, read by the model as `r` -/
def pyLogVal (j : Json) (r : LogRead) : Val :=
  encLogReadWith (encHands (pyHands (dealOf j))) (pyContract (contractText j) r.contract) r
/-- the `BoardSetting` instance `convert_board_setting` builds for the record `j`, read by the model as `e` -/
def pySettingVal (j : Json) (e : SettingEntry) : Val := encSettingWith (encHands (pyHands (dealOf j))) e

/-- a file object holding `text` (written in one piece) -/
def fileOf (text : List Char) : Val := .obj n__File [(n_buf, .tuple [.str text])]

theorem jp_intercalate_one (t : List Char) : List.intercalate [] [t] = t := by
  simp [List.intercalate]
theorem jp_join_one (r : Rec) (t : List Char) : builtinF r P .join [.str [], .tuple [.str t]] = .ok (.str t) := by
  simp only [builtinF, iterItems, strsOf, Option.bind, Option.map, jp_intercalate_one]; rfl
theorem jp_jsonLoads (r : Rec) (t : List Char) :
    builtinF r P .jsonLoads [.str t] = match jsonLoad t with
      | some j => .ok (jsonToVal j)
      | none => .error (.exc K.ValueError) := rfl

/-- `json.load(fp)` as translated: `json.loads(''.join(fp.buf))` -/
theorem jp_eval_load (f : Nat) (sv : Val) (text : List Char) (tail : Env) :
    evalF (mkRec P (f+4)) P ((K.self, sv) :: (n_fp, fileOf text) :: tail)
        (.builtin .jsonLoads [(.builtin .join [(.const (.str [])), (.attr (.var n_fp) n_buf)])])
      = match jsonLoad text with
        | some j => .ok (jsonToVal j)
        | none => .error (.exc K.ValueError) := by
  ppsimp [fileOf, jp_join_one, jp_jsonLoads]

/-- the body of both methods: `data = json.load(fp)`, `data_list = ex`, then `outputs.append(fn(d))` for every record -/
def jpParseBody (ex : Expr) (fn : Id) : List Stmt :=
  [.assign (.var n_data) (.builtin .jsonLoads [(.builtin .join [(.const (.str [])), (.attr (.var n_fp) n_buf)])]),
   .assign (.var n_data_list) ex,
   .assign (.var n_outputs) (.builtin .tuple []),
   .for [n_d] (.var n_data_list) [.mut (.var n_outputs) .append (.call fn [.var n_d])],
   .ret (.var n_outputs)]

section
variable {α : Type} (fn : Id) (fd : FuncDef) (hfn : findFunc P.funcs fn = some fd) (rd : Json → Option α)
  (enc : Json → α → Val) (k : Nat)
  (hcall : ∀ g j r, rd j = some r → callF (mkRec P (g+k)) fd [jsonToVal j] = .ok (enc j r, jsonToVal j))
include hfn hcall

/-- the loop: `fn`, called on a record the model reads as `r`, returns `enc j r` -/
theorem jp_records_loop (f : Nat) (sv fv dv lv : Val) (m : List Json) : ∀ (rs : List α) (acc : List Val) (tail : Env),
    m.mapM rd = some rs →
    ∃ tail', forF (mkRec P (f+k+3)) [n_d] [.mut (.var n_outputs) .append (.call fn [.var n_d])]
        ((K.self, sv) :: (n_fp, fv) :: (n_data, dv) :: (n_data_list, lv) :: (n_outputs, .tuple acc) :: tail) (jsonsToVals m)
      = .ok ((K.self, sv) :: (n_fp, fv) :: (n_data, dv) :: (n_data_list, lv) ::
              (n_outputs, .tuple (acc ++ List.zipWith enc m rs)) :: tail', .next) := by
  induction m with
  | nil => intro rs acc tail h; simp at h; subst h; exact ⟨tail, by simp [jsonsToVals, forF]; rfl⟩
  | cons j m ih =>
    intro rs acc tail h
    obtain ⟨r, rs', hj, hm, rfl⟩ := jp_mapM_cons_some _ _ _ _ h
    obtain ⟨tail', ht⟩ := ih rs' (acc ++ [enc j r]) (update tail n_d (jsonToVal j)) hm
    refine ⟨tail', ?_⟩
    simp only [jsonsToVals, forF]
    ppsimp [hfn, hcall _ _ _ hj]
    rw [ht]
    simp only [List.zipWith_cons_cons, List.append_assoc, List.cons_append, List.nil_append]

/-- a method with that body, on a file whose text is a JSON object in which `ex` finds the list `m` of records -/
theorem jp_parse_call (ex : Expr) (f : Nat) (text : List Char) (dl : List (List Char × Json)) (m : List Json) (rs : List α)
    (hd : jsonLoad text = some (.obj dl))
    (hex : ∀ g tail, evalF (mkRec P (g+3)) P
      ((K.self, .obj n_JsonParser []) :: (n_fp, fileOf text) :: (n_data, .dict (membersToKvs dl)) :: tail) ex
        = .ok (.tuple (jsonsToVals m)))
    (hm : m.mapM rd = some rs) :
    callF (mkRec P (f+k+6)) ⟨[K.self, n_fp], [], jpParseBody ex fn⟩ [.obj n_JsonParser [], fileOf text]
      = .ok (.tuple (List.zipWith enc m rs), .obj n_JsonParser []) := by
  obtain ⟨tail', ht⟩ := jp_records_loop fn fd hfn rd enc k hcall (f+2) (.obj n_JsonParser []) (fileOf text)
    (.dict (membersToKvs dl)) (.tuple (jsonsToVals m)) m rs [] [] hm
  rw [show f + 2 + k + 3 = f + k + 5 by omega] at ht
  rw [callF_def]
  simp only [jpParseBody, bindParams, Option.map]
  -- `↓`: the lemmas about the two right-hand sides are tried before `evalF` is unfolded on them
  ppsimp [↓jp_eval_load, hd, jsonToVal, ↓hex, builtin_tuple_nil, iterItems_tuple, ht]
end

/-- the records of a log document -/
def logEntries (text : List Char) : List Json :=
  ((jsonLoad text).bind fun doc => (doc.get? (jkey "logs")).bind Json.arr?).getD []
/-- the records `parse_board_settings` reads: `data['logs'] if 'logs' in data else data['board_settings']` -/
def settingEntries (text : List Char) : List Json :=
  ((jsonLoad text).bind fun doc => match doc.get? (jkey "logs") with
    | some x => x.arr?
    | none => (doc.get? (jkey "board_settings")).bind Json.arr?).getD []

theorem jp_mth_parse_board_logs :
    P.method? classDepth n_JsonParser n_parse_board_logs = some (n_JsonParser, m_JsonParser_parse_board_logs) := rfl
theorem jp_mth_parse_board_settings :
    P.method? classDepth n_JsonParser n_parse_board_settings = some (n_JsonParser, m_JsonParser_parse_board_settings) := rfl

theorem jp_bind_arr_some (o : Option Json) (m : List Json) (h : o.bind Json.arr? = some m) : o = some (.arr m) := by
  cases o with
  | none => cases h
  | some v => cases v <;> first | (cases h; rfl) | cases h

/-- a text the model reads as a log document: an object whose member `logs` is the list of the records -/
theorem jp_parseBoardLogs_cases (text : List Char) (rs : List LogRead) (hm : parseBoardLogs? text = some rs) :
    ∃ dl, jsonLoad text = some (.obj dl) ∧ (Json.obj dl).get? ['l', 'o', 'g', 's'] = some (.arr (logEntries text)) ∧
      (logEntries text).mapM logOfJson? = some rs := by
  unfold parseBoardLogs? at hm
  obtain ⟨doc, hd, h1⟩ := Option.bind_eq_some_iff.1 hm
  obtain ⟨m, hl, h2⟩ := Option.bind_eq_some_iff.1 h1
  have hg := jp_bind_arr_some _ _ hl
  obtain ⟨dl, rfl⟩ := jp_get_obj _ _ _ hg
  have he : logEntries text = m := by simp only [logEntries, hd, Option.bind_some, hl, Option.getD_some]
  exact ⟨dl, hd, he ▸ hg, he ▸ h2⟩

/-- … as a document of board settings: the member `logs` if there is one, else `board_settings` -/
theorem jp_parseBoardSettings_cases (text : List Char) (es : List SettingEntry) (hm : parseBoardSettings? text = some es) :
    ∃ dl, jsonLoad text = some (.obj dl) ∧
      ((Json.obj dl).get? ['l', 'o', 'g', 's'] = some (.arr (settingEntries text)) ∨
        ((Json.obj dl).get? ['l', 'o', 'g', 's'] = none ∧
          (Json.obj dl).get? ['b', 'o', 'a', 'r', 'd', '_', 's', 'e', 't', 't', 'i', 'n', 'g', 's']
            = some (.arr (settingEntries text)))) ∧
      (settingEntries text).mapM settingOfJson? = some es := by
  unfold parseBoardSettings? at hm
  obtain ⟨doc, hd, h1⟩ := Option.bind_eq_some_iff.1 hm
  cases hlg : doc.get? (jkey "logs") with
  | some x =>
    rw [hlg] at h1
    obtain ⟨m, hx, h2⟩ := Option.bind_eq_some_iff.1 h1
    obtain ⟨dl, rfl⟩ := jp_get_obj _ _ _ hlg
    cases x <;> cases hx
    have he : settingEntries text = m := by simp only [settingEntries, hd, Option.bind_some, hlg, Json.arr?, Option.getD_some]
    exact ⟨dl, hd, Or.inl (he ▸ hlg), he ▸ h2⟩
  | none =>
    rw [hlg] at h1
    obtain ⟨m, hl, h2⟩ := Option.bind_eq_some_iff.1 h1
    have hg := jp_bind_arr_some _ _ hl
    obtain ⟨dl, rfl⟩ := jp_get_obj _ _ _ hg
    have he : settingEntries text = m := by simp only [settingEntries, hd, Option.bind_some, hlg, hl, Option.getD_some]
    exact ⟨dl, hd, Or.inr ⟨hlg, he ▸ hg⟩, he ▸ h2⟩

theorem jp_parse_board_logs_call (f : Nat) (text : List Char) (rs : List LogRead) (hm : parseBoardLogs? text = some rs) :
    callF (mkRec P (f+66)) m_JsonParser_parse_board_logs [.obj n_JsonParser [], fileOf text]
      = .ok (.tuple (List.zipWith pyLogVal (logEntries text) rs), .obj n_JsonParser []) := by
  obtain ⟨dl, hd, hg, he⟩ := jp_parseBoardLogs_cases text rs hm
  exact jp_parse_call n_convert_board_log _ jp_find_convert_board_log logOfJson? pyLogVal 60
    (fun g j r h => jp_convert_board_log_call g j r h) _ f text dl _ rs hd
    (fun g tail => by ppsimp [jp_lookupD_members, hg, jsonToVal]) he

theorem jp_parse_board_settings_call (f : Nat) (text : List Char) (es : List SettingEntry)
    (hm : parseBoardSettings? text = some es) :
    callF (mkRec P (f+46)) m_JsonParser_parse_board_settings [.obj n_JsonParser [], fileOf text]
      = .ok (.tuple (List.zipWith pySettingVal (settingEntries text) es), .obj n_JsonParser []) := by
  obtain ⟨dl, hd, hg, he⟩ := jp_parseBoardSettings_cases text es hm
  refine jp_parse_call n_convert_board_setting _ jp_find_convert_board_setting settingOfJson? pySettingVal 40
    (fun g j e h => jp_convert_board_setting_call g j e h) _ f text dl _ es hd (fun g tail => ?_) he
  rcases hg with hg | ⟨hn, hg⟩
  · ppsimp [jp_lookupD_members, hg, jsonToVal, bne]
  · ppsimp [jp_lookupD_members, hn, hg, jsonToVal, bne]

/-- a text `json.loads` refuses: `ValueError` (`json.JSONDecodeError`), from both methods -/
theorem jp_parse_bad_call (ex : Expr) (fn : Id) (f : Nat) (text : List Char) (h : jsonLoad text = none) :
    callF (mkRec P (f+10)) ⟨[K.self, n_fp], [], jpParseBody ex fn⟩ [.obj n_JsonParser [], fileOf text]
      = .error (.exc K.ValueError) := by
  rw [callF_def]
  simp only [jpParseBody, bindParams, Option.map]
  ppsimp [↓jp_eval_load, h]

end Bridge.Translated
