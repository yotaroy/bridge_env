import BridgeVerif.Translated.ThreadsClientBLemmasC
/-! Translated `ClientThread.playing_phase`: the parser hypotheses; the statements of the loops against the steps of the
model (`clientOpenR`, `clientMoveR`, `clientCardR`, `clientLeadR`); the inner loop is `clientTrickR … 4`, the outer loop is
`clientPlayingR` -/
namespace Bridge.Translated.ClientB
open Bridge Bridge.Py Bridge.Generated.PyCore Bridge.Translated Bridge.Translated.ClientA

/-- drop the decisions of the playing system (`playAsk`) -/
def erasePlays (ops : List Val) : List Val := ops.filter fun v => !(v.beq playAsk)

theorem cb_ask_beq : playAsk.beq playAsk = true := by simp [playAsk, Val.beq, beqL, vstr]
theorem cb_send_beq (m : Val) : (Val.tuple [vstr "send", m]).beq playAsk = false := by
  simp [playAsk, Val.beq, beqL, vstr]
theorem cb_recv_beq : (Val.tuple [vstr "recv"]).beq playAsk = false := by simp [playAsk, Val.beq, beqL, vstr]

theorem erasePlays_append (a b : List Val) : erasePlays (a ++ b) = erasePlays a ++ erasePlays b := by
  simp [erasePlays]

/-- on every message still in the stream, the translated parsers of the playing phase return the encoding of what the
model's parsers return (where those succeed); the decisions still to come are cards of the deck -/
structure PlayParses (N : Nat) (i : ClientIn) : Prop where
  leader : ∀ m ∈ i.s, ∀ (d l : Seat), parseLeader? m d = some l →
    Returns N m_Client_parse_leader_message [.str m, encSeat d] (encSeat l)
  card : ∀ m ∈ i.s, ∀ (a : Seat) (c : Card), parseCard? m a = some c →
    Returns N m_MessageInterface_parse_card [.str m, encSeat a] (encCard c)
  dummy : ∀ m ∈ i.s, ∀ t, parseCards? m ['D', 'u', 'm', 'm', 'y'] = some t →
    Returns N m_Client_parse_cards [.str m, .str ['D', 'u', 'm', 'm', 'y']] (.str t) ∧
    ∀ dh, parseHand? t = some dh → ∃ hb, Returns N m_Client_parse_hand [.str t] (.tuple [encCards dh, hb])
  ok : ∀ c ∈ i.cards, c.ok = true

theorem PlayParses.tail_s {N : Nat} {m : Text} {st : List Text} {calls : List Call} {cards : List Card}
    (h : PlayParses N ⟨m :: st, calls, cards⟩) (calls' : List Call) : PlayParses N ⟨st, calls', cards⟩ :=
  ⟨fun x hx => h.leader x (List.mem_cons_of_mem _ hx), fun x hx => h.card x (List.mem_cons_of_mem _ hx),
   fun x hx => h.dummy x (List.mem_cons_of_mem _ hx), h.ok⟩
theorem PlayParses.tail_c {N : Nat} {st : List Text} {calls : List Call} {cd : Card} {cards : List Card}
    (h : PlayParses N ⟨st, calls, cd :: cards⟩) : PlayParses N ⟨st, calls, cards⟩ :=
  ⟨h.leader, h.card, h.dummy, fun x hx => h.ok x (List.mem_cons_of_mem _ hx)⟩

/-- the first statement of the inner loop's body is `clientOpenR` -/
theorem cb_open_step (p decl : Seat) (c : Contract) (o o1 : Observed) (opened op1 : Bool) (i i1 : ClientIn)
    (acts : ClientActs) (N : Nat) (h : clientOpenR p decl o opened i = some (acts, o1, op1, i1)) (hp : PlayParses N i)
    (bids plays out : List Val) (team : Str) (opp : Val) (extra : List (Id × Val)) (rest : Env) (f : Nat)
    (hf : N + 71 ≤ f) :
    ∃ ops rest', encClientActs p acts = some ops ∧ erasePlays ops = ops ∧ o1.base = o.base ∧ PlayParses N i1 ∧
      i1.cards = i.cards ∧
      execStmtF (mkRec P f) P (penv (cself p i.s bids plays out team opp extra) c decl o opened rest) cpOpen
        = .ok (penv (cself p i1.s bids plays (out ++ ops) team opp extra) c decl o1 op1 rest', .next) := by
  obtain ⟨f0, rfl⟩ : ∃ f0, f = f0 + 70 := ⟨f - 70, by omega⟩
  unfold clientOpenR at h
  by_cases hA : o.base.active = decl.partner ∧ (!opened) = true
  · rw [if_pos hA] at h
    obtain ⟨ha, hop⟩ := hA
    have hop' : opened = false := by simpa using hop
    subst hop'
    by_cases hB : decl.partner ≠ p
    · rw [if_pos hB] at h
      obtain ⟨st, calls, cards⟩ := i
      cases st with
      | nil => simp [ClientIn.recv] at h
      | cons m st =>
        simp only [ClientIn.recv, Option.bind_eq_bind, Option.bind_some, String.reduceToList] at h
        cases ht : parseCards? m ['D', 'u', 'm', 'm', 'y'] with
        | none => simp [ht] at h
        | some t =>
          cases hh : parseHand? t with
          | none => simp [ht, hh] at h
          | some dh =>
            simp only [ht, hh, Option.bind_some, Option.pure_def, Option.some.injEq, Prod.mk.injEq] at h
            obtain ⟨rfl, rfl, rfl, rfl⟩ := h
            obtain ⟨hR1, hR2⟩ := hp.dummy m (List.mem_cons_self ..) t ht
            obtain ⟨hb, hR3⟩ := hR2 dh hh
            obtain ⟨s1, h1⟩ := hR1.callF
            obtain ⟨s2, h2⟩ := hR3.callF
            obtain ⟨rest', hx⟩ := cb_open_recv f0 p decl c o ha hB m t dh hb s1 s2 (fun g => h1 _ (by omega))
              (fun g => h2 _ (by omega)) st bids plays out team opp extra rest
            exact ⟨_, rest', by simp [encClientActs, encClientAct], by simp [erasePlays, cb_send_beq, cb_recv_beq],
              rfl, hp.tail_s _, rfl, hx⟩
    · rw [if_neg hB] at h
      simp only [Option.pure_def, Option.some.injEq, Prod.mk.injEq] at h
      obtain ⟨rfl, rfl, rfl, rfl⟩ := h
      have hpe : decl.partner = p := by
        cases hx : decide (decl.partner = p) with
        | true => simpa using hx
        | false => exact absurd (by simpa using hx) hB
      subst hpe
      exact ⟨[], rest, rfl, rfl, rfl, hp, rfl, by
        simpa using cb_open_self f0 decl c o ha i.s bids plays out team opp extra rest⟩
  · rw [if_neg hA] at h
    simp only [Option.pure_def, Option.some.injEq, Prod.mk.injEq] at h
    obtain ⟨rfl, rfl, rfl, rfl⟩ := h
    exact ⟨[], rest, rfl, rfl, rfl, hp, rfl, by simpa using cb_open_skip f0 decl c o opened hA _ rest⟩

/-- the second statement of the inner loop's body is `clientMoveR` -/
theorem cb_move_step (p decl : Seat) (c : Contract) (o o2 : Observed) (i i2 : ClientIn) (acts : ClientActs) (N : Nat)
    (hwf : WF o.base) (h : clientMoveR p decl o.base.active o i = some (acts, o2, i2)) (hp : PlayParses N i)
    (bids out : List Val) (team : Str) (opp : Val) (extra : List (Id × Val)) (opened : Bool) (rest : Env) (f : Nat)
    (hf : N + 91 ≤ f) :
    ∃ ops rest', encClientActs p acts = some (erasePlays ops) ∧ WF o2.base ∧ PlayParses N i2 ∧
      execStmtF (mkRec P f) P
          (penv (cself p i.s bids (i.cards.map encCard) out team opp extra) c decl o opened rest) cpMove
        = .ok (penv (cself p i2.s bids (i2.cards.map encCard) (out ++ ops) team opp extra) c decl o2 opened rest',
            .next) := by
  obtain ⟨f0, rfl⟩ : ∃ f0, f = f0 + 70 := ⟨f - 70, by omega⟩
  unfold clientMoveR at h
  obtain ⟨st, calls, cards⟩ := i
  by_cases h1 : o.base.active = p ∧ p ≠ decl.partner
  · rw [if_pos h1] at h
    cases cards with
    | nil => simp [ClientIn.nextCard] at h
    | cons cd cs =>
      simp only [ClientIn.nextCard, Option.bind_eq_bind, Option.bind_some] at h
      cases hpl : o.play cd p with
      | error e => simp [hpl] at h
      | ok o' =>
        simp only [hpl, Option.pure_def, Option.some.injEq, Prod.mk.injEq] at h
        obtain ⟨rfl, rfl, rfl⟩ := h
        obtain ⟨s0, hcs⟩ := (card_str_translated cd (hp.ok cd (List.mem_cons_self ..))).callF
        obtain ⟨rest', hx⟩ := cb_move_own f0 p decl c o o' cd hwf h1.1 h1.2 hpl s0 (fun g => hcs _ (by omega)) st bids
          (cs.map encCard) out team opp extra opened rest
        exact ⟨_, rest', by simp [encClientActs, encClientAct, erasePlays, cb_ask_beq, cb_send_beq],
          wf_observed_play o o' cd p hwf hpl, hp.tail_c, hx⟩
  · rw [if_neg h1] at h
    by_cases h2 : o.base.active = decl.partner ∧ p = decl
    · rw [if_pos h2] at h
      obtain ⟨ha, hpd⟩ := h2
      subst hpd
      cases hdh : o.dummyHand with
      | none => simp [hdh] at h
      | some dh =>
        simp only [hdh, Option.isNone_some, Bool.false_eq_true, if_false] at h
        cases cards with
        | nil => simp [ClientIn.nextCard] at h
        | cons cd cs =>
          simp only [ClientIn.nextCard, Option.bind_eq_bind, Option.bind_some] at h
          cases hpl : o.play cd p.partner with
          | error e => simp [hpl] at h
          | ok o' =>
            simp only [hpl, Option.pure_def, Option.some.injEq, Prod.mk.injEq] at h
            obtain ⟨rfl, rfl, rfl⟩ := h
            obtain ⟨s0, hcs⟩ := (card_str_translated cd (hp.ok cd (List.mem_cons_self ..))).callF
            obtain ⟨rest', hx⟩ := cb_move_dummy f0 p c o o' cd hwf ha dh hdh hpl s0 (fun g => hcs _ (by omega)) st bids
              (cs.map encCard) out team opp extra opened rest
            exact ⟨_, rest', by simp [encClientActs, encClientAct, erasePlays, cb_ask_beq, cb_send_beq],
              wf_observed_play o o' cd _ hwf hpl, hp.tail_c, hx⟩
    · rw [if_neg h2] at h
      cases st with
      | nil => cases h
      | cons m st =>
        simp only [ClientIn.recv, Option.bind_eq_bind, Option.bind_some] at h
        cases hpc : parseCard? m o.base.active with
        | none => rw [hpc] at h; cases h
        | some cd =>
          simp only [hpc, Option.bind_some] at h
          cases hpl : o.play cd o.base.active with
          | error e => rw [hpl] at h; cases h
          | ok o' =>
            simp only [hpl, Option.pure_def, Option.some.injEq, Prod.mk.injEq] at h
            obtain ⟨rfl, rfl, rfl⟩ := h
            obtain ⟨s0, hpcF⟩ := (hp.card m (List.mem_cons_self ..) _ cd hpc).callF
            obtain ⟨rest', hx⟩ := cb_move_relay f0 p decl c o o' cd hwf h1 h2 hpl m s0 (fun g => hpcF _ (by omega)) st
              bids (cards.map encCard) out team opp extra opened rest
            exact ⟨_, rest', by simp only [encClientActs, encClientAct, erasePlays, cb_recv_beq, cb_send_beq, if_true,
                Option.bind_eq_bind, Option.bind_some, Option.pure_def, List.filter_cons, List.filter_nil, Bool.not_false,
                List.cons_append, List.nil_append],
              wf_observed_play o o' cd _ hwf hpl, hp.tail_s _, hx⟩

/-- the body of the inner loop is one turn of `clientTrickR` (`clientCardR`) -/
theorem cb_card_step (p decl : Seat) (c : Contract) (o o' : Observed) (opened opened' : Bool) (i i' : ClientIn)
    (acts : ClientActs) (N : Nat) (hwf : WF o.base) (h : clientCardR p decl o opened i = some (acts, o', opened', i'))
    (hp : PlayParses N i) (bids out : List Val) (team : Str) (opp : Val) (extra : List (Id × Val)) (rest : Env)
    (f : Nat) (hf : N + 91 ≤ f) :
    ∃ ops rest', encClientActs p acts = some (erasePlays ops) ∧ WF o'.base ∧ PlayParses N i' ∧
      execF (mkRec P f) P
          (penv (cself p i.s bids (i.cards.map encCard) out team opp extra) c decl o opened rest) cpInner
        = .ok (penv (cself p i'.s bids (i'.cards.map encCard) (out ++ ops) team opp extra) c decl o' opened' rest',
            .next) := by
  unfold clientCardR at h
  cases h0 : clientOpenR p decl o opened i with
  | none => simp [h0] at h
  | some x =>
    obtain ⟨acts0, o1, op1, i1⟩ := x
    simp only [h0, Option.bind_eq_bind, Option.bind_some] at h
    obtain ⟨ops0, rest0, e0, er0, hb, hp1, hc1, hx0⟩ := cb_open_step p decl c o o1 opened op1 i i1 acts0 N h0 hp bids
      (i.cards.map encCard) out team opp extra rest f (by omega)
    have hact : o.base.active = o1.base.active := by rw [hb]
    rw [hact] at h
    cases hm : clientMoveR p decl o1.base.active o1 i1 with
    | none => simp [hm] at h
    | some y =>
      obtain ⟨acts1, o2, i2⟩ := y
      simp only [hm, Option.bind_some, Option.pure_def, Option.some.injEq, Prod.mk.injEq] at h
      obtain ⟨rfl, rfl, rfl, rfl⟩ := h
      obtain ⟨ops1, rest1, e1, hwf2, hp2, hx1⟩ := cb_move_step p decl c o1 o2 i1 i2 acts1 N (hb ▸ hwf) hm hp1 bids
        (out ++ ops0) team opp extra op1 rest0 f hf
      refine ⟨ops0 ++ ops1, rest1, ?_, hwf2, hp2, ?_⟩
      · rw [erasePlays_append, er0]
        exact encClientActs_append p _ _ _ _ e0 e1
      · rw [cpInner_eq]
        simp only [execF, hx0, bind_ok]
        rw [← hc1, hx1]
        simp only [bind_ok, pure_eq, List.append_assoc]

/-- THE INNER LOOP: `for _ in …` over `n` items is `clientTrickR … n` -/
theorem cb_trick_loop (p decl : Seat) (c : Contract) (N : Nat) (bids : List Val) (team : Str) (opp : Val)
    (extra : List (Id × Val)) :
    ∀ (n : Nat) (items : List Val) (o o' : Observed) (opened opened' : Bool) (i i' : ClientIn) (acts : ClientActs)
      (out : List Val) (rest : Env) (f : Nat), items.length = n → WF o.base →
      clientTrickR p decl n o opened i = some (acts, o', opened', i') → PlayParses N i → N + 92 ≤ f →
      ∃ ops rest', encClientActs p acts = some (erasePlays ops) ∧ WF o'.base ∧ PlayParses N i' ∧
        forF (mkRec P f) [n__] cpInner
            (penv (cself p i.s bids (i.cards.map encCard) out team opp extra) c decl o opened rest) items
          = .ok (penv (cself p i'.s bids (i'.cards.map encCard) (out ++ ops) team opp extra) c decl o' opened' rest',
              .next) := by
  intro n
  induction n with
  | zero =>
    intro items o o' opened opened' i i' acts out rest f hl hwf h hp hf
    have : items = [] := List.length_eq_zero_iff.mp hl
    subst this
    simp only [clientTrickR, Option.some.injEq, Prod.mk.injEq] at h
    obtain ⟨rfl, rfl, rfl, rfl⟩ := h
    exact ⟨[], rest, rfl, hwf, hp, by simp only [forF, pure_eq, List.append_nil]⟩
  | succ n ih =>
    intro items o o' opened opened' i i' acts out rest f hl hwf h hp hf
    cases items with
    | nil => simp at hl
    | cons it items =>
      rw [clientTrickR_succ] at h
      cases hc : clientCardR p decl o opened i with
      | none => simp [hc] at h
      | some x =>
        obtain ⟨acts1, o1, op1, i1⟩ := x
        simp only [hc, Option.bind_eq_bind, Option.bind_some] at h
        cases ht : clientTrickR p decl n o1 op1 i1 with
        | none => simp [ht] at h
        | some y =>
          obtain ⟨acts2, o2, op2, i2⟩ := y
          simp only [ht, Option.bind_some, Option.pure_def, Option.some.injEq, Prod.mk.injEq] at h
          obtain ⟨rfl, rfl, rfl, rfl⟩ := h
          obtain ⟨f0, rfl⟩ : ∃ f0, f = f0 + 1 := ⟨f - 1, by omega⟩
          obtain ⟨ops1, rest1, e1, hwf1, hp1, hx1⟩ := cb_card_step p decl c o o1 opened op1 i i1 acts1 N hwf hc hp bids out
            team opp extra (update rest n__ it) f0 (by omega)
          obtain ⟨ops2, rest2, e2, hwf2, hp2, hx2⟩ := ih items o1 o2 op1 op2 i1 i2 acts2 (out ++ ops1) rest1 (f0+1)
            (by simpa using hl) hwf1 ht hp1 hf
          refine ⟨ops1 ++ ops2, rest2, ?_, hwf2, hp2, ?_⟩
          · rw [erasePlays_append]
            exact encClientActs_append p _ _ _ _ e1 e2
          · simp only [forF, pure_eq, bind_ok, exec_succ, cb_update_us, hx1, hx2, List.append_assoc]

/-- the first statement of the outer loop's body is `clientLeadR` -/
theorem cb_lead_step (p decl : Seat) (c : Contract) (o : Observed) (opened : Bool) (i i1 : ClientIn)
    (acts : ClientActs) (N : Nat) (h : clientLeadR p decl o i = some (acts, i1)) (hp : PlayParses N i)
    (bids plays out : List Val) (team : Str) (opp : Val) (extra : List (Id × Val)) (rest : Env) (f : Nat)
    (hf : N + 71 ≤ f) :
    ∃ ops rest', encClientActs p acts = some ops ∧ erasePlays ops = ops ∧ PlayParses N i1 ∧ i1.cards = i.cards ∧
      execStmtF (mkRec P f) P (penv (cself p i.s bids plays out team opp extra) c decl o opened rest) cpLead
        = .ok (penv (cself p i1.s bids plays (out ++ ops) team opp extra) c decl o opened rest', .next) := by
  obtain ⟨f0, rfl⟩ : ∃ f0, f = f0 + 70 := ⟨f - 70, by omega⟩
  unfold clientLeadR at h
  by_cases hc : (o.base.active = p ∧ p ≠ decl.partner) ∨ (o.base.active = decl.partner ∧ p = decl)
  · rw [if_pos hc] at h
    obtain ⟨st, calls, cards⟩ := i
    cases st with
    | nil => simp [ClientIn.recv] at h
    | cons m st =>
      simp only [ClientIn.recv, Option.bind_eq_bind, Option.bind_some] at h
      cases hl : parseLeader? m decl.partner with
      | none => simp [hl] at h
      | some l =>
        simp only [hl, Option.bind_some] at h
        by_cases hla : l = o.base.active
        · rw [if_pos hla] at h
          simp only [Option.pure_def, Option.some.injEq, Prod.mk.injEq] at h
          obtain ⟨rfl, rfl⟩ := h
          subst hla
          obtain ⟨s0, hplF⟩ := (hp.leader m (List.mem_cons_self ..) _ _ hl).callF
          obtain ⟨rest', hx⟩ := cb_lead_recv f0 p decl c o opened hc m s0 (fun g => hplF _ (by omega)) st bids plays out
            team opp extra rest
          exact ⟨_, rest', by simp [encClientActs, encClientAct], by simp [erasePlays, cb_recv_beq], hp.tail_s _, rfl,
            hx⟩
        · rw [if_neg hla] at h; cases h
  · rw [if_neg hc] at h
    simp only [Option.pure_def, Option.some.injEq, Prod.mk.injEq] at h
    obtain ⟨rfl, rfl⟩ := h
    have h1 : ¬ (o.base.active = p ∧ p ≠ decl.partner) := fun hh => hc (Or.inl hh)
    have h2 : ¬ (o.base.active = decl.partner ∧ p = decl) := fun hh => hc (Or.inr hh)
    exact ⟨[], rest, rfl, rfl, hp, rfl, by
      simpa using cb_lead_skip f0 p decl c o opened h1 h2 i.s bids plays out team opp extra rest⟩

/-- THE LOOP INVARIANT of `playing_phase`: entered with the replica `encObserved c o` and `hand_open = opened` on the
streams of `i`, the loop ends with the replica `clientPlayingR` ends with, on the streams it leaves -/
theorem cb_playing_loop (p decl : Seat) (c : Contract) (N : Nat) (bids : List Val) (team : Str) (opp : Val)
    (extra : List (Id × Val)) :
    ∀ (n : Nat) (o o' : Observed) (opened : Bool) (i i' : ClientIn) (acts : ClientActs) (out : List Val) (rest : Env)
      (f : Nat), WF o.base → clientPlayingR p decl n o opened i = some (acts, o', i') → PlayParses N i →
      n + N + 96 ≤ f →
      ∃ ops opened' rest', encClientActs p acts = some (erasePlays ops) ∧
        (mkRec P f).loop (penv (cself p i.s bids (i.cards.map encCard) out team opp extra) c decl o opened rest)
            cpCond cpBody
          = .ok (penv (cself p i'.s bids (i'.cards.map encCard) (out ++ ops) team opp extra) c decl o' opened' rest',
              .next) := by
  intro n
  induction n with
  | zero => intro o o' opened i i' acts out rest f _ h; simp [clientPlayingR] at h
  | succ n ih =>
    intro o o' opened i i' acts out rest f hwf h hp hf
    rw [clientPlayingR_succ] at h
    obtain ⟨g, rfl⟩ : ∃ g, f = g + 15 := ⟨f - 15, by omega⟩
    cases hd : o.base.hasDone with
    | true =>
      rw [hd] at h
      simp only [if_true, Option.some.injEq, Prod.mk.injEq] at h
      obtain ⟨rfl, rfl, rfl⟩ := h
      refine ⟨[], opened, rest, rfl, ?_⟩
      rw [loop_succ]
      simp only [loopF, cb_cond, bind_ok, hd, Bool.not_true, truthy, pure_eq, List.append_nil]
      rfl
    | false =>
      rw [hd] at h
      simp only [Bool.false_eq_true, if_false] at h
      cases hl : clientLeadR p decl o i with
      | none => simp [hl] at h
      | some x =>
        obtain ⟨acts0, i1⟩ := x
        simp only [hl, Option.bind_eq_bind, Option.bind_some] at h
        cases ht : clientTrickR p decl 4 o opened i1 with
        | none => simp [ht] at h
        | some y =>
          obtain ⟨acts1, o2, op2, i2⟩ := y
          simp only [ht, Option.bind_some] at h
          cases hr : clientPlayingR p decl n o2 op2 i2 with
          | none => simp [hr] at h
          | some z =>
            obtain ⟨acts2, o3, i3⟩ := z
            simp only [hr, Option.bind_some, Option.pure_def, Option.some.injEq, Prod.mk.injEq] at h
            obtain ⟨rfl, rfl, rfl⟩ := h
            obtain ⟨ops0, rest0, e0, er0, hp1, hc1, hx0⟩ := cb_lead_step p decl c o opened i i1 acts0 N hl hp bids
              (i.cards.map encCard) out team opp extra rest (g+13) (by omega)
            rw [← hc1] at hx0
            obtain ⟨ops1, rest1, e1, hwf2, hp2, hx1⟩ := cb_trick_loop p decl c N bids team opp extra 4
              [.int 0, .int 1, .int 2, .int 3] o o2 opened op2 i1 i2 acts1 (out ++ ops0) rest0 (g+13) rfl hwf ht hp1
              (by omega)
            obtain ⟨ops2, op3, rest2, e2, hx2⟩ := ih o2 o3 op2 i2 i3 acts2 (out ++ ops0 ++ ops1) rest1 (g+14) hwf2 hr hp2
              (by omega)
            refine ⟨ops0 ++ ops1 ++ ops2, op3, rest2, ?_, ?_⟩
            · rw [erasePlays_append, erasePlays_append, er0]
              exact encClientActs_append p _ _ _ _ (encClientActs_append p _ _ _ _ e0 e1) e2
            · rw [← hc1, loop_succ]
              simp only [loopF, cb_cond, bind_ok, hd, Bool.not_false, truthy, if_true, exec_succ, cpBody_eq, execF, hx0,
                cb_for_stmt, hx1, pure_eq, List.append_assoc]
              rw [← cpBody_eq]
              simp only [List.append_assoc] at hx2
              exact hx2

end Bridge.Translated.ClientB
