import BridgeVerif.Translated.ThreadsSeatBWorld
/-! `_playing_phase`: the reactive model `seatTrickR` cut into the pieces the code is made of (one card = main part +
rotation / opening of dummy), the hypothesis "every `ready` message consumed passes its check" with an executable, sound
test for it, the rendering of actions -/
namespace Bridge.Translated.SeatB
open Bridge Bridge.Py Bridge.Generated.PyCore

/-! ## one card of `seatTrickR` -/

/-- the first half of the loop body: who plays / relays the card -/
def cardMainR (p declarer : Seat) (idx : Nat) (active : Seat) (i : SeatIn) : Option (SeatActs × SeatIn) :=
  if p = active ∧ p ≠ declarer.partner then do
    let (card, i) ← i.getC
    pure ((if idx = 0 then [Act.send (.s2c p) (p.formal ++ " to lead".toList)] else []) ++
          [.recv (.c2s p), .send (.t2m p) card], i)
  else if p = declarer ∧ active = declarer.partner then do
    let (card, i) ← i.getC
    pure ((if idx = 0 then [Act.send (.s2c p) "Dummy to lead".toList] else []) ++
          [.recv (.c2s p), .send (.t2m p) card], i)
  else do
    let (_, i) ← i.getC
    let (relay, i) ← i.getQ
    pure ([.recv (.c2s p), .recv (.m2t p), .send (.s2c p) relay], i)

/-- the second half: dummy's hand is opened after the first card of the first trick -/
def cardOpenR (p declarer : Seat) (first : Bool) (idx : Nat) (i : SeatIn) : Option (SeatActs × SeatIn) :=
  if first ∧ idx = 0 ∧ p ≠ declarer.partner then do
    let (_, i) ← i.getC
    let (dh, i) ← i.getQ
    pure ([Act.recv (.c2s p), .recv (.m2t p), .send (.s2c p) dh], i)
  else pure ([], i)

theorem seatTrickR_four (p d : Seat) (first : Bool) (a : Seat) (i : SeatIn) : seatTrickR p d first 4 a i = some ([], i) := by
  rw [seatTrickR]

theorem ite_bind {α β} (c : Prop) [Decidable c] (x y : Option α) (f : α → Option β) :
    (if c then x else y) >>= f = if c then x >>= f else y >>= f := by
  split <;> rfl

theorem seatTrickR_lt (p d : Seat) (first : Bool) (idx : Nat) (h : idx < 4) (a : Seat) (i : SeatIn) :
    seatTrickR p d first idx a i = (do
      let (x, i) ← cardMainR p d idx a i
      let (y, i) ← cardOpenR p d first idx i
      let (rest, i) ← seatTrickR p d first (idx + 1) a.left i
      pure (x ++ y ++ rest, i)) := by
  rw [seatTrickR.eq_def]
  split
  · omega
  · rw [if_neg (by omega)]
    -- the model binds the continuation inside each branch of its tests, the right side after them
    simp only [cardMainR, cardOpenR, ite_bind, bind_assoc, pure_bind]

/-! ## the hypothesis: every `ready` message consumed passes `_check_message` -/

/-- the `ready` text awaited while another seat's card is relayed: `<p> ready for <x>'s card to trick <k>` -/
def readyCardText (p declarer active : Seat) (k : Nat) : Str :=
  p.formal ++ " ready for ".toList ++ (if active ≠ declarer.partner then active.formal else "dummy".toList) ++
    "'s card to trick ".toList ++ natStr k

theorem sb_readyCardText (p declarer active : Seat) (k : Nat) : readyCardText p declarer active k =
  p.formal ++ " ready for ".toList ++ (if active ≠ declarer.partner then active.formal else "dummy".toList) ++
    "'s card to trick ".toList ++ natStr k := rfl

/-- `<p> ready for dummy` -/
def readyDummyText (p : Seat) : Str := p.formal ++ " ready for dummy".toList
theorem sb_readyDummyText (p : Seat) : readyDummyText p = p.formal ++ " ready for dummy".toList := rfl

/-- the check of the first half of a card: nothing is checked when the thread's own client plays -/
def mainCheck (p declarer active : Seat) (k : Nat) (i : SeatIn) : Prop :=
  (p = active ∧ p ≠ declarer.partner) ∨ (p = declarer ∧ active = declarer.partner) ∨
  ∀ m r, i.c = m :: r → passesCheck (readyCardText p declarer active k) m

def openCheck (p declarer : Seat) (k idx : Nat) (i : SeatIn) : Prop :=
  k = 1 ∧ idx = 0 ∧ p ≠ declarer.partner → ∀ m r, i.c = m :: r → passesCheck (readyDummyText p) m

/-- every `ready` message consumed by the `n` cards from position `idx` of trick `k` passes `_check_message`
(walks the streams like `seatTrickR`) -/
def trickChecks (p declarer : Seat) (k : Nat) : Nat → Nat → Seat → SeatIn → Prop
  | 0, _, _, _ => True
  | n + 1, idx, active, i =>
    mainCheck p declarer active k i ∧
    ∀ x i1, cardMainR p declarer idx active i = some (x, i1) →
      openCheck p declarer k idx i1 ∧
      ∀ y i2, cardOpenR p declarer (decide (k = 1)) idx i1 = some (y, i2) →
        trickChecks p declarer k n (idx + 1) active.left i2

/-- … by the tricks `k, k+1, …` (`n` of them), like `seatPlayingR.tricks` -/
def tricksChecks (p declarer : Seat) : Nat → Nat → SeatIn → Prop
  | 0, _, _ => True
  | n + 1, k, i => ∀ ln i1 leader, i.getQ = some (ln, i1) → seatOfFormal? ln = some leader →
      trickChecks p declarer k 4 0 leader i1 ∧
      ∀ t i2, seatTrickR p declarer (decide (k = 1)) 0 leader i1 = some (t, i2) → tricksChecks p declarer n (k + 1) i2

/-- … by the whole `_playing_phase`, like `seatPlayingR` -/
def playingChecks (p : Seat) (i : SeatIn) : Prop :=
  ∀ dn i1 declarer, i.getQ = some (dn, i1) → seatOfFormal? dn = some declarer → tricksChecks p declarer 13 1 i1

/-! ## rendering of actions -/
theorem encSeatActs_append (p : Seat) (a b : SeatActs) (x y : List Val)
    (ha : encSeatActs p a = some x) (hb : encSeatActs p b = some y) : encSeatActs p (a ++ b) = some (x ++ y) := by
  induction a generalizing x with
  | nil => cases ha; simpa using hb
  | cons c r ih =>
    simp only [encSeatActs, Option.bind_eq_bind, Option.pure_def] at ha
    cases hc : encSeatAct p c with
    | none => rw [hc] at ha; cases ha
    | some u =>
      rw [hc] at ha
      cases hr : encSeatActs p r with
      | none => rw [hr] at ha; cases ha
      | some v =>
        rw [hr] at ha
        cases ha
        simp only [List.cons_append, encSeatActs, hc, ih v hr, Option.bind_eq_bind, Option.pure_def, Option.bind_some,
          List.append_assoc]

/-! ## `playingChecks` & co. as executable tests (sound), so that closed instances can be decided by evaluation -/

def passesB (e m : Str) : Bool := ((Re.pyFullmatch true (checkPattern e) m).bind id).isSome

theorem passesB_sound {e m : Str} (h : passesB e m = true) : passesCheck e m := by
  unfold passesCheck
  unfold passesB at h
  cases hx : Re.pyFullmatch true (checkPattern e) m with
  | none => rw [hx] at h; cases h
  | some o => cases o with
    | none => rw [hx] at h; cases h
    | some mo => exact ⟨mo, rfl⟩

def headPasses (e : Str) : List Text → Bool
  | m :: _ => passesB e m
  | [] => true

theorem headPasses_sound {e : Str} {l : List Text} (h : headPasses e l = true) :
    ∀ m r, l = m :: r → passesCheck e m := by
  intro m r hl
  subst hl
  exact passesB_sound h

def mainCheckB (p declarer active : Seat) (k : Nat) (i : SeatIn) : Bool :=
  decide (p = active ∧ p ≠ declarer.partner) || decide (p = declarer ∧ active = declarer.partner) ||
    headPasses (readyCardText p declarer active k) i.c

theorem mainCheckB_sound {p declarer active : Seat} {k : Nat} {i : SeatIn}
    (h : mainCheckB p declarer active k i = true) : mainCheck p declarer active k i := by
  unfold mainCheckB at h
  simp only [Bool.or_eq_true, decide_eq_true_eq] at h
  rcases h with (h | h) | h
  · exact Or.inl h
  · exact Or.inr (Or.inl h)
  · exact Or.inr (Or.inr (headPasses_sound h))

def openCheckB (p declarer : Seat) (k idx : Nat) (i : SeatIn) : Bool :=
  !(decide (k = 1 ∧ idx = 0 ∧ p ≠ declarer.partner)) || headPasses (readyDummyText p) i.c

theorem openCheckB_sound {p declarer : Seat} {k idx : Nat} {i : SeatIn}
    (h : openCheckB p declarer k idx i = true) : openCheck p declarer k idx i := by
  unfold openCheckB at h
  intro hc
  simp only [Bool.or_eq_true, Bool.not_eq_true', decide_eq_false_iff_not] at h
  rcases h with h | h
  · exact absurd hc h
  · exact headPasses_sound h

def trickChecksB (p declarer : Seat) (k : Nat) : Nat → Nat → Seat → SeatIn → Bool
  | 0, _, _, _ => true
  | n + 1, idx, active, i =>
    mainCheckB p declarer active k i &&
    (match cardMainR p declarer idx active i with
     | none => true
     | some (_, i1) =>
       openCheckB p declarer k idx i1 &&
       (match cardOpenR p declarer (decide (k = 1)) idx i1 with
        | none => true
        | some (_, i2) => trickChecksB p declarer k n (idx + 1) active.left i2))

theorem trickChecksB_sound (p declarer : Seat) (k : Nat) : ∀ (n idx : Nat) (active : Seat) (i : SeatIn),
    trickChecksB p declarer k n idx active i = true → trickChecks p declarer k n idx active i := by
  intro n
  induction n with
  | zero => intros; trivial
  | succ n ih =>
    intro idx active i h
    simp only [trickChecksB, Bool.and_eq_true] at h
    obtain ⟨h1, h2⟩ := h
    refine ⟨mainCheckB_sound h1, fun x i1 hm => ?_⟩
    rw [hm] at h2
    simp only [Bool.and_eq_true] at h2
    obtain ⟨h3, h4⟩ := h2
    refine ⟨openCheckB_sound h3, fun y i2 ho => ?_⟩
    rw [ho] at h4
    exact ih _ _ _ h4

def tricksChecksB (p declarer : Seat) : Nat → Nat → SeatIn → Bool
  | 0, _, _ => true
  | n + 1, k, i =>
    match i.getQ with
    | none => true
    | some (ln, i1) =>
      match seatOfFormal? ln with
      | none => true
      | some leader =>
        trickChecksB p declarer k 4 0 leader i1 &&
        (match seatTrickR p declarer (decide (k = 1)) 0 leader i1 with
         | none => true
         | some (_, i2) => tricksChecksB p declarer n (k + 1) i2)

theorem tricksChecksB_sound (p declarer : Seat) : ∀ (n k : Nat) (i : SeatIn),
    tricksChecksB p declarer n k i = true → tricksChecks p declarer n k i := by
  intro n
  induction n with
  | zero => intros; trivial
  | succ n ih =>
    intro k i h ln i1 leader hq hl
    simp only [tricksChecksB, hq, hl, Bool.and_eq_true] at h
    obtain ⟨h1, h2⟩ := h
    refine ⟨trickChecksB_sound p declarer k _ _ _ _ h1, fun t i2 ht => ?_⟩
    rw [ht] at h2
    exact ih _ _ h2

def playingChecksB (p : Seat) (i : SeatIn) : Bool :=
  match i.getQ with
  | none => true
  | some (dn, i1) =>
    match seatOfFormal? dn with
    | none => true
    | some declarer => tricksChecksB p declarer 13 1 i1

theorem playingChecksB_sound {p : Seat} {i : SeatIn} (h : playingChecksB p i = true) : playingChecks p i := by
  intro dn i1 declarer hq hd
  simp only [playingChecksB, hq, hd] at h
  exact tricksChecksB_sound p declarer _ _ _ h

end Bridge.Translated.SeatB
