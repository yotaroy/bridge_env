import BridgeVerif.Translated.AuctionLemmasB
import BridgeVerif.Model.Play
/-! Translated playing phases = model: encoders of the model states, `Val.beq` on encoded values, the containers
(trick cards, used cards, hands, taken tricks) -/
namespace Bridge.Translated
open Bridge Bridge.Py Bridge.Generated.PyCore

/-! ## encoding of the model states -/

/-- a `TrickHistory` instance -/
def encTrick (t : Trick) : Val :=
  .obj n_TrickHistory [(n_leader, encSeat t.leader), (n_cards, .tuple (t.cards.map encCard))]

/-- a set / list / tuple of cards (sets in insertion order) -/
def encCards (l : List Card) : Val := .tuple (l.map encCard)

/-- the `PlayingHistory` instance (the model keeps the tricks newest first, Python appends) -/
def encHistory (c : Contract) (h : List Trick) : Val :=
  .obj n_PlayingHistory [(n__history, .tuple (h.reverse.map encTrick)), (n__contract, encContract c)]

def takenKvs (ns ew : Nat) : List (Val × Val) := [(encSide .NS, .int ns), (encSide .EW, .int ew)]

/-- the attributes `PlayingPhase.__init__` assigns, in its order -/
def baseFields (c : Contract) (s : PState) : List (Id × Val) :=
  [(n_contract, encContract c), (n_trump, encSuit s.trump), (n_declarer, encSeat s.declarer), (n_dummy, encSeat s.dummy),
   (n_leader, encSeat s.leader), (n_active_player, encSeat s.active), (n__trick_cards, encCards s.trick),
   (n_trick_num, .int s.trickNum), (n_playing_history, encHistory c s.history),
   (n_used_cards, encCards s.used.reverse), (n_taken_tricks, .dict (takenKvs s.takenNS s.takenEW))]

/-- an instance of class `k` (PlayingPhase or a subclass) with further attributes `ex` after the inherited ones -/
def ppObj (k : Id) (c : Contract) (s : PState) (ex : List (Id × Val)) : Val := .obj k (baseFields c s ++ ex)

/-- the `PlayingPhase` instance as the interpreter holds it -/
def encPState (c : Contract) (s : PState) : Val := .obj n_PlayingPhase (baseFields c s)

def handsKvs (h : Seat → List Card) : List (Val × Val) :=
  [(encSeat .N, encCards (h .N)), (encSeat .E, encCards (h .E)), (encSeat .S, encCards (h .S)), (encSeat .W, encCards (h .W))]

/-- the `PlayingPhaseWithHands` instance (`hands`: a dictionary seat ↦ cards) -/
def encWithHands (c : Contract) (w : WithHands) : Val :=
  .obj n_PlayingPhaseWithHands (baseFields c w.base ++ [(n_hands, .dict (handsKvs w.hands))])

/-- the `ObservedPlayingPhase` instance -/
def encObserved (c : Contract) (o : Observed) : Val :=
  .obj n_ObservedPlayingPhase (baseFields c o.base ++
    [(n__player, encSeat o.me), (n__hand, encCards o.hand), (n__dummy_hand, encOpt encCards o.dummyHand)])

/-! ## `Val.beq` on encoded values -/

theorem suit_value_inj (a b : Suit) : a.value = b.value ↔ a = b := by cases a <;> cases b <;> decide
theorem seat_value_inj (a b : Seat) : a.value = b.value ↔ a = b := by cases a <;> cases b <;> decide

theorem beq_encSuit (a b : Suit) : (encSuit a).beq (encSuit b) = decide (a = b) := by
  simp only [encSuit, Val.beq, beq_self_eq_true, Bool.true_and]
  rw [Bool.eq_iff_iff]; simp only [beq_iff_eq, decide_eq_true_eq, Int.natCast_inj, suit_value_inj]
theorem beq_encSeat (a b : Seat) : (encSeat a).beq (encSeat b) = decide (a = b) := by
  simp only [encSeat, Val.beq, beq_self_eq_true, Bool.true_and]
  rw [Bool.eq_iff_iff]; simp only [beq_iff_eq, decide_eq_true_eq, Int.natCast_inj, seat_value_inj]

theorem beq_encCard (a b : Card) : (encCard a).beq (encCard b) = decide (a = b) := by
  obtain ⟨ra, sa⟩ := a; obtain ⟨rb, sb⟩ := b
  simp only [encCard, Val.beq, beqF, beq_self_eq_true, Bool.true_and, Bool.and_true, beq_encSuit]
  rw [Bool.eq_iff_iff]; simp only [Bool.and_eq_true, beq_iff_eq, decide_eq_true_eq, Int.natCast_inj, Card.mk.injEq]

theorem beq_encCard_none (a : Card) : (encCard a).beq .none = false := by simp only [encCard, Val.beq]
theorem beq_encCards_none (l : List Card) : (encCards l).beq .none = false := by simp only [encCards, Val.beq]

theorem contains_encCard (l : List Card) (c : Card) : containsVal (l.map encCard) (encCard c) = decide (c ∈ l) := by
  induction l with
  | nil => simp [containsVal]
  | cons a l ih =>
    simp only [containsVal, List.map_cons, List.any_cons, beq_encCard] at ih ⊢
    rw [ih, Bool.eq_iff_iff]
    simp only [Bool.or_eq_true, decide_eq_true_eq, List.mem_cons, @eq_comm _ a c]

theorem removeFirst_encCard (l : List Card) (c : Card) :
    removeFirst (l.map encCard) (encCard c) = if c ∈ l then some ((l.erase c).map encCard) else none := by
  induction l with
  | nil => simp [removeFirst]
  | cons a l ih =>
    simp only [List.map_cons, removeFirst, beq_encCard, ih]
    by_cases h : a = c
    · subst h; simp
    · have h' : ¬ c = a := fun e => h e.symm
      simp only [h, decide_false, Bool.false_eq_true, if_false, List.mem_cons, h', false_or]
      rw [List.erase_cons_tail (by simpa using h)]
      by_cases hm : c ∈ l <;> simp [hm]

/-! ## the dictionaries -/
theorem lookup_taken (ns ew : Nat) (sd : Side) :
    lookupD (takenKvs ns ew) (encSide sd) = some (.int (match sd with | .NS => ns | .EW => ew)) := by
  cases sd <;> simp [lookupD, takenKvs, encSide, Val.beq, Side.value]
theorem update_taken (ns ew : Nat) (sd : Side) (n : Nat) :
    updateD (takenKvs ns ew) (encSide sd) (.int n)
      = (match sd with | .NS => takenKvs n ew | .EW => takenKvs ns n) := by
  cases sd <;> simp [updateD, takenKvs, encSide, Val.beq, Side.value]

theorem lookup_hands (h : Seat → List Card) (p : Seat) : lookupD (handsKvs h) (encSeat p) = some (encCards (h p)) := by
  cases p <;> simp [lookupD, handsKvs, encSeat, Val.beq, Seat.value]
theorem update_hands (h : Seat → List Card) (p : Seat) (l : List Card) :
    updateD (handsKvs h) (encSeat p) (encCards l) = handsKvs (fun q => if q = p then l else h q) := by
  cases p <;> simp [updateD, handsKvs, encSeat, Val.beq, Seat.value]

/-! ## seats -/
theorem rot_succ' (p : Seat) (n : Nat) : p.rot (n + 1) = p.left.rot n := by
  induction n with
  | zero => rfl
  | succ n ih => rw [Seat.rot, ih]; rfl

theorem getAttr_partner (f : Nat) (p : Seat) :
    getAttrF (mkRec P (f+12)) P (encSeat p) n_partner = .ok (encSeat p.partner) := by
  cases p <;> rfl

end Bridge.Translated
