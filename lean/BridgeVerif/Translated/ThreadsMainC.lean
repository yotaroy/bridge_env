import BridgeVerif.Translated.ThreadsMainCLemmasParse
/-!
# The TRANSLATED `MainThread.run` (Generated/PyCoreThreads.lean) IS the reactive model of Model/MainThread.lean and
Model/Admission.lean

`MainThread` is `Server` after `harness/desugar_threads.py`; the MiniPy interpreter is executed SYMBOLICALLY on the
generated body `m_MainThread_run` inside the whole translated program `P`.  Helper lemmas:
Translated/ThreadsMainCLemmas*.lean.

* (0) `main_deal_translated_dict` — `deal` for the cards given as `.dict (handsKvs deal)`.
* (1) `main_board_translated` — ONE iteration of `for board_number in range(1, max_board_num)` (`mcBoardBody`) is
  `mainBoardR`; `encRecord` is the dict handed to `w_emit('write', {…})`; the score is the translated `calc_score` run
  INSIDE `P` (ThreadsMainCLemmasS.lean, from Translated/CalcScore.lean: `P` extends the base program) = the model's `calcScore`.
* (2) `main_boards_translated` — the whole `for` loop, `emit close`, the `End of session` puts, the `join`s = `mainBoardsR`.
* (3) `main_accept_loop_translated` — the accept loop = `Admission.acceptLoopR` / `acceptRound`.
* `main_run_translated` — the whole method = admission, then `mainReactive`.
-/
set_option linter.unusedSimpArgs false
namespace Bridge.Translated.MainC
open Bridge Bridge.Py Bridge.Generated.PyCore Bridge.Translated.MainA Bridge.Translated.MainB Bridge.Translated.SeatB
open Bridge.Admission

/-! ## (0) `deal`, the cards given as the dictionary seat ↦ cards -/

/-- THE TRANSLATED `Server.deal` IS `mainDealR`, for the deal handed over as `.dict (handsKvs cards)` -/
theorem main_deal_translated_dict (encRec : BoardRecord → Val) (k : Nat) (dealer : Seat) (vul : Vul) (cards : Hands)
    (b : BoardSetting) (hd : b.dealer = dealer) (hv : b.vul = vul) (hc : b.deal = cards)
    (hok : ∀ p, ∀ c ∈ cards p, 2 ≤ c.rank ∧ c.rank ≤ 14)
    (i : MainIn) (out : List Val) (table : Val) (tables : List Val) (more : List (Val × Val)) (bs : Val)
    (f : Nat) (hf : 61 ≤ f) :
    ∃ ops, encMainActs encRec (mainDealR k b) = some ops ∧
      callFn P f m_MainThread_deal
          [encMainThread (encMainWorld i out table tables more) bs, .int k, encSeat dealer, encVul vul,
            .dict (handsKvs cards), .none]
        = .ok (.none, encMainThread (encMainWorld i (out ++ ops)
                (advTable (advTable table tables).1 (advTable table tables).2).1
                (advTable (advTable table tables).1 (advTable table tables).2).2 more) bs) := by
  obtain ⟨g, rfl⟩ : ∃ g, f = g + 61 := ⟨f - 61, by omega⟩
  subst hd; subst hv; subst hc
  exact ⟨dealOps k b, main_deal_ops encRec k b, mc_deal_call g k b hok (mainIns i more) out table tables false bs⟩

/-- non-vacuity: the partial deal of ThreadsMainA.lean, as a dictionary -/
example : ∃ ops, encMainActs (fun _ => .none) (mainDealR 7 exBoard) = some ops ∧
    callFn P 100 m_MainThread_deal
        [encMainThread (encMainWorld (fun _ => []) [] (.dict []) [.int 1, .int 2, .int 3] []) .none, .int 7, encSeat .E, encVul .ns,
          .dict (handsKvs exBoard.deal), .none]
      = .ok (.none, encMainThread (encMainWorld (fun _ => []) ([] ++ ops) (.int 2) [.int 3] []) .none) :=
  main_deal_translated_dict (fun _ => .none) 7 .E .ns exBoard.deal exBoard rfl rfl rfl ex_ok_board
    (fun _ => []) [] (.dict []) [.int 1, .int 2, .int 3] [] .none 100 (by decide)

example : ∃ ops, encMainActs (fun _ => .none) (mainDealR 7 exBoard) = some ops ∧
    callFn P 100 m_MainThread_deal
        [encMainThread (encMainWorld (fun _ => []) [] (.dict []) [.int 1, .int 2, .int 3] []) .none, .int 7, encSeat .E, encVul .ns,
          .dict (handsKvs exBoard.deal), .none]
      = .ok (.none, encMainThread (encMainWorld (fun _ => []) ([] ++ ops) (.int 2) [.int 3] []) .none) :=
  main_deal_translated_dict (fun _ => .none) 7 .E .ns exBoard.deal exBoard rfl rfl rfl ex_ok_board
    (fun _ => []) [] (.dict []) [.int 1, .int 2, .int 3] [] .none 100 (by decide)

/-! ## (1) one iteration of the board loop -/

/-- ONE ITERATION OF `for board_number in range(1, max_board_num)` IS `mainBoardR` (see `mc_board`,
ThreadsMainCLemmasBoard.lean, for the commented statement): the body `mcBoardBody` (extracted from `m_MainThread_run.body`)
for the board `b = board_settings[k-1]`, board number `k` of `n` (`max_board_num = n + 1`) performs `opsS`, where
`stripSleep opsS ++ lastOps (k = n)` is `encMainActs encRecord acts`; `break` on the last board, the four `next board`
puts otherwise. -/
theorem main_board_translated (sc : Scenario) (F k n : Nat) (b : BoardSetting) (i i' : MainIn) (acts : MainActs)
    (hm : mainBoardR sc k (decide (k = n)) b i = some (acts, i'))
    (hparse : BoardParses F b i)
    (hok : ∀ p, ∀ c ∈ b.deal p, 2 ≤ c.rank ∧ c.rank ≤ 14)
    (boards : List BoardSetting) (h1 : 1 ≤ k) (hb : boards[k-1]? = some b) (more : List (Val × Val)) :
    ∃ opsS, encMainActs encRecord acts = some (stripSleep opsS ++ lastOps (k = n)) ∧
      ∀ (env : Env) (out : List Val) (table : Val) (tables : List Val),
      lookup env K.self
        = some (encMainThread (encMainWorld i out table tables more) (.tuple (boards.map encBoardSetting))) →
      lookup env n_board_number = some (.int k) →
      lookup env n_max_board_num = some (.int ((n : Int) + 1)) →
      lookup env n_ns_team_name = some (.str sc.nsName) →
      lookup env n_ew_team_name = some (.str sc.ewName) →
      ∀ f, F + 700 ≤ f → ∃ env', exec P f env mcBoardBody = .ok (env', if k = n then .brk else .next) ∧
        lookup env' K.self = some (encMainThread (encMainWorld i' (out ++ opsS) (tableAfterDeal table tables).1
          (tableAfterDeal table tables).2 more) (.tuple (boards.map encBoardSetting))) ∧
        Frame boardVars env env' :=
  mc_board sc F k n b i i' acts hm hparse hok boards h1 hb more

/-- the body IS the body of the `for` statement of the generated `run` -/
example : m_MainThread_run.body.getD 14 .pass
    = .for [n_board_number] (.builtin .range [.const (.int 1), .var n_max_board_num]) mcBoardBody := rfl


/-! non-vacuity of (1) -/
def exBoards : List BoardSetting := [exBoard, exPlayBoard]

/-- the environment at the first board of two (a PASSED-OUT board), the table with three later snapshots -/
def exPassEnv : Env :=
  [(K.self, encMainThread (encMainWorld exPassIn [] (.int 0) [.int 1, .int 2, .int 3] []) (.tuple (exBoards.map encBoardSetting))),
   (n_max_board_num, .int 3), (n_ns_team_name, .str "NS".toList), (n_ew_team_name, .str "EW".toList), (n_board_number, .int 1)]

/-- a passed-out board that is not the last: the model performs 57 actions and leaves `kept` in North's queue; the body
runs to its end (no `break`), the table has advanced twice -/
example : ∃ acts i' opsS env', mainBoardR exSc 1 (decide (1 = 2)) exBoard exPassIn = some (acts, i') ∧
    acts.length = 57 ∧ i' .N = ["kept".toList] ∧
    encMainActs encRecord acts = some (stripSleep opsS ++ lastOps (1 = 2)) ∧
    exec P 1000 exPassEnv mcBoardBody = .ok (env', .next) ∧
    lookup env' K.self = some (encMainThread (encMainWorld i' ([] ++ opsS) (.int 2) [.int 3] [])
      (.tuple (exBoards.map encBoardSetting))) := by
  have hc := ex_pass_run
  obtain ⟨⟨acts, i'⟩, hm⟩ := Option.isSome_iff_exists.1 ex_pass_model
  rw [hm] at hc
  simp only [Option.map_some, Option.some.injEq, Prod.mk.injEq] at hc
  obtain ⟨opsS, hops, hrun⟩ := main_board_translated exSc 40 1 2 exBoard exPassIn i' acts hm ex_pass_parses ex_ok_board
    exBoards (by decide) rfl []
  obtain ⟨env', he, hs, _⟩ := hrun exPassEnv [] (.int 0) [.int 1, .int 2, .int 3] rfl rfl rfl rfl rfl 1000 (by decide)
  exact ⟨acts, i', opsS, env', hm, hc.1, hc.2, hops, he, hs⟩

/-- the same body evaluated by the kernel: 55 operations, the 51st is the `emit write` of the record -/
example : (match exec P 1000 exPassEnv mcBoardBody with
    | .ok (env', .next) => (match lookup env' K.self with
      | some (.obj _ [(_, .obj _ [_, (_, .tuple out), (_, t), _, _]), _]) =>
        out.length == 55 && t.beq (.int 2) &&
        (match out.getD 50 .none with | .tuple [a, b, .dict kvs] => a.beq (vstr "emit") && b.beq (vstr "write") && kvs.length == 14 | _ => false)
      | _ => false)
    | _ => false) = true := by decide +kernel

/-- the environment at the last board (a PLAYED board: 1NT by South, thirteen tricks) -/
def exPlayEnv : Env :=
  [(K.self, encMainThread (encMainWorld exPlayIn [] (.int 0) [] []) (.tuple (exBoards.map encBoardSetting))),
   (n_max_board_num, .int 3), (n_ns_team_name, .str "NS".toList), (n_ew_team_name, .str "EW".toList), (n_board_number, .int 2)]

/-- a played board that is the last: the model performs 325 actions (the last six are `emit write`, `emit close` and the
four `End of session` puts, of which the body performs the first; the others are `lastOps`), `later` stays in North's
queue; the body ends with `break` -/
example : ∃ acts i' opsS env', mainBoardR exSc 2 (decide (2 = 2)) exPlayBoard exPlayIn = some (acts, i') ∧
    acts.length = 325 ∧ i' .N = ["later".toList] ∧
    encMainActs encRecord acts = some (stripSleep opsS ++ lastOps (2 = 2)) ∧
    exec P 1000 exPlayEnv mcBoardBody = .ok (env', .brk) ∧
    lookup env' K.self = some (encMainThread (encMainWorld i' ([] ++ opsS) (.int 0) [] [])
      (.tuple (exBoards.map encBoardSetting))) := by
  have hc : (mainBoardR exSc 2 (decide (2 = 2)) exPlayBoard exPlayIn).map (fun x => (x.1.length, x.2 .N))
      = some (325, ["later".toList]) := by
    rw [show exPlayIn = fun p => exPlayIn p from rfl]
    simp only [exPlayIn, MainB.exIn]
    repeat rw [String.toList_ofList]
    decide +kernel
  cases hm : mainBoardR exSc 2 (decide (2 = 2)) exPlayBoard exPlayIn with
  | none => rw [hm] at hc; cases hc
  | some x =>
    obtain ⟨acts, i'⟩ := x
    rw [hm] at hc
    simp only [Option.map_some, Option.some.injEq, Prod.mk.injEq] at hc
    obtain ⟨opsS, hops, hrun⟩ := main_board_translated exSc 40 2 2 exPlayBoard exPlayIn i' acts hm ex_play_parses
      ex_ok_playBoard exBoards (by decide) rfl []
    obtain ⟨env', he, hs, _⟩ := hrun exPlayEnv [] (.int 0) [] rfl rfl rfl rfl rfl 1000 (by decide)
    exact ⟨acts, i', opsS, env', rfl, hc.1, hc.2, hops, he, hs⟩

/-! ## (2) the whole board loop and what follows it -/

/-- the board loop and the statements after it -/
def mcBoardsPart : List Stmt := m_MainThread_run.body.drop 14

/-- THE WHOLE `for` LOOP, `emit close`, THE `End of session` PUTS AND THE `join`S ARE `mainBoardsR`: on an environment in
which `self` is the thread on the streams `i` with the board settings `boards` (not empty), `max_board_num = len + 1`, the
team names the scenario's, `threads` the list `thr` — when the model runs the boards, the statements run to their end and
have performed `opsS` followed by one `join` per thread, where `stripSleep opsS` is `encMainActs encRecord acts`; the
seat table has advanced twice per board. -/
theorem main_boards_translated (sc : Scenario) (F : Nat) (boards : List BoardSetting) (hne : boards ≠ []) (i : MainIn)
    (acts : MainActs) (hm : mainBoardsR sc 1 boards i = some acts)
    (hparse : BoardsParse sc F 1 boards i)
    (hok : ∀ b ∈ boards, ∀ p, ∀ c ∈ b.deal p, 2 ≤ c.rank ∧ c.rank ≤ 14) (more : List (Val × Val)) :
    ∃ opsS i', encMainActs encRecord acts = some (stripSleep opsS) ∧
      ∀ (env : Env) (out : List Val) (table : Val) (tables : List Val) (thr : List Val),
      lookup env K.self
        = some (encMainThread (encMainWorld i out table tables more) (.tuple (boards.map encBoardSetting))) →
      lookup env n_max_board_num = some (.int ((boards.length : Int) + 1)) →
      lookup env n_ns_team_name = some (.str sc.nsName) →
      lookup env n_ew_team_name = some (.str sc.ewName) →
      lookup env n_threads = some (.tuple thr) →
      ∀ f, F + 710 ≤ f → ∃ env', exec P f env mcBoardsPart = .ok (env', .next) ∧
        lookup env' K.self = some (encMainThread (encMainWorld i' (out ++ opsS ++ thr.map opJoin)
          (advBoards boards.length table tables).1 (advBoards boards.length table tables).2 more)
          (.tuple (boards.map encBoardSetting))) := by
  obtain ⟨ops0, i', hops0, hrun⟩ := mc_boards_for sc F boards.length boards rfl more boards 1 i acts
    hne (Nat.le_refl _) rfl hm hparse hok
  have hlast : stripSleep (lastOps True) = lastOps True :=
    encMainActs_no_sleep encRecord ([.emit LogOp.close] ++ putAll MSG_END) _ rfl
  refine ⟨ops0 ++ lastOps True, i', by rw [hops0, stripSleep_append, hlast], ?_⟩
  intro env out table tables thr hself hmax hns hew hthr f hf
  obtain ⟨g, rfl⟩ : ∃ g, f = g + 34 := ⟨f - 34, by omega⟩
  obtain ⟨e1, h1, hs1, hf1⟩ := hrun env out table tables (g + 30 + 3) hself hmax hns hew (by omega)
  have hthr1 : lookup e1 n_threads = some (.tuple thr) := by rw [hf1 _ (by decide), hthr]
  obtain ⟨e2, h2, hs2⟩ := mc_after_loop (g + 2) e1 i' _ _ _ more _ thr hs1 hthr1
  refine ⟨e2, ?_, ?_⟩
  · show execF (mkRec P (g + 33)) P env (mcBoardLoop :: mcAfterLoop) = _
    have hl : execStmtF (mkRec P (g + 33)) P env mcBoardLoop = .ok (e1, .next) := by
      rw [mc_boardLoop_stmt (g + 30) env boards.length hmax]; exact h1
    rw [execF_cons_next _ hl]; exact h2
  · rw [hs2]; simp only [List.append_assoc]


/-! non-vacuity of (2) -/
/-- the streams of a session of two boards: the four passes of the first board, then the auction and the play of the
second -/
def exRunIn : MainIn := fun p => match p with
  | .N => "North passes".toList :: exPlayIn .N
  | .E => "East passes".toList :: exPlayIn .E
  | .S => "South passes  Alert. ".toList :: exPlayIn .S
  | .W => "West passes".toList :: exPlayIn .W

theorem ex_run_ascii : ∀ p, ∀ m ∈ exRunIn p, MainE.PlainAscii m := by
  intro p m hm
  have h : m ∈ exPlayIn p → MainE.PlainAscii m := ex_play_ascii p m
  cases p <;> rcases List.mem_cons.1 hm with rfl | hm' <;> first | exact h hm' | decide +kernel

theorem ex_run_parses : BoardsParse exSc 40 1 exBoards exRunIn :=
  boardsParse_of_good exSc 40 exBoards 1 exRunIn (MainE.allGood_of_plain_ascii 40 (by decide) _ ex_run_ascii)

theorem ex_run_ok : ∀ b ∈ exBoards, ∀ p, ∀ c ∈ b.deal p, 2 ≤ c.rank ∧ c.rank ≤ 14 := by
  intro b hb
  simp only [exBoards, List.mem_cons, List.mem_nil_iff, or_false] at hb
  rcases hb with rfl | rfl
  · exact ex_ok_board
  · exact ex_ok_playBoard

theorem ex_run_model : (mainBoardsR exSc 1 exBoards exRunIn).map (·.length) = some 382 := by
  rw [show exRunIn = fun p => exRunIn p from rfl]
  simp only [exRunIn, exPlayIn, MainB.exIn]
  repeat rw [String.toList_ofList]
  decide +kernel

/-- the environment when the board loop is reached: one thread to join -/
def exBoardsEnv : Env :=
  [(K.self, encMainThread (encMainWorld exRunIn [] (.int 0) [.int 1, .int 2, .int 3] [])
      (.tuple (exBoards.map encBoardSetting))), (n_max_board_num, .int 3), (n_ns_team_name, .str "NS".toList),
    (n_ew_team_name, .str "EW".toList), (n_threads, .tuple [.int 11])]

/-- two boards (one passed out, one played), one thread to join: the model performs 382 actions -/
example : ∃ acts opsS i' env', mainBoardsR exSc 1 exBoards exRunIn = some acts ∧ acts.length = 382 ∧
    encMainActs encRecord acts = some (stripSleep opsS) ∧
    exec P 1000 exBoardsEnv mcBoardsPart = .ok (env', .next) ∧
    lookup env' K.self = some (encMainThread (encMainWorld i' ([] ++ opsS ++ [opJoin (.int 11)]) (.int 3) [] [])
      (.tuple (exBoards.map encBoardSetting))) := by
  have hc := ex_run_model
  cases hm : mainBoardsR exSc 1 exBoards exRunIn with
  | none => rw [hm] at hc; cases hc
  | some acts =>
    rw [hm] at hc
    simp only [Option.map_some, Option.some.injEq] at hc
    obtain ⟨opsS, i', hops, hrun⟩ := main_boards_translated exSc 40 exBoards (by simp [exBoards]) exRunIn acts hm
      ex_run_parses ex_run_ok []
    obtain ⟨env', he, hs⟩ := hrun exBoardsEnv [] (.int 0) [.int 1, .int 2, .int 3] [.int 11] rfl rfl rfl rfl rfl 1000 (by decide)
    exact ⟨acts, opsS, i', env', rfl, hc, hops, he, hs⟩

/-! ## (3) the accept loop -/

/-- THE ACCEPT LOOP `while not all(name is not None for _, name in table.items())` IS `Admission.acceptLoopR`: when the
model serves the connection attempts `reqs` from the table `t` and ends with a full table (`tf.full`; otherwise the loop
waits in `accept` for ever), and the world answers per served connection `c` with the pair `(c.conn, c.addr)` at
`accept`, the thread `c.thread` at `new_thread`, `c.alive` at `is_alive`, and hands out the model's successive tables
(`acceptSnapshots`) at `w_wait_event` — then the `while` statement runs to its end, main's operations are
`Admission.acceptRound` per served connection (`mops`), rendered by `encMainOp` as
`("accept", None), ("new_thread", conn), ("start", thread), ("event_wait",), ("sleep", 1), ("is_alive", thread),
("event_clear", None)`; the table is the model's final table, `threads` has collected the threads that are alive. -/
theorem main_accept_loop_translated (t : Table) (reqs : List (List Char × List Char)) (opss : List (List Op))
    (mops : List MainOp) (tf : Table) (conns : List Conn)
    (hm : acceptLoopR t reqs = some (opss, mops, tf)) (hfull : tf.full = true) (hlen : conns.length = opss.length)
    (env : Env) (i : Seat → List Str) (out later accR ntR alR : List Val) (rest : List (Val × Val)) (bs : Val)
    (thr : List Val)
    (hself : lookup env K.self = some (encMainThread (encMainWorld i out (encTable t)
      ((acceptSnapshots t reqs).map encTable ++ later)
      (acceptMore (conns.map (fun c => .tuple [c.conn, c.addr]) ++ accR) (conns.map (·.thread) ++ ntR)
        (conns.map (fun c => .bool c.alive) ++ alR) rest)) bs))
    (hthr : lookup env n_threads = some (.tuple thr)) :
    mops = (conns.map fun _ => acceptRound).flatten ∧
    ((conns.flatMap fun c => roundOps c.conn c.thread) = (conns.flatMap fun c => acceptRound.flatMap (encMainOp c))) ∧
    ∀ f, conns.length + 47 ≤ f → ∃ env', exec P f env [mcAcceptWhile] = .ok (env', .next) ∧
      lookup env' K.self = some (encMainThread (encMainWorld i (out ++ conns.flatMap fun c => roundOps c.conn c.thread)
        (encTable tf) later (acceptMore accR ntR alR rest)) bs) ∧
      lookup env' n_threads = some (.tuple (thr ++ (conns.filter (·.alive)).map (·.thread))) ∧
      Frame acceptVars env env' := by
  obtain ⟨hmops, _⟩ := mc_accept_loop reqs t opss mops tf conns env i out later accR ntR alR rest bs thr
    (conns.length + 45) hm hfull hlen hself hthr (Nat.le_refl _)
  refine ⟨hmops, rfl, ?_⟩
  intro f hf
  obtain ⟨g, rfl⟩ : ∃ g, f = g + 2 := ⟨f - 2, by omega⟩
  obtain ⟨_, e1, h1, hs1, ht1, hf1⟩ := mc_accept_loop reqs t opss mops tf conns env i out later accR ntR alR rest bs thr
    g hm hfull hlen hself hthr (by omega)
  refine ⟨e1, ?_, hs1, ht1, hf1⟩
  show execF (mkRec P (g + 1)) P env [mcAcceptWhile] = _
  simp only [execF, mcAcceptWhile_eq, execStmtF, loop_succ, h1, bind_ok, pure_eq]

/-- the loop IS the `while` statement of the generated `run` -/
example : m_MainThread_run.body.getD 4 .pass = .while mcAcceptCond mcAcceptBody := rfl


/-! non-vacuity of (3) -/
/-- six connection attempts: North, East, South under a wrong team name (refused), South, West, and one that is never
served -/
def exReqs : List (List Char × List Char) :=
  [("Connecting \"NS\" as North using protocol version 18".toList, "North ready for teams".toList),
   ("Connecting \"EW\" as East using protocol version 18".toList, "East ready for teams".toList),
   ("Connecting \"XX\" as South using protocol version 18".toList, "South ready for teams".toList),
   ("Connecting \"NS\" as South using protocol version 18".toList, "South ready for teams".toList),
   ("Connecting \"EW\" as West using protocol version 18".toList, "west  ready for teams".toList),
   ("Connecting \"EW\" as West using protocol version 18".toList, "never served".toList)]

/-- what the world answers for the five served connections (the refused one's thread is not alive) -/
def exConns : List Conn :=
  [⟨.int 1, .none, .int 11, true⟩, ⟨.int 2, .none, .int 12, true⟩, ⟨.int 3, .none, .int 13, false⟩,
   ⟨.int 4, .none, .int 14, true⟩, ⟨.int 5, .none, .int 15, true⟩]

def exAccWorld (later : List Val) : Val :=
  encMainWorld (fun _ => []) [] (encTable Table.empty) ((acceptSnapshots Table.empty exReqs).map encTable ++ later)
    (acceptMore (exConns.map (fun c => .tuple [c.conn, c.addr]) ++ []) (exConns.map (·.thread) ++ [])
      (exConns.map (fun c => .bool c.alive) ++ []) [])

/-- one evaluation of the model's accept loop: five rounds, 30 operations, the table full under the two team names -/
theorem ex_acc :
    (acceptLoopR Table.empty exReqs).map (fun x => (x.1.length, x.2.1.length, x.2.2.full)) = some (5, 30, true) ∧
    (acceptLoopR Table.empty exReqs).map (fun x => (x.2.2 .N, x.2.2 .E, x.2.2 .S, x.2.2 .W))
      = some (some "NS".toList, some "EW".toList, some "NS".toList, some "EW".toList) := by
  simp only [exReqs]
  repeat rw [String.toList_ofList]
  decide +kernel
theorem ex_acc_model : (acceptLoopR Table.empty exReqs).map (fun x => (x.1.length, x.2.1.length, x.2.2.full))
    = some (5, 30, true) := ex_acc.1
theorem ex_acc_names : (acceptLoopR Table.empty exReqs).map (fun x => (x.2.2 .N, x.2.2 .E, x.2.2 .S, x.2.2 .W))
    = some (some "NS".toList, some "EW".toList, some "NS".toList, some "EW".toList) := ex_acc.2

/-- five rounds (30 operations of the model, 35 world operations), the table ends full, the four alive threads are kept -/
example : ∃ opss mops tf env', acceptLoopR Table.empty exReqs = some (opss, mops, tf) ∧ tf.full = true ∧
    mops = (exConns.map fun _ => acceptRound).flatten ∧ mops.length = 30 ∧
    exec P 100 [(K.self, encMainThread (exAccWorld []) .none), (n_threads, .tuple [])] [mcAcceptWhile] = .ok (env', .next) ∧
    lookup env' K.self = some (encMainThread (encMainWorld (fun _ => [])
      ([] ++ exConns.flatMap fun c => roundOps c.conn c.thread) (encTable tf) [] (acceptMore [] [] [] [])) .none) ∧
    lookup env' n_threads = some (.tuple [.int 11, .int 12, .int 14, .int 15]) := by
  have hc := ex_acc_model
  cases hm : acceptLoopR Table.empty exReqs with
  | none => rw [hm] at hc; cases hc
  | some x =>
    obtain ⟨opss, mops, tf⟩ := x
    rw [hm] at hc
    simp only [Option.map_some, Option.some.injEq, Prod.mk.injEq] at hc
    obtain ⟨h1, h2, h3⟩ := hc
    obtain ⟨hmops, _, hrun⟩ := main_accept_loop_translated Table.empty exReqs opss mops tf exConns hm h3 (by rw [h1]; rfl)
      [(K.self, encMainThread (exAccWorld []) .none), (n_threads, .tuple [])] (fun _ => []) [] [] [] [] [] [] .none [] rfl rfl
    obtain ⟨env', he, hs, ht, _⟩ := hrun 100 (by decide)
    exact ⟨opss, mops, tf, env', rfl, h3, hmops, h2, he, hs, ht⟩

/-! ## the whole method -/

/-- THE TRANSLATED `Server.run` IS admission followed by `mainReactive`.  Hypotheses: the admission of the model fills
the table (`acceptLoopR Table.empty reqs = some (…, tf)`, `tf.full`) with the scenario's names (North and South under
`sc.nsName`, East and West under `sc.ewName` — the two assertions of the code); the world answers the accept loop as in
`main_accept_loop_translated`; the model runs the boards (`mainReactive sc boards i = some acts`, `boards ≠ []`: with no
board the code still closes the log and sends `End of session`, the model does not); the parse hypotheses of the boards.
Then the call returns `None`, the world has performed `bind`, `listen`, the rounds of the accept loop, `opsS`, and one
`join` per thread alive, where `stripSleep opsS` is `encMainActs encRecord acts`. -/
theorem main_run_translated (sc : Scenario) (F : Nat) (boards : List BoardSetting) (hne : boards ≠ []) (i : MainIn)
    (acts : MainActs) (hm : mainReactive sc boards i = some acts)
    (hparse : BoardsParse sc F 1 boards i)
    (hok : ∀ b ∈ boards, ∀ p, ∀ c ∈ b.deal p, 2 ≤ c.rank ∧ c.rank ≤ 14)
    (reqs : List (List Char × List Char)) (opss : List (List Op)) (mops : List MainOp) (tf : Table) (conns : List Conn)
    (hacc : acceptLoopR Table.empty reqs = some (opss, mops, tf)) (hfull : tf.full = true)
    (hlen : conns.length = opss.length)
    (hN : tf .N = some sc.nsName) (hS : tf .S = some sc.nsName) (hE : tf .E = some sc.ewName) (hW : tf .W = some sc.ewName)
    (table0 : Val) (later accR ntR alR : List Val) (rest : List (Val × Val)) :
    ∃ opsS i', encMainActs encRecord acts = some (stripSleep opsS) ∧
      mops = (conns.map fun _ => acceptRound).flatten ∧
      ∀ f, F + conns.length + 800 ≤ f →
        callFn P f m_MainThread_run [encMainThread (encMainWorld i [] table0
            ((acceptSnapshots Table.empty reqs).map encTable ++ later)
            (acceptMore (conns.map (fun c => .tuple [c.conn, c.addr]) ++ accR) (conns.map (·.thread) ++ ntR)
              (conns.map (fun c => .bool c.alive) ++ alR) rest)) (.tuple (boards.map encBoardSetting))]
          = .ok (.none, encMainThread (encMainWorld i'
              ([opBind, opListen] ++ (conns.flatMap fun c => roundOps c.conn c.thread) ++ opsS ++
                ((conns.filter (·.alive)).map (·.thread)).map opJoin)
              (advBoards boards.length (advTable (encTable tf) later).1 (advTable (encTable tf) later).2).1
              (advBoards boards.length (advTable (encTable tf) later).1 (advTable (encTable tf) later).2).2
              (acceptMore accR ntR alR rest)) (.tuple (boards.map encBoardSetting))) := by
  unfold mainReactive at hm
  cases hmb : mainBoardsR sc 1 boards i with
  | none => rw [hmb] at hm; cases hm
  | some bacts =>
    rw [hmb] at hm
    simp only [Option.map_some, Option.some.injEq] at hm
    subst hm
    obtain ⟨ops2, i', hops2, hrun2⟩ := main_boards_translated sc F boards hne i bacts hmb hparse hok
      (acceptMore accR ntR alR rest)
    have hhead : encMainActs encRecord (sync ++ [.emit LogOp.open]) = some [syncOp, opEmitOpen] := rfl
    have hheadS : stripSleep [syncOp, opEmitOpen] = [syncOp, opEmitOpen] := encMainActs_no_sleep encRecord _ _ hhead
    refine ⟨[syncOp, opEmitOpen] ++ ops2, i', ?_, ?_, ?_⟩
    · rw [MainA.encMainActs_append encRecord _ _ _ _ hhead hops2, stripSleep_append, hheadS]
    · exact (mc_accept_loop reqs Table.empty opss mops tf conns [(K.self, _), (n_threads, .tuple [])] i [opBind, opListen]
        later accR ntR alR rest (.tuple (boards.map encBoardSetting)) [] (conns.length + 45) hacc hfull hlen rfl
        rfl (Nat.le_refl _)).1
    · intro f hf
      obtain ⟨g, rfl⟩ : ∃ g, f = g + 2 := ⟨f - 2, by omega⟩
      let env0 : Env := [(K.self, encMainThread (encMainWorld i [] table0
            ((acceptSnapshots Table.empty reqs).map encTable ++ later)
            (acceptMore (conns.map (fun c => .tuple [c.conn, c.addr]) ++ accR) (conns.map (·.thread) ++ ntR)
              (conns.map (fun c => .bool c.alive) ++ alR) rest)) (.tuple (boards.map encBoardSetting)))]
      obtain ⟨e1, h1, hs1, ht1, hf1⟩ := mc_pre (g - 30) env0 i [] table0 _ _ (.tuple (boards.map encBoardSetting)) rfl
      rw [show g - 30 + 30 = g by omega] at h1
      obtain ⟨_, _, hloop⟩ := main_accept_loop_translated Table.empty reqs opss mops tf conns hacc hfull hlen e1 i _ later
        accR ntR alR rest _ [] hs1 ht1
      obtain ⟨e2, h2, hs2, ht2, hf2⟩ := hloop (g + 1) (by omega)
      obtain ⟨e3, h3, hs3, hns3, hew3, hmax3, hf3⟩ := mc_mid (g - 40) e2 i _ tf later _ (boards.map encBoardSetting)
        sc.nsName sc.ewName hN hS hE hW hs2
      rw [show g - 40 + 40 = g by omega] at h3
      rw [List.length_map] at hmax3
      have ht3 : lookup e3 n_threads = some (.tuple ([] ++ (conns.filter (·.alive)).map (·.thread))) := by
        rw [hf3 _ (by decide), ht2]
      obtain ⟨e4, h4, hs4⟩ := hrun2 e3 _ _ _ _ hs3 hmax3 hns3 hew3 ht3 (g + 1) (by omega)
      have hbody : (mkRec P (g + 1)).exec env0 m_MainThread_run.body = .ok (e4, .next) := by
        have h2' : execStmtF (mkRec P g) P e1 mcAcceptWhile = .ok (e2, .next) := by
          have : execF (mkRec P g) P e1 [mcAcceptWhile] = .ok (e2, .next) := h2
          simp only [execF] at this
          cases hx : execStmtF (mkRec P g) P e1 mcAcceptWhile with
          | error e => rw [hx] at this; cases this
          | ok x =>
            obtain ⟨ex, fl⟩ := x
            rw [hx] at this
            cases fl <;> simp only [bind_ok, pure_eq, Except.ok.injEq, Prod.mk.injEq, reduceCtorEq, and_false, and_true] at this
            subst this; rfl
        have h4' : execF (mkRec P g) P e3 (mcBoardLoop :: mcAfterLoop) = .ok (e4, .next) := h4
        show execF (mkRec P g) P env0 m_MainThread_run.body = _
        rw [mcRunBody_eq, execF_append_next _ h1, execF_cons_next _ h2', execF_append_next _ h3, h4']
      rw [show g + 2 = (g + 1) + 1 from rfl, mc_callFn_callF, callF_def]
      have hp : bindParams m_MainThread_run.params m_MainThread_run.defaults
          [encMainThread (encMainWorld i [] table0 ((acceptSnapshots Table.empty reqs).map encTable ++ later)
            (acceptMore (conns.map (fun c => .tuple [c.conn, c.addr]) ++ accR) (conns.map (·.thread) ++ ntR)
              (conns.map (fun c => .bool c.alive) ++ alR) rest)) (.tuple (boards.map encBoardSetting))] = some env0 := rfl
      rw [hp]
      simp only [hbody, bind_ok]
      have hpar : m_MainThread_run.params = [K.self] := rfl
      rw [hpar]
      simp only [hs4, Option.getD_some, List.nil_append, List.append_assoc, List.cons_append]


/-! non-vacuity of `main_run_translated` -/
theorem ex_reactive_model : (mainReactive exSc exBoards exRunIn).map (·.length) = some 385 := by
  have h := ex_run_model
  unfold mainReactive
  cases hm : mainBoardsR exSc 1 exBoards exRunIn with
  | none => rw [hm] at h; cases h
  | some a =>
    rw [hm] at h
    simp only [Option.map_some, Option.some.injEq] at h ⊢
    simp only [List.length_append, h]
    rfl

/-- the whole method on the example: five served connections (four threads alive), two boards -/
example : ∃ acts opsS i', mainReactive exSc exBoards exRunIn = some acts ∧ acts.length = 385 ∧
    encMainActs encRecord acts = some (stripSleep opsS) ∧
    callFn P 2000 m_MainThread_run [encMainThread (encMainWorld exRunIn [] .none
        ((acceptSnapshots Table.empty exReqs).map encTable ++ [])
        (acceptMore (exConns.map (fun c => .tuple [c.conn, c.addr]) ++ []) (exConns.map (·.thread) ++ [])
          (exConns.map (fun c => .bool c.alive) ++ []) [])) (.tuple (exBoards.map encBoardSetting))]
      = .ok (.none, encMainThread (encMainWorld i'
          ([opBind, opListen] ++ (exConns.flatMap fun c => roundOps c.conn c.thread) ++ opsS ++
            [opJoin (.int 11), opJoin (.int 12), opJoin (.int 14), opJoin (.int 15)])
          (encTable (fun p => match p with | .N | .S => some "NS".toList | _ => some "EW".toList)) []
          (acceptMore [] [] [] [])) (.tuple (exBoards.map encBoardSetting))) := by
  have hc := ex_reactive_model
  have ha := ex_acc_model
  have hn := ex_acc_names
  cases hm : mainReactive exSc exBoards exRunIn with
  | none => rw [hm] at hc; cases hc
  | some acts =>
    cases hacc : acceptLoopR Table.empty exReqs with
    | none => rw [hacc] at ha; cases ha
    | some x =>
      obtain ⟨opss, mops, tf⟩ := x
      rw [hm] at hc
      rw [hacc] at ha hn
      simp only [Option.map_some, Option.some.injEq, Prod.mk.injEq] at hc ha hn
      obtain ⟨h1, h2, h3⟩ := ha
      obtain ⟨hN, hE, hS, hW⟩ := hn
      obtain ⟨opsS, i', hops, _, hrun⟩ := main_run_translated exSc 40 exBoards (by simp [exBoards]) exRunIn acts hm
        ex_run_parses ex_run_ok exReqs opss mops tf exConns hacc h3 (by rw [h1]; rfl) hN hS hE hW .none [] [] [] [] []
      have htf : tf = (fun p => match p with | .N | .S => some "NS".toList | _ => some "EW".toList) := by
        funext p; cases p <;> assumption
      have h := hrun 2000 (by decide)
      rw [htf] at h
      exact ⟨acts, opsS, i', rfl, hc, hops, h⟩

end Bridge.Translated.MainC
