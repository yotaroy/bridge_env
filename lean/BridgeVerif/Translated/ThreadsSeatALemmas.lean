import BridgeVerif.Translated.ThreadsSeatBWorld
/-! Translated `SeatThread`: method resolution, the `_World` methods on a seat world (from those of
Translated/ThreadsSeatBWorld.lean, at the fuel offsets used here), the simp set -/
namespace Bridge.Translated
open Bridge Bridge.Py Bridge.Generated.PyCore

/-! ## method resolution in `P` -/
theorem st_mth_w_recv : P.method? classDepth n__World n_w_recv = some (n__World, m__World_w_recv) := SeatB.sb_mth_w_recv
theorem st_mth_w_get : P.method? classDepth n__World n_w_get = some (n__World, m__World_w_get) := SeatB.sb_mth_w_get
theorem st_mth_w_send : P.method? classDepth n__World n_w_send = some (n__World, m__World_w_send) := SeatB.sb_mth_w_send
theorem st_mth_w_put : P.method? classDepth n__World n_w_put = some (n__World, m__World_w_put) := SeatB.sb_mth_w_put
theorem st_mth_w_op : P.method? classDepth n__World n_w_op = some (n__World, m__World_w_op) := SeatB.sb_mth_w_op

/-! ## small facts -/
theorem st_normIndex_zero (n : Nat) : normIndex (n + 1) 0 = some 0 := normIndex_zero_succ n

theorem st_sliceList_tail {α} (a : α) (r : List α) : sliceList (a :: r) (some 1) none = r := sliceList_tail a r

theorem st_len_beq_zero_cons (n : Nat) :
    (Val.int (Int.ofNat (n + 1))).beq (.int 0) = false := ofNat_succ_beq_zero n

theorem st_len_beq_zero_nil : (Val.int (Int.ofNat 0)).beq (.int 0) = true := ofNat_zero_beq_zero

theorem st_len_tuple (r : Rec) (xs : List Val) : builtinF r P .len [.tuple xs] = .ok (.int (Int.ofNat xs.length)) :=
  builtin_len_tuple r xs

/-- the world of a seat thread, opened -/
theorem st_encSeatWorld_def (p : Seat) (q c : List Str) (out : List Val) (table : Val) (tables : List Val) :
    encSeatWorld p q c out table tables = .obj n__World [(n_ins, .dict [(qkey "m2t" p, vtexts q), (vstr "conn", vtexts c)]),
      (n_out, .tuple out), (n_table, table), (n_tables, .tuple tables), (n_eof, .bool false)] := rfl

/-! ## `_World` methods on a seat world -/

theorem st_w_recv_call (f : Nat) (p : Seat) (q : List Str) (msg : Str) (c : List Str) (out : List Val) (table : Val)
    (tables : List Val) :
    callF (mkRec P (f+12)) m__World_w_recv [encSeatWorld p q (msg :: c) out table tables]
      = .ok (.str msg, encSeatWorld p q c (out ++ [.tuple [vstr "recv"]]) table tables) :=
  SeatB.sb_w_recv (f+4) p q c msg out table tables

theorem st_w_send_call (f : Nat) (p : Seat) (q c : List Str) (out : List Val) (table : Val) (tables : List Val) (m : Val) :
    callF (mkRec P (f+12)) m__World_w_send [encSeatWorld p q c out table tables, m]
      = .ok (.none, encSeatWorld p q c (out ++ [.tuple [.str ['s', 'e', 'n', 'd'], m]]) table tables) :=
  SeatB.sb_w_send (f+6) _ out table tables false m

theorem st_w_recv_blocked (f : Nat) (p : Seat) (q : List Str) (out : List Val) (table : Val) (tables : List Val) :
    callF (mkRec P (f+12)) m__World_w_recv [encSeatWorld p q [] out table tables] = .error (.exc n_Blocked) :=
  SeatB.sb_w_recv_blocked (f+4) _ out table tables false (SeatB.sb_lookup_conn p _ _)

theorem st_w_get_blocked (f : Nat) (p : Seat) (c : List Str) (out : List Val) (table : Val) (tables : List Val) :
    callF (mkRec P (f+12)) m__World_w_get [encSeatWorld p [] c out table tables, .str ['m', '2', 't'], encSeat p]
      = .error (.exc n_Blocked) :=
  SeatB.sb_w_get_blocked (f+4) _ out table tables false _ _ (SeatB.sb_lookup_m2t p _ _)

/-- what `w_advance` does to (`table`, `tables`): the head of `tables`, if there is one, becomes the table -/
def advanceTables (tt : Val × List Val) : Val × List Val :=
  match tt.2 with
  | [] => tt
  | t :: ts => (t, ts)

/-! ## `SeatThread` helper methods (the thread object written out: `encSeatThread p w extra` is this term) -/

theorem st_mth_handle_error :
    P.method? classDepth n_SeatThread n__handle_error = some (n_SeatThread, m_SeatThread__handle_error) := SeatB.sb_mth_handle_error
theorem st_mth_recv_q :
    P.method? classDepth n_SeatThread n_receive_message_from_queue
      = some (n_SeatThread, m_SeatThread_receive_message_from_queue) := SeatB.sb_mth_recv_q
theorem st_mth_send_q :
    P.method? classDepth n_SeatThread n_send_message_to_queue = some (n_SeatThread, m_SeatThread_send_message_to_queue) := SeatB.sb_mth_send_q
theorem st_mth_sync_event :
    P.method? classDepth n_SeatThread n__sync_event = some (n_SeatThread, m_SeatThread__sync_event) := SeatB.sb_mth_sync_event
theorem st_mth_check :
    P.method? classDepth n_SeatThread n__check_message = some (n_SeatThread, m_SeatThread__check_message) := SeatB.sb_mth_check_message

theorem st_thread_def (p : Seat) (w : Val) (extra : List (Id × Val)) :
    encSeatThread p w extra = .obj n_SeatThread ((n__w, w) :: (n_player, encSeat p) :: extra) := rfl

theorem st_methF_world (r : Rec) (p : Seat) (q c : List Str) (out : List Val) (table : Val) (tables : List Val)
    (m : Id) (args : List Val) :
    methF r P (encSeatWorld p q c out table tables) m args
      = callMethod r P n__World m (encSeatWorld p q c out table tables :: args) (.exc K.AttributeError) :=
  SeatB.sb_methF_world r p q c out table tables m args

theorem st_handle_error_call (f : Nat) (p : Seat) (q c : List Str) (out : List Val) (table : Val) (tables : List Val)
    (extra : List (Id × Val)) (a b : Val) :
    callF (mkRec P (f+20)) m_SeatThread__handle_error
        [.obj n_SeatThread ((n__w, encSeatWorld p q c out table tables) :: (n_player, encSeat p) :: extra), a, b]
      = .ok (.none, .obj n_SeatThread ((n__w, encSeatWorld p q c
          (out ++ [.tuple [.str ['s', 'e', 'n', 'd'], a], .tuple [.str ['c', 'l', 'o', 's', 'e'], .none]]) table tables)
          :: (n_player, encSeat p) :: extra)) :=
  SeatB.sb_handle_error (f+10) _ out table tables false _ a b

theorem st_recv_q_call (f : Nat) (p : Seat) (msg : Str) (q c : List Str) (out : List Val) (table : Val)
    (tables : List Val) (extra : List (Id × Val)) :
    callF (mkRec P (f+20)) m_SeatThread_receive_message_from_queue
        [.obj n_SeatThread ((n__w, encSeatWorld p (msg :: q) c out table tables) :: (n_player, encSeat p) :: extra)]
      = .ok (.str msg, .obj n_SeatThread ((n__w, encSeatWorld p q c
          (out ++ [.tuple [.str ['g', 'e', 't'], .str ['m', '2', 't'], encSeat p]]) table tables)
          :: (n_player, encSeat p) :: extra)) :=
  SeatB.sb_recv_q (f+8) p q c msg out table tables extra

theorem st_send_q_call (f : Nat) (p : Seat) (q c : List Str) (out : List Val) (table : Val)
    (tables : List Val) (extra : List (Id × Val)) (m : Val) :
    callF (mkRec P (f+20)) m_SeatThread_send_message_to_queue
        [.obj n_SeatThread ((n__w, encSeatWorld p q c out table tables) :: (n_player, encSeat p) :: extra), m]
      = .ok (.none, .obj n_SeatThread ((n__w, encSeatWorld p q c
          (out ++ [.tuple [.str ['p', 'u', 't'], .str ['t', '2', 'm'], encSeat p, m]]) table tables)
          :: (n_player, encSeat p) :: extra)) :=
  SeatB.sb_send_q (f+10) _ out table tables false p extra m

attribute [pyworld] st_w_recv_blocked st_w_get_blocked
theorem st_sync_event_call (f : Nat) (p : Seat) (q c : List Str) (out : List Val) (table : Val)
    (tables : List Val) (extra : List (Id × Val)) :
    callF (mkRec P (f+30)) m_SeatThread__sync_event
        [.obj n_SeatThread ((n__w, encSeatWorld p q c out table tables) :: (n_player, encSeat p) :: extra)]
      = .ok (.none, .obj n_SeatThread ((n__w, encSeatWorld p q c
          (out ++ [.tuple [.str ['s', 'y', 'n', 'c']]]) (advanceTables (table, tables)).1 (advanceTables (table, tables)).2)
          :: (n_player, encSeat p) :: extra)) := by
  cases tables <;> exact SeatB.sb_sync_event (f+16) _ out table _ false _

end Bridge.Translated
