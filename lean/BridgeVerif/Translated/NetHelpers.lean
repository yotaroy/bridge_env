import BridgeVerif.Translated.JsonWriter
import BridgeVerif.Translated.Auction
import BridgeVerif.Model.Msg
/-!
# network_bridge helpers AS TRANSLATED  (C19)

`Generated/PyCoreNet.lean` (re-written from `network_bridge/server.py` and `network_bridge/bidding_system.py` on every
run) executed by the MiniPy interpreter at the top-level fuel, compared with the hand-written models:

* `nh_hand_to_str_translated` — the static `Server.hand_to_str` on a collection of cards is `handToStr` of Model/Msg.lean
  (`suitField`'s local insertion sort is `sortDesc` of Model/Hands.lean: `nh_sortDescI_eq`).  Hypothesis: every rank is in
  2..14 — `Card.rank_int_to_str` raises `ValueError` outside (the model prints `?`: `nh_rank_hypothesis_needed`), and from
  rank 2 on `int(card)` computed in the integers is the model's `Card.idx`.  Nothing about duplicates, the number of cards
  or the suit (a card of suit `NT` is in none of the four groups on either side).
* `nh_weak_bid_translated` — `WeakBid().bid(hand, bidding_phase)` on a `BiddingPhase` instance `encState s` returns 1♣ when
  slot 0 of `available_bid` is set (`s.avail (.bid 0)`), else `Pass`, for ANY value `hand` (the code never reads it).
* `nh_always_pass_translated` — `AlwaysPass().bid(…)` returns `Pass` for any arguments.
-/
namespace Bridge.Translated
open Bridge Bridge.Py Bridge.Generated.PyCore

/-! ## `Server.hand_to_str` -/
/-- the model's local insertion sort is `sortDesc` of Model/Hands.lean -/
theorem nh_insertD_eq (c : Card) (l : List Card) : suitField.insertD c l = insertDesc c l := by
  induction l with
  | nil => rfl
  | cons d r ih => simp only [suitField.insertD, insertDesc, ih]

theorem nh_sortDescI_eq (l : List Card) : suitField.sortDescI l = sortDesc l := by
  induction l with
  | nil => rfl
  | cons c r ih =>
    show suitField.insertD c (suitField.sortDescI r) = insertDesc c (sortDesc r)
    rw [ih, nh_insertD_eq]

/-- one suit of `hand_to_str`: the ranks separated by spaces, `-` when there is none -/
def nhField (l : List Card) : Str :=
  if l.length = 0 then ['-'] else List.intercalate [' '] (l.map fun c => [rankCh c.rank])

theorem nh_suitField_eq (hand : List Card) (su : Suit) :
    suitField hand su = nhField ((sortDesc hand).filter fun c => decide (c.suit = su)) := by
  simp only [suitField, nh_sortDescI_eq, List.length_map, List.map_map, nhField]
  rfl

theorem nh_field_ite (l : List Card) :
    (if ¬ (l.map fun c => Val.str [rankCh c.rank]).length = 0 then
        List.intercalate [' '] (l.map fun a => [rankCh a.rank]) else ['-']) = nhField l := by
  rw [List.length_map, nhField]
  by_cases h : l.length = 0
  · rw [if_neg (fun hn => hn h), if_pos h]
  · rw [if_pos h, if_neg h]

theorem nh_handToStr_def (hand : List Card) :
    handToStr hand = "S ".toList ++ suitField hand .S ++ ". H ".toList ++ suitField hand .H ++
      ". D ".toList ++ suitField hand .D ++ ". C ".toList ++ suitField hand .C ++ ['.'] := rfl

theorem nh_handToStr_eq (hand : List Card) :
    handToStr hand = 'S' :: ' ' :: (nhField ((sortDesc hand).filter fun c => decide (c.suit = .S)) ++
      ['.', ' ', 'H', ' '] ++ nhField ((sortDesc hand).filter fun c => decide (c.suit = .H)) ++
      ['.', ' ', 'D', ' '] ++ nhField ((sortDesc hand).filter fun c => decide (c.suit = .D)) ++
      ['.', ' ', 'C', ' '] ++ nhField ((sortDesc hand).filter fun c => decide (c.suit = .C)) ++ ['.']) := by
  rw [nh_handToStr_def]
  simp only [nh_suitField_eq, String.reduceToList, List.cons_append, List.nil_append, List.append_assoc]

/-- `[Card.rank_int_to_str(c.rank) for c in card_list if c.suit is Suit.X]` -/
theorem nh_comp_suit (f : Nat) (env : Env) (su : Suit) (sv : Val) (hsv : sv = encSuit su) (l : List Card)
    (hr : ∀ c ∈ l, 2 ≤ c.rank ∧ c.rank ≤ 14) :
    compF (mkRec P (f+14)) env n_c (some (.cmp .is (.attr (.var n_c) n_suit) (.const sv)))
        (.static n_Card n_rank_int_to_str [(.const (.cls n_Card)), (.attr (.var n_c) n_rank)]) (l.map encCard)
      = .ok ((l.filter fun c => decide (c.suit = su)).map fun c => .str [rankCh c.rank]) := by
  subst hsv
  apply compF_filter_map encCard
  · intro c _
    ppsimp []
  · intro c hc _
    ppsimp [hd_mth_rank_int_to_str, hd_rank_int_to_str_call _ _ (hr c hc).1 (hr c hc).2]

theorem nh_len_tuple (r : Rec) (xs : List Val) : builtinF r P .len [.tuple xs] = .ok (.int (Int.ofNat xs.length)) := builtin_len_tuple r xs
theorem nh_ofNat_beq_zero (n : Nat) : (Val.int (Int.ofNat n)).beq (.int 0) = decide (n = 0) := ofNat_beq_zero n
theorem nh_join_space {α} (r : Rec) (g : α → Char) (l : List α) :
    builtinF r P .join [.str [' '], .tuple (l.map fun a => .str [g a])]
      = .ok (.str (List.intercalate [' '] (l.map fun a => [g a]))) := by
  simp only [builtinF, iterItems, Option.bind, hd_strsOf_map (fun a => [g a])]; rfl
theorem nh_ite_str (c : Prop) [Decidable c] (a b : Str) :
    (if c then Val.str a else Val.str b) = Val.str (if c then a else b) := by
  split <;> rfl

theorem nh_mth_hand_to_str : P.method? classDepth n_Server n_hand_to_str = some (n_Server, m_Server_hand_to_str) := rfl

theorem nh_hand_to_str_call (f : Nat) (hand : List Card) (hok : ∀ c ∈ hand, 2 ≤ c.rank ∧ c.rank ≤ 14) :
    callF (mkRec P (f+40)) m_Server_hand_to_str [.tuple (hand.map encCard)]
      = .ok (.str (handToStr hand), .tuple (hand.map encCard)) := by
  rw [callF_def]
  simp only [m_Server_hand_to_str, bindParams, Option.map]
  have hr2 : ∀ c ∈ hand, 2 ≤ c.rank := fun c hc => (hok c hc).1
  have hrs : ∀ c ∈ sortDesc hand, 2 ≤ c.rank ∧ c.rank ≤ 14 :=
    fun c hc => hok c ((sortDesc_perm hand).mem_iff.1 hc)
  have hS := fun f env => nh_comp_suit f env .S (.enum n_Suit 4) rfl (sortDesc hand) hrs
  have hH := fun f env => nh_comp_suit f env .H (.enum n_Suit 3) rfl (sortDesc hand) hrs
  have hD := fun f env => nh_comp_suit f env .D (.enum n_Suit 2) rfl (sortDesc hand) hrs
  have hC := fun f env => nh_comp_suit f env .C (.enum n_Suit 1) rfl (sortDesc hand) hrs
  ppsimp [builtin_tuple_tuple, hd_sortedDesc, hd_sortAscZ_reverse hand hr2, iterItems_tuple, hS, hH, hD, hC,
    nh_len_tuple, nh_ofNat_beq_zero, nh_join_space, jw_ite_ok, nh_ite_str, truthy]
  rw [nh_handToStr_eq]
  simp only [nh_field_ite]

/-- THE STATIC `Server.hand_to_str` on a collection of cards of rank 2..14 returns the model's `handToStr` (the
interpreter's insertion sort, reversed, is the model's `sortDesc` also when a card is listed twice; a card of suit `NT`
is in none of the four groups on either side) -/
theorem nh_hand_to_str_translated (hand : List Card) (hok : ∀ c ∈ hand, 2 ≤ c.rank ∧ c.rank ≤ 14) :
    P.runMethod n_Server n_hand_to_str [.tuple (hand.map encCard)]
      = .ok (.str (handToStr hand), .tuple (hand.map encCard)) := by
  rw [jw_runMethod_eq _ _ _ _ _ nh_mth_hand_to_str]
  exact nh_hand_to_str_call 959 hand hok

/-- for valid cards -/
theorem nh_hand_to_str_translated_ok (hand : List Card) (hok : ∀ c ∈ hand, c.ok = true) :
    P.runMethod n_Server n_hand_to_str [.tuple (hand.map encCard)]
      = .ok (.str (handToStr hand), .tuple (hand.map encCard)) :=
  nh_hand_to_str_translated hand fun c hc => by
    have := hok c hc
    simp only [Card.ok, Bool.and_eq_true, decide_eq_true_eq] at this
    exact this.1

/-- the rank hypothesis is needed: `Card.rank_int_to_str` raises `ValueError` on a rank outside 2..14, the model
prints `?` -/
theorem nh_rank_hypothesis_needed :
    (P.runMethod n_Server n_hand_to_str [.tuple ([⟨1, .S⟩].map encCard)]).exc? = some K.ValueError ∧
    handToStr [⟨1, .S⟩] = "S ?. H -. D -. C -.".toList := by
  decide +kernel

/-! ## the bundled bidding systems -/
theorem nh_mth_avail :
    P.method? classDepth n_BiddingPhase n_available_bid = some (n_BiddingPhase, m_BiddingPhase_available_bid) := rfl
theorem nh_avail_call (f : Nat) (s : AState) :
    callF (mkRec P (f+6)) m_BiddingPhase_available_bid [encState s] = .ok (.tuple (availList s.avail), encState s) := by
  rw [callF_def]
  simp only [m_BiddingPhase_available_bid, bindParams, Option.map, encState]
  ppsimp []
theorem nh_avail_attr (f : Nat) (s : AState) :
    getAttrF (mkRec P (f+7)) P (encState s) n_available_bid = .ok (.tuple (availList s.avail)) := by
  have e : getAttrF (mkRec P (f+7)) P (encState s) n_available_bid
      = (callF (mkRec P (f+6)) m_BiddingPhase_available_bid [encState s] >>= fun x => .ok x.1) := rfl
  rw [e, nh_avail_call]; rfl

theorem nh_mth_weak_bid : P.method? classDepth n_WeakBid n_bid = some (n_WeakBid, m_WeakBid_bid) := rfl
theorem nh_mth_always_pass : P.method? classDepth n_AlwaysPass n_bid = some (n_AlwaysPass, m_AlwaysPass_bid) := rfl

theorem nh_slot_one (b : Bool) : (Val.int (if b then 1 else 0)).beq (.int 1) = b := by
  cases b <;> simp [Val.beq]

/-- the lowest bid, 1♣ (`Bid.C1`) -/
def nhC1 : Call := .bid ⟨0, by decide⟩

theorem nh_weak_bid_call (f : Nat) (self hand : Val) (s : AState) :
    callF (mkRec P (f+20)) m_WeakBid_bid [self, hand, encState s]
      = .ok (encCall (if s.avail nhC1 = true then nhC1 else .pass), self) := by
  rw [callF_def]
  simp only [m_WeakBid_bid, bindParams, Option.map]
  have hi := fun r => index_avail r s.avail nhC1
  have e0 : ((nhC1.idx : Nat) : Int) = 0 := rfl
  simp only [e0] at hi
  rcases Bool.eq_false_or_eq_true (s.avail nhC1) with ha | ha <;>
    ppsimp [nh_avail_attr, hi, nh_slot_one, ha, truthy, beq_int] <;> rfl

/-- `WeakBid().bid(hand, bidding_phase)` bids 1♣ when slot 0 of `available_bid` is set, else passes — whatever `hand` is
(and whatever the receiver's attributes) -/
theorem nh_weak_bid_translated (s : AState) (hand : Val) (fs : List (Id × Val)) :
    P.runMethod n_WeakBid n_bid [.obj n_WeakBid fs, hand, encState s]
      = .ok (encCall (if s.avail nhC1 = true then nhC1 else .pass), .obj n_WeakBid fs) := by
  rw [jw_runMethod_eq _ _ _ _ _ nh_mth_weak_bid]
  exact nh_weak_bid_call 979 _ hand s

/-- the result is 1♣ iff 1♣ is available -/
theorem nh_weak_bid_translated_iff (s : AState) (hand : Val) (fs : List (Id × Val)) :
    ∃ c, P.runMethod n_WeakBid n_bid [.obj n_WeakBid fs, hand, encState s] = .ok (encCall c, .obj n_WeakBid fs) ∧
      (c = nhC1 ↔ s.avail nhC1 = true) ∧ (c = .pass ↔ s.avail nhC1 = false) := by
  refine ⟨_, nh_weak_bid_translated s hand fs, ?_, ?_⟩ <;>
    rcases Bool.eq_false_or_eq_true (s.avail nhC1) with ha | ha <;> simp only [ha] <;> simp [nhC1]

/-- `AlwaysPass().bid(hand, bidding_phase)` passes, whatever the arguments -/
theorem nh_always_pass_translated (hand phase : Val) (fs : List (Id × Val)) :
    P.runMethod n_AlwaysPass n_bid [.obj n_AlwaysPass fs, hand, phase] = .ok (encCall .pass, .obj n_AlwaysPass fs) := by
  rw [jw_runMethod_eq _ _ _ _ _ nh_mth_always_pass]
  rfl

theorem nh_new_weak_bid_translated : P.runNew n_WeakBid [] = .ok (.obj n_WeakBid []) := rfl
theorem nh_new_always_pass_translated : P.runNew n_AlwaysPass [] = .ok (.obj n_AlwaysPass []) := rfl

end Bridge.Translated
