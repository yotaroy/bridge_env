import BridgeVerif.Translated.JsonParserLemmasC
import BridgeVerif.Lemmas.RegexHandsFacts
/-! Translated `Hands.convert_pbn` / `Hands._hand_parser` (hands.py) = model, part A — everything that does NOT run the
interpreter's statements: the pattern constants, the match object `re.match` hands to the program under the hypothesis
`HandsRegexFacts`, the shape of the scanner's groups (`matchGroups`: `k+1` groups of rank characters), hand fields hold no
line feed, `convertPbn?` written over `dealFields?`, and the interpreter's order of a hand (`pyHandParser?`: first
occurrences) against the model's (`handParser?`: last occurrences). -/
namespace Bridge.Translated.HandsPbn
open Bridge Bridge.Py Bridge.Generated.PyCore Bridge.Translated Bridge.RegexHands

/-! ## the module constants are the pattern texts of `Lemmas/RegexHandsFacts.lean` -/
theorem hp_glob_hand_pattern : lookup P.globals n_HAND_PATTERN = some (.str HAND_PATTERN) := by
  rw [show HAND_PATTERN = _ from String.toList_ofList]
  rfl
theorem hp_glob_deal_pattern : lookup P.globals n_DEAL_PATTERN = some (.str DEAL_PATTERN) := by
  rw [show DEAL_PATTERN = _ from String.toList_ofList]
  rfl

/-! ## the match object -/
/-- the value of one group in `_Match.texts` -/
def grpVal (s : List Char) : Option (Nat × Nat) → Val
  | some be => .str (Re.slice s be.1 be.2)
  | none => .none

/-- `None` for a group that is absent or did not take part -/
def optTextVal : Option (Option (List Char)) → Val
  | some (some t) => .str t
  | _ => .none

theorem hp_matchVal_def (c t : Id) (s : List Char) (m : Re.MatchObj) :
    matchVal c t s m = .obj c [(t, .tuple (optTextVal (m.groupText s 0)
      :: (List.range m.groups.length).map fun i => optTextVal (m.groupText s (i + 1))))] := rfl

theorem hp_matchVal (c t : Id) (s : List Char) (m : Re.MatchObj) :
    matchVal c t s m = .obj c [(t, .tuple (.str (Re.slice s m.span.1 m.span.2) :: m.groups.map (grpVal s)))] := by
  have e : (List.range m.groups.length).map (fun i => optTextVal (m.groupText s (i + 1))) = m.groups.map (grpVal s) := by
    apply List.ext_getElem
    · simp
    · intro i h1 h2
      simp only [List.length_map, List.length_range] at h1
      simp only [List.getElem_map, List.getElem_range, Re.MatchObj.groupText, List.getElem?_eq_getElem h1]
      cases hg : m.groups[i] with
      | none => rfl
      | some be => obtain ⟨b, e⟩ := be; rfl
  rw [hp_matchVal_def, e]
  rfl

theorem hp_grp_map (s : List Char) : ∀ (G : List (Option (Nat × Nat))) (gs : List (List Char)),
    G.map (fun g => g.map fun be => Re.slice s be.1 be.2) = gs.map some → G.map (grpVal s) = gs.map Val.str := by
  intro G
  induction G with
  | nil => intro gs h; cases gs with
    | nil => rfl
    | cons a r => simp at h
  | cons g G ih =>
    intro gs h
    cases gs with
    | nil => simp at h
    | cons a r =>
      simp only [List.map_cons, List.cons.injEq] at h ⊢
      refine ⟨?_, ih r h.2⟩
      cases g with
      | none => simp at h
      | some be => simp only [Option.map_some, Option.some.injEq] at h; simp only [grpVal, h.1]

/-- `re.match(pat, s)` (with `re.IGNORECASE` when `ic`) as the program sees it, when the engine's groups are known: no match -/
theorem hp_reMatch_none {ic : Bool} (r : Rec) (pat s : List Char)
    (h : (Re.pyMatch ic pat s).map (Option.map (groupTexts s)) = some none) :
    builtinF r P .reMatch [.str pat, .str s, .bool ic, .cls n__Match, .int n_texts] = .ok .none := by
  cases hp : Re.pyMatch ic pat s with
  | none => rw [hp] at h; cases h
  | some om =>
    rw [hp] at h
    cases om with
    | none => simp only [builtinF, hp]; rfl
    | some m => simp at h

/-- … a match: an instance of `_Match` whose `texts` are group 0 and the group texts -/
theorem hp_reMatch_some {ic : Bool} (pat s : List Char) (gs : List (List Char))
    (h : (Re.pyMatch ic pat s).map (Option.map (groupTexts s)) = some (some (gs.map some))) :
    ∃ g0, ∀ r : Rec, builtinF r P .reMatch [.str pat, .str s, .bool ic, .cls n__Match, .int n_texts]
      = .ok (.obj n__Match [(n_texts, .tuple (.str g0 :: gs.map Val.str))]) := by
  cases hp : Re.pyMatch ic pat s with
  | none => rw [hp] at h; cases h
  | some om =>
    rw [hp] at h
    cases om with
    | none => simp at h
    | some m =>
      simp only [Option.map_some, Option.some.injEq, groupTexts] at h
      refine ⟨Re.slice s m.span.1 m.span.2, fun r => ?_⟩
      have e : builtinF r P .reMatch [.str pat, .str s, .bool ic, .cls n__Match, .int n_texts]
          = .ok (matchVal n__Match n_texts s m) := by
        simp only [builtinF, hp]; rfl
      rw [e, hp_matchVal, hp_grp_map s _ _ h]

/-! ## the scanner's groups -/
theorem hp_tryLen (cont : List Char → Option (List (List Char))) (s : List Char) :
    ∀ (n : Nat) (gs : List (List Char)), tryLen cont s n = some gs →
      ∃ k rest gs', k ≤ n ∧ gs = s.take k :: gs' ∧ cont rest = some gs' := by
  intro n
  induction n with
  | zero =>
    intro gs h
    unfold tryLen at h
    cases s with
    | nil => cases h
    | cons a rest =>
      simp only at h
      cases hc : cont rest with
      | none => rw [hc] at h; cases h
      | some gs' =>
        rw [hc] at h
        simp only [Option.map_some, Option.some.injEq] at h
        exact ⟨0, rest, gs', Nat.le_refl _, by rw [← h]; rfl, hc⟩
  | succ n ih =>
    intro gs h
    unfold tryLen at h
    split at h
    · obtain ⟨k, rest, gs', hk, e, hc⟩ := ih gs h
      exact ⟨k, rest, gs', Nat.le_succ_of_le hk, e, hc⟩
    · rename_i a rest _
      split at h
      · rename_i gs' hc
        cases h
        exact ⟨n + 1, rest, gs', Nat.le_refl _, rfl, hc⟩
      · obtain ⟨k, rest', gs', hk, e, hc⟩ := ih gs h
        exact ⟨k, rest', gs', Nat.le_succ_of_le hk, e, hc⟩

theorem hp_take_rank (s : List Char) (k : Nat) (hk : k ≤ (s.takeWhile isRankChar).length) :
    ∀ c ∈ s.take k, isRankChar c = true := by
  intro c hc
  have hp : s.takeWhile isRankChar <+: s := List.takeWhile_prefix _
  have e : s.takeWhile isRankChar = s.take (s.takeWhile isRankChar).length := List.prefix_iff_eq_take.1 hp
  have : s.take k = (s.takeWhile isRankChar).take k := by
    conv => rhs; rw [e, List.take_take]
    rw [Nat.min_eq_left hk]
  rw [this] at hc
  exact List.all_eq_true.1 List.all_takeWhile c (List.mem_of_mem_take hc)

/-- `matchGroups k` returns `k+1` groups, each of rank characters -/
theorem hp_matchGroups (k : Nat) : ∀ (s : List Char) (gs : List (List Char)), matchGroups k s = some gs →
    gs.length = k + 1 ∧ ∀ g ∈ gs, ∀ c ∈ g, isRankChar c = true := by
  induction k with
  | zero =>
    intro s gs h
    simp only [matchGroups, Option.some.injEq] at h
    subst h
    refine ⟨rfl, ?_⟩
    intro g hg c hc
    simp only [List.mem_singleton] at hg
    subst hg
    exact List.all_eq_true.1 List.all_takeWhile c hc
  | succ k ih =>
    intro s gs h
    simp only [matchGroups] at h
    obtain ⟨j, rest, gs', hj, e, hc⟩ := hp_tryLen _ _ _ _ h
    obtain ⟨hl, hr⟩ := ih rest gs' hc
    subst e
    refine ⟨by simp [hl], ?_⟩
    intro g hg c hcg
    rw [List.mem_cons] at hg
    rcases hg with rfl | hg
    · exact hp_take_rank s j hj c hcg
    · exact hr g hg c hcg

theorem hp_matchGroups3 (s : List Char) (gs : List (List Char)) (h : matchGroups 3 s = some gs) :
    ∃ a b c d, gs = [a, b, c, d] ∧ (∀ x ∈ a, isRankChar x = true) ∧ (∀ x ∈ b, isRankChar x = true) ∧
      (∀ x ∈ c, isRankChar x = true) ∧ (∀ x ∈ d, isRankChar x = true) := by
  obtain ⟨hl, hr⟩ := hp_matchGroups 3 s gs h
  match gs, hl with
  | [a, b, c, d], _ =>
    exact ⟨a, b, c, d, rfl, hr a (by simp), hr b (by simp), hr c (by simp), hr d (by simp)⟩

/-- a rank character is read as a rank 2..14 -/
theorem hp_rank_char (c : Char) (h : isRankChar c = true) : ∃ r, rankOfChar? c = some r ∧ 2 ≤ r ∧ r ≤ 14 := by
  simp only [isRankChar, Bool.or_eq_true, beq_iff_eq] at h
  rcases h with (((((((((((rfl | rfl) | rfl) | rfl) | rfl) | rfl) | rfl) | rfl) | rfl) | rfl) | rfl) | rfl) | rfl <;>
    exact ⟨_, rfl, by decide, by decide⟩

/-! ## a hand field holds no line feed -/
theorem hp_field_no_nl (s h r : List Char) (e : takeHandField? s = some (h, r)) : '\n' ∉ h := by
  unfold takeHandField? at e
  split at e
  · rename_i hc
    cases e
    intro hm
    have := List.all_eq_true.1 hc.2 _ hm
    exact absurd this (by decide)
  · split at e
    · cases e; decide
    · cases e

/-! ## the hand as the interpreter holds it -/
/-- the cards of one suit group -/
def suitCards (su : Suit) (g : List Char) : List Card :=
  g.filterMap fun ch => (rankOfChar? ch).bind fun r => mkCard? r su

/-- the cards of a hand field in text order, before the set is built -/
def handRaw? (f : List Char) : Option (List Card) :=
  if f = ['-'] then some []
  else
    match matchGroups 3 f with
    | some [gs, gh, gd, gc] => some (suitCards .S gs ++ suitCards .H gh ++ suitCards .D gd ++ suitCards .C gc)
    | _ => none

theorem hp_handParser_raw (f : List Char) : handParser? f = (handRaw? f).map dedup := by
  unfold handParser? handRaw?
  split
  · rfl
  · split <;> rename_i hm
    · simp only [hm, suitCards, Option.map_some]
    · split <;> rename_i hm'
      · exact absurd hm' (hm _ _ _ _)
      · rfl

/-- `Hands._hand_parser` as the interpreter computes it: the set in FIRST-occurrence order -/
def pyHandParser? (f : List Char) : Option (List Card) := (handRaw? f).map dedupFirst

theorem hp_pyHandParser_none (f : List Char) : pyHandParser? f = none ↔ handParser? f = none := by
  rw [hp_handParser_raw, pyHandParser?]; cases handRaw? f <;> simp

/-- same set as the model's, no duplicates -/
theorem hp_pyHandParser_some (f : List Char) (cards : List Card) (h : handParser? f = some cards) :
    ∃ l, pyHandParser? f = some l ∧ l.Nodup ∧ l.Perm cards := by
  rw [hp_handParser_raw] at h
  unfold pyHandParser?
  cases hr : handRaw? f with
  | none => rw [hr] at h; cases h
  | some raw =>
    rw [hr] at h
    simp only [Option.map_some, Option.some.injEq] at h
    subst h
    exact ⟨_, rfl, jp_nodup_dedupFirst raw, jp_dedupFirst_perm raw⟩

/-! ## `convertPbn?` over `dealFields?` -/
/-- the deal: the four hands in rotation from `first` -/
def assemble (first : Seat) (c0 c1 c2 c3 : List Card) : Hands := fun p =>
  if p = first then c0 else if p = first.left then c1 else if p = first.left.left then c2 else c3

theorem hp_seat_letter (f : Char) (h : f = 'N' ∨ f = 'E' ∨ f = 'S' ∨ f = 'W') : ∃ p, seatOfName? [f] = some p := by
  rcases h with rfl | rfl | rfl | rfl
  · exact ⟨.N, rfl⟩
  · exact ⟨.E, rfl⟩
  · exact ⟨.S, rfl⟩
  · exact ⟨.W, rfl⟩

/-- when `DEAL_PATTERN` matches: the fields, their shape, and the model in terms of them -/
theorem hp_dealFields_some (s : List Char) (fl : List (List Char)) (h : dealFields? s = some fl) :
    ∃ f h0 h1 h2 h3 first, fl = [[f], h0, h1, h2, h3] ∧ seatOfName? [f] = some first ∧
      '\n' ∉ h0 ∧ '\n' ∉ h1 ∧ '\n' ∉ h2 ∧ '\n' ∉ h3 ∧
      convertPbn? s = (match handParser? h0, handParser? h1, handParser? h2, handParser? h3 with
        | some c0, some c1, some c2, some c3 => some (assemble first c0 c1 c2 c3)
        | _, _, _, _ => none) := by
  unfold dealFields? at h
  split at h
  · rename_i f r0
    split at h
    · rename_i hf
      obtain ⟨first, hfirst⟩ := hp_seat_letter f hf
      split at h
      · rename_i h0 r1 e0
        split at h
        · rename_i h1 r2 e1
          split at h
          · rename_i h2 r3 e2
            split at h
            · rename_i h3 r4 e3
              cases h
              refine ⟨f, h0, h1, h2, h3, first, rfl, hfirst, hp_field_no_nl _ _ _ e0, hp_field_no_nl _ _ _ e1,
                hp_field_no_nl _ _ _ e2, hp_field_no_nl _ _ _ e3, ?_⟩
              simp only [convertPbn?, hfirst, e0, e1, e2, e3]
              rfl
            · cases h
          · cases h
        · cases h
      · cases h
    · cases h
  · cases h

theorem hp_seat_letter' (f : Char) (p : Seat) (h : seatOfName? [f] = some p) : f = 'N' ∨ f = 'E' ∨ f = 'S' ∨ f = 'W' := by
  unfold seatOfName? at h
  split at h <;> simp_all

/-- when `DEAL_PATTERN` does not match, the model has no deal -/
theorem hp_dealFields_none (s : List Char) (h : dealFields? s = none) : convertPbn? s = none := by
  cases hc : convertPbn? s with
  | none => rfl
  | some hh =>
    exfalso
    unfold convertPbn? at hc
    split at hc
    · rename_i f r0
      split at hc
      · cases hc
      · rename_i first hfirst
        have hf := hp_seat_letter' f first hfirst
        split at hc
        · rename_i h0 r1 e0
          split at hc
          · rename_i h1 r2 e1
            split at hc
            · rename_i h2 r3 e2
              split at hc
              · rename_i h3 r4 e3
                simp [dealFields?, hf, e0, e1, e2, e3] at h
              · cases hc
            · cases hc
          · cases hc
        · cases hc
    · cases hc

end Bridge.Translated.HandsPbn
