import BridgeVerif.Translated.ThreadsClientA
import BridgeVerif.Translated.Play
import BridgeVerif.Translated.ThreadsMainALemmas
/-! Translated `ClientThread.playing_phase`: the loop bodies extracted from the generated method, the decision of the
playing system on a client world (`w_ask("play", None)`), `Client.card_str` on the 52 cards, the translated
`ObservedPlayingPhase` as the symbolic execution meets it, the client object and the local variables written out, the simp
set -/
namespace Bridge.Translated.ClientB
open Bridge Bridge.Py Bridge.Generated.PyCore Bridge.Translated Bridge.Translated.ClientA

/-! ## the pieces of the generated `playing_phase` -/

/-- the condition and the body of `while not env.has_done()` -/
def cpCond : Expr := match m_ClientThread_playing_phase.body.getD 6 .pass with
  | .while c _ => c
  | _ => .const .none
def cpBody : List Stmt := match m_ClientThread_playing_phase.body.getD 6 .pass with
  | .while _ b => b
  | _ => []
/-- the statement that receives the "… to lead" message -/
def cpLead : Stmt := cpBody.getD 0 .pass
/-- the body of `for _ in range(4)` -/
def cpInner : List Stmt := match cpBody.getD 1 .pass with
  | .for _ _ b => b
  | _ => []
/-- the statement that opens dummy's hand / the statement that plays one card -/
def cpOpen : Stmt := cpInner.getD 0 .pass
def cpMove : Stmt := cpInner.getD 1 .pass

theorem cpInner_eq : cpInner = [cpOpen, cpMove] := rfl
theorem cpBody_eq : cpBody = [cpLead, .for [n__] (.builtin .range [(.const (.int 4))]) cpInner] := rfl
theorem cp_body_def : m_ClientThread_playing_phase.body =
    [.assert (.not (.meth (.var n_contract) n_is_passed_out [])),
     .assign (.var n_declarer) (.attr (.var n_contract) n_declarer),
     .assert (.cmp .isNot (.var n_declarer) (.const .none)),
     .assign (.var n_dummy) (.attr (.var n_declarer) n_partner),
     .assign (.var n_env) (.new n_ObservedPlayingPhase [(.var n_contract), (.attr (.var K.self) n_player),
       (.attr (.var K.self) n_hand_set)]),
     .assign (.var n_hand_open) (.const (.bool false)),
     .while cpCond cpBody] := rfl
theorem cp_params : m_ClientThread_playing_phase.params = [K.self, n_contract] := rfl
theorem cp_defaults : m_ClientThread_playing_phase.defaults = [] := rfl

/-! ## the decision of the playing system -/

/-- the world operation of a decision of the playing system: `w_ask("play", None)` -/
def playAsk : Val := .tuple [vstr "play", .none]

theorem cb_lookupD_play (a b c : Val) :
    lookupD [(vstr "conn", a), (vstr "bid", b), (vstr "play", c)] (.str ['p', 'l', 'a', 'y']) = some c := by
  simp [lookupD, vstr, Val.beq]
theorem cb_updateD_play (a b c v : Val) :
    updateD [(vstr "conn", a), (vstr "bid", b), (vstr "play", c)] (.str ['p', 'l', 'a', 'y']) v
      = [(vstr "conn", a), (vstr "bid", b), (vstr "play", v)] := by
  simp [updateD, vstr, Val.beq]

theorem cb_w_ask_play_call (f : Nat) (s : List Str) (b : Val) (bids plays out : List Val) :
    callF (mkRec P (f+12)) m__World_w_ask [encClientWorld s bids (b :: plays) out, .str ['p', 'l', 'a', 'y'], .none]
      = .ok (b, encClientWorld s bids plays (out ++ [playAsk])) := by
  have h := SeatB.sb_w_ask_of (f+4) _ out (.dict []) [] false _ .none _ _
    (cb_lookupD_play (vtexts s) (.tuple bids) (.tuple (b :: plays)))
  rwa [cb_updateD_play] at h

theorem cb_w_ask_play_blocked (f : Nat) (s : List Str) (bids out : List Val) :
    callF (mkRec P (f+12)) m__World_w_ask [encClientWorld s bids [] out, .str ['p', 'l', 'a', 'y'], .none]
      = .error (.exc n_Blocked) :=
  SeatB.sb_w_ask_blocked (f+4) _ out _ _ false _ _ (cb_lookupD_play _ _ _)

/-! ## `Client.card_str` on the 52 cards -/

theorem cb_card_str_all : ∀ c ∈ Card.deck,
    retStr (callFn P 20 m_Client_card_str [encCard c]) (cardStrRS c) = true := by
  decide +kernel

theorem cb_card_mem_deck (c : Card) (h : c.ok = true) : c ∈ Card.deck := by
  obtain ⟨r, s⟩ := c
  simp only [Card.ok, Bool.and_eq_true, decide_eq_true_eq] at h
  obtain ⟨⟨h1, h2⟩, h3⟩ := h
  have : ∀ r' : Fin 15, ∀ s' ∈ Suit.all, 2 ≤ r'.val → s' ≠ .NT → (⟨r'.val, s'⟩ : Card) ∈ Card.deck := by
    decide +kernel
  exact this ⟨r, by omega⟩ s (by cases s <;> decide) h1 h3

/-- `Client.card_str(card)` is the rank character followed by the suit's name (evaluated over the 52 cards) -/
theorem card_str_translated (c : Card) (h : c.ok = true) :
    Returns 20 m_Client_card_str [encCard c] (.str (cardStrRS c)) := by
  apply Returns.of_fuel
  have h := cb_card_str_all c (cb_card_mem_deck c h)
  cases hx : callFn P 20 m_Client_card_str [encCard c] with
  | error e => rw [hx] at h; simp [retStr] at h
  | ok x =>
    obtain ⟨v, s⟩ := x
    rw [hx] at h
    cases v <;> simp [retStr] at h
    subst h
    rfl

theorem cb_mth_card_str : P.method? classDepth n_Client n_card_str = some (n_Client, m_Client_card_str) := rfl
theorem cb_mth_parse_leader :
    P.method? classDepth n_Client n_parse_leader_message = some (n_Client, m_Client_parse_leader_message) := rfl

/-! ## the translated `ObservedPlayingPhase` (Translated/Play*.lean) as the symbolic execution meets it -/

theorem cb_obs_active (r : Rec) (c : Contract) (o : Observed) :
    getAttrF r P (encObserved c o) n_active_player = .ok (encSeat o.base.active) := rfl
theorem cb_obs_trick_num (r : Rec) (c : Contract) (o : Observed) :
    getAttrF r P (encObserved c o) n_trick_num = .ok (.int o.base.trickNum) := rfl
theorem cb_obs_dummy_hand (f : Nat) (c : Contract) (o : Observed) :
    getAttrF (mkRec P (f+6)) P (encObserved c o) n_dummy_hand = .ok (encOpt encCards o.dummyHand) := rfl
theorem cb_methF_obs (r : Rec) (c : Contract) (o : Observed) (m : Id) (args : List Val) :
    methF r P (encObserved c o) m args
      = callMethod r P n_ObservedPlayingPhase m (encObserved c o :: args) (.exc K.AttributeError) := rfl
theorem cb_mth_has_done :
    P.method? classDepth n_ObservedPlayingPhase n_has_done = some (n_PlayingPhase, m_PlayingPhase_has_done) := rfl
theorem cb_mth_set_dummy : P.method? classDepth n_ObservedPlayingPhase n_set_dummy_hand
    = some (n_ObservedPlayingPhase, m_ObservedPlayingPhase_set_dummy_hand) := rfl
theorem cb_mth_play_by : P.method? classDepth n_ObservedPlayingPhase n_play_card_by_player
    = some (n_ObservedPlayingPhase, m_ObservedPlayingPhase_play_card_by_player) := rfl

theorem cb_has_done_call (f : Nat) (c : Contract) (o : Observed) :
    callF (mkRec P (f+8)) m_PlayingPhase_has_done [encObserved c o] = .ok (.bool o.base.hasDone, encObserved c o) := by
  rw [encObserved_eq]
  exact has_done_call f n_ObservedPlayingPhase _ c o.base

theorem cb_set_dummy_call (f : Nat) (c : Contract) (o : Observed) (dl : List Card) :
    callF (mkRec P (f+10)) m_ObservedPlayingPhase_set_dummy_hand [encObserved c o, .tuple (dl.map encCard)]
      = .ok (.none, encObserved c (o.setDummy dl)) := set_dummy_call f c o dl

theorem cb_play_call (f : Nat) (c : Contract) (o o' : Observed) (card : Card) (p : Seat) (hwf : WF o.base)
    (h : o.play card p = .ok o') :
    callF (mkRec P (f+60)) m_ObservedPlayingPhase_play_card_by_player [encObserved c o, encCard card, encSeat p]
      = .ok (.none, encObserved c o') := by
  rw [observed_play_call f c o card p hwf, h]

/-! ## the client object, the local variables, the simp set -/

/-- the client object, written out (`encClientThread p (encClientWorld st bids plays out) team opp extra` is this term) -/
def cself (p : Seat) (st : List Str) (bids plays out : List Val) (team : Str) (opp : Val) (extra : List (Id × Val)) : Val :=
  .obj n_ClientThread ((n__w, encClientWorld st bids plays out) :: (n_player, encSeat p) ::
    (n_team_name, .str team) :: (n_opponent_team_name, opp) :: extra)

theorem cself_eq (p : Seat) (st : List Str) (bids plays out : List Val) (team : Str) (opp : Val)
    (extra : List (Id × Val)) :
    cself p st bids plays out team opp extra = encClientThread p (encClientWorld st bids plays out) team opp extra := rfl

/-- the local variables of `playing_phase` inside its loops, in the order the method creates them; `rest`: the
temporaries (`_t1`, `leader`, `_`, `_t2`, `dummy_hand`, `card`, `active_player_name`, `_t3`) -/
def penv (self : Val) (c : Contract) (decl : Seat) (o : Observed) (opened : Bool) (rest : Env) : Env :=
  (K.self, self) :: (n_contract, encContract c) :: (n_declarer, encSeat decl) :: (n_dummy, encSeat decl.partner) ::
    (n_env, encObserved c o) :: (n_hand_open, .bool opened) :: rest

attribute [pyworld] cb_obs_active cb_obs_trick_num cb_obs_dummy_hand cb_methF_obs cb_mth_has_done cb_mth_set_dummy
  cb_mth_play_by cb_has_done_call cb_set_dummy_call cb_w_ask_play_call cb_w_ask_play_blocked cb_mth_card_str
  cb_mth_parse_leader SeatB.sb_mth_parse_card ct_mth_parse_cards ct_mth_parse_hand st_formal_name
theorem cb_playMsg (p : Seat) (c : Card) :
    playMsg p c false = p.formal ++ ' ' :: 'p' :: 'l' :: 'a' :: 'y' :: 's' :: ' ' :: cardStrRS c := by
  simp only [playMsg, String.reduceToList, List.append_assoc, List.cons_append, List.nil_append, Bool.false_eq_true,
    if_false]

theorem cb_partner_ne (p : Seat) : p.partner ≠ p := by cases p <;> decide
theorem cb_ne_partner (p : Seat) : p ≠ p.partner := by cases p <;> decide


/-- the text "… ready for …'s card to trick k" as the f-string builds it -/
theorem cb_readyCard (p : Seat) (who : Str) (k : Nat) :
    p.formal ++ ' ' :: 'r' :: 'e' :: 'a' :: 'd' :: 'y' :: ' ' :: 'f' :: 'o' :: 'r' :: ' ' :: (who ++
      '\'' :: 's' :: ' ' :: 'c' :: 'a' :: 'r' :: 'd' :: ' ' :: 't' :: 'o' :: ' ' :: 't' :: 'r' :: 'i' :: 'c' :: 'k' :: ' ' ::
        intStr (k : Int))
      = readyFor p (who ++ "'s card to trick ".toList ++ natStr k) := by
  simp only [readyFor, String.reduceToList, List.append_assoc, List.cons_append, List.nil_append,
    intStr_nat]

end Bridge.Translated.ClientB
