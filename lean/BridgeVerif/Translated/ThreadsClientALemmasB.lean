import BridgeVerif.Translated.ThreadsClientALemmas
/-! Translated `ClientThread.bidding_phase`: the loop's condition and body, one turn of the loop (own turn / another
seat's turn), the loop rules -/
namespace Bridge.Translated.ClientA
open Bridge Bridge.Py Bridge.Generated.PyCore

/-- the condition of the `while not env.has_done()` loop of the generated `bidding_phase` -/
def cbCond : Expr := match m_ClientThread_bidding_phase.body.getD 1 .pass with
  | .while c _ => c
  | _ => .const .none
/-- the body of that loop -/
def cbBody : List Stmt := match m_ClientThread_bidding_phase.body.getD 1 .pass with
  | .while _ b => b
  | _ => []

theorem cb_body_def : m_ClientThread_bidding_phase.body =
    [.assign (.var n_env) (.new n_BiddingPhase [(.attr (.var K.self) n_dealer), (.attr (.var K.self) n_vul)]),
     .while cbCond cbBody,
     .assign (.var n_contract) (.meth (.var n_env) n_contract []),
     .assert (.cmp .isNot (.var n_contract) (.const .none)),
     .ret (.var n_contract)] := rfl
theorem cb_params : m_ClientThread_bidding_phase.params = [K.self] := rfl
theorem cb_defaults : m_ClientThread_bidding_phase.defaults = [] := rfl

theorem ct_methF_state (r : Rec) (s : AState) (m : Id) (args : List Val) :
    methF r P (encState s) m args = callMethod r P n_BiddingPhase m (encState s :: args) (.exc K.AttributeError) := rfl

/-- how a turn of the loop ends after `take_bid` returned `r`: ILLEGAL raises, FINISHED breaks -/
def turnEnd : Res → Env → R (Env × Flow)
  | .illegal, _ => .error (.exc K.Exception)
  | .finished, env => .ok (env, .brk)
  | .ongoing, env => .ok (env, .next)

/-- the loop condition `not env.has_done()` -/
theorem ct_cond (g : Nat) (self : Val) (s : AState) (rest : Env) :
    (mkRec P (g+12)).eval ((K.self, self) :: (n_env, encState s) :: rest) cbCond = .ok (.bool (!s.active.isNone)) := by
  simp only [cbCond, m_ClientThread_bidding_phase, List.getD_cons_succ, List.getD_cons_zero]
  ppsimp [has_done_meth]

/-- the first statement of the body: whose turn it is (the own decision, or the relayed call) -/
def cbTurn : Stmt := cbBody.getD 0 .pass
/-- the rest of the body: `take_bid` on the own replica, the two tests on its result -/
def cbTail : List Stmt := cbBody.drop 1

theorem cbBody_eq : cbBody = cbTurn :: cbTail := rfl

theorem ct_turn_tail (f : Nat) (self : Val) (s : AState) (c : Call) (rest : Env) (hbid : lookup rest n_bid = some (encCall c))
    (s' : AState) (r : Res) (htb : takeBid s c = .ok (s', r)) :
    execF (mkRec P (f+59)) P ((K.self, self) :: (n_env, encState s) :: rest) cbTail =
      turnEnd r ((K.self, self) :: (n_env, encState s') :: update rest n_bidding_phase_state (encRes r)) := by
  simp only [cbTail, cbBody, m_ClientThread_bidding_phase, List.getD_cons_succ, List.getD_cons_zero, List.drop_succ_cons,
    List.drop_zero]
  cases r <;> ppsimp [hbid, ct_methF_state, mth_take_bid, take_bid_call, htb, encRes, beq_enum, turnEnd]

/-- one turn of `clientBiddingR` with `a` on turn: the call (the own bidding system's decision, or the relayed message
parsed), the model's actions, the world operations, the streams after it -/
def clientTurnR (p a : Seat) (i : ClientIn) : Option (Call × ClientActs × List Val × ClientIn) :=
  if a = p then
    i.nextCall.map fun x => (x.1, [.send (.c2s p) (bidMsg x.1 p.formal)],
      [bidAsk, .tuple [vstr "send", .str (bidMsg x.1 p.formal)]], x.2)
  else
    i.recv.bind fun x => (parseBid? x.1 a.formal).map fun c =>
      (c, [.send (.c2s p) (readyFor p (a.formal ++ "'s bid".toList)), .recv (.s2c p)],
        [.tuple [vstr "send", .str (readyFor p (a.formal ++ "'s bid".toList))], .tuple [vstr "recv"]], x.2)

theorem clientBiddingR_succ (p : Seat) (n : Nat) (s : AState) (i : ClientIn) :
    clientBiddingR p (n+1) s i =
      match s.active with
      | none => some ([], s, i)
      | some a => (clientTurnR p a i).bind fun x =>
        match takeBid s x.1 with
        | .ok (s', .finished) => some (x.2.1, s', x.2.2.2)
        | .ok (s', .ongoing) => (clientBiddingR p n s' x.2.2.2).bind fun y => some (x.2.1 ++ y.1, y.2.1, y.2.2)
        | _ => none := by
  rw [clientBiddingR]
  cases s.active with
  | none => rfl
  | some a =>
    unfold clientTurnR
    by_cases hap : a = p
    · simp only [hap, if_true]
      cases i.nextCall with
      | none => rfl
      | some x =>
        simp only [Option.bind_eq_bind, Option.pure_def, Option.bind_some, Option.map_some]
        cases htb : takeBid s x.1 with
        | error e => rfl
        | ok y => obtain ⟨s', r⟩ := y; cases r <;> rfl
    · simp only [hap, if_false]
      cases i.recv with
      | none => rfl
      | some x =>
        simp only [Option.bind_eq_bind, Option.bind_some]
        cases parseBid? x.1 a.formal with
        | none => rfl
        | some c =>
          simp only [Option.pure_def, Option.bind_some, Option.map_some]
          cases htb : takeBid s c with
          | error e => rfl
          | ok y => obtain ⟨s', r⟩ := y; cases r <;> rfl

theorem ct_turn_head (f N : Nat) (hf : N + 14 ≤ f) (p a : Seat) (s : AState) (hact : s.active = some a) (i i1 : ClientIn)
    (c : Call) (acts : ClientActs) (ops : List Val) (ht : clientTurnR p a i = some (c, acts, ops, i1))
    (hp : a ≠ p → ∀ m st, i.s = m :: st → Returns N m_MessageInterface_parse_bid [.str m, .str a.formal] (encCall c))
    (plays out : List Val) (team : Str) (opp : Val) (extra : List (Id × Val)) (rest : Env) :
    ∃ rest1, execStmtF (mkRec P (f+59)) P
        ((K.self, encClientThread p (encClientWorld i.s (i.calls.map encCall) plays out) team opp extra) ::
          (n_env, encState s) :: rest) cbTurn
      = .ok ((K.self, encClientThread p (encClientWorld i1.s (i1.calls.map encCall) plays (out ++ ops)) team opp extra) ::
          (n_env, encState s) :: rest1, .next) ∧ lookup rest1 n_bid = some (encCall c) := by
  obtain ⟨st, calls, cards⟩ := i
  unfold clientTurnR at ht
  by_cases hap : a = p
  · subst hap
    rw [if_pos rfl] at ht
    cases calls with
    | nil => cases ht
    | cons c0 cs =>
      simp only [ClientIn.nextCall, Option.map_some, Option.some.injEq, Prod.mk.injEq] at ht
      obtain ⟨rfl, _, rfl, rfl⟩ := ht
      obtain ⟨s0, hcbm⟩ := (create_bid_message_translated c0 a).callF
      have hcbm' := fun g => hcbm (f+g) (by omega)
      refine ⟨?_, ?_, ?_⟩
      rotate_left
      · simp only [ct_thread_def, cbTurn, cbBody, m_ClientThread_bidding_phase, List.getD_cons_succ, List.getD_cons_zero,
          List.map_cons]
        ppsimp [pyworld, ct_active_player, hact, st_formal_name, ct_mth_cbm, hcbm', List.append_assoc]
        rfl
      · exact lookup_update_same _ _ _
  · rw [if_neg hap] at ht
    cases st with
    | nil => cases ht
    | cons m st =>
      simp only [ClientIn.recv, Option.bind_some] at ht
      cases hpb : parseBid? m a.formal with
      | none => rw [hpb] at ht; cases ht
      | some c0 =>
        simp only [hpb, Option.map_some, Option.some.injEq, Prod.mk.injEq] at ht
        obtain ⟨rfl, _, rfl, rfl⟩ := ht
        obtain ⟨s0, hpbF⟩ := (hp hap m st rfl).callF
        have hpb' := fun g => hpbF (f+g) (by omega)
        refine ⟨?_, ?_, ?_⟩
        rotate_left
        · simp only [ct_thread_def, cbTurn, cbBody, m_ClientThread_bidding_phase, List.getD_cons_succ, List.getD_cons_zero]
          ppsimp [pyworld, ct_active_player, hact, hap, beq_encSeat_none, st_formal_name, strOfF, List.flatten_cons,
            List.flatten_nil, List.append_nil, ct_mth_parse_bid, hpb', List.append_assoc, readyFor, String.reduceToList]
          rfl
        · exact lookup_update_same _ _ _

theorem ct_turn (f N : Nat) (hf : N + 14 ≤ f) (p a : Seat) (s : AState) (hact : s.active = some a) (i i1 : ClientIn)
    (c : Call) (acts : ClientActs) (ops : List Val) (ht : clientTurnR p a i = some (c, acts, ops, i1))
    (hp : a ≠ p → ∀ m st, i.s = m :: st → Returns N m_MessageInterface_parse_bid [.str m, .str a.formal] (encCall c))
    (plays out : List Val) (team : Str) (opp : Val) (extra : List (Id × Val)) (rest : Env)
    (s' : AState) (r : Res) (htb : takeBid s c = .ok (s', r)) :
    ∃ rest', (mkRec P (f+60)).exec
        ((K.self, encClientThread p (encClientWorld i.s (i.calls.map encCall) plays out) team opp extra) ::
          (n_env, encState s) :: rest) cbBody
      = turnEnd r ((K.self, encClientThread p (encClientWorld i1.s (i1.calls.map encCall) plays (out ++ ops)) team opp
          extra) :: (n_env, encState s') :: rest') := by
  obtain ⟨rest1, h1, hbid⟩ := ct_turn_head f N hf p a s hact i i1 c acts ops ht hp plays out team opp extra rest
  exact ⟨_, by rw [exec_succ, cbBody_eq, execF_cons_next _ h1, ct_turn_tail f _ s c rest1 hbid s' r htb]⟩

theorem clientTurnR_spec {p a : Seat} {i i1 : ClientIn} {c : Call} {acts : ClientActs} {ops : List Val}
    (h : clientTurnR p a i = some (c, acts, ops, i1)) :
    encClientActs p acts = some (ops.filter fun v => !(v.beq bidAsk)) ∧ i1.cards = i.cards ∧ i1.s <:+ i.s ∧
      i1.calls <:+ i.calls ∧ i1.s.length + i1.calls.length + 1 = i.s.length + i.calls.length := by
  obtain ⟨st, calls, cards⟩ := i
  unfold clientTurnR at h
  by_cases hap : a = p
  · rw [if_pos hap] at h
    cases calls with
    | nil => cases h
    | cons c0 cs =>
      simp only [ClientIn.nextCall, Option.map_some, Option.some.injEq, Prod.mk.injEq] at h
      obtain ⟨_, rfl, rfl, rfl⟩ := h
      refine ⟨by simp [encClientActs, encClientAct, bidAsk, Val.beq, beqL, vstr], rfl, List.suffix_refl _,
        List.suffix_cons _ _, ?_⟩
      simp only [List.length_cons]
      omega
  · rw [if_neg hap] at h
    cases st with
    | nil => cases h
    | cons m st =>
      simp only [ClientIn.recv, Option.bind_some] at h
      cases hpb : parseBid? m a.formal with
      | none => rw [hpb] at h; cases h
      | some c0 =>
        simp only [hpb, Option.map_some, Option.some.injEq, Prod.mk.injEq] at h
        obtain ⟨_, rfl, rfl, rfl⟩ := h
        refine ⟨by simp [encClientActs, encClientAct, bidAsk, Val.beq, beqL, vstr], rfl, List.suffix_cons _ _,
          List.suffix_refl _, ?_⟩
        simp only [List.length_cons]
        omega

/-! ## the loop rules -/

theorem ct_loop_done (g : Nat) (self : Val) (s : AState) (rest : Env) (h : s.active = none) :
    (mkRec P (g+14)).loop ((K.self, self) :: (n_env, encState s) :: rest) cbCond cbBody
      = .ok ((K.self, self) :: (n_env, encState s) :: rest, .next) := by
  rw [loop_succ]
  simp only [loopF, ct_cond, bind_ok, h, Option.isNone_none, Bool.not_true, truthy, pure_eq]
  rfl

theorem ct_loop_turn (g : Nat) (self : Val) (s : AState) (rest : Env) (a : Seat) (h : s.active = some a) (r : Res)
    (env' : Env) (hb : (mkRec P (g+13)).exec ((K.self, self) :: (n_env, encState s) :: rest) cbBody = turnEnd r env') :
    (mkRec P (g+14)).loop ((K.self, self) :: (n_env, encState s) :: rest) cbCond cbBody =
      match r with
      | .illegal => .error (.exc K.Exception)
      | .finished => .ok (env', .next)
      | .ongoing => (mkRec P (g+13)).loop env' cbCond cbBody := by
  rw [loop_succ]
  cases r <;>
    simp only [loopF, ct_cond, bind_ok, bind_err, h, Option.isNone_some, Bool.not_false, truthy, if_true, hb, turnEnd]
  rfl

end Bridge.Translated.ClientA
