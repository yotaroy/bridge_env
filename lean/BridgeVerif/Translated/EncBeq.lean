import BridgeVerif.Translated.EncBase
import BridgeVerif.Lemmas.MiniPyExec

/-! Python `==` on values of a known shape. `Val.beq` (mutual with `beqL`, `beqF` over a nested inductive) is irreducible:
these are the equations `simp` is given in its place, and where a body compares values `rfl` has to be
`with_unfolding_all rfl`. -/
namespace Bridge.Translated
open Bridge.Py Bridge.Generated.PyCore

theorem beq_encSuit_none (s : Suit) : (encSuit s).beq .none = false := by simp only [encSuit, Val.beq]
theorem beq_bid_none (b : Fin 35) : (encBid b).beq .none = false := by simp only [encBid, Val.beq]
theorem beq_encBid_pass (i : Fin 35) : (encBid i).beq (.enum n_Bid 36) = false := by
  simp [encBid, Val.beq]; omega
theorem beq_encBid_dbl (i : Fin 35) : (encBid i).beq (.enum n_Bid 37) = false := by
  simp [encBid, Val.beq]; omega
theorem beq_encBid_rdbl (i : Fin 35) : (encBid i).beq (.enum n_Bid 38) = false := by
  simp [encBid, Val.beq]; omega

end Bridge.Translated
