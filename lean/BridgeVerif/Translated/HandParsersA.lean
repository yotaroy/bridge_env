import BridgeVerif.Translated.HandsPbnLemmasB
import BridgeVerif.Lemmas.RegexMsgHandB
import BridgeVerif.Model.Msg
/-! Translated `Client.parse_cards` (client.py, through `MessageInterface.parse_match_base` of socket_interface.py) = model,
part A: `parse_match_base` at any sufficient fuel, and `parse_cards(content, name)` = `parseCards? content name` — returns `.str`
of the model's group, or raises `Exception` when the model has `none` — for each of the five names (a seat's formal name,
`Dummy`), EVERY text whose characters are in the class `RegexMsgHand.agreeCards` (every ASCII text), every fuel ≥ 13. -/
namespace Bridge.Translated.HandParsers
open Bridge Bridge.Py Bridge.Generated.PyCore Bridge.Translated Bridge.RegexHands Bridge.RegexMsgHand
open Bridge.Translated.HandsPbn

theorem hq_mth_pmb : P.method? classDepth n_MessageInterface n_parse_match_base
    = some (n_MessageInterface, m_MessageInterface_parse_match_base) := hp_mth_pmb

theorem hq_beq_none_none : (Val.none).beq .none = true := by simp only [Val.beq]

theorem hq_pmb_some (pat s : List Char) (gs : List (List Char))
    (h : (Re.pyMatch true pat s).map (Option.map (groupTexts s)) = some (some (gs.map some))) :
    ∃ g0, ∀ f, callF (mkRec P (f+4)) m_MessageInterface_parse_match_base [.str pat, .str s]
      = .ok (.obj n__Match [(n_texts, .tuple (.str g0 :: gs.map Val.str))], .str pat) :=
  hp_pmb_some pat s gs h

/-! ## `parse_cards` -/
theorem hq_mth_parse_cards : P.method? classDepth n_Client n_parse_cards = some (n_Client, m_Client_parse_cards) := rfl

theorem hq_norm2 : normIndex 2 1 = some 1 := by decide

theorem callFn_eq_callF (f : Nat) (fd : FuncDef) (args : List Val) :
    callFn P (f+1) fd args = callF (mkRec P f) fd args := rfl

theorem hq_parse_cards_call (f : Nat) (name : List Char) (hn : name ∈ cardNames) (content : List Char)
    (hs : ∀ x ∈ content, agreeCards x = true) :
    callF (mkRec P (f+12)) m_Client_parse_cards [.str content, .str name]
      = match parseCards? content name with
        | some t => .ok (.str t, .str content)
        | none => .error (.exc K.Exception) := by
  have hfact := match_cards name hn content hs
  unfold cardsFields? cardsPattern at hfact
  rw [callF_def]
  simp only [m_Client_parse_cards, bindParams, Option.map]
  cases hm : parseCards? content name with
  | none =>
    rw [hm] at hfact
    have hc := fun g => hp_pmb_none g _ _ hfact
    simp only [CARDS_TAIL] at hc
    ppsimp [strOfF, List.flatten_cons, List.flatten_nil, List.append_nil, hq_mth_pmb, hc]
  | some t =>
    rw [hm] at hfact
    obtain ⟨g0, hc⟩ := hq_pmb_some _ _ [t] hfact
    simp only [CARDS_TAIL, List.map_cons, List.map_nil] at hc
    ppsimp [strOfF, List.flatten_cons, List.flatten_nil, List.append_nil, hq_mth_pmb, hc, hp_mth_group,
      hp_group_call _ [_, _] _ _ hq_norm2, List.getD_cons_succ, List.getD_cons_zero]

/-- TRANSLATED `parse_cards` = MODEL: for each of the five names the bundled client passes, every text whose characters
are in the class `agreeCards`, every fuel ≥ 13 — the generated `Client.parse_cards(content, name)` returns the text the
model's `parseCards?` reads, and raises `Exception` exactly when the model has `none` -/
theorem parse_cards_translated (name : List Char) (hn : name ∈ cardNames) (content : List Char)
    (hs : ∀ x ∈ content, agreeCards x = true) :
    ∀ f, 13 ≤ f → callFn P f m_Client_parse_cards [.str content, .str name]
      = match parseCards? content name with
        | some t => .ok (.str t, .str content)
        | none => .error (.exc K.Exception) := by
  intro f hf
  obtain ⟨g, rfl⟩ : ∃ g, f = (g + 12) + 1 := ⟨f - 13, by omega⟩
  rw [callFn_eq_callF]
  exact hq_parse_cards_call g name hn content hs

/-- … in particular for every ASCII text and every seat -/
theorem parse_cards_translated_ascii (p : Seat) (content : List Char) (hs : ∀ x ∈ content, x.toNat < 128) :
    ∀ f, 13 ≤ f → callFn P f m_Client_parse_cards [.str content, .str p.formal]
      = match parseCards? content p.formal with
        | some t => .ok (.str t, .str content)
        | none => .error (.exc K.Exception) :=
  parse_cards_translated p.formal (formal_mem_cardNames p) content fun x hx => agreeCards_ascii x (hs x hx)

end Bridge.Translated.HandParsers
