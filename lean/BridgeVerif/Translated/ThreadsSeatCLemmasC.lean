import BridgeVerif.Translated.ThreadsSeatCLemmasB
/-! the hypothesis "every `ready` message consumed passes its check" for the board loop; the phases' theorems made
uniform in `out` / the tables; ONE board of the generated loop is `seatBoardR` -/
namespace Bridge.Translated.SeatC
open Bridge Bridge.Py Bridge.Generated.PyCore
open Bridge.Translated.SeatB (playingChecks seat_playing_translated encSeatActs_append sb_execF_append)

/-! ## the checks -/

/-- every client `ready …` message ONE board consumes passes `_check_message` (walks the streams like `seatBoardR`):
`dealChecks`, then `bidChecks` on what `_deal` leaves, then — when the second message is `nothing happens` —
`playingChecks` on what the auction leaves -/
def boardChecks (p : Seat) (i : SeatIn) : Prop :=
  dealChecks p i.c ∧
  ∀ d i1, seatDealR p i = some (d, i1) →
    bidChecks p (i1.q.length + 1) i1 ∧
    ∀ b i2 i3, seatBiddingR p (i1.q.length + 1) i1 = some (b, i2) → i2.getQ = some (MSG_NULL, i3) →
      playingChecks p i3

/-- … by the boards of `seatBoardsR p n` (walks like `seatBoardsR`) -/
def boardsChecks (p : Seat) : Nat → SeatIn → Prop
  | 0, _ => True
  | n + 1, i => boardChecks p i ∧ ∀ pre i1, seatBoardR p i = some (pre, MSG_NEXT, i1) → boardsChecks p n i1

theorem boardsChecks_mono (p : Seat) : ∀ (m n : Nat) (i : SeatIn), m ≤ n → boardsChecks p n i → boardsChecks p m i
  | 0, _, _, _, _ => trivial
  | m + 1, n + 1, i, h, hc => ⟨hc.1, fun pre i1 hb => boardsChecks_mono p m n i1 (by omega) (hc.2 pre i1 hb)⟩

/-- the seat table and its later snapshots after the boards of `seatBoardsR p n`: `_deal` waits twice at the barrier per
board (`w_sync` → `w_advance`, i.e. `advanceTables`) -/
def boardsTables (p : Seat) : Nat → SeatIn → Val × List Val → Val × List Val
  | 0, _, tt => tt
  | n + 1, i, tt =>
    match seatBoardR p i with
    | some (_, status, i1) => if status = MSG_NEXT then boardsTables p n i1 (adv2 tt) else adv2 tt
    | none => tt

/-! ## the phases, uniformly in `out` and the tables -/

theorem sc_deal_uniform (p : Seat) (q c q' c' : List Str) (acts : SeatActs) (extra : List (Id × Val))
    (h : seatDealR p ⟨q, c⟩ = some (acts, ⟨q', c'⟩)) (hck : dealChecks p c) :
    ∃ ops, encSeatActs p acts = some ops ∧ ∀ (out : List Val) (table : Val) (tables : List Val) (f : Nat), 71 ≤ f →
      callFn P f m_SeatThread__deal [encSeatThread p (encSeatWorld p q c out table tables) extra]
        = .ok (.bool true, encSeatThread p (encSeatWorld p q' c' (out ++ ops)
            (adv2 (table, tables)).1 (adv2 (table, tables)).2) extra) := by
  obtain ⟨ops, ho, _⟩ := seat_deal_translated p q c q' c' acts [] .none [] extra h hck
  refine ⟨ops, ho, fun out table tables f hf => ?_⟩
  obtain ⟨ops', ho', h'⟩ := seat_deal_translated p q c q' c' acts out table tables extra h hck
  have e : ops' = ops := by rw [ho] at ho'; exact (Option.some.inj ho').symm
  subst e
  exact h' f hf

theorem sc_bidding_uniform (p : Seat) (fuel : Nat) (q c q' c' : List Str) (acts : SeatActs) (extra : List (Id × Val))
    (h : seatBiddingR p fuel ⟨q, c⟩ = some (acts, ⟨q', c'⟩)) (hck : bidChecks p fuel ⟨q, c⟩) :
    ∃ ops, encSeatActs p acts = some ops ∧ ∀ (out : List Val) (table : Val) (tables : List Val) (f : Nat),
      q.length + 66 ≤ f →
      callFn P f m_SeatThread__bidding_phase [encSeatThread p (encSeatWorld p q c out table tables) extra]
        = .ok (.bool true, encSeatThread p (encSeatWorld p q' c' (out ++ ops) table tables) extra) := by
  obtain ⟨ops, ho, _⟩ := seat_bidding_translated p fuel q c q' c' acts [] .none [] extra h hck
  refine ⟨ops, ho, fun out table tables f hf => ?_⟩
  obtain ⟨ops', ho', h'⟩ := seat_bidding_translated p fuel q c q' c' acts out table tables extra h hck
  have e : ops' = ops := by rw [ho] at ho'; exact (Option.some.inj ho').symm
  subst e
  exact h' f hf

theorem sc_playing_uniform (p : Seat) (q c q' c' : List Str) (acts : SeatActs) (extra : List (Id × Val))
    (h : seatPlayingR p ⟨q, c⟩ = some (acts, ⟨q', c'⟩)) (hck : playingChecks p ⟨q, c⟩) :
    ∃ ops, encSeatActs p acts = some ops ∧ ∀ (out : List Val) (table : Val) (tables : List Val) (f : Nat), 28 ≤ f →
      callFn P f m_SeatThread__playing_phase [encSeatThread p (encSeatWorld p q c out table tables) extra]
        = .ok (.bool true, encSeatThread p (encSeatWorld p q' c' (out ++ ops) table tables) extra) := by
  obtain ⟨ops, ho, _⟩ := seat_playing_translated 28 (Nat.le_refl _) p q c q' c' acts [] .none [] extra h hck
  refine ⟨ops, ho, fun out table tables f hf => ?_⟩
  obtain ⟨ops', ho', h'⟩ := seat_playing_translated f hf p q c q' c' acts out table tables extra h hck
  have e : ops' = ops := by rw [ho] at ho'; exact (Option.some.inj ho').symm
  subst e
  exact h'

theorem seatDealR_len (p : Seat) (i i' : SeatIn) (acts : SeatActs) (h : seatDealR p i = some (acts, i')) :
    i'.q.length + 2 = i.q.length := by
  simp only [seatDealR, Option.bind_eq_bind] at h
  obtain ⟨⟨m1, i1⟩, h1, h⟩ := bind_some_inv h
  obtain ⟨⟨m2, i2⟩, h2, h⟩ := bind_some_inv h
  obtain ⟨⟨m3, i3⟩, h3, h⟩ := bind_some_inv h
  obtain ⟨⟨m4, i4⟩, h4, h⟩ := bind_some_inv h
  simp only [Option.pure_def, Option.some.injEq, Prod.mk.injEq] at h
  obtain ⟨_, rfl⟩ := h
  have l1 := getC_len h1
  have l2 := (getQ_len h2).1
  have l3 := getC_len h3
  have l4 := (getQ_len h4).1
  try dsimp only at l1 l2 l3 l4 ⊢
  rw [l3] at l4
  rw [l1] at l2
  omega

theorem getQ_eq {i i' : SeatIn} {m : Text} (h : i.getQ = some (m, i')) : i = ⟨m :: i'.q, i'.c⟩ := by
  obtain ⟨q, c⟩ := i
  cases q with
  | nil => simp [SeatIn.getQ] at h
  | cons x r =>
    simp only [SeatIn.getQ, Option.some.injEq, Prod.mk.injEq] at h
    obtain ⟨rfl, rfl⟩ := h
    rfl

theorem sc_enc_get (p : Seat) : encSeatActs p [.recv (.m2t p)] = some [.tuple [vstr "get", vstr "m2t", encSeat p]] := by
  simp [encSeatActs, encSeatAct]

/-! ## one board of the generated loop -/

/-- the front part of the loop body on the streams `q`, `c` performs `send "Start of board"` and then the actions of
`seatBoardR` up to (not including) the receipt of the status message, which is left at the head of the queue -/
theorem sc_board_front (g : Nat) (p : Seat) (q c q1 c1 : List Str) (pre : SeatActs) (status : Str)
    (extra : List (Id × Val))
    (h : seatBoardR p ⟨q, c⟩ = some (pre, status, ⟨q1, c1⟩)) (hck : boardChecks p ⟨q, c⟩) (hg : q.length + 70 ≤ g) :
    ∃ pops, encSeatActs p pre = some pops ∧ q1.length + 3 ≤ q.length ∧
      ∀ (out : List Val) (table : Val) (tables : List Val) (rest : Env),
      ∃ rest', execF (mkRec P (g+30)) P
          ((K.self, encSeatThread p (encSeatWorld p q c out table tables) extra) :: rest) runFront
        = .ok ((K.self, encSeatThread p (encSeatWorld p (status :: q1) c1
            (out ++ [.tuple [vstr "send", .str MSG_START]] ++ pops)
            (adv2 (table, tables)).1 (adv2 (table, tables)).2) extra) :: rest', .next) := by
  simp only [seatBoardR, Option.bind_eq_bind] at h
  obtain ⟨⟨d, ⟨qd, cd⟩⟩, h1, hA⟩ := bind_some_inv h
  obtain ⟨⟨b, i2⟩, h2, hB⟩ := bind_some_inv hA
  obtain ⟨⟨second, ⟨qb, cb⟩⟩, h3, hC⟩ := bind_some_inv hB
  clear h hA hB
  dsimp only at h2 h3 hC
  have e2 := getQ_eq h3
  dsimp only at e2
  subst e2
  obtain ⟨hck1, hck2⟩ := hck
  obtain ⟨hck2, hck3⟩ := hck2 d ⟨qd, cd⟩ h1
  have ld := seatDealR_len _ _ _ _ h1
  have lb := seatBiddingR_len _ _ _ _ _ h2
  dsimp only [List.length_cons] at ld lb
  obtain ⟨dops, hdo, hd⟩ := sc_deal_uniform p q c qd cd d extra h1 hck1
  obtain ⟨bops, hbo, hb⟩ := sc_bidding_uniform p _ qd cd _ cb b extra h2 hck2
  have hd' : ∀ k out table tables, callF (mkRec P (g+k)) m_SeatThread__deal
        [encSeatThread p (encSeatWorld p q c out table tables) extra]
      = .ok (.bool true, encSeatThread p (encSeatWorld p qd cd (out ++ dops)
          (adv2 (table, tables)).1 (adv2 (table, tables)).2) extra) :=
    fun k out table tables => hd out table tables (g+k+1) (by omega)
  by_cases s1 : second = MSG_PASSED_OUT
  · simp only [if_pos s1, Option.pure_def, Option.bind_some] at hC
    subst s1
    obtain ⟨⟨st, i5⟩, h5, hC⟩ := bind_some_inv hC
    simp only [Option.some.injEq, Prod.mk.injEq] at hC
    obtain ⟨rfl, rfl, rfl⟩ := hC
    have e5 := getQ_eq h5
    dsimp only at e5
    injection e5 with e5q e5c
    subst e5q
    subst e5c
    have hb' : ∀ k out table tables, callF (mkRec P (g+k)) m_SeatThread__bidding_phase
        [encSeatThread p (encSeatWorld p qd cd out table tables) extra]
      = .ok (.bool true, encSeatThread p (encSeatWorld p (MSG_PASSED_OUT :: _ :: q1) _ (out ++ bops) table tables)
          extra) :=
      fun k out table tables => hb out table tables (g+k+1) (by omega)
    refine ⟨dops ++ bops ++ [.tuple [vstr "get", vstr "m2t", encSeat p]] ++ [], ?_, ?_, fun out table tables rest => ?_⟩
    · exact encSeatActs_append p _ _ _ _ (encSeatActs_append p _ _ _ _ (encSeatActs_append p _ _ _ _ hdo hbo)
        (sc_enc_get p)) rfl
    · simp only [List.length_cons] at lb; omega
    · obtain ⟨rest', hx⟩ := sc_front_passed g p q c qd cd _ _ dops bops extra out table tables rest hd' hb'
      refine ⟨rest', ?_⟩
      rw [hx]
      simp only [List.append_assoc, List.append_nil]
  · simp only [if_neg s1] at hC
    by_cases s2 : second = MSG_NULL
    · simp only [if_pos s2] at hC
      subst s2
      obtain ⟨⟨pl, ⟨qp, cp⟩⟩, h4, hC⟩ := bind_some_inv hC
      obtain ⟨⟨st, i5⟩, h5, hC⟩ := bind_some_inv hC
      simp only [Option.pure_def, Option.some.injEq, Prod.mk.injEq] at hC
      obtain ⟨rfl, rfl, rfl⟩ := hC
      have e5 := getQ_eq h5
      dsimp only at e5
      injection e5 with e5q e5c
      subst e5q
      subst e5c
      have lp := seatPlayingR_len _ _ _ _ h4
      have hck4 := hck3 b _ _ h2 h3
      obtain ⟨pops, hpo, hp⟩ := sc_playing_uniform p qb cb _ _ pl extra h4 hck4
      have hb' : ∀ k out table tables, callF (mkRec P (g+k)) m_SeatThread__bidding_phase
          [encSeatThread p (encSeatWorld p qd cd out table tables) extra]
        = .ok (.bool true, encSeatThread p (encSeatWorld p (MSG_NULL :: qb) cb (out ++ bops) table tables) extra) :=
        fun k out table tables => hb out table tables (g+k+1) (by omega)
      have hp' : ∀ k out table tables, callF (mkRec P (g+k)) m_SeatThread__playing_phase
          [encSeatThread p (encSeatWorld p qb cb out table tables) extra]
        = .ok (.bool true, encSeatThread p (encSeatWorld p (_ :: q1) _ (out ++ pops) table tables) extra) :=
        fun k out table tables => hp out table tables (g+k+1) (by omega)
      refine ⟨dops ++ bops ++ [.tuple [vstr "get", vstr "m2t", encSeat p]] ++ pops, ?_, ?_,
        fun out table tables rest => ?_⟩
      · exact encSeatActs_append p _ _ _ _ (encSeatActs_append p _ _ _ _ (encSeatActs_append p _ _ _ _ hdo hbo)
          (sc_enc_get p)) hpo
      · simp only [List.length_cons] at lb lp; omega
      · obtain ⟨rest', hx⟩ := sc_front_played g p q c qd cd qb cb _ _ dops bops pops extra out table tables rest hd' hb' hp'
        refine ⟨rest', ?_⟩
        rw [hx]
        simp only [List.append_assoc]
    · simp only [if_neg s2] at hC
      cases hC

end Bridge.Translated.SeatC
