import BridgeVerif.Translated.JsonParserLemmasD
/-! Translated JSON parser (parser.py) = model: what the model's `logOfJson?` says when it reads a record, member by
member -/
namespace Bridge.Translated
open Bridge Bridge.Py Bridge.Generated.PyCore

def playerEntry? (pv : Str × Json) : Option (Seat × Str) := do let p ← seatOfName? pv.1; let v ← pv.2.str?; pure (p, v)
def bidEntry? (b : Json) : Option Call := b.str?.bind strToCall?
def scoreEntry? (kv : Str × Json) : Option (Side × Int) := do
  let k ← sideOfName? kv.1
  match kv.2 with | Json.int n => pure (k, n) | _ => none

/-- what `logOfJson? j = some r` says, member by member.  The model's `do` block is taken apart one `let` at a time;
the rest of the block (a join point of the `do` notation) is kept folded (`extract_lets`) while the cases of a member
are told apart, so that they do not multiply. -/
theorem jp_logOfJson_cases (j : Json) (r : LogRead) (hm : logOfJson? j = some r) :
    ∃ st declarer ctext contract tricks players bids play scoreType scores, settingOfJson? j = some st ∧
      ((j.get? ['d', 'e', 'c', 'l', 'a', 'r', 'e', 'r'] = some .null ∧ declarer = none) ∨
        (∃ s p, j.get? ['d', 'e', 'c', 'l', 'a', 'r', 'e', 'r'] = some (.str s) ∧ seatOfName? s = some p ∧ declarer = some p)) ∧
      j.get? ['c', 'o', 'n', 't', 'r', 'a', 'c', 't'] = some (.str ctext) ∧
      strToContract? ctext st.vul declarer = some contract ∧
      ((j.get? ['t', 'a', 'k', 'e', 'n', '_', 't', 'r', 'i', 'c', 'k'] = some .null ∧ tricks = none) ∨
        (∃ n, j.get? ['t', 'a', 'k', 'e', 'n', '_', 't', 'r', 'i', 'c', 'k'] = some (.int n) ∧ tricks = some n)) ∧
      ((j.get? ['p', 'l', 'a', 'y', 'e', 'r', 's'] = none ∧ players = none) ∨
        (∃ m ps, j.get? ['p', 'l', 'a', 'y', 'e', 'r', 's'] = some (.obj m) ∧ m.mapM playerEntry? = some ps ∧ players = some ps)) ∧
      ((j.get? ['b', 'i', 'd', '_', 'h', 'i', 's', 't', 'o', 'r', 'y'] = none ∧ bids = none) ∨
        (∃ m bs, j.get? ['b', 'i', 'd', '_', 'h', 'i', 's', 't', 'o', 'r', 'y'] = some (.arr m) ∧ m.mapM bidEntry? = some bs ∧ bids = some bs)) ∧
      ((j.get? ['p', 'l', 'a', 'y', '_', 'h', 'i', 's', 't', 'o', 'r', 'y'] = none ∧ play = none) ∨
        (j.get? ['p', 'l', 'a', 'y', '_', 'h', 'i', 's', 't', 'o', 'r', 'y'] = some .null ∧ play = none) ∨
        (∃ m ts, j.get? ['p', 'l', 'a', 'y', '_', 'h', 'i', 's', 't', 'o', 'r', 'y'] = some (.arr m) ∧ m.mapM trickOfJson? = some ts ∧ play = some ts)) ∧
      ((j.get? ['s', 'c', 'o', 'r', 'e', '_', 't', 'y', 'p', 'e'] = none ∧ scoreType = none) ∨
        (∃ s, j.get? ['s', 'c', 'o', 'r', 'e', '_', 't', 'y', 'p', 'e'] = some (.str s) ∧ scoreType = some s)) ∧
      ((j.get? ['s', 'c', 'o', 'r', 'e', 's'] = none ∧ scores = none) ∨
        (∃ m sc, j.get? ['s', 'c', 'o', 'r', 'e', 's'] = some (.obj m) ∧ m.mapM scoreEntry? = some sc ∧ scores = some sc)) ∧
      r = { boardId := st.boardId, hands := st.deal, dealer := st.dealer, vul := st.vul, declarer := declarer,
            contract := contract, tricks := tricks, players := players, bids := bids, play := play,
            dda := st.dda, scoreType := scoreType, scores := scores } := by
  unfold logOfJson? at hm
  obtain ⟨st, hst, hm⟩ := Option.bind_eq_some_iff.1 hm
  -- declarer
  obtain ⟨declJ, hd, hm⟩ := Option.bind_eq_some_iff.1 hm
  extract_lets jp at hm
  replace hm : ∃ declarer, ((j.get? (jkey "declarer") = some .null ∧ declarer = none) ∨
      (∃ s p, j.get? (jkey "declarer") = some (.str s) ∧ seatOfName? s = some p ∧ declarer = some p)) ∧
      jp declarer = some r := by
    cases declJ <;> first | cases hm | skip
    · exact ⟨none, Or.inl ⟨hd, rfl⟩, hm⟩
    · obtain ⟨_, hq, hm⟩ := Option.bind_eq_some_iff.1 hm
      obtain ⟨p, hp, rfl⟩ := Option.map_eq_some_iff.1 hq
      exact ⟨some p, Or.inr ⟨_, p, hd, hp, rfl⟩, hm⟩
  obtain ⟨declarer, hdec, hm⟩ := hm
  simp -zeta only [jp] at hm
  clear jp
  -- contract, taken_trick
  obtain ⟨ctext, hc, hm⟩ := Option.bind_eq_some_iff.1 hm
  obtain ⟨contract, hk, hm⟩ := Option.bind_eq_some_iff.1 hm
  obtain ⟨t, ht, hm⟩ := Option.bind_eq_some_iff.1 hm
  extract_lets jp at hm
  replace hm : ∃ tricks, ((j.get? (jkey "taken_trick") = some .null ∧ tricks = none) ∨
      (∃ n, j.get? (jkey "taken_trick") = some (.int n) ∧ tricks = some n)) ∧ jp tricks = some r := by
    cases t <;> first | cases hm | skip
    · exact ⟨none, Or.inl ⟨ht, rfl⟩, hm⟩
    · exact ⟨some _, Or.inr ⟨_, ht, rfl⟩, hm⟩
  obtain ⟨tricks, htr, hm⟩ := hm
  simp -zeta only [jp] at hm
  clear jp
  -- players
  extract_lets jp at hm
  replace hm : ∃ players, ((j.get? (jkey "players") = none ∧ players = none) ∨
      (∃ m ps, j.get? (jkey "players") = some (.obj m) ∧ m.mapM playerEntry? = some ps ∧ players = some ps)) ∧
      jp players = some r := by
    cases hg : j.get? (jkey "players") with
    | none => rw [hg] at hm; exact ⟨none, Or.inl ⟨rfl, rfl⟩, hm⟩
    | some d =>
      rw [hg] at hm
      cases d <;> first | cases hm | skip
      obtain ⟨ps, hp, hm⟩ := jp_map_some_bind _ _ _ hm
      exact ⟨some ps, Or.inr ⟨_, ps, rfl, hp, rfl⟩, hm⟩
  obtain ⟨players, hpl, hm⟩ := hm
  simp -zeta only [jp] at hm
  clear jp
  -- bid_history
  extract_lets jp at hm
  replace hm : ∃ bids, ((j.get? (jkey "bid_history") = none ∧ bids = none) ∨
      (∃ m bs, j.get? (jkey "bid_history") = some (.arr m) ∧ m.mapM bidEntry? = some bs ∧ bids = some bs)) ∧
      jp bids = some r := by
    cases hg : j.get? (jkey "bid_history") with
    | none => rw [hg] at hm; exact ⟨none, Or.inl ⟨rfl, rfl⟩, hm⟩
    | some d =>
      rw [hg] at hm
      cases d <;> first | cases hm | skip
      obtain ⟨bs, hp, hm⟩ := jp_map_some_bind _ _ _ hm
      exact ⟨some bs, Or.inr ⟨_, bs, rfl, hp, rfl⟩, hm⟩
  obtain ⟨bids, hbi, hm⟩ := hm
  simp -zeta only [jp] at hm
  clear jp
  -- play_history
  extract_lets jp at hm
  replace hm : ∃ play, ((j.get? (jkey "play_history") = none ∧ play = none) ∨
      (j.get? (jkey "play_history") = some .null ∧ play = none) ∨
      (∃ m ts, j.get? (jkey "play_history") = some (.arr m) ∧ m.mapM trickOfJson? = some ts ∧ play = some ts)) ∧
      jp play = some r := by
    cases hg : j.get? (jkey "play_history") with
    | none => rw [hg] at hm; exact ⟨none, Or.inl ⟨rfl, rfl⟩, hm⟩
    | some d =>
      rw [hg] at hm
      cases d <;> first | cases hm | skip
      · exact ⟨none, Or.inr (Or.inl ⟨rfl, rfl⟩), hm⟩
      · obtain ⟨ts, hp, hm⟩ := jp_map_some_bind _ _ _ hm
        exact ⟨some ts, Or.inr (Or.inr ⟨_, ts, rfl, hp, rfl⟩), hm⟩
  obtain ⟨play, hpy, hm⟩ := hm
  simp -zeta only [jp] at hm
  clear jp
  -- score_type
  extract_lets jp at hm
  replace hm : ∃ scoreType, ((j.get? (jkey "score_type") = none ∧ scoreType = none) ∨
      (∃ s, j.get? (jkey "score_type") = some (.str s) ∧ scoreType = some s)) ∧ jp scoreType = some r := by
    cases hg : j.get? (jkey "score_type") with
    | none => rw [hg] at hm; exact ⟨none, Or.inl ⟨rfl, rfl⟩, hm⟩
    | some d =>
      rw [hg] at hm
      cases d <;> first | cases hm | skip
      exact ⟨some _, Or.inr ⟨_, rfl, rfl⟩, hm⟩
  obtain ⟨scoreType, hsy, hm⟩ := hm
  simp -zeta only [jp] at hm
  clear jp
  -- scores
  extract_lets jp at hm
  replace hm : ∃ scores, ((j.get? (jkey "scores") = none ∧ scores = none) ∨
      (∃ m sc, j.get? (jkey "scores") = some (.obj m) ∧ m.mapM scoreEntry? = some sc ∧ scores = some sc)) ∧
      jp scores = some r := by
    cases hg : j.get? (jkey "scores") with
    | none => rw [hg] at hm; exact ⟨none, Or.inl ⟨rfl, rfl⟩, hm⟩
    | some d =>
      rw [hg] at hm
      cases d <;> first | cases hm | skip
      obtain ⟨sc, hp, hm⟩ := jp_map_some_bind _ _ _ hm
      exact ⟨some sc, Or.inr ⟨_, sc, rfl, hp, rfl⟩, hm⟩
  obtain ⟨scores, hsc, hm⟩ := hm
  cases hm
  exact ⟨st, declarer, ctext, contract, tricks, players, bids, play, scoreType, scores, hst, hdec,
    jp_bind_str_some _ _ hc, hk, htr, hpl, hbi, hpy, hsy, hsc, rfl⟩
end Bridge.Translated
