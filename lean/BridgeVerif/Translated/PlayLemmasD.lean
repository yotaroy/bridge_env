import BridgeVerif.Translated.PlayLemmasC
import BridgeVerif.Translated.ContractMethods
import BridgeVerif.Translated.EncExtend
/-! Translated playing phases = model: `has_done`, `__init__` (on an instance of `PlayingPhase` or of a subclass) -/
namespace Bridge.Translated
open Bridge Bridge.Py Bridge.Generated.PyCore

theorem has_done_call (f : Nat) (k : Id) (ex : List (Id × Val)) (c : Contract) (s : PState) :
    callF (mkRec P (f+8)) m_PlayingPhase_has_done [ppObj k c s ex] = .ok (.bool s.hasDone, ppObj k c s ex) := by
  rw [callF_def]
  simp only [m_PlayingPhase_has_done, bindParams, Option.map, ppObj, baseFields, PState.hasDone]
  ppsimp []
  have e : decide ((s.trickNum : Int) > 13) = decide (s.trickNum > 13) := by
    rw [Bool.eq_iff_iff]; simp only [decide_eq_true_eq]; omega
  rw [e]

/-! ## `__init__` -/
theorem mth_is_passed_out :
    P.method? classDepth n_Contract n_is_passed_out = some (n_Contract, m_Contract_is_passed_out) := rfl
theorem mth_contract_trump : P.method? classDepth n_Contract n_trump = some (n_Contract, m_Contract_trump) := rfl

theorem construct_history (f : Nat) (cv : Val) :
    constructF (mkRec P (f+5)) P n_PlayingHistory [cv]
      = .ok (.obj n_PlayingHistory [(n__history, .tuple []), (n__contract, cv)]) := rfl
theorem eval_taken_dict (f : Nat) (env : Env) :
    evalF (mkRec P (f+1)) P env (.dictOf [((.const (.enum n_Pair 1)), (.const (.int 0))), ((.const (.enum n_Pair 2)), (.const (.int 0)))])
      = .ok (.dict (takenKvs 0 0)) := by
  simp only [evalF, List.map, mapR, eval_succ, bind_ok, pure_eq, List.zip_cons_cons, List.zip_nil_right, List.foldl, updateD,
    Val.beq]
  rfl

theorem builtin_set_nil (r : Rec) : builtinF r P .set [] = .ok (.tuple []) := rfl

theorem is_passed_out_call (f : Nat) (c : Contract) :
    callF (mkRec P (f+8)) m_Contract_is_passed_out [encContract c] = .ok (.bool c.finalBid.isNone, encContract c) :=
  passed_out_call P (f+9) (by omega) c

theorem mth_history_init :
    P.method? classDepth n_PlayingHistory K.init = some (n_PlayingHistory, m_PlayingHistory___init__) := rfl

theorem meth_encContract (r : Rec) (c : Contract) (m : Id) (args : List Val) :
    methF r P (encContract c) m args = callMethod r P n_Contract m (encContract c :: args) (.exc K.AttributeError) := rfl
theorem getAttr_contract_declarer (r : Rec) (c : Contract) :
    getAttrF r P (encContract c) n_declarer = .ok (encOpt encSeat c.declarer) := rfl

/-- the property `Contract.trump` -/
theorem getAttr_contract_trump (f : Nat) (c : Contract) :
    getAttrF (mkRec P (f+25)) P (encContract c) n_trump = .ok (encOpt encSuit c.trump) := by
  have e : getAttrF (mkRec P (f+25)) P (encContract c) n_trump
      = ((mkRec P (f+25)).call m_Contract_trump [encContract c]).map (·.1) := rfl
  rw [e, trump_call PB_ext_P _ (by omega), Contract.trump]
  cases c.finalBid <;> rfl

/-- the state `__init__` builds for the final bid `b` declared by `d` -/
def initState (b : Fin 35) (d : Seat) : PState :=
  { trump := bidDenom b, declarer := d, dummy := d.partner, leader := d.left, active := d.left,
    trick := [], trickNum := 1, history := [], used := [], takenNS := 0, takenEW := 0 }

theorem init_eq (c : Contract) : PState.init c =
    match c.finalBid, c.declarer with
    | some b, some d => some (initState b d)
    | _, _ => none := rfl

/-- `PlayingPhase.__init__` on a fresh instance of class `k` -/
theorem init_call (f : Nat) (k : Id) (c : Contract) :
    callF (mkRec P (f+40)) m_PlayingPhase___init__ [.obj k [], encContract c] =
      match c.finalBid, c.declarer with
      | none, _ => .error (.exc K.Exception)
      | some _, none => .error (.exc K.AssertionError)
      | some b, some d => .ok (.none, ppObj k c (initState b d) []) := by
  rw [callF_def]
  simp only [m_PlayingPhase___init__, bindParams, Option.map]
  cases hfb : c.finalBid with
  | none =>
    ppsimp [meth_encContract, mth_is_passed_out, is_passed_out_call, hfb]
  | some b =>
    cases hd : c.declarer with
    | none =>
      ppsimp [meth_encContract, mth_is_passed_out, is_passed_out_call, hfb, getAttr_contract_trump, Contract.trump,
        getAttr_contract_declarer, hd, beq_encSuit_none]
    | some d =>
      ppsimp [meth_encContract, mth_is_passed_out, is_passed_out_call, hfb, getAttr_contract_trump, Contract.trump,
        getAttr_contract_declarer, hd, beq_encSuit_none, beq_encSeat_none, getAttr_partner, getAttr_next,
        construct_history, ↓eval_taken_dict, builtin_tuple_nil, builtin_set_nil, ppObj, baseFields, encCards, encHistory, initState,
        List.reverse_nil, List.map_nil]
      rfl

end Bridge.Translated
