import BridgeVerif.Translated.PbnParserLemmasD
/-! Translated PBN parser = model: one line of `parse_stream` -/
namespace Bridge.Translated
open Bridge Bridge.Py Bridge.Generated.PyCore Bridge.RegexPbn

/-- the two patterns `parse_stream` tries on a `%` line -/
def PBN_VERSION_PATTERN : Str := ['%', ' ', 'P', 'B', 'N', ' ', '(', '\\', 'd', '+', ')', '\\', '.', '(', '\\', 'd', '+', ')']
def PBN_EXPORT_PATTERN : Str := ['%', ' ', 'E', 'X', 'P', 'O', 'R', 'T']

/-- what `parse_stream` needs of a `%` line in order not to raise: `re.match(r'% PBN (\d+)\.(\d+)', l)` fails, or its
groups 1 and 2 (as the translated program sees the match object: `matchVal`) are texts `int()` accepts -/
def pctVersionOk (l : Str) : Bool :=
  match Re.pyMatch false PBN_VERSION_PATTERN l with
  | none => false
  | some none => true
  | some (some m) =>
    match matchVal n__Match (Int.toNat n_texts) l m with
    | .obj _ [(_, .tuple (_ :: .str a :: .str b :: _))] => (parseInt? a).isSome && (parseInt? b).isSome
    | _ => false
/-- `re.match(r'% EXPORT', l)` gives an answer (the engine does not run out of its own fuel) -/
def pctExportOk (l : Str) : Bool := (Re.pyMatch false PBN_EXPORT_PATTERN l).isSome
def pctLineOk (l : Str) : Bool := pctVersionOk l && pctExportOk l

def psBody : List Stmt := match m_PbnParser_parse_stream.body.getD 1 .pass with
  | .for _ _ b => b
  | _ => []

/-- the environment of `parse_stream` inside the loop -/
def psEnv (st : PbnSt) (cl cb : List Str) (fpv : Val) (games : List Game) (tail : Env) : Env :=
  (K.self, encPbnParser st cl cb) :: (n_fp, fpv) :: (n__out, .tuple (games.reverse.map encGame)) :: tail

theorem pp_fullmatch_builtin (hf : PbnRegexFacts) (l : Str) :
    ∃ mv, truthy mv = semiEmpty l ∧ ∀ r : Rec,
      builtinF r P .reFullmatch [.str REPLACE_PATTERN, .str l, .bool false, .cls n__Match, .int n_texts] = .ok mv := by
  have h := hf.fullmatch_replace l
  cases hp : Re.pyFullmatch false REPLACE_PATTERN l with
  | none => rw [hp] at h; cases h
  | some mo =>
    rw [hp] at h
    simp only [Option.map, Option.some.injEq] at h
    cases mo with
    | none => exact ⟨.none, by rw [← h]; rfl, fun r => by simp only [builtinF, hp]; rfl⟩
    | some m => exact ⟨matchVal n__Match (Int.toNat n_texts) l m, by rw [← h]; rfl, fun r => by simp only [builtinF, hp]; rfl⟩

theorem pp_beq_pct (c : Char) : (Val.str [c]).beq (.str ['%']) = decide (c = '%') := by
  simp only [Val.beq]; rw [Bool.eq_iff_iff]; simp

/-- a semi-empty line outside a comment -/
theorem pp_step_semi (hf : PbnRegexFacts) (hne : PbnSubNonempty) (f N : Nat) (fpv : Val) (l : Str)
    (hse : semiEmpty l = true) (buf : List Str) (cl cb : List Str) (games : List Game) (tail : Env) :
    ∃ tail', execF (mkRec P (f + 4 * N + 31)) P (psEnv ⟨false, buf⟩ cl cb fpv games (update tail n_line (.str l))) psBody
      = .ok (psEnv (streamStep (⟨false, buf⟩, games) l).1 [] [] fpv (streamStep (⟨false, buf⟩, games) l).2 tail', .cont) := by
  obtain ⟨mv, hmv, hb⟩ := pp_fullmatch_builtin hf l
  have hbc : callF (mkRec P (f + 4 * N + 27)) m_PbnParser_parse_board [encPbnParser ⟨false, buf⟩ cl cb]
      = .ok (encGame (parseBoard buf.reverse), encPbnParser ⟨false, buf⟩ cl cb) :=
    pp_board_call hf hne (f + 4 * N + 7) ⟨false, buf⟩ cl cb
  simp only [encPbnParser] at hbc
  simp only [psBody, m_PbnParser_parse_stream, List.getD_cons_succ, List.getD_cons_zero, psEnv, encPbnParser, streamStep,
    hse, Bool.not_false, Bool.and_self, if_true]
  cases buf with
  | nil =>
    refine ⟨update (update tail n_line (.str l)) n_match mv, ?_⟩
    ppsimp [pp_mth_replace, pp_replace_call, hb, hmv, hse, builtin_len_tuple, ofNat_beq_zero, builtin_tuple_nil, List.length_map,
      List.length_reverse, List.isEmpty_nil]
    rfl
  | cons b0 buf =>
    simp only [List.reverse_cons, List.map_append, List.map_cons, List.map_nil] at hbc
    refine ⟨update (update tail n_line (.str l)) n_match mv, ?_⟩
    ppsimp [pp_mth_replace, pp_replace_call, hb, hmv, hse, builtin_len_tuple, ofNat_beq_zero, builtin_tuple_nil, List.length_map,
      List.length_reverse, List.isEmpty_cons, pp_mth_board, hbc, List.length_cons, List.reverse_cons, List.map_append,
      List.map_cons, List.map_nil, List.length_append]
    rfl

theorem pp_version_builtin (l : Str) (h : pctVersionOk l = true) :
    ∃ mv, (∀ r : Rec, builtinF r P .reMatch [.str PBN_VERSION_PATTERN, .str l, .bool false, .cls n__Match, .int n_texts]
        = .ok mv) ∧
      (mv = .none ∨ ∃ g0 a b rest na nb, mv = .obj n__Match [(n_texts, .tuple (g0 :: .str a :: .str b :: rest))] ∧
        parseInt? a = some na ∧ parseInt? b = some nb) := by
  unfold pctVersionOk at h
  cases hp : Re.pyMatch false PBN_VERSION_PATTERN l with
  | none => rw [hp] at h; cases h
  | some mo =>
    cases mo with
    | none => exact ⟨.none, fun r => by simp only [builtinF, hp]; rfl, Or.inl rfl⟩
    | some m =>
      rw [hp] at h
      simp only at h
      refine ⟨matchVal n__Match (Int.toNat n_texts) l m, fun r => by simp only [builtinF, hp]; rfl, Or.inr ?_⟩
      obtain ⟨gs, hm⟩ := pp_matchVal l m
      rw [hm] at h ⊢
      split at h
      · rename_i c k g0 a b rest heq
        simp only [Val.obj.injEq, List.cons.injEq, Prod.mk.injEq, Val.tuple.injEq, and_true] at heq
        obtain ⟨_, _, _, hgs⟩ := heq
        simp only [Bool.and_eq_true, Option.isSome_iff_exists] at h
        obtain ⟨⟨na, hna⟩, ⟨nb, hnb⟩⟩ := h
        exact ⟨_, a, b, rest, na, nb, by rw [hgs], hna, hnb⟩
      · cases h

theorem pp_export_builtin (l : Str) (h : pctExportOk l = true) :
    ∃ me, ∀ r : Rec, builtinF r P .reMatch [.str PBN_EXPORT_PATTERN, .str l, .bool false, .cls n__Match, .int n_texts]
        = .ok me := by
  unfold pctExportOk at h
  cases hp : Re.pyMatch false PBN_EXPORT_PATTERN l with
  | none => rw [hp] at h; cases h
  | some mo =>
    cases mo with
    | none => exact ⟨.none, fun r => by simp only [builtinF, hp]; rfl⟩
    | some m => exact ⟨_, fun r => by simp only [builtinF, hp]; rfl⟩

end Bridge.Translated
