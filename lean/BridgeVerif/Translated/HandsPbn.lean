import BridgeVerif.Translated.HandsPbnLemmasC
/-!
# `Hands.convert_pbn` / `Hands._hand_parser` AS TRANSLATED compute the hand-written model, for EVERY string  (C14)

The translated methods (Generated/PyCoreHands.lean `m_Hands_convert_pbn`, `m_Hands__hand_parser`, re-written from hands.py
lines 150–210 on every run), executed by the MiniPy interpreter at the top-level fuel (`P.runMethod`), against
`convertPbn?` / `handParser?` of Model/Hands.lean.

## Statements
* `hp_hand_parser_translated_eq`  — `Hands._hand_parser(f)` returns `pyHandParser? f` (HandsPbnLemmasA.lean): the cards of the
  four groups in text order with FIRST occurrences kept (`dedupFirst`, the interpreter's `set.add`), as a tuple of
  `encCard`s; `Exception` when `pyHandParser? f = none`.  Syntactic equality of value AND of the argument afterwards.
* `hp_hand_parser_translated`     — (1): when `handParser? f = some cards` the result is `.tuple (l.map encCard)` for a
  duplicate-free `l` that is a permutation of `cards` (the model's `dedup` keeps LAST occurrences, so only the order
  differs); when `handParser? f = none` it is `.error (.exc K.Exception)`.
* `hp_hand_parser_translated_some` / `_none` — the two halves separately.
* `hp_convert_pbn_translated`     — (2): `Hands.convert_pbn(s)` (classmethod, arguments `cls`, `s`): when
  `convertPbn? s = some h` the result is `encHands h'` (the `Hands` instance of Translated/HandsLemmasA.lean: attributes
  `north`, `east`, `south`, `west`, each set a tuple in insertion order) for a deal `h'` with duplicate-free hands and
  `SameHands h' h` (a permutation seat by seat); when `convertPbn? s = none` the result is `.error (.exc K.Exception)`.
  NO other exception class arises: `Player[match.group(1)]` cannot raise `KeyError` (group 1 matched `[NESW]`, proved
  from `dealFields?`: `hp_seat_letter`), `match.group(i)` for `i` in 1..5 exists, `hands[Player.X]` finds all four keys
  (the four seats in rotation are distinct), `Card.rank_str_to_int` never raises (the groups hold rank characters only:
  `hp_matchGroups`, `hp_rank_char`) and `Card.__post_init__` accepts every card built (rank 2..14, suit ≠ NT).
* `hp_convert_pbn_translated_some` / `_none` — the two halves separately; `hp_convert_pbn_call` — the same at any fuel.
* `hp_pbn_round_trip_translated`  — (3): for a `PartialDeal h` (Spec/Deal.lean: valid cards, pairwise disjoint hands, each
  hand of 0 or 13 cards — the hypothesis of `C14.pbn_round_trip`) and any first seat: the translated `to_pbn` returns a
  text `s`, and the translated `convert_pbn` applied to `s` returns a `Hands` instance with the same four sets.  The PBN
  round trip of C14 entirely inside the translated code.
* `example`s at the end — (4): non-vacuity, concrete texts run by the kernel with the REAL regular-expression engine
  (no hypothesis).

## Hypotheses
* `hf : HandsRegexFacts` (Lemmas/RegexHandsFacts.lean; proved as `handsRegexFacts` in Lemmas/RegexHands.lean) — every
  theorem except the examples: what `re.match(DEAL_PATTERN, s)` / `re.match(HAND_PATTERN, f)` capture, stated with the
  model's scanners `dealFields?` / `matchGroups 3`.  Needed because both methods call `re.match` and this file does
  not reason about the engine.  The pattern texts there ARE the module constants of the translated program
  (`hp_glob_hand_pattern`, `hp_glob_deal_pattern`).
* `hnl : '\n' ∉ f` — only for `_hand_parser` called directly: `HandsRegexFacts.match_hand` is stated for such subjects
  (Python's `.` does not match a line feed, the model's separator does).  `convert_pbn` needs NO such hypothesis: a
  field that passed `DEAL_PATTERN` is `-` or 16 characters of `[2-9TJQKA.]` (`hp_field_no_nl`).
* `hd : PartialDeal h` — only for the round trip (see above).

The proofs are symbolic executions of the interpreter (HandsPbnLemmasB–C): the loop over the characters of a group by
induction, the loop over the four suits unrolled, one turn of the loop over the four seats with the seat and the dictionary
as variables (the first field `_hand_parser` rejects ends it).  Fuel: every call lemma holds at `f + bound` for all `f`;
`P.runMethod` uses 999.
-/
namespace Bridge.Translated.HandsPbn
open Bridge Bridge.Py Bridge.Generated.PyCore Bridge.Translated Bridge.RegexHands

theorem hp_runMethod_eq (c m : Id) (args : List Val) (cm : Id) (fd : FuncDef)
    (hm : P.method? classDepth c m = some (cm, fd)) : P.runMethod c m args = callF (mkRec P 999) fd args := by
  simp only [Program.runMethod, hm]; rfl

/-! ## (1) `Hands._hand_parser` -/
/-- the exact value: first-occurrence order -/
theorem hp_hand_parser_translated_eq (hf : HandsRegexFacts) (f : List Char) (hnl : '\n' ∉ f) :
    P.runMethod n_Hands n__hand_parser [.str f]
      = match pyHandParser? f with
        | some l => .ok (.tuple (l.map encCard), .str f)
        | none => .error (.exc K.Exception) := by
  rw [hp_runMethod_eq _ _ _ _ _ hp_mth_hand_parser]
  exact hp_hand_parser_call hf 969 f hnl

/-- the model and the interpreter agree on every field: both reject, or both hold the same set -/
theorem hp_py_cases (f : List Char) :
    (handParser? f = none ∧ pyHandParser? f = none) ∨
    (∃ c l, handParser? f = some c ∧ pyHandParser? f = some l ∧ l.Nodup ∧ l.Perm c) := by
  cases h : handParser? f with
  | none => exact Or.inl ⟨rfl, (hp_pyHandParser_none f).2 h⟩
  | some c =>
    obtain ⟨l, h1, h2, h3⟩ := hp_pyHandParser_some f c h
    exact Or.inr ⟨c, l, rfl, h1, h2, h3⟩

theorem hp_hand_parser_translated_some (hf : HandsRegexFacts) (f : List Char) (hnl : '\n' ∉ f) (cards : List Card)
    (h : handParser? f = some cards) :
    ∃ l : List Card, l.Nodup ∧ l.Perm cards ∧ P.runMethod n_Hands n__hand_parser [.str f] = .ok (.tuple (l.map encCard), .str f) := by
  obtain ⟨l, h1, h2, h3⟩ := hp_pyHandParser_some f cards h
  refine ⟨l, h2, h3, ?_⟩
  rw [hp_hand_parser_translated_eq hf f hnl, h1]

theorem hp_hand_parser_translated_none (hf : HandsRegexFacts) (f : List Char) (hnl : '\n' ∉ f) (h : handParser? f = none) :
    P.runMethod n_Hands n__hand_parser [.str f] = .error (.exc K.Exception) := by
  rw [hp_hand_parser_translated_eq hf f hnl, (hp_pyHandParser_none f).2 h]

/-- (1) -/
theorem hp_hand_parser_translated (hf : HandsRegexFacts) (f : List Char) (hnl : '\n' ∉ f) :
    match handParser? f with
    | some cards => ∃ l : List Card, l.Nodup ∧ l.Perm cards ∧
        P.runMethod n_Hands n__hand_parser [.str f] = .ok (.tuple (l.map encCard), .str f)
    | none => P.runMethod n_Hands n__hand_parser [.str f] = .error (.exc K.Exception) := by
  cases h : handParser? f with
  | none => exact hp_hand_parser_translated_none hf f hnl h
  | some cards => exact hp_hand_parser_translated_some hf f hnl cards h

/-! ## (2) `Hands.convert_pbn` -/
theorem hp_assemble_rel {R : List Card → List Card → Prop} (first : Seat) (l0 l1 l2 l3 c0 c1 c2 c3 : List Card)
    (r0 : R l0 c0) (r1 : R l1 c1) (r2 : R l2 c2) (r3 : R l3 c3) (p : Seat) :
    R (assemble first l0 l1 l2 l3 p) (assemble first c0 c1 c2 c3 p) := by
  unfold assemble
  split
  · exact r0
  · split
    · exact r1
    · split
      · exact r2
      · exact r3

theorem hp_convert_pbn_call (hf : HandsRegexFacts) (f : Nat) (cv : Val) (s : List Char) :
    match convertPbn? s with
    | some h => ∃ h' : Hands, (∀ p, (h' p).Nodup) ∧ SameHands h' h ∧
        callF (mkRec P (f+50)) m_Hands_convert_pbn [cv, .str s] = .ok (encHands h', cv)
    | none => callF (mkRec P (f+50)) m_Hands_convert_pbn [cv, .str s] = .error (.exc K.Exception) := by
  cases hd : dealFields? s with
  | none =>
    rw [hp_dealFields_none s hd]
    exact hp_convert_pbn_call_nomatch hf f _ s hd
  | some fl =>
    obtain ⟨c, h0, h1, h2, h3, first, rfl, hfirst, n0, n1, n2, n3, hconv⟩ := hp_dealFields_some s fl hd
    rw [hconv, hp_convert_pbn_call_match hf f cv s c h0 h1 h2 h3 first hd hfirst n0 n1 n2 n3]
    rcases hp_py_cases h0 with ⟨a0, b0⟩ | ⟨c0, l0, a0, b0, d0, q0⟩ <;>
    rcases hp_py_cases h1 with ⟨a1, b1⟩ | ⟨c1, l1, a1, b1, d1, q1⟩ <;>
    rcases hp_py_cases h2 with ⟨a2, b2⟩ | ⟨c2, l2, a2, b2, d2, q2⟩ <;>
    rcases hp_py_cases h3 with ⟨a3, b3⟩ | ⟨c3, l3, a3, b3, d3, q3⟩ <;>
    simp only [a0, a1, a2, a3, b0, b1, b2, b3]
    exact ⟨assemble first l0 l1 l2 l3, hp_assemble_rel (R := fun l _ => l.Nodup) first l0 l1 l2 l3 l0 l1 l2 l3 d0 d1 d2 d3,
      hp_assemble_rel first l0 l1 l2 l3 c0 c1 c2 c3 q0 q1 q2 q3, rfl⟩

/-- (2) -/
theorem hp_convert_pbn_translated (hf : HandsRegexFacts) (s : List Char) :
    match convertPbn? s with
    | some h => ∃ h' : Hands, (∀ p, (h' p).Nodup) ∧ SameHands h' h ∧
        P.runMethod n_Hands n_convert_pbn [.cls n_Hands, .str s] = .ok (encHands h', .cls n_Hands)
    | none => P.runMethod n_Hands n_convert_pbn [.cls n_Hands, .str s] = .error (.exc K.Exception) := by
  rw [hp_runMethod_eq _ _ _ _ _ hp_mth_convert_pbn]
  exact hp_convert_pbn_call hf 949 (.cls n_Hands) s

theorem hp_convert_pbn_translated_some (hf : HandsRegexFacts) (s : List Char) (h : Hands) (hs : convertPbn? s = some h) :
    ∃ h' : Hands, (∀ p, (h' p).Nodup) ∧ SameHands h' h ∧
      P.runMethod n_Hands n_convert_pbn [.cls n_Hands, .str s] = .ok (encHands h', .cls n_Hands) := by
  have := hp_convert_pbn_translated hf s
  rwa [hs] at this

theorem hp_convert_pbn_translated_none (hf : HandsRegexFacts) (s : List Char) (hs : convertPbn? s = none) :
    P.runMethod n_Hands n_convert_pbn [.cls n_Hands, .str s] = .error (.exc K.Exception) := by
  have := hp_convert_pbn_translated hf s
  rwa [hs] at this

/-! ## (3) the PBN round trip inside the translated code -/
theorem hp_pbn_round_trip_translated (hf : HandsRegexFacts) (h : Hands) (hd : PartialDeal h) (first : Seat) :
    ∃ (s : List Char) (h' : Hands), P.runMethod n_Hands n_to_pbn [encHands h, encSeat first] = .ok (.str s, encHands h) ∧
      P.runMethod n_Hands n_convert_pbn [.cls n_Hands, .str s] = .ok (encHands h', .cls n_Hands) ∧
      (∀ p, (h' p).Nodup) ∧ SameHands h' h := by
  obtain ⟨s, hs, h1, hc, hsame⟩ := C14.pbn_round_trip h hd first
  obtain ⟨h', hn, hp, hrun⟩ := hp_convert_pbn_translated_some hf s h1 hc
  refine ⟨s, h', ?_, hrun, hn, fun p => (hp p).trans (hsame p)⟩
  exact hands_to_pbn_translated h first
    (fun p _ c hc => ⟨(hands_ok_card (hd.ok p c hc)).1, (hands_ok_card (hd.ok p c hc)).2.1⟩) s hs

/-! ## (4) non-vacuity: the real engine, no hypothesis -/
/-- what a run returned, compared with Python's `==` -/
def returns (r : R (Val × Val)) (v : Val) : Bool :=
  match r with
  | .ok (x, _) => x.beq v
  | .error _ => false

/-- a 13-card North hand and three unknown hands -/
example :
    returns (P.runMethod n_Hands n_convert_pbn [.cls n_Hands, .str "N:AKQJ.T98.765.432 - - -".toList])
      (encHands fun p => if p = .N then
        [⟨14, .S⟩, ⟨13, .S⟩, ⟨12, .S⟩, ⟨11, .S⟩, ⟨10, .H⟩, ⟨9, .H⟩, ⟨8, .H⟩, ⟨7, .D⟩, ⟨6, .D⟩, ⟨5, .D⟩, ⟨4, .C⟩, ⟨3, .C⟩,
         ⟨2, .C⟩] else []) = true := by
  decide +kernel

/-- the first seat rotates: `E:` puts the first field into `east`; a repeated rank character is kept once -/
example :
    returns (P.runMethod n_Hands n_convert_pbn [.cls n_Hands, .str "E:AA.KK.QQ.JJTT998 - - -".toList])
      (encHands fun p => if p = .E then [⟨14, .S⟩, ⟨13, .H⟩, ⟨12, .D⟩, ⟨11, .C⟩, ⟨10, .C⟩, ⟨9, .C⟩, ⟨8, .C⟩] else [])
      = true := by
  decide +kernel

/-- a text that does not match `DEAL_PATTERN` -/
example : (P.runMethod n_Hands n_convert_pbn [.cls n_Hands, .str "N:AKQJ.T98.765.432 - -".toList]).exc? = some K.Exception := by
  decide +kernel

/-- `HAND_PATTERN`'s separators are unescaped dots (any character): a field of 16 rank characters passes both patterns, the
last three characters are eaten as separators -/
example :
    returns (P.runMethod n_Hands n_convert_pbn [.cls n_Hands, .str "N:AKQJT98765432AKQ - - -".toList])
      (encHands fun p => if p = .N then
        [⟨14, .S⟩, ⟨13, .S⟩, ⟨12, .S⟩, ⟨11, .S⟩, ⟨10, .S⟩, ⟨9, .S⟩, ⟨8, .S⟩, ⟨7, .S⟩, ⟨6, .S⟩, ⟨5, .S⟩, ⟨4, .S⟩, ⟨3, .S⟩,
         ⟨2, .S⟩] else []) = true := by
  decide +kernel

/-- `_hand_parser` called directly: a hand, and a text with fewer than three characters to serve as separators (`Exception`) -/
example :
    returns (P.runMethod n_Hands n__hand_parser [.str "AK.Q.J.T".toList])
      (.tuple ([⟨14, .S⟩, ⟨13, .S⟩, ⟨12, .H⟩, ⟨11, .D⟩, ⟨10, .C⟩].map encCard)) = true := by
  decide +kernel
example : (P.runMethod n_Hands n__hand_parser [.str "AK".toList]).exc? = some K.Exception := by
  decide +kernel

end Bridge.Translated.HandsPbn
