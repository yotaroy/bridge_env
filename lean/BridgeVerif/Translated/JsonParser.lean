import BridgeVerif.Translated.JsonParserLemmasH
import BridgeVerif.Translated.Notation
import BridgeVerif.Translated.JsonWriterLemmasC
/-!
# json_handler/parser.py AS TRANSLATED reads what the hand-written model reads  (C12, C13, C17)

`hands_parser`, `convert_board_setting`, `convert_board_log`, `JsonParser.parse_board_settings`, `JsonParser.parse_board_logs`
(Generated/PyCoreJson.lean, re-written from parser.py on every run), executed by the MiniPy interpreter at the top-level
fuel, against the model of Model/JsonLog.lean (`handsOfJson?`, `settingOfJson?`, `logOfJson?`, `parseBoardSettings?`,
`parseBoardLogs?`).  ONE direction only: whenever the MODEL reads a document, the translated code returns the encoding of
the same records (Python also accepts ill-typed members — a number where the model wants a string — that the model
refuses: nothing is claimed there, except that a text `json.loads` refuses raises `ValueError`).

## Encoders (JsonParserLemmasD/F/H.lean)
* `encSetting : SettingEntry → Val` — a `BoardSetting` instance, fields `hands, dealer, vul, board_id, dda`;
* `encLogRead : LogRead → Val` — a `BoardLog` instance, fields `board_id, hands, dealer, vul, declarer, contract,
  taken_trick, players, bid_history, play_history, dda, score_type, scores`;
* `encDda`, `encPlayers`, `encScores` — through `encDict`: the `dict` obtained by inserting the pairs in order (what a dict
  comprehension does).  When the keys are pairwise different it is the list itself (`jp_encDict_of_pairwise`); documents
  read by `jsonLoad` never repeat a key, an arbitrary `Json` value may, and then Python merges where the model's `mapM`
  keeps both: with `encDict` the theorems hold for EVERY `Json` value;
* `fileOf text` — a file object holding `text`.

## Two findings about the hand-written model (kernel-checked counterexamples at the end of this file)
The statements "the translated function returns `encHands h` / `encLogRead r`" are FALSE as syntactic equalities of `Val`s:
1. ORDER INSIDE A SET OF CARDS.  A card listed twice in a hand: the interpreter's `set` keeps the FIRST occurrence, the model's
   `dedup` (Model/Hands.lean, a `foldr`) keeps the LAST: `["C2","C3","C2"]` is `[C2, C3]` for the interpreter and `[C3, C2]`
   for the model.  The same SET (`jp_pyHands_same`: a permutation per seat), a different `Val`.
2. `Bid.Pass` AS FINAL BID.  For a contract text whose body reads as `Pass` (`"Pass"`, `"PassX"`, `"PassXX"`, `"sPas"`, …)
   the model answers a contract with `finalBid = none` (Core.lean: "`finalBid = none` models both `None` and `Bid.Pass`")
   and `encContract` writes `final_bid = None`; Python builds `Contract(Bid.Pass, …)`.  The two instances answer every method
   alike but are not `==`.
Hence three forms of every theorem:
* `…_general`: no extra hypothesis, the value returned is given explicitly (`pyHands`: first-occurrence order; `pyContract`:
  `Bid.Pass` where Python puts it);
* `…_same`: no extra hypothesis, the value returned is the encoding of the model's record UP TO these two choices
  (`IsSettingOf` / `IsLogOf`: a permutation of each hand; `Bid.Pass` for `None` in a passed-out contract);
* `…_partial`: the statement as asked (`encHands h`, `encSetting e`, `encLogRead r`), under the weakest hypotheses that make it
  true: `HandsInOrder` (the two set constructions give the same sequence — NECESSARY: `jp_handsInOrder_of_eq`; implied by "no card
  twice in a hand": `jp_handsInOrder_of_nodup`) and, for logs, `finalBid = none → the text is "Passed_out"`.
-/
namespace Bridge.Translated
open Bridge Bridge.Py Bridge.Generated.PyCore

/-! ## from a call at some fuel to `runFn` / `runMethod` -/
theorem jp_runFn (fn : Id) (fd : FuncDef) (args : List Val) (v s : Val) (hfn : findFunc P.funcs fn = some fd)
    (h : callF (mkRec P 999) fd args = .ok (v, s)) : P.runFn fn args = .ok v := by
  unfold Program.runFn
  rw [hfn]
  show (callF (mkRec P 999) fd args).map (·.1) = .ok v
  rw [h]; rfl

theorem jp_runMethod (c m c' : Id) (fd : FuncDef) (args : List Val) (x : R (Val × Val))
    (hm : P.method? classDepth c m = some (c', fd)) (h : callF (mkRec P 999) fd args = x) :
    P.runMethod c m args = x := by
  unfold Program.runMethod
  rw [hm]
  exact h

/-! ## dictionaries without a repeated key -/
/-- no two keys `==`: the dictionary is the list of pairs itself -/
theorem jp_encDict_of_pairwise (kvs : List (Val × Val)) (h : kvs.Pairwise (fun a b => a.1.beq b.1 = false)) :
    encDict kvs = .dict kvs := by
  simp only [encDict]
  exact congrArg Val.dict (jw_foldl_updateD kvs [] (fun a ha => by cases ha) h)

/-! ## (a) `hands_parser` -/
/-- unconditionally: the `Hands` instance holds, per seat, the cards in first-occurrence order -/
theorem jp_hands_parser_translated_general (j : Json) (h : Hands) (hm : handsOfJson? j = some h) :
    P.runFn n_hands_parser [jsonToVal j] = .ok (encHands (pyHands j)) :=
  jp_runFn _ _ _ _ _ jp_find_hands_parser (jp_hands_parser_call 975 j h hm)

/-- unconditionally: the same four SETS as the model's -/
theorem jp_hands_parser_translated_same (j : Json) (h : Hands) (hm : handsOfJson? j = some h) :
    ∃ h', SameHands h' h ∧ P.runFn n_hands_parser [jsonToVal j] = .ok (encHands h') :=
  ⟨pyHands j, jp_pyHands_same j h hm, jp_hands_parser_translated_general j h hm⟩

/-- the statement as asked, under `HandsInOrder` (necessary: `jp_handsInOrder_of_eq`) -/
theorem jp_hands_parser_translated_partial (j : Json) (h : Hands) (hm : handsOfJson? j = some h) (ho : HandsInOrder j) :
    P.runFn n_hands_parser [jsonToVal j] = .ok (encHands h) := by
  rw [jp_hands_parser_translated_general j h hm, jp_pyHands_eq j h hm ho]

/-- in particular when no hand lists a card twice -/
theorem jp_hands_parser_translated_nodup (j : Json) (h : Hands) (hm : handsOfJson? j = some h)
    (hn : ∀ p : Seat, (rawCards ((j.get? p.name).getD .null)).Nodup) :
    P.runFn n_hands_parser [jsonToVal j] = .ok (encHands h) :=
  jp_hands_parser_translated_partial j h hm (jp_handsInOrder_of_nodup j hn)

/-! ## (b) `convert_board_setting` -/
/-- `v` is the `BoardSetting` instance for `e`, up to the order inside the four sets of cards -/
def IsSettingOf (v : Val) (e : SettingEntry) : Prop := ∃ h', SameHands h' e.deal ∧ v = encSettingWith (encHands h') e

theorem jp_isSettingOf (j : Json) (e : SettingEntry) (hm : settingOfJson? j = some e) : IsSettingOf (pySettingVal j e) e :=
  ⟨pyHands (dealOf j), jp_pyHands_same _ _ (jp_setting_deal j e hm), rfl⟩

theorem jp_pySettingVal_eq (j : Json) (e : SettingEntry) (hm : settingOfJson? j = some e) (ho : HandsInOrder (dealOf j)) :
    pySettingVal j e = encSetting e := by
  rw [pySettingVal, jp_pyHands_eq _ _ (jp_setting_deal j e hm) ho]; rfl

theorem jp_convert_board_setting_translated_general (j : Json) (e : SettingEntry) (hm : settingOfJson? j = some e) :
    P.runFn n_convert_board_setting [jsonToVal j] = .ok (pySettingVal j e) :=
  jp_runFn _ _ _ _ _ jp_find_convert_board_setting (jp_convert_board_setting_call 959 j e hm)

theorem jp_convert_board_setting_translated_same (j : Json) (e : SettingEntry) (hm : settingOfJson? j = some e) :
    ∃ v, IsSettingOf v e ∧ P.runFn n_convert_board_setting [jsonToVal j] = .ok v :=
  ⟨_, jp_isSettingOf j e hm, jp_convert_board_setting_translated_general j e hm⟩

/-- the statement as asked, when the cards of the `deal` member are listed in an order on which the two set constructions
agree -/
theorem jp_convert_board_setting_translated_partial (j : Json) (e : SettingEntry) (hm : settingOfJson? j = some e)
    (ho : HandsInOrder (dealOf j)) :
    P.runFn n_convert_board_setting [jsonToVal j] = .ok (encSetting e) := by
  rw [jp_convert_board_setting_translated_general j e hm, jp_pySettingVal_eq j e hm ho]

/-! ## (c) `convert_board_log` -/
/-- `v` is the `BoardLog` instance for `r`, up to the two representation choices Python makes differently: the order inside
the four sets of cards, and `Bid.Pass` where the model's passed-out contract has no final bid -/
def IsLogOf (v : Val) (r : LogRead) : Prop :=
  ∃ h' fb, SameHands h' r.hands ∧
    (fb = encOpt encBid r.contract.finalBid ∨ (r.contract.finalBid = none ∧ fb = .enum n_Bid 36)) ∧
    v = encLogReadWith (encHands h') (pyContractVal fb r.contract) r

theorem jp_log_deal (j : Json) (r : LogRead) (hm : logOfJson? j = some r) : handsOfJson? (dealOf j) = some r.hands := by
  obtain ⟨st, _, _, _, _, _, _, _, _, _, hst, -, -, -, -, -, -, -, -, -, rfl⟩ := jp_logOfJson_cases j r hm
  exact jp_setting_deal j st hst

theorem jp_isLogOf (j : Json) (r : LogRead) (hm : logOfJson? j = some r) : IsLogOf (pyLogVal j r) r := by
  refine ⟨pyHands (dealOf j), _, jp_pyHands_same _ _ (jp_log_deal j r hm), ?_, rfl⟩
  by_cases h : r.contract.finalBid = none ∧ contractText j ≠ "Passed_out".toList
  · exact Or.inr ⟨h.1, if_pos h⟩
  · exact Or.inl (if_neg h)

theorem jp_pyLogVal_eq (j : Json) (r : LogRead) (hm : logOfJson? j = some r) (ho : HandsInOrder (dealOf j))
    (hc : r.contract.finalBid = none → contractText j = "Passed_out".toList) : pyLogVal j r = encLogRead r := by
  rw [pyLogVal, jp_pyHands_eq _ _ (jp_log_deal j r hm) ho, pyContract_eq_enc hc]; rfl

theorem jp_convert_board_log_translated_general (j : Json) (r : LogRead) (hm : logOfJson? j = some r) :
    P.runFn n_convert_board_log [jsonToVal j] = .ok (pyLogVal j r) :=
  jp_runFn _ _ _ _ _ jp_find_convert_board_log (jp_convert_board_log_call 939 j r hm)

theorem jp_convert_board_log_translated_same (j : Json) (r : LogRead) (hm : logOfJson? j = some r) :
    ∃ v, IsLogOf v r ∧ P.runFn n_convert_board_log [jsonToVal j] = .ok v :=
  ⟨_, jp_isLogOf j r hm, jp_convert_board_log_translated_general j r hm⟩

/-- the statement as asked, when the hands are listed in order and a passed-out contract is written `"Passed_out"` -/
theorem jp_convert_board_log_translated_partial (j : Json) (r : LogRead) (hm : logOfJson? j = some r)
    (ho : HandsInOrder (dealOf j)) (hc : r.contract.finalBid = none → contractText j = "Passed_out".toList) :
    P.runFn n_convert_board_log [jsonToVal j] = .ok (encLogRead r) := by
  rw [jp_convert_board_log_translated_general j r hm, jp_pyLogVal_eq j r hm ho hc]

/-! ## (d) `JsonParser.parse_board_logs`, `JsonParser.parse_board_settings` -/
theorem jp_parse_board_logs_translated_general (text : List Char) (rs : List LogRead) (hm : parseBoardLogs? text = some rs) :
    P.runMethod n_JsonParser n_parse_board_logs [.obj n_JsonParser [], fileOf text]
      = .ok (.tuple (List.zipWith pyLogVal (logEntries text) rs), .obj n_JsonParser []) :=
  jp_runMethod _ _ _ _ _ _ jp_mth_parse_board_logs (jp_parse_board_logs_call 933 text rs hm)

theorem jp_parse_board_settings_translated_general (text : List Char) (es : List SettingEntry)
    (hm : parseBoardSettings? text = some es) :
    P.runMethod n_JsonParser n_parse_board_settings [.obj n_JsonParser [], fileOf text]
      = .ok (.tuple (List.zipWith pySettingVal (settingEntries text) es), .obj n_JsonParser []) :=
  jp_runMethod _ _ _ _ _ _ jp_mth_parse_board_settings (jp_parse_board_settings_call 953 text es hm)

theorem jp_logEntries_read (text : List Char) (rs : List LogRead) (hm : parseBoardLogs? text = some rs) :
    (logEntries text).mapM logOfJson? = some rs :=
  let ⟨_, _, _, h⟩ := jp_parseBoardLogs_cases text rs hm; h

theorem jp_settingEntries_read (text : List Char) (es : List SettingEntry) (hm : parseBoardSettings? text = some es) :
    (settingEntries text).mapM settingOfJson? = some es :=
  let ⟨_, _, _, h⟩ := jp_parseBoardSettings_cases text es hm; h

/-- the two lists have the same length and are related position by position -/
inductive AllRel {α β : Type} (R : α → β → Prop) : List α → List β → Prop
  | nil : AllRel R [] []
  | cons {a b l₁ l₂} : R a b → AllRel R l₁ l₂ → AllRel R (a :: l₁) (b :: l₂)

theorem jp_zipWith_forall₂ {α β : Type} (R : Val → β → Prop) (g : α → β → Val) (rd : α → Option β)
    (hR : ∀ a b, rd a = some b → R (g a b) b) (m : List α) : ∀ (rs : List β), m.mapM rd = some rs →
    AllRel R (List.zipWith g m rs) rs := by
  induction m with
  | nil => intro rs h; simp at h; subst h; exact .nil
  | cons a m ih =>
    intro rs h
    obtain ⟨b, rs', ha, hm, rfl⟩ := jp_mapM_cons_some _ _ _ _ h
    exact .cons (hR a b ha) (ih rs' hm)

theorem jp_zipWith_eq_map {α β : Type} (g : α → β → Val) (enc : β → Val) (rd : α → Option β) (m : List α)
    (hR : ∀ a ∈ m, ∀ b, rd a = some b → g a b = enc b) : ∀ (rs : List β), m.mapM rd = some rs →
    List.zipWith g m rs = rs.map enc := by
  induction m with
  | nil => intro rs h; simp at h; subst h; rfl
  | cons a m ih =>
    intro rs h
    obtain ⟨b, rs', ha, hm, rfl⟩ := jp_mapM_cons_some _ _ _ _ h
    simp only [List.zipWith_cons_cons, List.map_cons]
    rw [hR a (List.mem_cons_self ..) b ha, ih (fun a' ha' => hR a' (List.mem_cons_of_mem _ ha')) rs' hm]

/-- unconditionally: a list of `BoardLog` instances, one per record of the model, each the record's up to `IsLogOf` -/
theorem jp_parse_board_logs_translated_same (text : List Char) (rs : List LogRead) (hm : parseBoardLogs? text = some rs) :
    ∃ vs, AllRel IsLogOf vs rs ∧
      P.runMethod n_JsonParser n_parse_board_logs [.obj n_JsonParser [], fileOf text] = .ok (.tuple vs, .obj n_JsonParser []) :=
  ⟨_, jp_zipWith_forall₂ IsLogOf pyLogVal logOfJson? jp_isLogOf _ rs (jp_logEntries_read text rs hm),
    jp_parse_board_logs_translated_general text rs hm⟩

theorem jp_parse_board_settings_translated_same (text : List Char) (es : List SettingEntry)
    (hm : parseBoardSettings? text = some es) :
    ∃ vs, AllRel IsSettingOf vs es ∧
      P.runMethod n_JsonParser n_parse_board_settings [.obj n_JsonParser [], fileOf text]
        = .ok (.tuple vs, .obj n_JsonParser []) :=
  ⟨_, jp_zipWith_forall₂ IsSettingOf pySettingVal settingOfJson? jp_isSettingOf _ es (jp_settingEntries_read text es hm),
    jp_parse_board_settings_translated_general text es hm⟩

/-- the statement as asked, when in every record the hands are listed in order and a passed-out contract is written
`"Passed_out"` -/
theorem jp_parse_board_logs_translated_partial (text : List Char) (rs : List LogRead) (hm : parseBoardLogs? text = some rs)
    (ho : ∀ j ∈ logEntries text, HandsInOrder (dealOf j))
    (hc : ∀ j ∈ logEntries text, ∀ r, logOfJson? j = some r → r.contract.finalBid = none →
      contractText j = "Passed_out".toList) :
    P.runMethod n_JsonParser n_parse_board_logs [.obj n_JsonParser [], fileOf text]
      = .ok (.tuple (rs.map encLogRead), .obj n_JsonParser []) := by
  rw [jp_parse_board_logs_translated_general text rs hm,
    jp_zipWith_eq_map pyLogVal encLogRead logOfJson? _
      (fun j hj r hr => jp_pyLogVal_eq j r hr (ho j hj) (hc j hj r hr)) rs (jp_logEntries_read text rs hm)]

theorem jp_parse_board_settings_translated_partial (text : List Char) (es : List SettingEntry)
    (hm : parseBoardSettings? text = some es) (ho : ∀ j ∈ settingEntries text, HandsInOrder (dealOf j)) :
    P.runMethod n_JsonParser n_parse_board_settings [.obj n_JsonParser [], fileOf text]
      = .ok (.tuple (es.map encSetting), .obj n_JsonParser []) := by
  rw [jp_parse_board_settings_translated_general text es hm,
    jp_zipWith_eq_map pySettingVal encSetting settingOfJson? _
      (fun j hj e he => jp_pySettingVal_eq j e he (ho j hj)) es (jp_settingEntries_read text es hm)]

/-- a text `json.loads` refuses: both methods raise `ValueError` (`json.JSONDecodeError`) -/
theorem jp_parse_rejects_bad_json (text : List Char) (h : jsonLoad text = none) :
    P.runMethod n_JsonParser n_parse_board_logs [.obj n_JsonParser [], fileOf text] = .error (.exc K.ValueError) ∧
    P.runMethod n_JsonParser n_parse_board_settings [.obj n_JsonParser [], fileOf text] = .error (.exc K.ValueError) :=
  ⟨jp_runMethod _ _ _ _ _ _ jp_mth_parse_board_logs (jp_parse_bad_call _ _ 989 text h),
   jp_runMethod _ _ _ _ _ _ jp_mth_parse_board_settings (jp_parse_bad_call _ _ 989 text h)⟩

/-! ## the two counterexamples to the statements without the extra hypotheses (kernel evaluation) -/
/-- north holds `["C2", "C3", "C2"]` -/
def jpDupDeal : Json :=
  .obj [(['N'], .arr [.str ['C', '2'], .str ['C', '3'], .str ['C', '2']]), (['E'], .arr []), (['S'], .arr []), (['W'], .arr [])]

/-- FINDING 1: the model reads the deal, the translated `hands_parser` returns a `Hands` instance, and it is NOT `==` to the
encoding of the model's hands (north is `[C2, C3]` for the interpreter, `[C3, C2]` for the model) -/
theorem jp_hands_order_counterexample :
    (handsOfJson? jpDupDeal).map (fun h => isVal (P.runFn n_hands_parser [jsonToVal jpDupDeal]) (encHands h)) = some false ∧
    (handsOfJson? jpDupDeal).map (fun h => (h .N).map Card.rank) = some [3, 2] ∧
    isVal (P.runFn n_hands_parser [jsonToVal jpDupDeal]) (encHands (pyHands jpDupDeal)) = true ∧
    (pyHands jpDupDeal .N).map Card.rank = [2, 3] := by
  decide +kernel

/-- a record whose contract text is `ct` -/
def jpLogDoc (ct : List Char) : Json :=
  .obj [("board_id".toList, .str []), ("dealer".toList, .str ['N']),
        ("deal".toList, .obj [(['N'], .arr []), (['E'], .arr []), (['S'], .arr []), (['W'], .arr [])]),
        ("vulnerability".toList, .str ['-']), ("declarer".toList, .null), ("contract".toList, .str ct),
        ("taken_trick".toList, .null)]

/-- FINDING 2: on the contract text `"Pass"` the model reads a passed-out contract (`finalBid = none`), the translated
`convert_board_log` returns a `BoardLog`, and it is NOT `==` to `encLogRead` of the model's record (its contract has
`final_bid = Bid.Pass`, not `None`); on `"Passed_out"` the two agree -/
theorem jp_contract_pass_counterexample :
    (logOfJson? (jpLogDoc "Pass".toList)).map (fun r =>
      (r.contract.finalBid.isNone, isVal (P.runFn n_convert_board_log [jsonToVal (jpLogDoc "Pass".toList)]) (encLogRead r)))
      = some (true, false) ∧
    (logOfJson? (jpLogDoc "Passed_out".toList)).map (fun r =>
      (r.contract.finalBid.isNone,
        isVal (P.runFn n_convert_board_log [jsonToVal (jpLogDoc "Passed_out".toList)]) (encLogRead r)))
      = some (true, true) := by
  decide +kernel

end Bridge.Translated
