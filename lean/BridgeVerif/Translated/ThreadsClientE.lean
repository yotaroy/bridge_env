import BridgeVerif.Translated.ClientParsersB
import BridgeVerif.Translated.ClientParsersC
import BridgeVerif.Translated.ClientParsersD
import BridgeVerif.Translated.ThreadsClientBLemmasD
import BridgeVerif.Props.C19
import BridgeVerif.Lemmas.RegexMsgClientB
/-!
# The parse hypotheses of the bundled-client capstone about `parse_team_names`, `parse_board`, `parse_leader_message` : PROVED

`connectParses` (Translated/ThreadsClientA.lean), the first conjunct of `dealParses` (inside `boardParses` /
`boardsParses`, Translated/ThreadsClientC.lean) and the field `leader` of `PlayParses` (Translated/ThreadsClientBLemmasD.lean)
ask that the TRANSLATED `Client.parse_team_names`, `Client.parse_board`, `Client.parse_leader_message` return the encoding
of what the model's `parseTeamNames?`, `parseBoard?`, `parseLeader?` return on the messages of the session.  The earlier
files evaluated finite families of messages in the kernel; here the three are discharged from
`Translated/ClientParsers{B,C,D}.lean` for EVERY message whose characters are in the classes of
`Lemmas/RegexMsgClient.lean` (every ASCII message is), at fuel 31 — and, with the round trips of `Props/C19.lean`, for the
texts the table manager builds: `teamsMsg ns ew` for all names, `boardHeader n dealer vul` for EVERY board number `n`,
`leadPrompt who`.
-/
namespace Bridge.Translated.ClientE
open Bridge Bridge.Py Bridge.Generated.PyCore Bridge.Translated Bridge.Translated.ClientA Bridge.Translated.ClientB
open Bridge.Translated.ClientParsers Bridge.RegexMsgClient

/-! ## `connectParses` -/
/-- `connectParses` holds whenever the `Teams` message is in the class `agreeTeams` -/
theorem connectParses_of_agree (i : ClientIn)
    (h : ∀ reply teams rest, i.s = reply :: teams :: rest → ∀ x ∈ teams, agreeTeams x = true) :
    connectParses 31 i := by
  unfold connectParses
  split
  · rename_i reply teams rest heq
    intro ns ew hp
    exact parse_team_names_returns teams (h reply teams rest heq) ns ew hp
  · trivial

/-- … in particular whenever it is an ASCII text -/
theorem connectParses_of_ascii (i : ClientIn)
    (h : ∀ reply teams rest, i.s = reply :: teams :: rest → ∀ x ∈ teams, x.toNat < 128) : connectParses 31 i :=
  connectParses_of_agree i fun reply teams rest heq x hx => agreeTeams_ascii x (h reply teams rest heq x hx)

/-- the message the table manager builds from any two names (no double quote / line break inside: `NameOK`): the
translated `parse_team_names` returns the two names -/
theorem teams_message_returns (ns ew : Text) (n1 : NameOK ns) (n2 : NameOK ew) :
    Returns 31 m_Client_parse_team_names [.str (teamsMsg ns ew)] (.tuple [.str ns, .str ew]) :=
  parse_team_names_returns _ (fun x _ => agreeTeams_all x) ns ew (C19.team_names_round_trip ns ew n1 n2)

/-! ## `parse_board` : the first conjunct of `dealParses` -/
/-- on every header in the class `agreeBoard` -/
theorem dealParses_board (header : Text) (h : ∀ x ∈ header, agreeBoard x = true) :
    ∀ k dealer vul, parseBoard? header = some (k, dealer, vul) →
      Returns 31 m_Client_parse_board [.str header] (.tuple [.int k, encSeat dealer, encVul vul]) :=
  fun k dealer vul hp => parse_board_returns header h k dealer vul hp

theorem boardHeader_ascii (n : Nat) (dealer : Seat) (v : Vul) : ∀ x ∈ boardHeader n dealer v, x.toNat < 128 := by
  have c1 : ∀ x ∈ "Board number ".toList, x.toNat < 128 := by decide +kernel
  have c2 : ∀ x ∈ ". Dealer ".toList, x.toNat < 128 := by decide +kernel
  have c3 : ∀ d : Seat, ∀ x ∈ d.formal, x.toNat < 128 := by intro d; cases d <;> decide +kernel
  have c4 : ∀ x ∈ ". ".toList, x.toNat < 128 := by decide +kernel
  have c5 : ∀ w : Vul, ∀ x ∈ convertVul w, x.toNat < 128 := by intro w; cases w <;> decide +kernel
  have c6 : ∀ x ∈ " vulnerable.".toList, x.toNat < 128 := by decide +kernel
  intro x hx
  unfold boardHeader at hx
  simp only [List.mem_append] at hx
  rcases hx with (((((hx | hx) | hx) | hx) | hx) | hx) | hx
  · exact c1 x hx
  · have h := natStr_digits n x hx
    simp only [Bridge.isDigit, decide_eq_true_eq] at h
    have : x.toNat ≤ 57 := h.2
    omega
  · exact c2 x hx
  · exact c3 dealer x hx
  · exact c4 x hx
  · exact c5 v x hx
  · exact c6 x hx

/-- EVERY board header the table manager builds — every board number `n`, dealer, vulnerability — is read back by the
translated `parse_board` as `(n, dealer, vul)` -/
theorem board_header_returns (n : Nat) (dealer : Seat) (v : Vul) :
    Returns 31 m_Client_parse_board [.str (boardHeader n dealer v)] (.tuple [.int n, encSeat dealer, encVul v]) :=
  parse_board_returns _ (fun x hx => agreeBoard_ascii x (boardHeader_ascii n dealer v x hx)) n dealer v
    (C19.board_header_round_trip n dealer v)

/-! ## `parse_leader_message` : the field `leader` of `PlayParses` -/
/-- on every stream whose messages are in the class `agreeLead` -/
theorem playParses_leader (i : ClientIn) (h : ∀ m ∈ i.s, ∀ x ∈ m, agreeLead x = true) :
    ∀ m ∈ i.s, ∀ (d l : Seat), parseLeader? m d = some l →
      Returns 31 m_Client_parse_leader_message [.str m, encSeat d] (encSeat l) :=
  fun m hm d l hp => parse_leader_message_returns m (h m hm) d l hp

/-- the lead prompts the table manager builds are read back by the translated `parse_leader_message` -/
theorem lead_prompt_returns (who : Option Seat) (dummy : Seat) :
    Returns 31 m_Client_parse_leader_message [.str (leadPrompt who), encSeat dummy] (encSeat (who.getD dummy)) :=
  parse_leader_message_returns _ (fun x _ => agreeLead_all x) dummy _ (C19.lead_prompt_round_trip who dummy)

/-- a larger fuel bound is also fine (the capstone's examples use `N = 30`; any `N ≥ 31` works with these theorems) -/
theorem Returns.mono {N M : Nat} {fd : FuncDef} {args : List Val} {v : Val} (h : Returns N fd args v) (hNM : N ≤ M) :
    Returns M fd args v := fun f hf => h f (Nat.le_trans hNM hf)

end Bridge.Translated.ClientE
