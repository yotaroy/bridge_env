import BridgeVerif.Translated.ThreadsClientBLemmasA
/-! Translated `ClientThread.playing_phase`: its statements executed — the card (own card, dummy's card played by the
declarer's client, somebody else's card relayed), the opening of dummy's hand, the "… to lead" message, the loop
condition -/
namespace Bridge.Translated.ClientB
open Bridge Bridge.Py Bridge.Generated.PyCore Bridge.Translated Bridge.Translated.ClientA

/-! ## one card: the second statement of the inner loop's body -/

/-- own card: the decision of the playing system (`w_ask`), played on the own replica, then the message -/
theorem cb_move_own (f : Nat) (p decl : Seat) (c : Contract) (o o' : Observed) (card : Card) (hwf : WF o.base)
    (hact : o.base.active = p) (hd : p ≠ decl.partner) (hplay : o.play card p = .ok o') (s0 : Val)
    (hcs : ∀ g, callF (mkRec P (f+g)) m_Client_card_str [encCard card] = .ok (.str (cardStrRS card), s0))
    (st : List Str) (bids plays out : List Val) (team : Str) (opp : Val) (extra : List (Id × Val)) (opened : Bool)
    (rest : Env) :
    ∃ rest', execStmtF (mkRec P (f+70)) P
        (penv (cself p st bids (encCard card :: plays) out team opp extra) c decl o opened rest) cpMove
      = .ok (penv (cself p st bids plays (out ++ [playAsk, .tuple [vstr "send", .str (playMsg p card false)]]) team opp
          extra) c decl o' opened rest', .next) := by
  refine ⟨?_, ?_⟩
  rotate_left
  · simp only [cpMove, cpInner, cpBody, m_ClientThread_playing_phase, List.getD_cons_succ, List.getD_cons_zero, penv,
      cself]
    have hp := fun g => cb_play_call g c o o' card p hwf hplay
    ppsimp [pyworld, strOfF, List.flatten_cons, List.flatten_nil, List.append_nil, beq_enum, ct_beq_str, beq_tuple_none, hact, hd, hcs, hp]
    rw [cb_playMsg]

/-- dummy's card, played by the declarer's client: dummy's hand must have been set; the decision, the replica, the
message in dummy's name -/
theorem cb_move_dummy (f : Nat) (decl : Seat) (c : Contract) (o o' : Observed) (card : Card) (hwf : WF o.base)
    (hact : o.base.active = decl.partner) (dh : List Card) (hdh : o.dummyHand = some dh)
    (hplay : o.play card decl.partner = .ok o') (s0 : Val)
    (hcs : ∀ g, callF (mkRec P (f+g)) m_Client_card_str [encCard card] = .ok (.str (cardStrRS card), s0))
    (st : List Str) (bids plays out : List Val) (team : Str) (opp : Val) (extra : List (Id × Val)) (opened : Bool)
    (rest : Env) :
    ∃ rest', execStmtF (mkRec P (f+70)) P
        (penv (cself decl st bids (encCard card :: plays) out team opp extra) c decl o opened rest) cpMove
      = .ok (penv (cself decl st bids plays
          (out ++ [playAsk, .tuple [vstr "send", .str (playMsg decl.partner card false)]]) team opp
          extra) c decl o' opened rest', .next) := by
  refine ⟨?_, ?_⟩
  rotate_left
  · simp only [cpMove, cpInner, cpBody, m_ClientThread_playing_phase, List.getD_cons_succ, List.getD_cons_zero, penv,
      cself]
    have hp := fun g => cb_play_call g c o o' card decl.partner hwf hplay
    ppsimp [pyworld, strOfF, List.flatten_cons, List.flatten_nil, List.append_nil, beq_enum, ct_beq_str, beq_tuple_none, hact, cb_partner_ne, cb_ne_partner, hcs, hp, hdh, encCards]
    rw [cb_playMsg]

/-- somebody else's card: "ready for …'s card to trick k", the relayed message, parsed, played on the own replica -/
theorem cb_move_relay (f : Nat) (p decl : Seat) (c : Contract) (o o' : Observed) (card : Card) (hwf : WF o.base)
    (h1 : ¬ (o.base.active = p ∧ p ≠ decl.partner)) (h2 : ¬ (o.base.active = decl.partner ∧ p = decl))
    (hplay : o.play card o.base.active = .ok o') (m : Str) (s0 : Val)
    (hpc : ∀ g, callF (mkRec P (f+g)) m_MessageInterface_parse_card [.str m, encSeat o.base.active]
      = .ok (encCard card, s0))
    (st : List Str) (bids plays out : List Val) (team : Str) (opp : Val) (extra : List (Id × Val)) (opened : Bool)
    (rest : Env) :
    ∃ rest', execStmtF (mkRec P (f+70)) P
        (penv (cself p (m :: st) bids plays out team opp extra) c decl o opened rest) cpMove
      = .ok (penv (cself p st bids plays
          (out ++ [.tuple [vstr "send", .str (readyFor p
              ((if o.base.active = decl.partner then "dummy".toList else o.base.active.formal) ++
                "'s card to trick ".toList ++ natStr o.base.trickNum))], .tuple [vstr "recv"]]) team opp
          extra) c decl o' opened rest', .next) := by
  have hp := fun g => cb_play_call g c o o' card o.base.active hwf hplay
  by_cases ha : o.base.active = p
  · have hpd : p = decl.partner := by
      cases hx : decide (p = decl.partner) with
      | true => simpa using hx
      | false => exact absurd ⟨ha, by simpa using hx⟩ h1
    subst hpd
    rw [ha] at hp hpc
    refine ⟨?_, ?_⟩
    rotate_left
    · simp only [cpMove, cpInner, cpBody, m_ClientThread_playing_phase, List.getD_cons_succ, List.getD_cons_zero, penv,
        cself]
      ppsimp [pyworld, strOfF, List.flatten_cons, List.flatten_nil, List.append_nil, beq_enum, ct_beq_str, beq_tuple_none, ha, cb_partner_ne, cb_ne_partner, hpc, hp, strOf_int]
      simp only [readyFor, String.reduceToList, List.append_assoc, List.cons_append, List.nil_append,
        ← intStr_nat]
      rfl
  · by_cases had : o.base.active = decl.partner
    · have hpn : p ≠ decl := fun h => h2 ⟨had, h⟩
      have ha' : ¬ decl.partner = p := had ▸ ha
      rw [had] at hp hpc
      refine ⟨?_, ?_⟩
      rotate_left
      · simp only [cpMove, cpInner, cpBody, m_ClientThread_playing_phase, List.getD_cons_succ, List.getD_cons_zero,
          penv, cself]
        ppsimp [pyworld, strOfF, List.flatten_cons, List.flatten_nil, List.append_nil, beq_enum, ct_beq_str, beq_tuple_none, ha, ha', had, hpn, cb_partner_ne, cb_ne_partner, hpc, hp, strOf_int]
        simp only [readyFor, String.reduceToList, List.append_assoc, List.cons_append, List.nil_append,
          ← intStr_nat]
        rfl
    · refine ⟨?_, ?_⟩
      rotate_left
      · simp only [cpMove, cpInner, cpBody, m_ClientThread_playing_phase, List.getD_cons_succ, List.getD_cons_zero,
          penv, cself]
        ppsimp [pyworld, strOfF, List.flatten_cons, List.flatten_nil, List.append_nil, beq_enum, ct_beq_str, beq_tuple_none, ha, had, hpc, hp, strOf_int]
        simp only [readyFor, String.reduceToList, List.append_assoc, List.cons_append, List.nil_append,
          ← intStr_nat]
        rfl

/-! ## the opening of dummy's hand: the first statement of the inner loop's body -/

/-- nothing to open: it is not dummy's turn, or dummy's hand is open already -/
theorem cb_open_skip (f : Nat) (decl : Seat) (c : Contract) (o : Observed) (opened : Bool)
    (h : ¬ (o.base.active = decl.partner ∧ (!opened) = true)) (self : Val) (rest : Env) :
    execStmtF (mkRec P (f+70)) P (penv self c decl o opened rest) cpOpen
      = .ok (penv self c decl o opened rest, .next) := by
  simp only [cpOpen, cpInner, cpBody, m_ClientThread_playing_phase, List.getD_cons_succ, List.getD_cons_zero, penv]
  by_cases ha : o.base.active = decl.partner
  · cases opened with
    | false => exact absurd ⟨ha, rfl⟩ h
    | true => ppsimp [pyworld, strOfF, List.flatten_cons, List.flatten_nil, List.append_nil, beq_enum, ct_beq_str, beq_tuple_none, ha]
  · ppsimp [pyworld, strOfF, List.flatten_cons, List.flatten_nil, List.append_nil, beq_enum, ct_beq_str, beq_tuple_none, ha]

/-- the client IS dummy: only `hand_open` is set -/
theorem cb_open_self (f : Nat) (decl : Seat) (c : Contract) (o : Observed)
    (ha : o.base.active = decl.partner) (st : List Str) (bids plays out : List Val) (team : Str) (opp : Val)
    (extra : List (Id × Val)) (rest : Env) :
    execStmtF (mkRec P (f+70)) P (penv (cself decl.partner st bids plays out team opp extra) c decl o false rest) cpOpen
      = .ok (penv (cself decl.partner st bids plays out team opp extra) c decl o true rest, .next) := by
  simp only [cpOpen, cpInner, cpBody, m_ClientThread_playing_phase, List.getD_cons_succ, List.getD_cons_zero, penv, cself]
  ppsimp [pyworld, strOfF, List.flatten_cons, List.flatten_nil, List.append_nil, beq_enum, ct_beq_str, beq_tuple_none, ha]

/-- dummy's hand is shown: "ready for dummy", the message, parsed (`parse_cards`, `parse_hand`), set on the replica -/
theorem cb_open_recv (f : Nat) (p decl : Seat) (c : Contract) (o : Observed)
    (ha : o.base.active = decl.partner) (hp : decl.partner ≠ p) (m t : Str) (dh : List Card) (hb s1 s2 : Val)
    (h1 : ∀ g, callF (mkRec P (f+g)) m_Client_parse_cards [.str m, .str ['D', 'u', 'm', 'm', 'y']] = .ok (.str t, s1))
    (h2 : ∀ g, callF (mkRec P (f+g)) m_Client_parse_hand [.str t] = .ok (.tuple [encCards dh, hb], s2))
    (st : List Str) (bids plays out : List Val) (team : Str) (opp : Val) (extra : List (Id × Val)) (rest : Env) :
    ∃ rest', execStmtF (mkRec P (f+70)) P (penv (cself p (m :: st) bids plays out team opp extra) c decl o false rest) cpOpen
      = .ok (penv (cself p st bids plays
          (out ++ [.tuple [vstr "send", .str (readyFor p "dummy".toList)], .tuple [vstr "recv"]]) team opp extra)
          c decl (o.setDummy dh) true rest', .next) := by
  refine ⟨?_, ?_⟩
  rotate_left
  · simp only [cpOpen, cpInner, cpBody, m_ClientThread_playing_phase, List.getD_cons_succ, List.getD_cons_zero, penv,
      cself]
    ppsimp [pyworld, strOfF, List.flatten_cons, List.flatten_nil, List.append_nil, beq_enum, ct_beq_str, beq_tuple_none, ha, hp, h1, h2, encCards]
    simp only [readyFor, String.reduceToList, List.append_assoc, List.cons_append, List.nil_append]
    rfl

/-! ## the outer loop's body and condition -/

theorem cb_update_us (self : Val) (c : Contract) (decl : Seat) (o : Observed) (opened : Bool) (rest : Env) (v : Val) :
    update (penv self c decl o opened rest) n__ v = penv self c decl o opened (update rest n__ v) := rfl

/-- the `for _ in range(4)` statement of the outer loop's body -/
theorem cb_for_stmt (g : Nat) (env : Env) :
    execStmtF (mkRec P (g+2)) P env (.for [n__] (.builtin .range [(.const (.int 4))]) cpInner)
      = forF (mkRec P (g+2)) [n__] cpInner env [.int 0, .int 1, .int 2, .int 3] := rfl

/-- the client leads (own hand, or dummy's as declarer): the "… to lead" message is received and parsed; the leader it
names is the player on turn -/
theorem cb_lead_recv (f : Nat) (p decl : Seat) (c : Contract) (o : Observed) (opened : Bool)
    (hcond : (o.base.active = p ∧ p ≠ decl.partner) ∨ (o.base.active = decl.partner ∧ p = decl)) (m : Str) (s0 : Val)
    (hpl : ∀ g, callF (mkRec P (f+g)) m_Client_parse_leader_message [.str m, encSeat decl.partner]
      = .ok (encSeat o.base.active, s0))
    (st : List Str) (bids plays out : List Val) (team : Str) (opp : Val) (extra : List (Id × Val)) (rest : Env) :
    ∃ rest', execStmtF (mkRec P (f+70)) P (penv (cself p (m :: st) bids plays out team opp extra) c decl o opened rest)
        cpLead
      = .ok (penv (cself p st bids plays (out ++ [.tuple [vstr "recv"]]) team opp extra) c decl o opened rest',
          .next) := by
  rcases hcond with ⟨ha, hd⟩ | ⟨ha, hpd⟩
  · rw [ha] at hpl
    refine ⟨?_, ?_⟩
    rotate_left
    · simp only [cpLead, cpBody, m_ClientThread_playing_phase, List.getD_cons_succ, List.getD_cons_zero, penv, cself]
      ppsimp [pyworld, strOfF, List.flatten_cons, List.flatten_nil, List.append_nil, beq_enum, ct_beq_str, beq_tuple_none, ha, hd, hpl]
      rfl
  · subst hpd
    rw [ha] at hpl
    refine ⟨?_, ?_⟩
    rotate_left
    · simp only [cpLead, cpBody, m_ClientThread_playing_phase, List.getD_cons_succ, List.getD_cons_zero, penv, cself]
      ppsimp [pyworld, strOfF, List.flatten_cons, List.flatten_nil, List.append_nil, beq_enum, ct_beq_str, beq_tuple_none, ha, cb_partner_ne, cb_ne_partner, hpl]
      rfl

/-- somebody else leads: nothing is received -/
theorem cb_lead_skip (f : Nat) (p decl : Seat) (c : Contract) (o : Observed) (opened : Bool)
    (h1 : ¬ (o.base.active = p ∧ p ≠ decl.partner)) (h2 : ¬ (o.base.active = decl.partner ∧ p = decl))
    (st : List Str) (bids plays out : List Val) (team : Str) (opp : Val) (extra : List (Id × Val)) (rest : Env) :
    execStmtF (mkRec P (f+70)) P (penv (cself p st bids plays out team opp extra) c decl o opened rest) cpLead
      = .ok (penv (cself p st bids plays out team opp extra) c decl o opened rest, .next) := by
  by_cases ha : o.base.active = p
  · have hpd : p = decl.partner := by
      cases hx : decide (p = decl.partner) with
      | true => simpa using hx
      | false => exact absurd ⟨ha, by simpa using hx⟩ h1
    subst hpd
    simp only [cpLead, cpBody, m_ClientThread_playing_phase, List.getD_cons_succ, List.getD_cons_zero, penv, cself]
    ppsimp [pyworld, strOfF, List.flatten_cons, List.flatten_nil, List.append_nil, beq_enum, ct_beq_str, beq_tuple_none, ha, cb_partner_ne, cb_ne_partner]
  · by_cases had : o.base.active = decl.partner
    · have hpn : p ≠ decl := fun h => h2 ⟨had, h⟩
      have ha' : ¬ decl.partner = p := had ▸ ha
      simp only [cpLead, cpBody, m_ClientThread_playing_phase, List.getD_cons_succ, List.getD_cons_zero, penv, cself]
      ppsimp [pyworld, strOfF, List.flatten_cons, List.flatten_nil, List.append_nil, beq_enum, ct_beq_str, beq_tuple_none, ha, ha', had, hpn, cb_partner_ne, cb_ne_partner]
    · simp only [cpLead, cpBody, m_ClientThread_playing_phase, List.getD_cons_succ, List.getD_cons_zero, penv, cself]
      ppsimp [pyworld, strOfF, List.flatten_cons, List.flatten_nil, List.append_nil, beq_enum, ct_beq_str, beq_tuple_none, ha, had]

/-- the loop condition `not env.has_done()` -/
theorem cb_cond (g : Nat) (self : Val) (c : Contract) (decl : Seat) (o : Observed) (opened : Bool) (rest : Env) :
    (mkRec P (g+14)).eval (penv self c decl o opened rest) cpCond = .ok (.bool (!o.base.hasDone)) := by
  simp only [cpCond, m_ClientThread_playing_phase, List.getD_cons_succ, List.getD_cons_zero, penv]
  ppsimp [pyworld, strOfF, List.flatten_cons, List.flatten_nil, List.append_nil, beq_enum, ct_beq_str, beq_tuple_none]

end Bridge.Translated.ClientB
