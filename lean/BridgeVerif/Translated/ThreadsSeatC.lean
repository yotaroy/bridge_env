import BridgeVerif.Translated.ThreadsSeatCLemmasD
/-!
# The TRANSLATED seat thread, whole: `SeatThread.run` (Generated/PyCoreThreads.lean) IS admission + `seatReactive`

Statements are about the generated `m_SeatThread_run` run by the MiniPy interpreter in the whole translated program `P`,
for EVERY fuel from a stated bound on; thread and world are the encodings of Translated/ThreadsEnc.lean.  The phases are
the colleagues' theorems (`seat_deal_translated`, `seat_bidding_translated` of Translated/ThreadsSeatA.lean,
`seat_playing_translated`, `seat_connect_translated` of Translated/ThreadsSeatB.lean), composed here.

* Translated/ThreadsSeatCLemmas.lean — the body of the generated `while True` loop (`runBody`) cut into `runFront`
  (`send "Start of board"` … `if not passed_out: _playing_phase()`) and `runBack` (the status message), both executed
  symbolically with the phases' theorems as rewrite rules.
* Translated/ThreadsSeatCLemmasB.lean — the reactive phases never lengthen the queue stream; `seatBoardR` = ONE board of
  `seatBoardsR`, `seatBoardsR_succ`.
* Translated/ThreadsSeatCLemmasC.lean — `boardChecks` / `boardsChecks` (every `ready …` message consumed passes
  `_check_message`: `dealChecks`, `bidChecks`, `playingChecks` composed, walking like `seatBoardsR`), `boardsTables` (two
  barrier waits per board), `sc_board_front` (the front part IS `seatBoardR` up to the status message).
* Translated/ThreadsSeatCLemmasD.lean — `boardsChecksB` (an executable, sound test for `boardsChecks`), `boardsNum`,
  `boardsTables_eq_iterate`.
* here: `sc_boards_loop` (the loop invariant, by induction on the model's fuel; one interpreter level per board),
  (1) `seat_boards_translated`, `seatedOps_eq_seating_reactive`, (2) `seat_run_translated`,
  (3) `seat_run_refused_translated` (+ `seat_run_not_ready_translated`, the remaining `False` paths of `_connect`),
  and closed instances of all three.
-/
namespace Bridge.Translated.SeatC
open Bridge Bridge.Py Bridge.Generated.PyCore
open Bridge.Translated.SeatB (playingChecks encSeatActs_append sb_execF_append encSeatThread0 encTable seatedOps rejectOps
  threadName seat_connect_translated seat_connect_not_ready_translated optText)

/-! ## (1) the board loop -/

theorem sc_loop_cont (g : Nat) (env env' : Env) (body : List Stmt)
    (h : (mkRec P (g+1)).exec env body = .ok (env', .cont)) :
    (mkRec P (g+2)).loop env (.const (.bool true)) body = (mkRec P (g+1)).loop env' (.const (.bool true)) body := by
  rw [loop_succ]
  simp only [loopF, eval_succ, evalF, pure_eq, bind_ok, truthy, h, if_true]


theorem sc_enc_next (p : Seat) : encSeatActs p [.recv (.m2t p), .send (.s2c p) MSG_START]
    = some [.tuple [vstr "get", vstr "m2t", encSeat p], .tuple [vstr "send", .str MSG_START]] := by
  simp [encSeatActs, encSeatAct]
theorem sc_enc_end (p : Seat) : encSeatActs p [.recv (.m2t p), .send (.s2c p) MSG_END]
    = some [.tuple [vstr "get", vstr "m2t", encSeat p], .tuple [vstr "send", .str MSG_END]] := by
  simp [encSeatActs, encSeatAct]

/-- THE LOOP INVARIANT of the board loop of `run`: entered on the streams `q`, `c`, the loop ends by `return None` on the
streams `seatBoardsR` leaves, having appended `send "Start of board"` and then `seatBoardsR`'s actions to `out`; one
interpreter level per board -/
theorem sc_boards_loop (p : Seat) (extra : List (Id × Val)) :
    ∀ (n : Nat) (q c : List Str) (acts : SeatActs) (q' c' : List Str) (out : List Val) (table : Val) (tables : List Val)
      (rest : Env) (f : Nat),
      seatBoardsR p n ⟨q, c⟩ = some (acts, ⟨q', c'⟩) → boardsChecks p n ⟨q, c⟩ → q.length + 102 ≤ f →
      ∃ ops rest', encSeatActs p acts = some ops ∧
        (mkRec P f).loop ((K.self, encSeatThread p (encSeatWorld p q c out table tables) extra) :: rest)
            (.const (.bool true)) runBody
          = .ok ((K.self, encSeatThread p (encSeatWorld p q' c'
              (out ++ [.tuple [vstr "send", .str MSG_START]] ++ ops)
              (boardsTables p n ⟨q, c⟩ (table, tables)).1 (boardsTables p n ⟨q, c⟩ (table, tables)).2) extra) :: rest',
              .ret .none) := by
  intro n
  induction n with
  | zero => intro q c acts q' c' out table tables rest f h; simp [seatBoardsR] at h
  | succ n ih =>
    intro q c acts q' c' out table tables rest f h hck hf
    obtain ⟨g, rfl⟩ : ∃ g, f = g + 32 := ⟨f - 32, by omega⟩
    rw [seatBoardsR_succ] at h
    obtain ⟨⟨pre, status, ⟨q1, c1⟩⟩, hb, h⟩ := bind_some_inv h
    dsimp only at h
    obtain ⟨hck1, hck2⟩ := hck
    obtain ⟨pops, hpo, hlen, hfront⟩ := sc_board_front g p q c q1 c1 pre status extra hb hck1 (by omega)
    obtain ⟨rest1, hfront⟩ := hfront out table tables rest
    by_cases s1 : status = MSG_NEXT
    · subst s1
      simp only [if_true] at h
      obtain ⟨⟨acts0, i'⟩, hr, h⟩ := bind_some_inv h
      simp only [Option.some.injEq, Prod.mk.injEq] at h
      obtain ⟨rfl, rfl⟩ := h
      obtain ⟨rest2, hback⟩ := sc_back_next g p q1 c1 extra
        (out ++ [.tuple [vstr "send", .str MSG_START]] ++ pops) (adv2 (table, tables)).1 (adv2 (table, tables)).2 rest1
      have hbody : (mkRec P (g+31)).exec
          ((K.self, encSeatThread p (encSeatWorld p q c out table tables) extra) :: rest) runBody
          = .ok ((K.self, encSeatThread p (encSeatWorld p q1 c1
              (out ++ [.tuple [vstr "send", .str MSG_START]] ++ pops ++ [.tuple [vstr "get", vstr "m2t", encSeat p]])
              (adv2 (table, tables)).1 (adv2 (table, tables)).2) extra) :: rest2, .cont) := by
        rw [exec_succ, runBody_eq, sb_execF_append _ _ _ _ _ hfront]
        exact hback
      obtain ⟨ops, rest', hops, hl⟩ := ih q1 c1 acts0 q' c'
        (out ++ [.tuple [vstr "send", .str MSG_START]] ++ pops ++ [.tuple [vstr "get", vstr "m2t", encSeat p]])
        (adv2 (table, tables)).1 (adv2 (table, tables)).2 rest2 (g+31) hr (hck2 pre _ hb) (by omega)
      refine ⟨pops ++ [.tuple [vstr "get", vstr "m2t", encSeat p], .tuple [vstr "send", .str MSG_START]] ++ ops, rest',
        ?_, ?_⟩
      · exact encSeatActs_append p _ _ _ _ (encSeatActs_append p _ _ _ _ hpo (sc_enc_next p)) hops
      · rw [sc_loop_cont (g+30) _ _ _ hbody, hl]
        simp only [boardsTables, hb, if_true, List.append_assoc, List.cons_append, List.nil_append]
    · simp only [if_neg s1] at h
      by_cases s2 : status = MSG_END
      · subst s2
        simp only [if_true, Option.some.injEq, Prod.mk.injEq] at h
        obtain ⟨rfl, hi⟩ := h
        injection hi with hq hc
        subst hq
        subst hc
        obtain ⟨rest2, hback⟩ := sc_back_end g p q1 c1 extra
          (out ++ [.tuple [vstr "send", .str MSG_START]] ++ pops) (adv2 (table, tables)).1 (adv2 (table, tables)).2 rest1
        have hbody : (mkRec P (g+31)).exec
            ((K.self, encSeatThread p (encSeatWorld p q c out table tables) extra) :: rest) runBody
            = .ok ((K.self, encSeatThread p (encSeatWorld p q1 c1
                (out ++ [.tuple [vstr "send", .str MSG_START]] ++ pops ++
                  [.tuple [vstr "get", vstr "m2t", encSeat p], .tuple [vstr "send", .str MSG_END]])
                (adv2 (table, tables)).1 (adv2 (table, tables)).2) extra) :: rest2, .ret .none) := by
          rw [exec_succ, runBody_eq, sb_execF_append _ _ _ _ _ hfront]
          exact hback
        refine ⟨pops ++ [.tuple [vstr "get", vstr "m2t", encSeat p], .tuple [vstr "send", .str MSG_END]], rest2, ?_, ?_⟩
        · exact encSeatActs_append p _ _ _ _ hpo (sc_enc_end p)
        · rw [while_true_ret (g+30) _ _ _ _ hbody]
          simp only [boardsTables, hb, if_neg s1, List.append_assoc, List.cons_append, List.nil_append]
      · simp only [if_neg s2] at h
        cases h

/-- the `while True:` statement of the generated `run` -/
def runLoop : Stmt := m_SeatThread_run.body.getD 2 .pass

theorem runLoop_eq : runLoop = .while (.const (.bool true)) runBody := rfl
theorem run_body_eq : m_SeatThread_run.body =
    [.callMutRet (.var n__t1) (.var K.self) n__connect [], .ite (.not (.var n__t1)) [.ret (.const .none)] [], runLoop] := rfl

/-- the loop at any larger fuel -/
theorem sc_loop_mono {f g : Nat} (h : f ≤ g) (env : Env) (c : Expr) (b : List Stmt) (env' : Env) (fl : Flow)
    (hx : (mkRec P f).loop env c b = .ok (env', fl)) : (mkRec P g).loop env c b = .ok (env', fl) :=
  (mkRec_mono P h).2.2.2 env c b _ hx (by simp)

/-- (1) THE BOARD LOOP of `run` (the statement `runLoop` = `while True: …` of the generated body, executed in an
environment whose `self` is the thread on the streams `q`, `c`) IS `seatBoardsR`: it ends by `return None`, leaves the
streams `seatBoardsR` leaves, and has appended `send "Start of board"` followed by the rendering of `seatBoardsR`'s
actions to `out` (the model's `[recv status, send "Start of board"]` between two boards is the `continue` + the top of the
next turn).  The tables: two barrier waits per board (`boardsTables`).  Fuel: `q.length + 103` (one level per board, and
what `_bidding_phase` needs) -/
theorem seat_boards_translated (p : Seat) (fuel : Nat) (q c q' c' : List Str) (acts : SeatActs) (out : List Val)
    (table : Val) (tables : List Val) (extra : List (Id × Val)) (rest : Env)
    (h : seatBoardsR p fuel ⟨q, c⟩ = some (acts, ⟨q', c'⟩)) (hck : boardsChecks p fuel ⟨q, c⟩) :
    ∃ ops rest', encSeatActs p acts = some ops ∧ ∀ f, q.length + 103 ≤ f →
      exec P f ((K.self, encSeatThread p (encSeatWorld p q c out table tables) extra) :: rest) [runLoop]
        = .ok ((K.self, encSeatThread p (encSeatWorld p q' c'
            (out ++ [.tuple [vstr "send", .str MSG_START]] ++ ops)
            (boardsTables p fuel ⟨q, c⟩ (table, tables)).1 (boardsTables p fuel ⟨q, c⟩ (table, tables)).2) extra) :: rest',
            .ret .none) := by
  obtain ⟨ops, rest', hops, hl⟩ :=
    sc_boards_loop p extra fuel q c acts q' c' out table tables rest (q.length + 102) h hck (Nat.le_refl _)
  refine ⟨ops, rest', hops, fun f hf => ?_⟩
  obtain ⟨k, rfl⟩ : ∃ k, f = k + 1 := ⟨f - 1, by omega⟩
  have hl' := sc_loop_mono (show q.length + 102 ≤ k by omega) _ _ _ _ _ hl
  show execF (mkRec P k) P _ [runLoop] = _
  simp only [execF, runLoop_eq, execStmtF, hl', bind_ok, pure_eq]

/-! ## (2), (3) `run` -/

theorem sc_mth_connect :
    P.method? classDepth n_SeatThread n__connect = some (n_SeatThread, m_SeatThread__connect) := rfl

/-- `run` when `_connect` returns `True` and the loop returns -/
theorem sc_run_seated (g : Nat) (fs0 : List (Id × Val)) (self1 self2 : Val) (rest' : Env)
    (hc : ∀ k, callF (mkRec P (g+k)) m_SeatThread__connect [.obj n_SeatThread fs0] = .ok (.bool true, self1))
    (hl : ∀ k, (mkRec P (g+k)).loop [(K.self, self1), (n__t1, .bool true)] (.const (.bool true)) runBody
      = .ok ((K.self, self2) :: rest', .ret .none)) :
    callF (mkRec P (g+10)) m_SeatThread_run [.obj n_SeatThread fs0] = .ok (.none, self2) := by
  rw [callF_def]
  simp only [runBody, m_SeatThread_run, List.getD_cons_zero, List.getD_cons_succ] at hl
  simp only [m_SeatThread_run, bindParams, Option.map]
  ppsimp [sc_mth_connect, hc, hl]

/-- `run` when `_connect` returns `False` -/
theorem sc_run_refused (g : Nat) (fs0 : List (Id × Val)) (self1 : Val)
    (hc : ∀ k, callF (mkRec P (g+k)) m_SeatThread__connect [.obj n_SeatThread fs0] = .ok (.bool false, self1)) :
    callF (mkRec P (g+10)) m_SeatThread_run [.obj n_SeatThread fs0] = .ok (.none, self1) := by
  rw [callF_def]
  simp only [m_SeatThread_run, bindParams, Option.map]
  ppsimp [sc_mth_connect, hc]

/-- the operations of an accepting `_connect` BEFORE the seating barrier: the request is read, the seat written, the
reply sent, `ready for teams` read, the verdict signalled to main -/
def seatingOps (seat : Seat) (team reply : Str) : List Val :=
  [.tuple [vstr "recv"], .tuple [vstr "table", encSeat seat, .str team], .tuple [vstr "send", .str reply],
   .tuple [vstr "recv"], .tuple [vstr "event_set", .none]]

/-- the prefix of `seatReactive` up to (and including) its `.recv` of `ready to start`, as world operations -/
theorem sc_enc_reactive_prefix (p : Seat) (teams : Str) :
    encSeatActs p (sync ++ [.send (.s2c p) teams, .recv (.c2s p)])
      = some [.tuple [vstr "sync"], .tuple [vstr "send", .str teams], .tuple [vstr "recv"]] := by
  simp [encSeatActs, encSeatAct, sync]

/-- EXACT correspondence between `_connect`'s accepted path and `seatReactive`: `seatedOps` = the admission operations
`[recv, table, send "<Seat> <team> seated", recv, event_set]` followed by the rendering of the reactive prefix
`sync ++ [send teams, recv]` — the barrier wait that opens `seatReactive` is performed INSIDE `_connect` -/
theorem seatedOps_eq_seating_reactive (seat : Seat) (team reply teams : Str) :
    ∃ pre, encSeatActs seat (sync ++ [.send (.s2c seat) teams, .recv (.c2s seat)]) = some pre ∧
      seatedOps seat team reply teams = seatingOps seat team reply ++ pre :=
  ⟨_, sc_enc_reactive_prefix seat teams, rfl⟩

theorem sc_enc_reactive_head (p : Seat) (teams : Str) :
    encSeatActs p (sync ++ [.send (.s2c p) teams, .recv (.c2s p), .send (.s2c p) MSG_START])
      = some [.tuple [vstr "sync"], .tuple [vstr "send", .str teams], .tuple [vstr "recv"],
          .tuple [vstr "send", .str MSG_START]] := by
  simp [encSeatActs, encSeatAct, sync]

/-- (2) THE WHOLE SEAT THREAD for a seated, conforming connection.  The connection delivers `req`, `ready` ("ready for
teams"), `start` ("ready to start"), then `c`; the queue delivers `q`; the translated `parse_connection_info` reads `req`
as `(team, seat, version)` (`hparse`, as in `seat_connect_translated`); `admitReq` seats the request; `ready`, `start`
and every `ready …` message of the boards pass `_check_message`; and the reactive model, given the `Teams` text built from
the table after the barrier, performs `acts`.  Then `run()` returns `None`, and the world has recorded
`out ++ seatingOps … ++ ops` with `ops` the rendering of ALL of `acts` (whose leading `sync` is the barrier wait performed
inside `_connect`, see `seatedOps_eq_seating_reactive`), on the streams `seatBoardsR` leaves; the table is the snapshot
after the seating barrier advanced twice per board.  Fuel: `N + q.length + 113`. -/
theorem seat_run_translated (N f : Nat) (q c : List Str) (req ready start : Str) (out : List Val) (t : Table)
    (tables : List Table) (team : Str) (seat : Seat) (version : Nat) (s' : Val) (acts : SeatActs)
    (hf : N + q.length + 113 ≤ f)
    (hparse : ∀ g, N ≤ g → callFn P g m_PlayerThread_parse_connection_info [.str req]
      = .ok (.tuple [.str team, encSeat seat, .int version], s'))
    (hv : (admitReq t ⟨team, seat, version⟩).2 = .seated)
    (hr : SeatB.passesCheck (seat.formal ++ " ready for teams".toList) ready)
    (hs : SeatB.passesCheck (seat.formal ++ " ready to start".toList) start)
    (hck : boardsChecks seat (q.length + 1) ⟨q, c⟩)
    (hm : seatReactive seat
        (teamsMsg (optText ((tables.headD (admitReq t ⟨team, seat, version⟩).1) .N))
          (optText ((tables.headD (admitReq t ⟨team, seat, version⟩).1) .E))) q (start :: c) = some acts) :
    ∃ ops bs q' c', encSeatActs seat acts = some ops ∧
      seatBoardsR seat (q.length + 1) ⟨q, c⟩ = some (bs, ⟨q', c'⟩) ∧
      callFn P f m_SeatThread_run
          [encSeatThread0 (encSeatWorld seat q (req :: ready :: start :: c) out (encTable t) (tables.map encTable))]
        = .ok (.none, encSeatThread seat (encSeatWorld seat q' c'
            (out ++ seatingOps seat team (replyText ⟨team, seat, version⟩ t .seated) ++ ops)
            (boardsTables seat (q.length + 1) ⟨q, c⟩
              (encTable (tables.headD (admitReq t ⟨team, seat, version⟩).1), tables.tail.map encTable)).1
            (boardsTables seat (q.length + 1) ⟨q, c⟩
              (encTable (tables.headD (admitReq t ⟨team, seat, version⟩).1), tables.tail.map encTable)).2)
            [(K.name, .str (threadName seat team))]) := by
  simp only [seatReactive, SeatIn.getC, Option.bind_eq_bind, Option.bind_some] at hm
  obtain ⟨⟨bs, ⟨q', c'⟩⟩, hbs, hm⟩ := bind_some_inv hm
  simp only [Option.pure_def, Option.some.injEq] at hm
  subst hm
  obtain ⟨g, rfl⟩ : ∃ g, f = g + 11 := ⟨f - 11, by omega⟩
  obtain ⟨bops, rest', hbo, hl⟩ := sc_boards_loop seat [(K.name, .str (threadName seat team))] (q.length + 1) q c bs q' c'
    (out ++ seatedOps seat team (replyText ⟨team, seat, version⟩ t .seated)
      (teamsMsg (optText ((tables.headD (admitReq t ⟨team, seat, version⟩).1) .N))
        (optText ((tables.headD (admitReq t ⟨team, seat, version⟩).1) .E))))
    (encTable (tables.headD (admitReq t ⟨team, seat, version⟩).1)) (tables.tail.map encTable)
    [(n__t1, .bool true)] (q.length + 102) hbs hck (Nat.le_refl _)
  refine ⟨_, bs, q', c', encSeatActs_append seat _ _ _ _ (sc_enc_reactive_head seat _) hbo, hbs, ?_⟩
  have hc : ∀ k, callF (mkRec P (g+k)) m_SeatThread__connect
      [.obj n_SeatThread [(n__w, encSeatWorld seat q (req :: ready :: start :: c) out (encTable t) (tables.map encTable))]]
      = .ok (.bool true, _) := fun k =>
    ((seat_connect_translated N (g+k+1) (by omega) seat q (ready :: start :: c) req out t tables team seat version s'
      hparse).2 hv ready start c rfl hr hs).2
  have hl' := fun k => sc_loop_mono (show q.length + 102 ≤ g + k by omega) _ _ _ _ _ hl
  have hx := sc_run_seated g _ _ _ _ hc hl'
  rw [callFn, call_succ]
  rw [show encSeatThread0 (encSeatWorld seat q (req :: ready :: start :: c) out (encTable t) (tables.map encTable))
    = .obj n_SeatThread [(n__w, encSeatWorld seat q (req :: ready :: start :: c) out (encTable t) (tables.map encTable))]
    from rfl, hx]
  simp only [seatedOps, seatingOps, List.append_assoc, List.cons_append, List.nil_append]

/-- (3) A REFUSED connection: when `admitReq` gives any verdict other than `seated`, `_connect` returns `False` and `run()`
returns `None` having performed exactly the operations of `seat_connect_translated`'s rejection case (`recv`, the reply
`replyText`, `close`, `event_set`); the table is untouched.  Fuel: `N + 35`. -/
theorem seat_run_refused_translated (N f : Nat) (hf : N + 35 ≤ f) (p0 : Seat) (q c : List Str) (req : Str)
    (out : List Val) (t : Table) (tables : List Table) (team : Str) (seat : Seat) (version : Nat) (s' : Val)
    (hparse : ∀ g, N ≤ g → callFn P g m_PlayerThread_parse_connection_info [.str req]
      = .ok (.tuple [.str team, encSeat seat, .int version], s'))
    (v : Verdict) (hv : (admitReq t ⟨team, seat, version⟩).2 = v) (hne : v ≠ .seated) :
    callFn P f m_SeatThread_run
        [encSeatThread0 (encSeatWorld p0 q (req :: c) out (encTable t) (tables.map encTable))]
      = .ok (.none, encSeatThread seat
          (encSeatWorld p0 q c (out ++ rejectOps (replyText ⟨team, seat, version⟩ t v)) (encTable t)
            (tables.map encTable)) []) := by
  obtain ⟨g, rfl⟩ : ∃ g, f = g + 11 := ⟨f - 11, by omega⟩
  have hc : ∀ k, callF (mkRec P (g+k)) m_SeatThread__connect
      [.obj n_SeatThread [(n__w, encSeatWorld p0 q (req :: c) out (encTable t) (tables.map encTable))]]
      = .ok (.bool false, _) := fun k =>
    ((seat_connect_translated N (g+k+1) (by omega) p0 q c req out t tables team seat version s' hparse).1 v hv hne).2
  rw [callFn, call_succ]
  exact sc_run_refused g _ _ hc

/-- (3, the remaining `False` paths of `_connect`) seated, but `ready for teams` / `ready to start` does not pass: `run()`
returns `None` having performed exactly the operations of `seat_connect_not_ready_translated` -/
theorem seat_run_not_ready_translated (N f : Nat) (hf : N + 35 ≤ f) (p0 : Seat) (q c : List Str) (req ready : Str)
    (out : List Val) (t : Table) (tables : List Table) (team : Str) (seat : Seat) (version : Nat) (s' : Val)
    (hparse : ∀ g, N ≤ g → callFn P g m_PlayerThread_parse_connection_info [.str req]
      = .ok (.tuple [.str team, encSeat seat, .int version], s'))
    (hv : (admitReq t ⟨team, seat, version⟩).2 = .seated) :
    let r : Request := ⟨team, seat, version⟩
    (SeatB.failsCheck (seat.formal ++ " ready for teams".toList) ready →
      callFn P f m_SeatThread_run
          [encSeatThread0 (encSeatWorld p0 q (req :: ready :: c) out (encTable t) (tables.map encTable))]
        = .ok (.none, encSeatThread seat (encSeatWorld p0 q c (out ++ [.tuple [vstr "recv"],
            .tuple [vstr "table", encSeat seat, .str team], .tuple [vstr "send", .str (replyText r t .seated)],
            .tuple [vstr "recv"], .tuple [vstr "send", vstr "ERROR: Unexpected message received."],
            .tuple [vstr "close", .none], .tuple [vstr "event_set", .none]])
            (encTable (admitReq t r).1) (tables.map encTable)) [])) ∧
    (SeatB.passesCheck (seat.formal ++ " ready for teams".toList) ready → ∀ (start : Str) (c' : List Str),
      c = start :: c' → SeatB.failsCheck (seat.formal ++ " ready to start".toList) start →
      callFn P f m_SeatThread_run
          [encSeatThread0 (encSeatWorld p0 q (req :: ready :: c) out (encTable t) (tables.map encTable))]
        = .ok (.none, encSeatThread seat (encSeatWorld p0 q c' (out ++ [.tuple [vstr "recv"],
            .tuple [vstr "table", encSeat seat, .str team], .tuple [vstr "send", .str (replyText r t .seated)],
            .tuple [vstr "recv"], .tuple [vstr "event_set", .none], .tuple [vstr "sync"],
            .tuple [vstr "send", .str (teamsMsg (optText ((tables.headD (admitReq t r).1) .N))
              (optText ((tables.headD (admitReq t r).1) .E)))],
            .tuple [vstr "recv"], .tuple [vstr "send", vstr "ERROR: Unexpected message received."],
            .tuple [vstr "close", .none]])
            (encTable (tables.headD (admitReq t r).1)) (tables.tail.map encTable)) [])) := by
  intro r
  obtain ⟨g, rfl⟩ : ∃ g, f = g + 11 := ⟨f - 11, by omega⟩
  refine ⟨fun hr => ?_, fun hr start c' hc hst => ?_⟩
  · have hc : ∀ k, callF (mkRec P (g+k)) m_SeatThread__connect
        [.obj n_SeatThread [(n__w, encSeatWorld p0 q (req :: ready :: c) out (encTable t) (tables.map encTable))]]
        = .ok (.bool false, _) := fun k =>
      (seat_connect_not_ready_translated N (g+k+1) (by omega) p0 q c req ready out t tables team seat version s' hparse
        hv).1 hr
    rw [callFn, call_succ]
    exact sc_run_refused g _ _ hc
  · have hc : ∀ k, callF (mkRec P (g+k)) m_SeatThread__connect
        [.obj n_SeatThread [(n__w, encSeatWorld p0 q (req :: ready :: c) out (encTable t) (tables.map encTable))]]
        = .ok (.bool false, _) := fun k =>
      (seat_connect_not_ready_translated N (g+k+1) (by omega) p0 q c req ready out t tables team seat version s' hparse
        hv).2 hr start c' hc hst
    rw [callFn, call_succ]
    exact sc_run_refused g _ _ hc

/-! ## non-vacuity: North's thread through two boards (East plays a contract on the first — the thirteen tricks of
`SeatB.exQ` / `SeatB.exC` —, the second is passed out and ends the session) -/

def exQ2 : List Text :=
  ["Board number 1. Dealer North. Neither vulnerable.".toList, "North's cards : S A K. H -. D -. C -.".toList,
   "North".toList, "East".toList, "East bids 1NT".toList, "nothing happens".toList, "nothing happens".toList] ++
  SeatB.exQ ++
  ["next board".toList, "Board number 2. Dealer East. N/S vulnerable.".toList,
   "North's cards : S Q. H -. D -. C -.".toList, "North".toList, "nothing happens".toList, "passed out".toList,
   "End of session".toList]

def exC2 : List Text :=
  ["North ready for deal".toList, "north  READY for cards".toList, "North passes".toList,
   "North ready for East's bid".toList] ++ SeatB.exC ++
  ["North ready for deal".toList, "North ready for cards".toList, "North passes".toList]

theorem advBoards_nil (k : Nat) (t : Val) : advBoards k (t, []) = (t, []) := by
  induction k with
  | zero => rfl
  | succ k ih => exact ih

theorem exChecks2 : boardsChecks .N (exQ2.length + 1) ⟨exQ2, exC2⟩ := boardsChecksB_sound _ _ _ (by decide +kernel)

/-- (1) on these streams: both are consumed, 207 operations follow the first `send "Start of board"`
(board 1: 8 + 8 + 1 + 173 + 2, board 2: 8 + 4 + 1 + 2), and the table advanced four times -/
example : ∀ f, exQ2.length + 103 ≤ f → ∃ ops rest',
    exec P f [(K.self, encSeatThread .N (encSeatWorld .N exQ2 exC2 [] (.int 0)
        [.int 1, .int 2, .int 3, .int 4, .int 5]) [])] [runLoop]
      = .ok ((K.self, encSeatThread .N (encSeatWorld .N [] []
          ([] ++ [.tuple [vstr "send", .str MSG_START]] ++ ops) (.int 4) [.int 5]) []) :: rest', .ret .none) ∧
    ops.length = 207 := by
  intro f hf
  have h1 : ∃ acts, seatBoardsR .N 3 ⟨exQ2, exC2⟩ = some (acts, ⟨[], []⟩) ∧
      (encSeatActs .N acts).map List.length = some 207 := by
    have h : (match seatBoardsR .N 3 ⟨exQ2, exC2⟩ with
        | some (acts, ⟨[], []⟩) => (encSeatActs .N acts).map List.length == some 207
        | _ => false) = true := by decide +kernel
    cases hs : seatBoardsR .N 3 ⟨exQ2, exC2⟩ with
    | none => rw [hs] at h; cases h
    | some x =>
      obtain ⟨acts, ⟨q', c'⟩⟩ := x
      rw [hs] at h
      cases q' <;> cases c' <;> first | cases h | exact ⟨acts, rfl, by simpa using h⟩
  obtain ⟨acts, hm, hl⟩ := h1
  obtain ⟨ops, rest', ho, hx⟩ := seat_boards_translated .N 3 exQ2 exC2 [] [] acts [] (.int 0)
    [.int 1, .int 2, .int 3, .int 4, .int 5] [] [] hm (boardsChecks_mono _ _ _ _ (by decide +kernel) exChecks2)
  have ht : boardsTables .N 3 ⟨exQ2, exC2⟩ (.int 0, [.int 1, .int 2, .int 3, .int 4, .int 5]) = (.int 4, [.int 5]) := by
    rw [boardsTables_eq_iterate, show boardsNum .N 3 ⟨exQ2, exC2⟩ = 2 from by decide +kernel]
    rfl
  rw [ht] at hx
  refine ⟨ops, rest', hx f hf, ?_⟩
  rw [ho] at hl
  simpa using hl

/-- (2) the whole thread: North joins South's team (`SeatB.exTable`), the table after the barrier is `SeatB.exFull`; `run()`
returns `None`, both streams are consumed, and after the five admission operations the world has recorded the 211
operations of `seatReactive` (barrier, `Teams`, `ready to start`, "Start of board", the 207 of the two boards) -/
example : ∀ f, 40 + exQ2.length + 113 ≤ f → ∃ ops,
    callFn P f m_SeatThread_run
        [encSeatThread0 (encSeatWorld .N exQ2
          (SeatB.exReq :: "north ready for teams".toList :: "NORTH  ready to start".toList :: exC2) []
          (encTable SeatB.exTable) ([SeatB.exFull].map encTable))]
      = .ok (.none, encSeatThread .N (encSeatWorld .N [] []
          ([] ++ seatingOps .N "Alpha".toList "North Alpha seated".toList ++ ops) (encTable SeatB.exFull) [])
          [(K.name, .str "Thread-North-(Alpha)".toList)]) ∧
    ops.length = 211 := by
  obtain ⟨s', hp⟩ := SeatB.exReq_parses
  intro f hf
  have h1 : ∃ acts, seatReactive .N
      (teamsMsg (optText (([SeatB.exFull].headD (admitReq SeatB.exTable ⟨"Alpha".toList, .N, 18⟩).1) .N))
        (optText (([SeatB.exFull].headD (admitReq SeatB.exTable ⟨"Alpha".toList, .N, 18⟩).1) .E)))
      exQ2 ("NORTH  ready to start".toList :: exC2) = some acts ∧
      (encSeatActs .N acts).map List.length = some 211 := by
    have h : (match seatReactive .N
        (teamsMsg (optText (([SeatB.exFull].headD (admitReq SeatB.exTable ⟨"Alpha".toList, .N, 18⟩).1) .N))
          (optText (([SeatB.exFull].headD (admitReq SeatB.exTable ⟨"Alpha".toList, .N, 18⟩).1) .E)))
        exQ2 ("NORTH  ready to start".toList :: exC2) with
        | some acts => (encSeatActs .N acts).map List.length == some 211
        | none => false) = true := by decide +kernel
    revert h
    cases seatReactive .N _ exQ2 ("NORTH  ready to start".toList :: exC2) with
    | none => intro h; cases h
    | some acts => intro h; exact ⟨acts, rfl, by simpa using h⟩
  obtain ⟨acts, hm, hl⟩ := h1
  obtain ⟨ops, bs, q', c', ho, hbs, hx⟩ := seat_run_translated 40 f exQ2 exC2 SeatB.exReq "north ready for teams".toList
    "NORTH  ready to start".toList [] SeatB.exTable [SeatB.exFull] _ .N 18 s' acts hf hp (by decide +kernel)
    (SeatB.passesCheck_of_isSome (by decide +kernel)) (SeatB.passesCheck_of_isSome (by decide +kernel))
    exChecks2 hm
  have hq : (seatBoardsR .N (exQ2.length + 1) ⟨exQ2, exC2⟩).map (fun x => (x.2.q, x.2.c)) = some ([], []) := by
    decide +kernel
  rw [hbs] at hq
  simp only [Option.map_some, Option.some.injEq, Prod.mk.injEq] at hq
  obtain ⟨rfl, rfl⟩ := hq
  have ht : boardsTables .N (exQ2.length + 1) ⟨exQ2, exC2⟩
      (encTable ([SeatB.exFull].headD (admitReq SeatB.exTable ⟨"Alpha".toList, .N, 18⟩).1),
        [SeatB.exFull].tail.map encTable) = (encTable SeatB.exFull, []) := by
    rw [boardsTables_eq_iterate]
    exact advBoards_nil _ _
  rw [ht, SeatB.exReply_seated, SeatB.exThreadName] at hx
  refine ⟨ops, hx, ?_⟩
  rw [ho] at hl
  simpa using hl

/-- (3) an old protocol version: `run()` returns `None` after the rejection -/
example : ∀ f, 75 ≤ f →
    callFn P f m_SeatThread_run
        [encSeatThread0 (encSeatWorld .N [] [SeatB.exReqOld] [] (encTable SeatB.exTable) ([SeatB.exFull].map encTable))]
      = .ok (.none, encSeatThread .N
          (encSeatWorld .N [] [] ([] ++ rejectOps "ERROR: Protocol version is not 18 but 17.".toList)
            (encTable SeatB.exTable) ([SeatB.exFull].map encTable)) []) := by
  obtain ⟨s', hp⟩ := SeatB.exReqOld_parses
  intro f hf
  have h := seat_run_refused_translated 40 f hf .N [] [] SeatB.exReqOld [] SeatB.exTable [SeatB.exFull] _ .N 17 s' hp
    .badVersion (by decide +kernel) (by decide)
  rw [SeatB.exReply_bad] at h
  exact h

end Bridge.Translated.SeatC
