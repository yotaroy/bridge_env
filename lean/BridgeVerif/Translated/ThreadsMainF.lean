import BridgeVerif.Translated.ThreadsMainE
import BridgeVerif.Translated.MsgParsersF
/-!
# The table manager RAISES on a call text the model's parser refuses

In the style of `MainA.main_bidding_illegal_raises`: when the model's run of the auction comes to a message that
`parseBid? (preprocessBid msg) active.formal_name` refuses (`mainBiddingUnparseable`), and the texts of the streams are plain
ASCII, the translated `MainThread.bidding_phase` raises `ValueError` or `Exception` (`bidErrs`) — out of the statement
`bid = MessageInterface.parse_bid(...)`, i.e. BEFORE `take_bid` and before the relay statement that would tell the other
seats about the call.
-/
namespace Bridge.Translated.MainA
open Bridge Bridge.Py Bridge.Generated.PyCore
open Bridge.Translated.MainE
open Bridge.Translated.MsgParsers Bridge.RegexMsgBid

/-- the model's run comes to a message its parser refuses (the branch `parseBid? … = none` of `mainBiddingR`) -/
def mainBiddingUnparseable : Nat → AState → MainIn → Bool
  | 0, _, _ => false
  | n + 1, s, i =>
    match s.active with
    | none => false
    | some a =>
      match i.get a with
      | none => false
      | some (msg, i1) =>
        match parseBid? (preprocessBid msg) a.formal with
        | none => true
        | some call =>
          match takeBid s call with
          | .error _ => false
          | .ok (_, .illegal) => false
          | .ok (s1, _) => mainBiddingUnparseable n s1 i1

/-- the class raised does not depend on the fuel -/
theorem parse_bid_refuses_uniform (content : List Char) (hs : ∀ x ∈ content, x.toNat < 128) (p : Seat)
    (h : parseBid? content p.formal = none) :
    ∃ c ∈ bidErrs, ∀ f, 22 ≤ f →
      callFn P f m_MessageInterface_parse_bid [.str content, .str p.formal] = .error (.exc c) := by
  obtain ⟨c, hc, h22⟩ := parse_bid_refuses content hs p h 22 (Nat.le_refl _)
  exact ⟨c, hc, fun f hf => callFn_fuel_mono P hf _ _ _ h22 (by intro e; cases e)⟩

/-- the loop, when the model's run comes to a call text its parser refuses: the exception of `parse_bid` propagates out of
the `while` -/
theorem mt_loop_unparseable (F : Nat) (hF22 : 22 ≤ F) (table : Val) (tables : List Val) (more : List (Val × Val))
    (bs dv vv : Val) : ∀ (n : Nat) (s : AState) (i : MainIn) (out : List Val) (tail : Env) (g : Nat),
    mainBiddingUnparseable n s i = true → BidMsgsOK F n s i → (∀ p, ∀ m ∈ i p, PlainAscii m) → LoopTail tail →
    n + F + 60 ≤ g →
      ∃ c ∈ bidErrs,
        loopF (mkRec P g) (envL table tables more bs dv vv s i out tail) bpCond bpBody = .error (.exc c) := by
  intro n
  induction n with
  | zero => intro s i out tail g h; exact absurd h (by simp [mainBiddingUnparseable])
  | succ n ih =>
    intro s i out tail g h hok hasc htail hg
    obtain ⟨f0, rfl⟩ : ∃ f0, g = f0 + 51 := ⟨g - 51, by omega⟩
    have hc := mt_cond_eval (f0 + 39) table tables more bs dv vv s i out tail
    have hF : F ≤ f0 := by omega
    cases ha : s.active with
    | none => simp [mainBiddingUnparseable, ha] at h
    | some a =>
      cases hi : i a with
      | nil => simp [mainBiddingUnparseable, ha, MainIn.get, hi] at h
      | cons msg r =>
        have hmsg : PlainAscii msg := hasc a msg (by rw [hi]; simp)
        obtain ⟨xa, hxa⟩ := mt_alert_hyp F f0 hF msg (good_of_plain_ascii F hF22 msg hmsg).1
        rw [ha] at hc
        cases hp : parseBid? (preprocessBid msg) a.formal with
        | none =>
          obtain ⟨c, hcm, hcall⟩ := parse_bid_refuses_uniform (preprocessBid msg)
            (fun x hx => (plainAscii_preprocess msg hmsg x hx).1) a hp
          have hparse : ∀ j, callF (mkRec P (f0+j)) m_MessageInterface_parse_bid [.str (preprocessBid msg), .str a.formal]
              = .error (.exc c) := fun j => hcall (f0 + j + 1) (by omega)
          have hturn : (mkRec P (f0 + 50 + 1)).exec (envL table tables more bs dv vv s i out tail) bpBody = _ :=
            mt_turn_unparseable f0 i more out table tables bs dv vv s a ha msg r hi (preprocessBid msg) xa hxa c hparse
              tail htail
          exact ⟨c, hcm, mt_loop_err (f0 + 50) _ _ _ _ hc hturn⟩
        | some call =>
          cases ht : takeBid s call with
          | error e => simp [mainBiddingUnparseable, ha, MainIn.get, hi, hp, ht] at h
          | ok y =>
            obtain ⟨s1, res⟩ := y
            simp only [BidMsgsOK, ha, MainIn.get, hi, hp, ht] at hok
            obtain ⟨_, hparse, hrec⟩ := hok
            obtain ⟨xp, hxp⟩ := mt_of_map_fst _ _ _ F f0 hF hparse
            have hres : res ≠ .illegal := by
              intro e; subst e
              simp [mainBiddingUnparseable, ha, MainIn.get, hi, hp, ht] at h
            have h' : mainBiddingUnparseable n s1 (fun q => if q = a then r else i q) = true := by
              simp only [mainBiddingUnparseable, ha, MainIn.get, hi, hp, ht] at h
              cases res with
              | illegal => exact absurd rfl hres
              | ongoing => exact h
              | finished => exact h
            obtain ⟨tail1, htail1, hturn⟩ := mt_turn f0 i more out table tables bs dv vv s a ha msg r hi
              (preprocessBid msg) xa hxa call xp hxp s1 res ht tail htail
            rw [if_neg hres] at hturn
            have hturn' : (mkRec P (f0 + 50 + 1)).exec (envL table tables more bs dv vv s i out tail) bpBody = _ := hturn
            rw [mt_loop_step (f0 + 50) _ _ _ _ hc hturn']
            refine ih s1 _ _ tail1 (f0 + 50) h' hrec ?_ htail1 (by omega)
            intro p m hm
            by_cases hpa : p = a
            · subst hpa
              simp only [if_true] at hm
              exact hasc p m (by rw [hi]; simp [hm])
            · simp only [hpa, if_false] at hm
              exact hasc p m hm

/-- THE UNPARSEABLE-CALL BRANCH: when the streams hold plain-ASCII texts and the model's run comes to a message that
`parseBid?` refuses, the translated `bidding_phase` raises `ValueError` or `Exception` out of `parse_bid` — before
`take_bid`, before the relay of the call to the other seats -/
theorem main_bidding_unparseable_raises (n : Nat) (dealer : Seat) (vul : Vul) (i : MainIn)
    (hasc : ∀ p, ∀ m ∈ i p, PlainAscii m)
    (hm : mainBiddingUnparseable n (AState.init dealer vul) i = true)
    (out : List Val) (table : Val) (tables : List Val) (more : List (Val × Val)) (bs : Val)
    (f : Nat) (hf : n + 22 + 70 ≤ f) :
    ∃ c ∈ bidErrs, callFn P f m_MainThread_bidding_phase
        [encMainThread (encMainWorld i out table tables more) bs, encSeat dealer, encVul vul]
      = .error (.exc c) := by
  have hmsgs : BidMsgsOK 22 n (AState.init dealer vul) i :=
    MainC.bidMsgsOK_of_good 22 n _ i (allGood_of_plain_ascii 22 (Nat.le_refl _) i hasc)
  obtain ⟨G, rfl⟩ : ∃ G, f = G + 52 := ⟨f - 52, by omega⟩
  obtain ⟨c, hcm, hloop⟩ := mt_loop_unparseable 22 (Nat.le_refl _) table tables more bs (encSeat dealer) (encVul vul) n
      (AState.init dealer vul) i out [] (G + 49) hm hmsgs hasc (Or.inl rfl) (by omega)
  exact ⟨c, hcm, mt_call_of_loop_err G i out table tables more bs dealer vul _ hloop⟩

/-- North opens 1NT, East says something that is no call -/
def exInGarbled : MainIn := fun p => match p with
  | .N => ["North bids 1NT".toList]
  | .E => ["East bids 8C  Alert. a joke".toList]
  | _ => []

example : ∃ c ∈ bidErrs, callFn P 200 m_MainThread_bidding_phase
    [encMainThread (encMainWorld exInGarbled [] (.dict []) [] []) .none, encSeat .N, encVul .none] = .error (.exc c) :=
  main_bidding_unparseable_raises 3 .N .none exInGarbled
    (by intro p m hm; cases p <;> simp [exInGarbled] at hm <;> subst hm <;> decide +kernel)
    (by decide +kernel) [] (.dict []) [] [] .none 200 (by decide)

end Bridge.Translated.MainA
