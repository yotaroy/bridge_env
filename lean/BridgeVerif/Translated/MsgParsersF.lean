import BridgeVerif.Translated.MsgParsersE
/-! Translated `MessageInterface.parse_bid` (socket_interface.py), the REFUSING direction: for every ASCII text, every seat's
formal name and every fuel ≥ 22, if the model's `parseBid?` refuses the text then the generated `parse_bid` raises —
`ValueError` (the bid pattern matches with a level 0, 8 or 9: `Bid.level_suit_to_bid` / `Bid(...)` refuse) or `Exception`
(neither pattern matches, or the text after the name is none of `passes` / `doubles` / `redoubles`). -/
namespace Bridge.Translated.MsgParsers
open Bridge Bridge.Py Bridge.Generated.PyCore Bridge.Translated Bridge.RegexHands Bridge.RegexMsgBid
open Bridge.Translated.HandsPbn

/-- the classes `parse_bid` raises -/
def bidErrs : List Id := [K.ValueError, K.Exception]

/-- `parse_bid` REFUSES WHAT THE MODEL REFUSES: every ASCII text, every seat's formal name, every fuel ≥ 22 -/
theorem parse_bid_refuses (content : List Char) (hs : ∀ x ∈ content, x.toNat < 128) (p : Seat)
    (h : parseBid? content p.formal = none) :
    ∀ f, 22 ≤ f → ∃ c ∈ bidErrs,
      callFn P f m_MessageInterface_parse_bid [.str content, .str p.formal] = .error (.exc c) := by
  intro f hf
  obtain ⟨g, rfl⟩ : ∃ g, f = g + 22 := ⟨f - 22, by omega⟩
  have := mp_parse_bid_all g content hs p _ rfl
  rw [h] at this
  exact this

end Bridge.Translated.MsgParsers
