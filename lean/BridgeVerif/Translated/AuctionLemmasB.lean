import BridgeVerif.Translated.AuctionLemmasA
/-! Translated `BiddingPhase` = model: reading / writing the encoded containers (38-slot vector, histories, dictionaries),
and Python `==` / `is` on encoded values -/
namespace Bridge.Translated
open Bridge Bridge.Py Bridge.Generated.PyCore

/-! ## `Val.beq` on encoded values -/

theorem beq_encOptSeat_none (o : Option Seat) : (encOpt encSeat o).beq .none = o.isNone := by
  cases o <;> simp [encOpt, encSeat, Val.beq]
theorem beq_encOptBid_none (o : Option (Fin 35)) : (encOpt encBid o).beq .none = o.isNone := by
  cases o <;> simp [encOpt, encBid, Val.beq]
theorem beq_int_1_0 : (Val.int 1).beq (.int 0) = false := by simp [Val.beq]
theorem beq_int_0_0 : (Val.int 0).beq (.int 0) = true := by simp [Val.beq]
theorem beq_encSeat_none (s : Seat) : (encSeat s).beq .none = false := by simp [encSeat, Val.beq]

theorem beq_encCall_pass (c : Call) : (encCall c).beq (.enum n_Bid 36) = decide (c = .pass) := by
  cases c <;> simp [encCall, Val.beq, Call.value, Call.idx] <;> omega
theorem beq_encCall_dbl (c : Call) : (encCall c).beq (.enum n_Bid 37) = decide (c = .dbl) := by
  cases c <;> simp [encCall, Val.beq, Call.value, Call.idx] <;> omega
theorem beq_encCall_rdbl (c : Call) : (encCall c).beq (.enum n_Bid 38) = decide (c = .rdbl) := by
  cases c <;> simp [encCall, Val.beq, Call.value, Call.idx] <;> omega
theorem beq_slot_zero (b : Bool) : (Val.int (if b then 1 else 0)).beq (.int 0) = !b := by
  cases b <;> simp [Val.beq]

/-! ## the 38-slot vector -/

theorem callOfIdx_idx (c : Call) : callOfIdx c.idx = c := by
  cases c with
  | bid i => simp [callOfIdx, Call.idx]
  | pass => rfl
  | dbl => rfl
  | rdbl => rfl

theorem idx_lt (c : Call) : c.idx < 38 := by
  cases c with
  | bid i => have := i.isLt; simp [Call.idx]; omega
  | pass => decide
  | dbl => decide
  | rdbl => decide

theorem availList_length (a : Call → Bool) : (availList a).length = 38 := by simp [availList]

theorem availList_congr {a b : Call → Bool} (h : ∀ c, a c = b c) : availList a = availList b := by
  have : a = b := funext h
  rw [this]

theorem index_avail (r : Rec) (a : Call → Bool) (c : Call) :
    indexF r P (.tuple (availList a)) (.int c.idx) = .ok (.int (if a c then 1 else 0)) := by
  have h := idx_lt c
  simp [indexF, asInt?, normIndex, availList_length]
  simp [availList, h, callOfIdx_idx]
  rfl

theorem replaceAt_eq_set (xs : List Val) (n : Nat) (v : Val) : replaceAt xs n v = xs.set n v := by
  induction xs generalizing n with
  | nil => rfl
  | cons x r ih => cases n with
    | zero => rfl
    | succ n => simp [replaceAt, ih]

theorem replaceAt_avail (a : Call → Bool) (c : Call) (b : Bool) :
    replaceAt (availList a) c.idx (.int (if b then 1 else 0)) = availList (fun k => if k = c then b else a k) := by
  rw [replaceAt_eq_set]
  apply List.ext_getElem
  · simp [availList]
  · intro n h1 h2
    have hn : n < 38 := by simpa [availList] using h2
    simp only [availList, List.getElem_set, List.getElem_map, List.getElem_range]
    by_cases hc : c.idx = n
    · subst hc; simp [callOfIdx_idx]
    · have : callOfIdx n ≠ c := by
        intro hh; apply hc; rw [← hh]
        unfold callOfIdx
        split
        · rfl
        · split
          · simp [Call.idx, *]
          · split
            · simp [Call.idx, *]
            · simp [Call.idx]; omega
      simp [hc, this]

theorem fillSlice_avail (a : Call → Bool) (i : Fin 35) :
    fillSlice (availList a) none (some ((i.val : Int) + 1)) (.int 0)
      = availList (fun k => match k with | .bid j => if j ≤ i then false else a k | k => a k) := by
  have hi := i.isLt
  have hc : clampIndex 38 ((i.val : Int) + 1) = i.val + 1 := by
    unfold clampIndex
    have : (0 : Int) ≤ (i.val : Int) + 1 := by omega
    simp only [this, if_true]
    omega
  unfold fillSlice
  simp only [availList_length, hc]
  apply List.ext_getElem
  · simp [availList]
  · intro n h1 h2
    have hn : n < 38 := by simpa [availList] using h2
    simp only [availList, List.getElem_mapIdx, List.getElem_map, List.getElem_range]
    by_cases h35 : n < 35
    · simp only [callOfIdx, h35, dite_true, Fin.le_def]
      by_cases hle : n ≤ i.val
      · have : n < i.val + 1 := by omega
        simp [hle, this]
      · have : ¬ n < i.val + 1 := by omega
        simp [hle, this]
    · have : ¬ n < i.val + 1 := by omega
      simp only [callOfIdx, h35, dite_false, this, and_false, if_false]
      by_cases h5 : n = 35
      · simp [h5]
      · by_cases h6 : n = 36 <;> simp [h5, h6]

/-! ## histories -/

theorem hist_len (r : Rec) (h : List Call) :
    builtinF r P .len [.tuple (h.reverse.map encCall)] = .ok (.int h.length) := by
  simp [builtinF]; rfl

theorem hist_last (r : Rec) (c : Call) (h : List Call) :
    indexF r P (.tuple ((c :: h).reverse.map encCall)) (.int (-1)) = .ok (encCall c) := by
  simp [indexF, asInt?, normIndex]
  rfl

theorem hist_last2 (r : Rec) (c d : Call) (h : List Call) :
    indexF r P (.tuple ((c :: d :: h).reverse.map encCall)) (.int (-2)) = .ok (encCall d) := by
  simp [indexF, asInt?, normIndex]
  rfl

/-! ## the per-seat dictionary -/

theorem lookup_perSeat (ps : Seat → List Call) (p : Seat) :
    lookupD (perSeatKvs ps) (encSeat p) = some (.tuple ((ps p).reverse.map encCall)) := by
  cases p <;> simp [lookupD, perSeatKvs, encSeat, Val.beq, Seat.value]

theorem update_perSeat (ps : Seat → List Call) (p : Seat) (c : Call) :
    updateD (perSeatKvs ps) (encSeat p) (.tuple ((ps p).reverse.map encCall ++ [encCall c]))
      = perSeatKvs (fun q => if q = p then c :: ps q else ps q) := by
  cases p <;> simp [updateD, perSeatKvs, encSeat, Val.beq, Seat.value]

/-! ## the declarer-check dictionary -/

theorem lookup_declKvs (dc : Side → Suit → Option Seat) (sd : Side) :
    lookupD (declKvs dc) (encSide sd) = some (.dict (declRow (dc sd))) := by
  cases sd <;> simp [lookupD, declKvs, encSide, Val.beq, Side.value]

theorem lookup_declRow (r : Suit → Option Seat) (su : Suit) :
    lookupD (declRow r) (encSuit su) = some (encOpt encSeat (r su)) := by
  cases su <;> simp [lookupD, declRow, encSuit, Val.beq, Suit.value]

theorem update_declRow (r : Suit → Option Seat) (su : Suit) (p : Seat) :
    updateD (declRow r) (encSuit su) (encSeat p) = declRow (fun su' => if su' = su then some p else r su') := by
  cases su <;> simp [updateD, declRow, encSuit, Val.beq, Suit.value, encOpt]

theorem update_declKvs (dc : Side → Suit → Option Seat) (sd : Side) (r : Suit → Option Seat) :
    updateD (declKvs dc) (encSide sd) (.dict (declRow r)) = declKvs (fun sd' => if sd' = sd then r else dc sd') := by
  cases sd <;> simp [updateD, declKvs, encSide, Val.beq, Side.value]

end Bridge.Translated
