import BridgeVerif.Translated.ThreadsClientC
import BridgeVerif.Translated.ThreadsSeatD
import BridgeVerif.Props.C11
/-!
# The CAPSTONE for the bundled client: the TRANSLATED `ClientThread.run` performs EXACTLY the session program

`ClientC.client_run_translated` (the generated `m_ClientThread_run` in the whole translated program `P` = the connection
prefix `connectOps` + `clientReactive`) composed with `C11.bundled_client_follows_the_messages` (`clientReactive` fed what
the session's seat thread sends on `s2c p`, with the scenario's own calls and cards as its systems' decisions =
`sessionProg sc (.client p)`).

How the streams line up.  `sendsOn (Chan.s2c p) (sessionProg sc (.seat p))` = the `Teams` message, "Start of board", the
boards (`session_s_eq`): it INCLUDES the `Teams` message and does NOT include the answer to the connection request
(`<p> <team> seated`) — the session model starts after admission.  `clientReactive` starts at the `Teams` message too, so
the world's connection stream is `reply :: s2c` and the world's operations are `connectOps p team` (`connect`, the request,
`recv` of the reply, `<p> ready for teams`) followed by the rendering of `sessionProg sc (.client p)` (which begins `recv`
(Teams), `<p> ready to start`, `recv` ("Start of board")), with one `bidAsk` / `playAsk` per decision (`eraseDecisions`).

* `hmine` of `client_run_translated` is DERIVED (`session_hmine`): the client's `team_name` is its side's name `ownName sc p`
  and the `Teams` text of the session is `teamsMsg sc.nsName sc.ewName`, read back by `parseTeamNames?`
  (`C19.team_names_round_trip`, names without quote / line break).
* left as hypotheses: `hreply` (the reply is `… seated` in one of the two forms, for the own team), and the parse packages
  `connectParses` / `boardsParses` (the translated parsers agree with the model's on the session's messages, fuel `N`).
* (1) `translated_client_is_session_program`, (2) `translated_client_consumes_everything` (final streams all empty —
  derived from `clientBoardsR_boards`); `…_of_handOK`: the same with `HandOK` hands instead of proper 13-card deals;
  `translated_client_of_reactive`: the core, relative to `clientReactive … = some (sessionProg sc (.client p))`.
* non-vacuity: `SeatD.exSc` (empty hands, `_of_handOK` form) and `exSc13` (thirteen cards each; (1) and (2) as stated),
  every hypothesis discharged, the parse packages as for the board of ThreadsClientC.lean (`exBoardS_parses`: the translated
  parsers evaluated on the header, the relayed passes and the `Teams` message, the hand message by ThreadsClientHands.lean).
-/
namespace Bridge.Translated.ClientD
open Bridge Bridge.Py Bridge.Generated.PyCore Bridge.Translated Bridge.Translated.ClientA Bridge.Translated.ClientB
open Bridge.Translated.ClientC

/-- the name of `p`'s own side in the scenario: the client's `team_name` -/
def ownName (sc : Scenario) (p : Seat) : Text := if p.side = .NS then sc.nsName else sc.ewName
/-- the name of the other side: what `opponent_team_name` becomes -/
def oppName (sc : Scenario) (p : Seat) : Text := if p.side = .NS then sc.ewName else sc.nsName

/-- what the seat thread of `p` sends on the connection in a session: the `Teams` message, "Start of board", the boards.
The reply to the connection request (`… seated`) is NOT part of the session model (the session starts after admission). -/
theorem session_s_eq (sc : Scenario) (p : Seat) :
    sendsOn (Chan.s2c p) (sessionProg sc (.seat p)) =
      teamsMsg sc.nsName sc.ewName :: MSG_START :: (boardsPhases sc 1 sc.boards).flatMap (s2cOf p) := by
  unfold sessionProg sessionPhases
  rw [sendsOn_progOfPhases, List.flatMap_cons]
  show s2cOf p _ ++ List.flatMap (s2cOf p) _ = _
  rw [s2cOf_seating]; rfl

/-- `hmine` of `client_run_translated`, DERIVED: the `Teams` text of the session is `teamsMsg sc.nsName sc.ewName`, which
`parseTeamNames?` reads back (C19), and the client's team is its side's name -/
theorem session_hmine (sc : Scenario) (p : Seat) (hn : NameOK sc.nsName ∧ NameOK sc.ewName) :
    ∀ teams ∈ (sendsOn (Chan.s2c p) (sessionProg sc (.seat p))).head?, ∀ ns ew,
      parseTeamNames? teams = some (ns, ew) → (if p.side = .NS then ns else ew) = ownName sc p := by
  intro teams ht ns ew hh
  rw [session_s_eq] at ht
  simp only [List.head?_cons, Option.mem_def, Option.some.injEq] at ht
  subst ht
  rw [C19.team_names_round_trip _ _ hn.1 hn.2] at hh
  simp only [Option.some.injEq, Prod.mk.injEq] at hh
  obtain ⟨rfl, rfl⟩ := hh
  rfl

/-- the boards of the reactive client consume the session's stream and the scenario's own decisions ENTIRELY -/
theorem session_boards_run (sc : Scenario) (h : sc.boards ≠ []) (p : Seat)
    (hc : ∀ bd ∈ sc.boards, ConformingAuction bd.1 bd.2 ∧ ConformingPlay bd.1 bd.2 ∧ TextsConform bd.1 bd.2)
    (hb : BundledTexts sc p) (hd : ∀ bd ∈ sc.boards, ∀ q, HandOK (bd.1.deal q)) :
    clientBoardsR p ((sendsOn (Chan.s2c p) (sessionProg sc (.seat p))).length + 1)
        ⟨(sendsOn (Chan.s2c p) (sessionProg sc (.seat p))).drop 2, scenarioOwnCalls sc p, scenarioOwnCards sc p⟩
      = some ((boardsPhases sc 1 sc.boards).flatMap (kOf p), ⟨[], [], []⟩) := by
  rw [session_s_eq]
  have hrun := clientBoardsR_boards sc p [] [] [] sc.boards 1
    ((teamsMsg sc.nsName sc.ewName :: MSG_START :: (boardsPhases sc 1 sc.boards).flatMap (s2cOf p)).length + 1) h
    (fun bd hbd => ⟨(hc bd hbd).1, (hc bd hbd).2.1, (hc bd hbd).2.2, hb bd hbd, hd bd hbd⟩)
    (by have := cl_boardsPhases_s_length sc p sc.boards 1; simp only [List.length_cons]; omega)
  simp only [List.append_nil] at hrun
  exact hrun

theorem handOK_of_deal (b : BoardSetting) (h : PartialDeal b.deal) (q : Seat) : HandOK (b.deal q) := by
  obtain ⟨hnd, hok, _⟩ := h
  refine ⟨?_, hok q⟩
  unfold handsAll at hnd
  cases q
  · exact (List.nodup_append.1 (List.nodup_append.1 (List.nodup_append.1 hnd).1).1).1
  · exact (List.nodup_append.1 (List.nodup_append.1 (List.nodup_append.1 hnd).1).1).2.1
  · exact (List.nodup_append.1 (List.nodup_append.1 hnd).1).2.1
  · exact (List.nodup_append.1 hnd).2.1

/-- (2, core) relative to `clientReactive … = some (sessionProg sc (.client p))` and the run of the boards -/
theorem translated_client_of_reactive (sc : Scenario) (p : Seat) (N : Nat) (reply : Text) (out : List Val) (opp : Val)
    (hn : NameOK sc.nsName ∧ NameOK sc.ewName)
    (hm : clientReactive p (scenarioOwnCalls sc p) (scenarioOwnCards sc p)
      (sendsOn (Chan.s2c p) (sessionProg sc (.seat p))) = some (sessionProg sc (.client p)))
    (hreply : reply = seatedPlain p (ownName sc p) ∨ reply = seatedQuoted p (ownName sc p))
    (hp1 : connectParses N ⟨reply :: sendsOn (Chan.s2c p) (sessionProg sc (.seat p)), scenarioOwnCalls sc p,
      scenarioOwnCards sc p⟩)
    (hp2 : boardsParses N p ((sendsOn (Chan.s2c p) (sessionProg sc (.seat p))).length + 1)
      ⟨(sendsOn (Chan.s2c p) (sessionProg sc (.seat p))).drop 2, scenarioOwnCalls sc p, scenarioOwnCards sc p⟩) :
    ∃ ops bs i' extra', encClientActs p (sessionProg sc (.client p)) = some (eraseDecisions ops) ∧
      clientBoardsR p ((sendsOn (Chan.s2c p) (sessionProg sc (.seat p))).length + 1)
        ⟨(sendsOn (Chan.s2c p) (sessionProg sc (.seat p))).drop 2, scenarioOwnCalls sc p, scenarioOwnCards sc p⟩
        = some (bs, i') ∧
      DealtStar [] extra' ∧
      ∀ f, (sendsOn (Chan.s2c p) (sessionProg sc (.seat p))).length + (scenarioOwnCalls sc p).length + N + 178 ≤ f →
        callFn P f m_ClientThread_run
            [encClientThread p (encClientWorld (reply :: sendsOn (Chan.s2c p) (sessionProg sc (.seat p)))
              ((scenarioOwnCalls sc p).map encCall) ((scenarioOwnCards sc p).map encCard) out) (ownName sc p) opp []]
          = .ok (.none, encClientThread p (encClientWorld i'.s (i'.calls.map encCall) (i'.cards.map encCard)
              (out ++ connectOps p (ownName sc p) ++ ops)) (ownName sc p) (.str (oppName sc p)) extra') := by
  obtain ⟨ops, bs, i', on, extra', ho, hbs, hd, hopp, hx⟩ := client_run_translated p (ownName sc p) reply
    (sendsOn (Chan.s2c p) (sessionProg sc (.seat p))) (scenarioOwnCalls sc p) (scenarioOwnCards sc p)
    (sessionProg sc (.client p)) N out opp hreply (session_hmine sc p hn) hm hp1 hp2
  have hon : on = oppName sc p := by
    refine hopp (teamsMsg sc.nsName sc.ewName) ?_ sc.nsName sc.ewName (C19.team_names_round_trip _ _ hn.1 hn.2)
    rw [session_s_eq]; rfl
  subst hon
  exact ⟨ops, bs, i', extra', ho, hbs, hd, hx⟩

/-- (2) THE CAPSTONE, with everything consumed, for valid duplicate-free hands (`HandOK`; the form of the hypothesis on
the deals that `clientReactive_session_of_handOK` uses).  See `translated_client_consumes_everything`. -/
theorem translated_client_consumes_everything_of_handOK (sc : Scenario) (h : sc.boards ≠ []) (p : Seat)
    (hc : ∀ bd ∈ sc.boards, ConformingAuction bd.1 bd.2 ∧ ConformingPlay bd.1 bd.2 ∧ TextsConform bd.1 bd.2)
    (hb : BundledTexts sc p) (hd : ∀ bd ∈ sc.boards, ∀ q, HandOK (bd.1.deal q))
    (hn : NameOK sc.nsName ∧ NameOK sc.ewName)
    (N : Nat) (reply : Text) (out : List Val) (opp : Val)
    (hreply : reply = seatedPlain p (ownName sc p) ∨ reply = seatedQuoted p (ownName sc p))
    (hp1 : connectParses N ⟨reply :: sendsOn (Chan.s2c p) (sessionProg sc (.seat p)), scenarioOwnCalls sc p,
      scenarioOwnCards sc p⟩)
    (hp2 : boardsParses N p ((sendsOn (Chan.s2c p) (sessionProg sc (.seat p))).length + 1)
      ⟨(sendsOn (Chan.s2c p) (sessionProg sc (.seat p))).drop 2, scenarioOwnCalls sc p, scenarioOwnCards sc p⟩) :
    ∃ ops extra', encClientActs p (sessionProg sc (.client p)) = some (eraseDecisions ops) ∧ DealtStar [] extra' ∧
      ∀ f, (sendsOn (Chan.s2c p) (sessionProg sc (.seat p))).length + (scenarioOwnCalls sc p).length + N + 178 ≤ f →
        callFn P f m_ClientThread_run
            [encClientThread p (encClientWorld (reply :: sendsOn (Chan.s2c p) (sessionProg sc (.seat p)))
              ((scenarioOwnCalls sc p).map encCall) ((scenarioOwnCards sc p).map encCard) out) (ownName sc p) opp []]
          = .ok (.none, encClientThread p (encClientWorld [] [] [] (out ++ connectOps p (ownName sc p) ++ ops))
              (ownName sc p) (.str (oppName sc p)) extra') := by
  obtain ⟨ops, bs, i', extra', ho, hbs, hds, hx⟩ := translated_client_of_reactive sc p N reply out opp hn
    (clientReactive_session_of_handOK sc h p hc hb hd hn) hreply hp1 hp2
  rw [session_boards_run sc h p hc hb hd] at hbs
  simp only [Option.some.injEq, Prod.mk.injEq] at hbs
  obtain ⟨_, rfl⟩ := hbs
  exact ⟨ops, extra', ho, hds, hx⟩

/-- (1) THE CAPSTONE FOR THE BUNDLED CLIENT.  A scenario `sc` with at least one board whose decisions and texts conform
(`hc`), seat `p` played by the bundled client (`hb`), proper deals (`hd`), team names without quote / line break (`hn`) —
the hypotheses of `C11.bundled_client_follows_the_messages`.  The client object is created for its side's name
(`ownName sc p`); the connection delivers `reply` (the answer to the connection request, `… seated` in either form — NOT
part of the session model, whose programs start after admission), then EXACTLY what the session model's seat thread of
`p` sends on `s2c p` (the `Teams` message, "Start of board", the boards, "End of session"); the bidding and playing systems
return EXACTLY the scenario's own calls and cards of `p`.  `connectParses` / `boardsParses`: on those messages the
translated parsers return what the model's parsers return (fuel `N`).  Then for every fuel from the stated bound on the
generated `ClientThread.run` returns `None` — it never raises, never blocks —; the world has recorded, after the four
connection operations `connectOps` (`connect`, the request, its answer, `<p> ready for teams`), operations `ops` that
are — apart from one `bidAsk` / `playAsk` per decision (`eraseDecisions`) — EXACTLY the rendering of the session program
`sessionProg sc (.client p)`; `opponent_team_name` is the other side's name; the object has been dealt. -/
theorem translated_client_is_session_program (sc : Scenario) (h : sc.boards ≠ []) (p : Seat)
    (hc : ∀ bd ∈ sc.boards, ConformingAuction bd.1 bd.2 ∧ ConformingPlay bd.1 bd.2 ∧ TextsConform bd.1 bd.2)
    (hb : BundledTexts sc p)
    (hd : ∀ bd ∈ sc.boards, PartialDeal bd.1.deal ∧ ∀ q, (bd.1.deal q).length = 13)
    (hn : NameOK sc.nsName ∧ NameOK sc.ewName)
    (N : Nat) (reply : Text) (out : List Val) (opp : Val)
    (hreply : reply = seatedPlain p (ownName sc p) ∨ reply = seatedQuoted p (ownName sc p))
    (hp1 : connectParses N ⟨reply :: sendsOn (Chan.s2c p) (sessionProg sc (.seat p)), scenarioOwnCalls sc p,
      scenarioOwnCards sc p⟩)
    (hp2 : boardsParses N p ((sendsOn (Chan.s2c p) (sessionProg sc (.seat p))).length + 1)
      ⟨(sendsOn (Chan.s2c p) (sessionProg sc (.seat p))).drop 2, scenarioOwnCalls sc p, scenarioOwnCards sc p⟩) :
    ∃ ops s' calls' cards' extra', encClientActs p (sessionProg sc (.client p)) = some (eraseDecisions ops) ∧
      DealtStar [] extra' ∧
      ∀ f, (sendsOn (Chan.s2c p) (sessionProg sc (.seat p))).length + (scenarioOwnCalls sc p).length + N + 178 ≤ f →
        callFn P f m_ClientThread_run
            [encClientThread p (encClientWorld (reply :: sendsOn (Chan.s2c p) (sessionProg sc (.seat p)))
              ((scenarioOwnCalls sc p).map encCall) ((scenarioOwnCards sc p).map encCard) out) (ownName sc p) opp []]
          = .ok (.none, encClientThread p (encClientWorld s' calls' cards' (out ++ connectOps p (ownName sc p) ++ ops))
              (ownName sc p) (.str (oppName sc p)) extra') := by
  obtain ⟨ops, bs, i', extra', ho, _, hds, hx⟩ := translated_client_of_reactive sc p N reply out opp hn
    (C11.bundled_client_follows_the_messages sc h p hc hb hd hn) hreply hp1 hp2
  exact ⟨ops, _, _, _, extra', ho, hds, hx⟩

/-- (2) EVERYTHING IS CONSUMED: under the hypotheses of (1) the final world has an EMPTY connection stream (all of `s2c p`
read, "End of session" included), and EMPTY decision streams (every own call and card of the scenario asked for, exactly
once each, no more) -/
theorem translated_client_consumes_everything (sc : Scenario) (h : sc.boards ≠ []) (p : Seat)
    (hc : ∀ bd ∈ sc.boards, ConformingAuction bd.1 bd.2 ∧ ConformingPlay bd.1 bd.2 ∧ TextsConform bd.1 bd.2)
    (hb : BundledTexts sc p)
    (hd : ∀ bd ∈ sc.boards, PartialDeal bd.1.deal ∧ ∀ q, (bd.1.deal q).length = 13)
    (hn : NameOK sc.nsName ∧ NameOK sc.ewName)
    (N : Nat) (reply : Text) (out : List Val) (opp : Val)
    (hreply : reply = seatedPlain p (ownName sc p) ∨ reply = seatedQuoted p (ownName sc p))
    (hp1 : connectParses N ⟨reply :: sendsOn (Chan.s2c p) (sessionProg sc (.seat p)), scenarioOwnCalls sc p,
      scenarioOwnCards sc p⟩)
    (hp2 : boardsParses N p ((sendsOn (Chan.s2c p) (sessionProg sc (.seat p))).length + 1)
      ⟨(sendsOn (Chan.s2c p) (sessionProg sc (.seat p))).drop 2, scenarioOwnCalls sc p, scenarioOwnCards sc p⟩) :
    ∃ ops extra', encClientActs p (sessionProg sc (.client p)) = some (eraseDecisions ops) ∧ DealtStar [] extra' ∧
      ∀ f, (sendsOn (Chan.s2c p) (sessionProg sc (.seat p))).length + (scenarioOwnCalls sc p).length + N + 178 ≤ f →
        callFn P f m_ClientThread_run
            [encClientThread p (encClientWorld (reply :: sendsOn (Chan.s2c p) (sessionProg sc (.seat p)))
              ((scenarioOwnCalls sc p).map encCall) ((scenarioOwnCards sc p).map encCard) out) (ownName sc p) opp []]
          = .ok (.none, encClientThread p (encClientWorld [] [] [] (out ++ connectOps p (ownName sc p) ++ ops))
              (ownName sc p) (.str (oppName sc p)) extra') :=
  translated_client_consumes_everything_of_handOK sc h p hc hb
    (fun bd hbd q => handOK_of_deal bd.1 (hd bd hbd).1 q) hn N reply out opp hreply hp1 hp2

/-! ## non-vacuity: `SeatD.exSc` (one board, passed out; teams Alpha (N/S) and Beta (E/W)); South's client -/

open Bridge.Translated.SeatD (exSc exBoard exDecisions exSc_boards)

theorem exDecisions_conform (b : BoardSetting) (hd : b.dealer = .N) :
    ConformingAuction b exDecisions ∧ ConformingPlay b exDecisions ∧ TextsConform b exDecisions := by
  obtain ⟨id, dealer, vul, deal, dda⟩ := b
  subst hd
  refine ⟨⟨?_, Or.inl rfl⟩, ?_, fun j h => ?_, fun s0 _ j h => absurd h (Nat.not_lt_zero j)⟩
  · exact .cons (.cons (.cons (.cons .nil rfl rfl) rfl rfl) rfl rfl) rfl rfl
  · have e : WithHands.init (boardContract ⟨id, .N, vul, deal, dda⟩ exDecisions) deal = none := by with_unfolding_all rfl
    unfold ConformingPlay
    rw [e]
    rfl
  · have hj : j < 4 := h
    match j, hj with
    | 0, _ => show parseBid? (preprocessBid "North passes".toList) Seat.N.formal = some .pass; decide +kernel
    | 1, _ => show parseBid? (preprocessBid "East passes".toList) Seat.E.formal = some .pass; decide +kernel
    | 2, _ => show parseBid? (preprocessBid "South passes".toList) Seat.S.formal = some .pass; decide +kernel
    | 3, _ => show parseBid? (preprocessBid "West passes".toList) Seat.W.formal = some .pass; decide +kernel

theorem exDecisions_bundled (b : BoardSetting) (hd : b.dealer = .N) : BundledBoard .S b exDecisions := by
  obtain ⟨id, dealer, vul, deal, dda⟩ := b
  subst hd
  refine ⟨fun j h hr => ?_, fun s0 decl _ _ j h => absurd h (Nat.not_lt_zero j)⟩
  have hj : j < 4 := h
  match j, hj, hr with
  | 0, _, hr => cases hr
  | 1, _, hr => cases hr
  | 2, _, _ => show "South passes".toList = bidMsg .pass Seat.S.formal; decide +kernel
  | 3, _, hr => cases hr

theorem ex_auction : ConformingAuction exBoard exDecisions := (exDecisions_conform exBoard rfl).1
theorem ex_play : ConformingPlay exBoard exDecisions := (exDecisions_conform exBoard rfl).2.1
theorem ex_texts : TextsConform exBoard exDecisions := (exDecisions_conform exBoard rfl).2.2

theorem ex_bundled : BundledTexts exSc .S := by
  intro bd hbd
  simp only [exSc, List.mem_singleton] at hbd
  subst hbd
  exact exDecisions_bundled exBoard rfl

theorem ex_conform : ∀ bd ∈ exSc.boards, ConformingAuction bd.1 bd.2 ∧ ConformingPlay bd.1 bd.2 ∧ TextsConform bd.1 bd.2 := by
  intro bd hbd
  simp only [exSc, List.mem_singleton] at hbd
  subst hbd
  exact ⟨ex_auction, ex_play, ex_texts⟩

theorem ex_hands : ∀ bd ∈ exSc.boards, ∀ q, HandOK (bd.1.deal q) := by
  intro bd hbd q
  simp only [exSc, List.mem_singleton] at hbd
  subst hbd
  exact ⟨List.nodup_nil, fun c hc => absurd hc List.not_mem_nil⟩

theorem ex_names : NameOK "Alpha".toList ∧ NameOK "Beta".toList := by
  unfold NameOK
  decide +kernel

theorem ex_s2c : sendsOn (Chan.s2c .S) (sessionProg exSc (.seat .S)) =
    "Teams : N/S : \"Alpha\" E/W : \"Beta\"".toList :: "Start of board".toList :: exBoardS [] := by decide +kernel
theorem ex_calls : scenarioOwnCalls exSc .S = [.pass] := by decide +kernel
theorem ex_cards : scenarioOwnCards exSc .S = [] := by decide +kernel
theorem ex_cardsMsg : cardsMsg Seat.S.formal [] = "South's cards : S -. H -. D -. C -.".toList := by decide +kernel

-- a term elaborated against `boardsParses … i` has that type put into weak head normal form: on a concrete `i` that
-- runs the model's parsers
attribute [local irreducible] boardParses boardsParses

set_option maxRecDepth 4000 in
theorem exTeams_chars : ∃ l, "Teams : N/S : \"Alpha\" E/W : \"Beta\"".toList = l ∧
    parseTeamNames? l = some ("Alpha".toList, "Beta".toList) ∧
    Returns 30 m_Client_parse_team_names [.str l] (.tuple [.str "Alpha".toList, .str "Beta".toList]) :=
  ⟨_, String.toList_ofList, by decide +kernel, Returns.of_fuel (by with_unfolding_all rfl)⟩

theorem exTeams_connect (reply : Text) (rest : List Text) (calls : List Call) (cards : List Card) :
    connectParses 30 ⟨reply :: "Teams : N/S : \"Alpha\" E/W : \"Beta\"".toList :: rest, calls, cards⟩ := by
  obtain ⟨l, e, h, hr⟩ := exTeams_chars
  rw [e]
  intro ns ew hh
  rw [h] at hh
  obtain ⟨rfl, rfl⟩ : "Alpha".toList = ns ∧ "Beta".toList = ew := by simpa using hh
  exact hr

theorem exBoardS_boards (hand : List Card) (hok : HandOK hand) (n : Nat) :
    boardsParses 30 .S (n + 1) ⟨exBoardS hand, [.pass], []⟩ := by
  obtain ⟨acts, hb, _⟩ := exBoardS_run hand hok
  exact boardsParses_last 30 .S _ _ _ acts hb (exBoardS_parses hand hok)

theorem exConnectParses (reply : Text) : connectParses 30
    ⟨reply :: sendsOn (Chan.s2c .S) (sessionProg exSc (.seat .S)), scenarioOwnCalls exSc .S, scenarioOwnCards exSc .S⟩ := by
  rw [ex_s2c]
  exact exTeams_connect _ _ _ _

theorem exBoardsParses : boardsParses 30 .S ((sendsOn (Chan.s2c .S) (sessionProg exSc (.seat .S))).length + 1)
    ⟨(sendsOn (Chan.s2c .S) (sessionProg exSc (.seat .S))).drop 2, scenarioOwnCalls exSc .S, scenarioOwnCards exSc .S⟩ := by
  rw [ex_s2c, ex_calls, ex_cards]
  exact exBoardS_boards [] ⟨List.nodup_nil, fun c hc => absurd hc List.not_mem_nil⟩ _

/-- non-vacuity of the capstone (in the `HandOK` form: the hands of `SeatD.exSc` are empty) on the one-board passed-out
scenario `SeatD.exSc`, South's client (team "Alpha", the request answered in the plain form): every hypothesis is
discharged — the parse packages by kernel evaluation of the translated parsers on the session's messages (the hand message:
Translated/ThreadsClientHands.lean) -/
example : ∃ ops extra', encClientActs .S (sessionProg exSc (.client .S)) = some (eraseDecisions ops) ∧
    DealtStar [] extra' ∧
    ∀ f, 8 + 1 + 30 + 178 ≤ f →
      callFn P f m_ClientThread_run
          [encClientThread .S (encClientWorld ("South Alpha seated".toList ::
              ["Teams : N/S : \"Alpha\" E/W : \"Beta\"".toList, "Start of board".toList,
               "Board number 1. Dealer North. Neither vulnerable.".toList, "South's cards : S -. H -. D -. C -.".toList,
               "North passes".toList, "East passes".toList, "West passes".toList, "End of session".toList])
            [encCall .pass] [] []) "Alpha".toList .none []]
        = .ok (.none, encClientThread .S (encClientWorld [] [] [] ([] ++ connectOps .S "Alpha".toList ++ ops))
            "Alpha".toList (.str "Beta".toList) extra') := by
  obtain ⟨ops, extra', ho, hd, hx⟩ := translated_client_consumes_everything_of_handOK exSc exSc_boards .S ex_conform
    ex_bundled ex_hands ex_names 30 "South Alpha seated".toList [] .none (Or.inl (by decide +kernel)) (exConnectParses _)
    exBoardsParses
  refine ⟨ops, extra', ho, hd, fun f hf => ?_⟩
  have := hx f (by rw [ex_s2c, ex_calls]; exact hf)
  rw [ex_s2c, ex_calls, ex_cards, exBoardS, ex_cardsMsg] at this
  exact this

/-- the session program of South's client on this scenario is not trivial: 15 actions -/
example : (sessionProg exSc (.client .S)).length = 15 := by decide +kernel

/-! ## non-vacuity of (1) and (2) as stated (proper 13-card hands): North holds the spades, East the hearts, South the
diamonds, West the clubs; the board is passed out; South's client -/

def suitHand (su : Suit) : List Card := [14, 13, 12, 11, 10, 9, 8, 7, 6, 5, 4, 3, 2].map (⟨·, su⟩)
def exBoard13 : BoardSetting :=
  { boardId := "1".toList, dealer := .N, vul := .none,
    deal := fun | .N => suitHand .S | .E => suitHand .H | .S => suitHand .D | .W => suitHand .C }
def exSc13 : Scenario := { nsName := "Alpha".toList, ewName := "Beta".toList, boards := [(exBoard13, exDecisions)] }

theorem ex13_auction : ConformingAuction exBoard13 exDecisions := (exDecisions_conform exBoard13 rfl).1
theorem ex13_play : ConformingPlay exBoard13 exDecisions := (exDecisions_conform exBoard13 rfl).2.1
theorem ex13_texts : TextsConform exBoard13 exDecisions := (exDecisions_conform exBoard13 rfl).2.2

theorem ex13_bundled : BundledTexts exSc13 .S := by
  intro bd hbd
  simp only [exSc13, List.mem_singleton] at hbd
  subst hbd
  exact exDecisions_bundled exBoard13 rfl

theorem ex13_deal : PartialDeal exBoard13.deal ∧ ∀ q, (exBoard13.deal q).length = 13 := by
  refine ⟨⟨by decide +kernel, fun p => ?_, fun p => Or.inr ?_⟩, fun q => ?_⟩
  · cases p <;> decide +kernel
  · cases p <;> rfl
  · cases q <;> rfl

theorem ex13_conform :
    ∀ bd ∈ exSc13.boards, ConformingAuction bd.1 bd.2 ∧ ConformingPlay bd.1 bd.2 ∧ TextsConform bd.1 bd.2 := by
  intro bd hbd
  simp only [exSc13, List.mem_singleton] at hbd
  subst hbd
  exact ⟨ex13_auction, ex13_play, ex13_texts⟩

theorem ex13_hands : ∀ bd ∈ exSc13.boards, PartialDeal bd.1.deal ∧ ∀ q, (bd.1.deal q).length = 13 := by
  intro bd hbd
  simp only [exSc13, List.mem_singleton] at hbd
  subst hbd
  exact ex13_deal

theorem ex13_s2c : sendsOn (Chan.s2c .S) (sessionProg exSc13 (.seat .S)) =
    "Teams : N/S : \"Alpha\" E/W : \"Beta\"".toList :: "Start of board".toList :: exBoardS (suitHand .D) := by
  decide +kernel
theorem ex13_calls : scenarioOwnCalls exSc13 .S = [.pass] := by decide +kernel
theorem ex13_cards : scenarioOwnCards exSc13 .S = [] := by decide +kernel
theorem ex13_cardsMsg : cardsMsg Seat.S.formal (suitHand .D) =
    "South's cards : S -. H -. D A K Q J T 9 8 7 6 5 4 3 2. C -.".toList := by decide +kernel

theorem ex13ConnectParses (reply : Text) : connectParses 30
    ⟨reply :: sendsOn (Chan.s2c .S) (sessionProg exSc13 (.seat .S)), scenarioOwnCalls exSc13 .S,
      scenarioOwnCards exSc13 .S⟩ := by
  rw [ex13_s2c]
  exact exTeams_connect _ _ _ _

theorem ex13BoardsParses : boardsParses 30 .S ((sendsOn (Chan.s2c .S) (sessionProg exSc13 (.seat .S))).length + 1)
    ⟨(sendsOn (Chan.s2c .S) (sessionProg exSc13 (.seat .S))).drop 2, scenarioOwnCalls exSc13 .S,
      scenarioOwnCards exSc13 .S⟩ := by
  rw [ex13_s2c, ex13_calls, ex13_cards]
  exact exBoardS_boards (suitHand .D) (handOK_of_deal exBoard13 ex13_deal.1 .S) _

/-- non-vacuity of (2) — hence of (1) — AS STATED, every hypothesis discharged (the hypotheses of C11 on the scenario, the
parse packages by kernel evaluation of the translated parsers, the message of South's thirteen diamonds by
Translated/ThreadsClientHands.lean):
South's client of team "Alpha", its request answered in the quoted form -/
example : ∃ ops extra', encClientActs .S (sessionProg exSc13 (.client .S)) = some (eraseDecisions ops) ∧
    DealtStar [] extra' ∧
    ∀ f, 8 + 1 + 30 + 178 ≤ f →
      callFn P f m_ClientThread_run
          [encClientThread .S (encClientWorld ("South (\"Alpha\") seated".toList ::
              ["Teams : N/S : \"Alpha\" E/W : \"Beta\"".toList, "Start of board".toList,
               "Board number 1. Dealer North. Neither vulnerable.".toList,
               "South's cards : S -. H -. D A K Q J T 9 8 7 6 5 4 3 2. C -.".toList,
               "North passes".toList, "East passes".toList, "West passes".toList, "End of session".toList])
            [encCall .pass] [] []) "Alpha".toList .none []]
        = .ok (.none, encClientThread .S (encClientWorld [] [] [] ([] ++ connectOps .S "Alpha".toList ++ ops))
            "Alpha".toList (.str "Beta".toList) extra') := by
  obtain ⟨ops, extra', ho, hd, hx⟩ := translated_client_consumes_everything exSc13 (List.cons_ne_nil _ _) .S ex13_conform
    ex13_bundled ex13_hands ex_names 30 "South (\"Alpha\") seated".toList [] .none (Or.inr (by decide +kernel))
    (ex13ConnectParses _) ex13BoardsParses
  refine ⟨ops, extra', ho, hd, fun f hf => ?_⟩
  have := hx f (by rw [ex13_s2c, ex13_calls]; exact hf)
  rw [ex13_s2c, ex13_calls, ex13_cards, exBoardS, ex13_cardsMsg] at this
  exact this

/-- non-vacuity of (1) as stated, on the same scenario: the theorem itself applies -/
example : ∃ ops s' calls' cards' extra',
    encClientActs .S (sessionProg exSc13 (.client .S)) = some (eraseDecisions ops) ∧ DealtStar [] extra' ∧
    ∀ f, (sendsOn (Chan.s2c .S) (sessionProg exSc13 (.seat .S))).length + (scenarioOwnCalls exSc13 .S).length + 30 + 178 ≤ f →
      callFn P f m_ClientThread_run
          [encClientThread .S (encClientWorld ("South Alpha seated".toList :: sendsOn (Chan.s2c .S) (sessionProg exSc13 (.seat .S)))
            ((scenarioOwnCalls exSc13 .S).map encCall) ((scenarioOwnCards exSc13 .S).map encCard) []) (ownName exSc13 .S) .none []]
        = .ok (.none, encClientThread .S (encClientWorld s' calls' cards' ([] ++ connectOps .S (ownName exSc13 .S) ++ ops))
            (ownName exSc13 .S) (.str (oppName exSc13 .S)) extra') :=
  translated_client_is_session_program exSc13 (List.cons_ne_nil _ _) .S ex13_conform ex13_bundled ex13_hands ex_names
    30 "South Alpha seated".toList [] .none (Or.inl (by decide +kernel)) (ex13ConnectParses _) ex13BoardsParses

end Bridge.Translated.ClientD
