import BridgeVerif.Translated.ThreadsClientD
/-!
# Towards the closed bundled-client capstone (A): the parse packages from a condition on the MESSAGES of the stream

`MsgGood N p m` : on the message `m`, each of the six translated parsers the bundled client of seat `p` may apply to it
(`parse_board`, `parse_cards` for the own name / for `Dummy` followed by `parse_hand`, `MessageInterface.parse_bid` /
`parse_card` for any seat, `parse_leader_message`) returns the encoding of what the model's parser returns (where that one
succeeds).  The model's reactive client only ever consumes its streams (`Sub`: what a phase leaves is contained in what it
was given), so:

* `boardParses_of_good`  : every message `MsgGood`, every decision of the playing system a card of the deck ⟹ `boardParses`;
* `boardsParses_of_good` : ⟹ `boardsParses` at every fuel.
-/
namespace Bridge.Translated.ClientG
open Bridge Bridge.Py Bridge.Generated.PyCore Bridge.Translated Bridge.Translated.ClientA Bridge.Translated.ClientB
open Bridge.Translated.ClientC

/-- on the message `m` the translated parsers of the client of seat `p` agree with the model's -/
structure MsgGood (N : Nat) (p : Seat) (m : Text) : Prop where
  board : ∀ k dealer vul, parseBoard? m = some (k, dealer, vul) →
    Returns N m_Client_parse_board [.str m] (.tuple [.int k, encSeat dealer, encVul vul])
  own : ∀ t, parseCards? m p.formal = some t →
    Returns N m_Client_parse_cards [.str m, .str p.formal] (.str t) ∧
    ∀ dh, parseHand? t = some dh → ∃ hb, Returns N m_Client_parse_hand [.str t] (.tuple [encCards dh, hb])
  dummy : ∀ t, parseCards? m ['D', 'u', 'm', 'm', 'y'] = some t →
    Returns N m_Client_parse_cards [.str m, .str ['D', 'u', 'm', 'm', 'y']] (.str t) ∧
    ∀ dh, parseHand? t = some dh → ∃ hb, Returns N m_Client_parse_hand [.str t] (.tuple [encCards dh, hb])
  bid : ∀ (a : Seat) (c : Call), parseBid? m a.formal = some c →
    Returns N m_MessageInterface_parse_bid [.str m, .str a.formal] (encCall c)
  card : ∀ (a : Seat) (c : Card), parseCard? m a = some c →
    Returns N m_MessageInterface_parse_card [.str m, encSeat a] (encCard c)
  leader : ∀ (d l : Seat), parseLeader? m d = some l →
    Returns N m_Client_parse_leader_message [.str m, encSeat d] (encSeat l)

/-- the streams `i'` are contained in the streams `i` -/
def Sub (i' i : ClientIn) : Prop := (∀ m ∈ i'.s, m ∈ i.s) ∧ (∀ c ∈ i'.cards, c ∈ i.cards)

theorem Sub.refl (i : ClientIn) : Sub i i := ⟨fun _ h => h, fun _ h => h⟩
theorem Sub.trans {a b c : ClientIn} (h1 : Sub a b) (h2 : Sub b c) : Sub a c :=
  ⟨fun m h => h2.1 m (h1.1 m h), fun m h => h2.2 m (h1.2 m h)⟩

theorem recv_sub {i i' : ClientIn} {m : Text} (h : i.recv = some (m, i')) : Sub i' i ∧ m ∈ i.s := by
  obtain ⟨s, calls, cards⟩ := i
  cases s with
  | nil => simp [ClientIn.recv] at h
  | cons x r =>
    simp only [ClientIn.recv, Option.some.injEq, Prod.mk.injEq] at h
    obtain ⟨rfl, rfl⟩ := h
    exact ⟨⟨fun m h => List.mem_cons_of_mem _ h, fun _ h => h⟩, List.mem_cons_self⟩

/-! ## the phases only consume (`clientDealR_decisions`, `clientBiddingR_streams`, `clientPlayingR_inv`) -/
theorem clientDealR_sub {p : Seat} {i i1 : ClientIn} {d : ClientActs} {b : Nat × Seat × Vul} {hand : List Card}
    (h : clientDealR p i = some (d, b, hand, i1)) : Sub i1 i := by
  obtain ⟨_, e2, e3⟩ := clientDealR_decisions p i i1 d b hand h
  exact ⟨fun m hm => List.mem_of_mem_drop (e3 ▸ hm), fun c hc => e2 ▸ hc⟩

theorem clientBiddingR_sub (p : Seat) (n : Nat) (s : AState) (i : ClientIn) (acts : ClientActs) (s' : AState)
    (i' : ClientIn) (h : clientBiddingR p n s i = some (acts, s', i')) : Sub i' i := by
  obtain ⟨e1, e2, _⟩ := clientBiddingR_streams p n s i acts s' i' h
  exact ⟨fun m hm => e2.subset hm, fun c hc => e1 ▸ hc⟩

theorem clientPlayR_sub {p : Seat} {c : Contract} {hand : List Card} {i i' : ClientIn} {acts : ClientActs}
    (h : clientPlayR p c hand i = some (acts, i')) : Sub i' i := by
  unfold clientPlayR at h
  split at h
  · simp only [Option.pure_def, Option.some.injEq, Prod.mk.injEq] at h
    obtain ⟨_, rfl⟩ := h
    exact Sub.refl _
  · split at h
    · simp only [Option.bind_eq_bind] at h
      obtain ⟨⟨a, o, i1⟩, h1, h⟩ := Option.bind_eq_some_iff.1 h
      simp only [Option.pure_def, Option.some.injEq, Prod.mk.injEq] at h
      obtain ⟨_, rfl⟩ := h
      obtain ⟨_, e2, e3⟩ := clientPlayingR_inv p _ _ _ _ _ _ _ _ h1
      exact ⟨fun m hm => e2.subset hm, fun c hc => e3.subset hc⟩
    · cases h

theorem clientBoardR_sub {p : Seat} {i i' : ClientIn} {acts : ClientActs} {m : Text}
    (h : clientBoardR p i = some (acts, m, i')) : Sub i' i := by
  unfold clientBoardR at h
  simp only [Option.bind_eq_bind] at h
  obtain ⟨⟨d, ⟨k, dealer, vul⟩, hand, i1⟩, h1, h⟩ := Option.bind_eq_some_iff.1 h
  obtain ⟨⟨b, s, i2⟩, h2, h⟩ := Option.bind_eq_some_iff.1 h
  obtain ⟨c, _, h⟩ := Option.bind_eq_some_iff.1 h
  obtain ⟨⟨pl, i3⟩, h3, h⟩ := Option.bind_eq_some_iff.1 h
  obtain ⟨⟨m', i4⟩, h4, h⟩ := Option.bind_eq_some_iff.1 h
  simp only [Option.pure_def, Option.some.injEq, Prod.mk.injEq] at h
  obtain ⟨_, _, rfl⟩ := h
  exact (((recv_sub h4).1.trans (clientPlayR_sub h3)).trans (clientBiddingR_sub p _ _ _ _ _ _ h2)).trans
    (clientDealR_sub h1)

/-! ## the parse packages from `MsgGood` -/
theorem playParses_of_good {N : Nat} {p : Seat} {i : ClientIn} (hg : ∀ m ∈ i.s, MsgGood N p m)
    (hc : ∀ c ∈ i.cards, c.ok = true) : PlayParses N i :=
  ⟨fun m hm d l h => (hg m hm).leader d l h, fun m hm a c h => (hg m hm).card a c h,
   fun m hm t h => (hg m hm).dummy t h, hc⟩

theorem bidParses_of_good (N : Nat) (p q : Seat) (n : Nat) (s : AState) (i : ClientIn)
    (hg : ∀ m ∈ i.s, MsgGood N q m) : bidParses N p n s i :=
  bidParses_of_returns N p n s i fun m hm a c hc => (hg m hm).bid a c hc

theorem dealParses_of_good {N : Nat} {p : Seat} {i i1 : ClientIn} {d : ClientActs} {b : Nat × Seat × Vul}
    {hand : List Card} (h : clientDealR p i = some (d, b, hand, i1)) (hg : ∀ m ∈ i.s, MsgGood N p m) :
    ∃ hb, dealParses N p i (encCards hand) hb := by
  unfold clientDealR at h
  simp only [Option.bind_eq_bind] at h
  obtain ⟨⟨header, ia⟩, h1, h⟩ := Option.bind_eq_some_iff.1 h
  obtain ⟨board, _, h⟩ := Option.bind_eq_some_iff.1 h
  obtain ⟨⟨ct, ib⟩, h2, h⟩ := Option.bind_eq_some_iff.1 h
  obtain ⟨hd, h3, h⟩ := Option.bind_eq_some_iff.1 h
  simp only [Option.pure_def, Option.some.injEq, Prod.mk.injEq] at h
  obtain ⟨_, _, rfl, _⟩ := h
  obtain ⟨t, ht, hh⟩ := Option.bind_eq_some_iff.1 h3
  obtain ⟨s, calls, cards⟩ := i
  cases s with
  | nil => simp [ClientIn.recv] at h1
  | cons x r =>
    simp only [ClientIn.recv, Option.some.injEq, Prod.mk.injEq] at h1
    obtain ⟨rfl, rfl⟩ := h1
    cases r with
    | nil => simp [ClientIn.recv] at h2
    | cons y r' =>
      simp only [ClientIn.recv, Option.some.injEq, Prod.mk.injEq] at h2
      obtain ⟨rfl, rfl⟩ := h2
      have gx := hg x List.mem_cons_self
      have gy := hg y (List.mem_cons_of_mem _ List.mem_cons_self)
      obtain ⟨hr, hhand⟩ := gy.own t ht
      obtain ⟨hb, hret⟩ := hhand hd hh
      refine ⟨hb, ?_⟩
      unfold dealParses
      refine ⟨gx.board, fun t' ht' => ?_⟩
      rw [ht] at ht'
      cases ht'
      exact ⟨hr, fun _ => hret⟩

/-- ONE BOARD: every message `MsgGood`, every decision of the playing system a card of the deck ⟹ `boardParses` -/
theorem boardParses_of_good (N : Nat) (p : Seat) (i : ClientIn) (hg : ∀ m ∈ i.s, MsgGood N p m)
    (hc : ∀ c ∈ i.cards, c.ok = true) : boardParses N p i := by
  cases hd : clientDealR p i with
  | none => unfold boardParses; rw [hd]; trivial
  | some x =>
    obtain ⟨d, ⟨k, dealer, vul⟩, hand, i1⟩ := x
    have s1 := clientDealR_sub hd
    refine boardParses_of N p i i1 d k dealer vul hand hd (dealParses_of_good hd hg)
      (bidParses_of_good N p p _ _ _ fun m hm => hg m (s1.1 m hm)) ?_
    intro b s i2 c hb _ _
    have s2 := (clientBiddingR_sub p _ _ _ _ _ _ hb).trans s1
    exact playParses_of_good (fun m hm => hg m (s2.1 m hm)) (fun c hc' => hc c (s2.2 c hc'))

/-- THE BOARDS: ⟹ `boardsParses` at every fuel -/
theorem boardsParses_of_good (N : Nat) (p : Seat) : ∀ (fuel : Nat) (i : ClientIn), (∀ m ∈ i.s, MsgGood N p m) →
    (∀ c ∈ i.cards, c.ok = true) → boardsParses N p fuel i := by
  intro fuel
  induction fuel with
  | zero => intro i _ _; trivial
  | succ n ih =>
    intro i hg hc
    refine ⟨boardParses_of_good N p i hg hc, ?_⟩
    cases hb : clientBoardR p i with
    | none => trivial
    | some x =>
      obtain ⟨acts, m, i'⟩ := x
      have s := clientBoardR_sub hb
      exact fun _ => ih i' (fun m hm => hg m (s.1 m hm)) (fun c hc' => hc c (s.2 c hc'))

end Bridge.Translated.ClientG
