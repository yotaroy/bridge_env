import BridgeVerif.Translated.JsonWriterLemmasD
/-! Translated JSON writers = model: the body of `JsonBoardSettingWriter.write`, the `Exception` of a writer that is
not open, the constructors, and the list of chunks of a whole document -/
namespace Bridge.Translated
open Bridge Bridge.Py Bridge.Generated.PyCore

/-- what the code needs of the arguments of `JsonBoardSettingWriter.write` -/
structure SettingWF (e : SettingEntry) : Prop where
  deal : ∀ p, ∀ c ∈ e.deal p, 2 ≤ c.rank ∧ c.rank ≤ 14
  dda : ∀ d, e.dda = some d → DdaWF d

/-- the dict `JsonBoardSettingWriter.write` builds before it looks at `dda` -/
def settingKvs (e : SettingEntry) : List (Val × Val) :=
  [(.str (jkey "board_id"), .str e.boardId), (.str (jkey "dealer"), .str e.dealer.name),
   (.str (jkey "deal"), dealVal e.deal), (.str (jkey "vulnerability"), .str (vulStr e.vul))]

/-- the dict `JsonBoardSettingWriter.write` hands to `_write_content` -/
def settingVal (e : SettingEntry) : Val := .dict (settingKvs e ++ ddaKvs e.dda)

theorem jw_mth_sw_write :
    P.method? classDepth n_JsonBoardSettingWriter n_write = some (n_JsonBoardSettingWriter, m_JsonBoardSettingWriter_write) := rfl

theorem jw_sw_body :
    m_JsonBoardSettingWriter_write.body = m_JsonBoardSettingWriter_write.body.take 2 ++ jwWriteTail n_setting := rfl

theorem jw_settingKvs_fresh (e : SettingEntry) : ∀ a ∈ settingKvs e, a.1.beq (.str ['d', 'd', 'a']) = false := by
  have hk : ∀ k ∈ (settingKvs e).map (·.1), k.beq (.str ['d', 'd', 'a']) = false := by
    simp only [settingKvs, List.map_cons, List.map_nil]
    decide +kernel
  exact fun a ha => hk a.1 (List.mem_map_of_mem ha)

theorem jw_setting_write_call_aux (f : Nat) (chunks : List Str) (fl : Bool) (e : SettingEntry) (hwf : SettingWF e) :
    callF (mkRec P (f+70)) m_JsonBoardSettingWriter_write (encWriter n_JsonBoardSettingWriter chunks true fl :: settingArgs e)
      = (callF (mkRec P (f+68)) m_JsonWriter__write_content [encWriter n_JsonBoardSettingWriter chunks true fl, settingVal e]
          >>= fun x => .ok (.none, x.2)) := by
  rw [callF_def, jw_sw_body, settingVal]
  have htail := fun f env => jw_write_tail f n_setting (by decide) env (encWriter n_JsonBoardSettingWriter chunks true fl) _
    e.dda (hk := jw_settingKvs_fresh e) (hwf := hwf.dda)
  simp only [m_JsonBoardSettingWriter_write, List.take_succ_cons, List.take_zero, List.cons_append, List.nil_append,
    bindParams, Option.map, encWriter, settingArgs, settingKvs, jkey, String.reduceToList] at htail ⊢
  ppsimp [jw_str_seat, jw_fn_convert_deal, jw_convert_deal_call _ _ hwf.deal, jw_str_vul, updateD, beq_str, List.map_cons,
    List.map_nil]
  rw [htail _ _ rfl rfl rfl]
  simp only [bind_assoc, bind_ok, lookup_update_same, Option.getD_some, Nat.add_assoc, Nat.reduceAdd]

theorem jw_settingVal_json (e : SettingEntry) : valToJson (settingVal e) = some (settingJson e) := by
  simp only [settingVal, settingKvs, valToJson, kvsToJson, Option.map, settingJson, jw_kvsToJson_append, jw_ddaKvs_json,
    jw_dealVal_json, jstr]
  rfl

/-! ## a writer that is not open -/
/-- positional arguments for a prefix of the parameters, defaults for the rest -/
theorem jw_bindParams_isSome (ds : List (Id × Val)) : ∀ (ps : List Id) (args : List Val), args.length ≤ ps.length →
    (∀ p ∈ ps.drop args.length, (lookup ds p).isSome) → ∃ env, bindParams ps ds args = some env := by
  intro ps
  induction ps with
  | nil =>
    intro args h1 _
    match args, h1 with
    | [], _ => exact ⟨_, rfl⟩
  | cons p ps ih =>
    intro args h1 h2
    cases args with
    | nil =>
      obtain ⟨env, he⟩ := ih [] (Nat.zero_le _) fun q hq => h2 q (List.mem_cons_of_mem _ hq)
      obtain ⟨d, hd⟩ := Option.isSome_iff_exists.1 (h2 p (List.mem_cons_self ..))
      exact ⟨(p, d) :: env, by simp only [bindParams, hd, he, Option.map]⟩
    | cons a as =>
      obtain ⟨env, he⟩ := ih as (Nat.le_of_succ_le_succ h1) h2
      exact ⟨(p, a) :: env, by simp only [bindParams, he, Option.map]⟩

/-- a method whose body starts with `if not self._open: raise Exception`, called on a writer that is not open with
arguments that fit its parameters -/
theorem jw_closed_call (f : Nat) (fd : FuncDef) (ps : List Id) (ss : List Stmt) (hp : fd.params = K.self :: ps)
    (hb : fd.body = .ite (.not (.attr (.var K.self) n__open)) [.raise K.Exception] [] :: ss)
    (cls : Id) (chunks : List Str) (fl : Bool) (args : List Val) (h1 : args.length ≤ ps.length)
    (h2 : ∀ p ∈ ps.drop args.length, (lookup fd.defaults p).isSome) :
    callF (mkRec P (f+10)) fd (encWriter cls chunks false fl :: args) = .error (.exc K.Exception) := by
  obtain ⟨env, hargs⟩ := jw_bindParams_isSome fd.defaults ps args h1 h2
  rw [callF_def, hp, hb]
  simp only [bindParams, hargs, Option.map, encWriter]
  ppsimp []

theorem jw_log_write_closed_call (f : Nat) (chunks : List Str) (fl : Bool) (args : List Val) (hargs : args.length = 14 ∨ args.length = 13) :
    callF (mkRec P (f+10)) m_JsonLogWriter_write (encWriter n_JsonLogWriter chunks false fl :: args)
      = .error (.exc K.Exception) := by
  rcases hargs with h | h <;>
    exact jw_closed_call f _ _ _ rfl rfl _ chunks fl args (by rw [h]; decide) (by rw [h]; decide)

theorem jw_setting_write_closed_call (f : Nat) (chunks : List Str) (fl : Bool) (args : List Val)
    (hargs : args.length = 5 ∨ args.length = 4) :
    callF (mkRec P (f+10)) m_JsonBoardSettingWriter_write (encWriter n_JsonBoardSettingWriter chunks false fl :: args)
      = .error (.exc K.Exception) := by
  rcases hargs with h | h <;>
    exact jw_closed_call f _ _ _ rfl rfl _ chunks fl args (by rw [h]; decide) (by rw [h]; decide)

/-! ## construction -/
theorem jw_mth_base_init : P.method? classDepth n_JsonWriter K.init = some (n_JsonWriter, m_JsonWriter___init__) := rfl

theorem jw_base_init_call (f : Nat) (cls : Id) (v : Val) :
    callF (mkRec P (f+8)) m_JsonWriter___init__ [.obj cls [], v]
      = .ok (.none, .obj cls [(n__writer, v), (n__open, .bool false), (n__first_line, .bool false)]) := by
  rw [callF_def]
  simp only [m_JsonWriter___init__, bindParams, Option.map]
  ppsimp []

theorem jw_sub_init_call (f : Nat) (cls : Id) (fd : FuncDef)
    (hfd : fd = m_JsonLogWriter___init__ ∨ fd = m_JsonBoardSettingWriter___init__) (v : Val) :
    callF (mkRec P (f+12)) fd [.obj cls [], v]
      = .ok (.none, .obj cls [(n__writer, v), (n__open, .bool false), (n__first_line, .bool false)]) := by
  rw [callF_def]
  rcases hfd with rfl | rfl
  · simp only [m_JsonLogWriter___init__, bindParams, Option.map]
    ppsimp [jw_mth_base_init, jw_base_init_call]
  · simp only [m_JsonBoardSettingWriter___init__, bindParams, Option.map]
    ppsimp [jw_mth_base_init, jw_base_init_call]

theorem jw_construct_log (f : Nat) (chunks : List Str) :
    constructF (mkRec P (f+13)) P n_JsonLogWriter [encFile chunks] = .ok (encWriter n_JsonLogWriter chunks false false) := by
  have e : constructF (mkRec P (f+13)) P n_JsonLogWriter [encFile chunks]
      = (callF (mkRec P (f+12)) m_JsonLogWriter___init__ [.obj n_JsonLogWriter [], encFile chunks] >>= fun x => pure x.2) := rfl
  rw [e, jw_sub_init_call f _ _ (Or.inl rfl)]; rfl

theorem jw_construct_setting (f : Nat) (chunks : List Str) :
    constructF (mkRec P (f+13)) P n_JsonBoardSettingWriter [encFile chunks]
      = .ok (encWriter n_JsonBoardSettingWriter chunks false false) := by
  have e : constructF (mkRec P (f+13)) P n_JsonBoardSettingWriter [encFile chunks]
      = (callF (mkRec P (f+12)) m_JsonBoardSettingWriter___init__ [.obj n_JsonBoardSettingWriter [], encFile chunks]
          >>= fun x => pure x.2) := rfl
  rw [e, jw_sub_init_call f _ _ (Or.inr rfl)]; rfl

/-! ## the chunks of a whole document -/
/-- the chunks `_write_content` appends for the given record lines (`first` = no record written yet) -/
def writeChunks : Bool → List Str → List Str
  | _, [] => []
  | first, l :: ls => (if first then [] else [jkey ",\n"]) ++ [l] ++ writeChunks false ls

/-- `open()`, the record lines, `close()` -/
def frameChunks (tag : Str) (lines : List Str) : List Str :=
  [jsonOpen tag] ++ writeChunks true lines ++ [if lines.isEmpty then jkey "]}" else jkey "\n]}"]

theorem jw_intercalate_cons2 (sep a b : Str) (r : List Str) :
    List.intercalate sep (a :: b :: r) = a ++ sep ++ List.intercalate sep (b :: r) := by
  simp [List.intercalate, List.intersperse]

theorem jw_writeChunks_false (ls : List Str) :
    (writeChunks false ls).flatten = (ls.map fun l => jkey ",\n" ++ l).flatten := by
  induction ls with
  | nil => rfl
  | cons l ls ih => simp [writeChunks, ih]

theorem jw_intercalate_eq (l : Str) (ls : List Str) :
    List.intercalate (jkey ",\n") (l :: ls) = l ++ (ls.map fun x => jkey ",\n" ++ x).flatten := by
  induction ls generalizing l with
  | nil => simp [List.intercalate, List.intersperse]
  | cons b r ih => rw [jw_intercalate_cons2, ih b]; simp

theorem jw_writeChunks_true (lines : List Str) :
    (writeChunks true lines).flatten = List.intercalate (jkey ",\n") lines := by
  cases lines with
  | nil => rfl
  | cons l ls =>
    rw [jw_intercalate_eq]
    simp [writeChunks, jw_writeChunks_false]

/-- the chunks written by `open(); write(…) …; close()` concatenate to the model's document -/
theorem jw_frameChunks_text (tag : Str) (lines : List Str) : (frameChunks tag lines).flatten = jsonFrame tag lines true := by
  simp only [frameChunks, List.flatten_append, jw_writeChunks_true, jsonFrame, if_true]
  cases lines <;> simp [jkey]

theorem jw_writeChunks_snoc (first : Bool) (l : Str) (ls : List Str) :
    (if first then [] else [jkey ",\n"]) ++ [l] ++ writeChunks false ls = writeChunks first (l :: ls) := rfl
end Bridge.Translated
