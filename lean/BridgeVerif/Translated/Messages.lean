import BridgeVerif.Translated.Enc
import BridgeVerif.Translated.Notation
import BridgeVerif.Model.Msg
import BridgeVerif.Translated.MsgParsersF
import BridgeVerif.Translated.ClientParsersC
import BridgeVerif.Translated.ConnectInfo
import BridgeVerif.Translated.ThreadsClientBLemmasA
import BridgeVerif.Translated.ThreadsClientALemmas
import BridgeVerif.Translated.ThreadsMainALemmas
import BridgeVerif.Props.C19
import BridgeVerif.Lemmas.MsgTexts
/-!
# The message builders and parsers of both ends AS TRANSLATED agree on the complete finite domains  (C19)

`Client.create_bid_message` / `Client.card_str` (builders), `MessageInterface.parse_bid` / `parse_card`,
`Server.remove_alert_word`, `Server.convert_vul` / `Client.parse_board` re-written from the source on every run
(`Generated/PyCoreNet.lean`; of `server.py`, `client.py`, `socket_interface.py` only these pure helpers are translated) and
executed by the MiniPy interpreter, whose `re.match` / `re.sub` are the generic regular-expression engine of
`Model/Regex.lean` (the patterns are parsed at run time, as Python does).  Every call × seat and every card × seat ×
notation × letter case: each statement follows from the theorems that the translated parsers return what the parsers of
`Model/Msg.lean` return on EVERY ASCII text, at every fuel above a small bound (`parse_bid_translated_ascii`,
`parse_bid_refuses`, `parse_card_translated_ascii`, `parse_card_refuses_ascii`, `remove_alert_word_translated_ascii`,
`parse_board_ok_ascii`, `parse_connection_info_ok_ascii`), from the builders evaluated on their finite domains
(`create_bid_message_translated`, `card_str_translated`, `mt_convert_vul_call`) and from the round trips of the model
(Props/C19.lean); that the protocol texts are ASCII is evaluated on the model's builders (Lemmas/MsgTexts.lean).
-/
namespace Bridge.Translated
open Bridge.Py Bridge.Generated.PyCore

/-- result of a method of the WHOLE translated program (the network helpers live outside the base group) -/
def methP (c m : Id) (args : List Val) : R Val := (P.runMethod c m args).map (·.1)

/-- run `f` on the text a builder returned -/
def withText (r : R Val) (f : List Char → Bool) : Bool :=
  match r with
  | .ok (.str s) => f s
  | _ => false

theorem methP_eq {c m c' : Id} (fd : FuncDef) (hm : P.method? classDepth c m = some (c', fd)) (args : List Val) :
    methP c m args = (callFn P topFuel fd args).map (·.1) := by
  unfold methP Program.runMethod
  rw [hm]

theorem methP_ok {c m c' : Id} (fd : FuncDef) (hm : P.method? classDepth c m = some (c', fd)) {args : List Val}
    {v s : Val} (h : callFn P topFuel fd args = .ok (v, s)) : methP c m args = .ok v := by
  rw [methP_eq fd hm, h]
  rfl

/-! ### the translated parsers on the variants of a protocol text -/
theorem parse_bid_reads (c : Call) (p : Seat) (m : List Char) (hm : CaseVariant m (bidMsg c p.formal))
    (ha : ∀ x ∈ m, x.toNat < 128) :
    (enumOf n_Bid (methP n_MessageInterface n_parse_bid [.str m, .str p.formal]) == some (c.value : Int)) = true := by
  rw [methP_eq m_MessageInterface_parse_bid rfl,
    MsgParsers.parse_bid_translated_ascii m ha p c (C19.bid_msg_round_trip c p m hm) topFuel (by decide)]
  simp [enumOf, encCall]

theorem parse_bid_refuses_other (c : Call) (p : Seat) (ha : ∀ x ∈ bidMsg c p.formal, x.toNat < 128) :
    (methP n_MessageInterface n_parse_bid [.str (bidMsg c p.formal), .str p.left.formal]).exc?.isSome = true := by
  obtain ⟨e, _, he⟩ := MsgParsers.parse_bid_refuses _ ha p.left (parseBid_other_seat c p) topFuel (by decide)
  rw [methP_eq m_MessageInterface_parse_bid rfl, he]
  rfl

theorem parse_card_reads (c : Card) (hc : c ∈ Card.deck) (p : Seat) (b : Bool) (m : List Char)
    (hm : CaseVariant m (playMsg p c b)) (ha : ∀ x ∈ m, x.toNat < 128) :
    isVal (methP n_MessageInterface n_parse_card [.str m, encSeat p]) (encCard c) = true := by
  rw [methP_ok m_MessageInterface_parse_card rfl
    (MsgParsers.parse_card_translated_ascii m ha p c (C19.card_msg_round_trip c hc p b m hm) topFuel (by decide))]
  exact (beq_encCard c c).trans (decide_eq_true rfl)

theorem parse_card_refuses_other (c : Card) (p : Seat) (ha : ∀ x ∈ playMsg p c false, x.toNat < 128) :
    (methP n_MessageInterface n_parse_card [.str (playMsg p c false), encSeat p.left]).exc?.isSome = true := by
  obtain ⟨e, _, he⟩ := MsgParsers.parse_card_refuses_ascii _ ha p.left (parseCard_other_seat p c false) topFuel
    (by decide)
  rw [methP_eq m_MessageInterface_parse_card rfl, he]
  rfl

theorem parse_board_reads (k : Nat) (d : Seat) (v : Vul) (ha : ∀ x ∈ boardHeader k d v, x.toNat < 128) :
    isVal (methP n_Client n_parse_board [.str (boardHeader k d v)]) (.tuple [.int k, encSeat d, encVul v]) = true := by
  rw [methP_ok m_Client_parse_board rfl (ClientParsers.parse_board_ok_ascii _ ha k d v
    (C19.board_header_round_trip k d v) topFuel (by decide))]
  simp [isVal, Val.beq, beqL, encSeat, encVul]

theorem parse_connection_reads (team : List Char) (ht : NameOK team) (p : Seat) (seat : List Char)
    (hs : CaseVariant seat p.formal) (k : Nat) (ha : ∀ x ∈ connectMsg team seat k, x.toNat < 128) :
    isVal (methP n_PlayerThread n_parse_connection_info [.str (connectMsg team seat k)])
      (.tuple [.str team, encSeat p, .int k]) = true := by
  rw [methP_ok m_PlayerThread_parse_connection_info rfl (ConnectInfo.parse_connection_info_ok_ascii _ ha team p k
    (C19.connect_round_trip team ht p seat hs k) topFuel (by decide))]
  simp [isVal, Val.beq, beqL, encSeat]

/-- every call by every seat: the client's message is the protocol text of the model and the table manager's parser
reads the call back -/
theorem bid_message_round_trip : ∀ c ∈ Call.all, ∀ p ∈ seats,
    withText (methP n_Client n_create_bid_message [encCall c, .str p.formal]) (fun m =>
      m == bidMsg c p.formal &&
      enumOf n_Bid (methP n_MessageInterface n_parse_bid [.str m, .str p.formal]) == some (c.value : Int)) = true := by
  intro c hc p hp
  have ha : ∀ x ∈ bidMsg c p.formal, x.toNat < 128 := fun x hx =>
    (bidMsg_ascii c hc p hp x (List.mem_append_left _ hx)).1
  rw [methP_eq m_Client_create_bid_message rfl, ClientA.create_bid_message_translated c p topFuel (by decide)]
  simp only [withText, Bool.and_eq_true, beq_self_eq_true, true_and]
  exact parse_bid_reads c p _ rfl ha

/-- with an alert appended (`remove_alert_word` strips ` Alert.` and the blanks around it), in upper case, in lower case:
the table manager still reads the same call; read with ANOTHER seat's name the message is refused.  (An explanation
after `Alert.` is left in the text by `remove_alert_word`; a bid is still read — the pattern is matched as a prefix — a
pass / double / redouble followed by an explanation is not: outside what the properties ask.) -/
theorem bid_message_variants : ∀ c ∈ Call.all, ∀ p ∈ seats,
    withText (methP n_Client n_create_bid_message [encCall c, .str p.formal]) (fun m =>
      withText (methP n_Server n_remove_alert_word [.str (m ++ "  ALERT. ".toList)]) (fun m' =>
        enumOf n_Bid (methP n_MessageInterface n_parse_bid [.str m', .str p.formal]) == some (c.value : Int)) &&
      enumOf n_Bid (methP n_MessageInterface n_parse_bid [.str (m.map upperC), .str p.formal]) == some (c.value : Int) &&
      enumOf n_Bid (methP n_MessageInterface n_parse_bid [.str (m.map lowerC), .str p.formal]) == some (c.value : Int) &&
      (methP n_MessageInterface n_parse_bid [.str m, .str p.left.formal]).exc?.isSome) = true := by
  intro c hc p hp
  have hs := bidMsg_ascii c hc p hp
  have ha : ∀ x ∈ bidMsg c p.formal, x.toNat < 128 := fun x hx => (hs x (List.mem_append_left _ hx)).1
  rw [methP_eq m_Client_create_bid_message rfl, ClientA.create_bid_message_translated c p topFuel (by decide)]
  simp only [withText, Bool.and_eq_true]
  refine ⟨⟨⟨?_, parse_bid_reads c p _ (caseVariant_upper _) (ascii_upper ha)⟩,
    parse_bid_reads c p _ (caseVariant_lower _) (ascii_lower ha)⟩, parse_bid_refuses_other c p ha⟩
  have hr : removeAlert (bidMsg c p.formal ++ "  ALERT. ".toList) = bidMsg c p.formal := by
    have h := removeAlert_alert c p _ [' ', ' '] ['A', 'L', 'E', 'R', 'T', '.'] [' '] rfl
      ⟨by decide, by unfold AllWs; decide⟩ rfl (by unfold AllWs; decide)
    rwa [List.append_assoc, List.append_assoc] at h
  rw [methP_ok m_Server_remove_alert_word rfl (MsgParsers.remove_alert_word_translated_ascii _ hs topFuel (by decide)),
    hr]
  exact parse_bid_reads c p _ rfl ha

/-- every card by every seat, in both notations the protocol allows (rank-suit as the client writes it, suit-rank as
`str(card)`), in upper and in lower case: the table manager reads the card back -/
theorem card_message_round_trip : ∀ c ∈ Card.deck, ∀ p ∈ seats,
    withText (methP n_Client n_card_str [encCard c]) (fun body =>
      body == (playMsg p c false).drop (p.formal.length + 7) &&
      isVal (methP n_MessageInterface n_parse_card [.str (playMsg p c false), encSeat p]) (encCard c) &&
      isVal (methP n_MessageInterface n_parse_card [.str (playMsg p c true), encSeat p]) (encCard c) &&
      isVal (methP n_MessageInterface n_parse_card [.str ((playMsg p c false).map lowerC), encSeat p]) (encCard c) &&
      isVal (methP n_MessageInterface n_parse_card [.str ((playMsg p c true).map upperC), encSeat p]) (encCard c) &&
      (methP n_MessageInterface n_parse_card [.str (playMsg p c false), encSeat p.left]).exc?.isSome) = true := by
  intro c hc p hp
  have ha := playMsg_ascii c hc p hp
  rw [methP_eq m_Client_card_str rfl, ClientB.card_str_translated c (deck_ok c hc) topFuel (by decide)]
  simp only [withText, Bool.and_eq_true]
  refine ⟨⟨⟨⟨⟨?_, parse_card_reads c hc p false _ rfl (ha false)⟩, parse_card_reads c hc p true _ rfl (ha true)⟩,
    parse_card_reads c hc p false _ (caseVariant_lower _) (ascii_lower (ha false))⟩,
    parse_card_reads c hc p true _ (caseVariant_upper _) (ascii_upper (ha true))⟩,
    parse_card_refuses_other c p (ha false)⟩
  simp [playMsg]

/-- the board header: every dealer × vulnerability (board numbers 1 and 16) as the table manager words it is read back
by the client -/
theorem board_header_round_trip : ∀ d ∈ seats, ∀ v ∈ vuls, ∀ n : Fin 2,
    withText (methP n_Server n_convert_vul [encVul v]) (fun vt =>
      let num : Int := if n.val = 0 then 1 else 16
      let header := "Board number ".toList ++ intStr num ++ ". Dealer ".toList ++ d.formal ++ ". ".toList ++ vt ++ " vulnerable.".toList
      isVal (methP n_Client n_parse_board [.str header]) (.tuple [.int num, encSeat d, encVul v])) = true := by
  intro d hd v hv n
  obtain ⟨k, hk, hn⟩ : ∃ k ∈ [1, 16], (if n.val = 0 then (1 : Int) else 16) = (k : Nat) := by
    by_cases h : n.val = 0
    · exact ⟨1, by decide, if_pos h⟩
    · exact ⟨16, by decide, if_neg h⟩
  rw [methP_ok m_Server_convert_vul rfl
    (st_callFn_of_callF (fun f => MainA.mt_convert_vul_call f v) topFuel (by decide))]
  simp only [withText]
  rw [hn, intStr_nat]
  exact parse_board_reads k d v (boardHeader_ascii_1_16 d hd v hv k hk)

/-- the connection line: every seat (any letter case of the seat name) and a few protocol versions -/
theorem connection_line_read : ∀ p ∈ seats, ∀ ver : Fin 3,
    let line := "Connecting \"Team (A)\" as ".toList ++ p.formal.map upperC ++ " using protocol version ".toList ++ intStr (17 + ver.val)
    isVal (methP n_PlayerThread n_parse_connection_info [.str line]) (.tuple [.str "Team (A)".toList, encSeat p, .int (17 + ver.val)]) = true := by
  intro p hp ver
  show isVal (methP n_PlayerThread n_parse_connection_info [.str ("Connecting \"Team (A)\" as ".toList ++
    p.formal.map upperC ++ " using protocol version ".toList ++ intStr ((17 + ver.val : Nat) : Int))])
    (.tuple [.str "Team (A)".toList, encSeat p, .int ((17 + ver.val : Nat) : Int)]) = true
  rw [intStr_nat, show "Connecting \"Team (A)\" as ".toList
    = "Connecting \"".toList ++ "Team (A)".toList ++ "\" as ".toList by decide +kernel]
  exact parse_connection_reads "Team (A)".toList (by unfold NameOK; decide) p _ (caseVariant_upper _) _
    (connectMsg_ascii_17_19 p hp ver)

end Bridge.Translated
