import BridgeVerif.Translated.ThreadsEnc
import BridgeVerif.Translated.PlayLemmasB
import BridgeVerif.Lemmas.MiniPyFuel
/-!
# The framing methods AS TRANSLATED (class `Framing` of Generated/PyCoreThreads.lean)

`Framing.send_message` / `Framing.receive_message` are `MessageInterface.send_message` / `receive_message` of
`socket_interface.py` after the desugaring pass: the socket is the world object `self._w` (`w_sendall` appends
`("sendall", text)` to `out`; `w_recv1` takes the next CHARACTER of the stream under the key "bytes", returns `''` when
the stream is empty and `eof` is set, raises `Blocked` when it is empty and `eof` is not set).  Everything below is about
the generated `FuncDef`s `m_Framing_*` / `m__World_*` run by the MiniPy interpreter on `P`, for EVERY fuel from an explicit
bound on (`m.length + 12` for a receive that reads the CR-free text `m`; 6 for a send):

* (1) `framing_send_translated`      — `send_message(msg)` appends `("sendall", msg ++ "\r\n")` to `out`, returns `None`
* (2) `framing_recv_translated`      — on `m ++ "\r\n" ++ rest` (`m` CR-free) returns `m`, leaves `rest`
* (3) `framing_recv_bad_terminator`  — on `m ++ "\r" ++ c :: rest`, `c ≠ '\n'`: `Exception`
* (4) `framing_recv_eof`             — closed stream: `m` ↦ `ConnectionError`, `m ++ "\r"` ↦ `Exception`
* (5) `framing_recv_blocked`         — open stream that is empty for now: `m` and `m ++ "\r"` ↦ `Blocked`
* (6) `framing_stream_translated`    — `msgs.length` successive calls (`recvN`) return `msgs` and leave `rest`
* (7) `framing_recv_model`           — for ASCII text and a closed stream the translated reader IS `Bridge.recvOne (.body [])`
  of Model/Framing.lean on the bytes
* `framing_send_runMethod`, `framing_recv_runMethod` — the same through `Program.runMethod` (fuel `topFuel`)

Method: the world methods and ONE turn of the `while True` loop by symbolic execution (`ppsimp`) at the fuel `f + const`;
the loop by induction over the CR-free prefix (one level of fuel per turn, `tf_loop_prefix`); the statements "for every
fuel ≥ bound" by writing the fuel as `bound + k` (`tf_fuel_split`) — no appeal to monotonicity is needed.
-/
namespace Bridge.Translated
open Bridge Bridge.Py Bridge.Generated.PyCore

/-- the characters still to arrive, as the world holds them -/
def tfChars (cs : Str) : List Val := cs.map fun c => .str [c]

theorem tf_encByteWorld (cs : Str) (out : List Val) (eof : Bool) :
    encByteWorld cs out eof = .obj n__World [(n_ins, .dict [(.str ['b','y','t','e','s'], .tuple (tfChars cs))]),
      (n_out, .tuple out), (n_table, .dict []), (n_tables, .tuple []), (n_eof, .bool eof)] := rfl

theorem tf_mth_recv1 : P.method? classDepth n__World n_w_recv1 = some (n__World, m__World_w_recv1) := rfl
theorem tf_mth_sendall : P.method? classDepth n__World n_w_sendall = some (n__World, m__World_w_sendall) := rfl

theorem tf_beq_bytes : (Val.str ['b','y','t','e','s']).beq (.str ['b','y','t','e','s']) = true := by simp [Val.beq]

theorem tf_recv1_cons (f : Nat) (c : Char) (cs : Str) (out : List Val) (eof : Bool) :
    callF (mkRec P (f+6)) m__World_w_recv1 [encByteWorld (c :: cs) out eof]
      = .ok (.str [c], encByteWorld cs out eof) := by
  rw [callF_def]
  simp only [tf_encByteWorld, m__World_w_recv1, bindParams, Option.map, tfChars, List.map_cons]
  ppsimp [↓R_bind_match, builtin_len_tuple, lookupD, updateD, tf_beq_bytes, ofNat_succ_beq_zero, index_zero, sliceList_tail]

theorem tf_recv1_nil_eof (f : Nat) (out : List Val) :
    callF (mkRec P (f+6)) m__World_w_recv1 [encByteWorld [] out true]
      = .ok (.str [], encByteWorld [] out true) := by
  rw [callF_def]
  simp only [tf_encByteWorld, m__World_w_recv1, bindParams, Option.map, tfChars, List.map_nil]
  ppsimp [↓R_bind_match, builtin_len_tuple, lookupD, updateD, tf_beq_bytes, ofNat_zero_beq_zero]

theorem tf_recv1_nil_blocked (f : Nat) (out : List Val) :
    callF (mkRec P (f+6)) m__World_w_recv1 [encByteWorld [] out false] = .error (.exc n_Blocked) := by
  rw [callF_def]
  simp only [tf_encByteWorld, m__World_w_recv1, bindParams, Option.map, tfChars, List.map_nil]
  ppsimp [↓R_bind_match, builtin_len_tuple, lookupD, updateD, tf_beq_bytes, ofNat_zero_beq_zero]

theorem tf_meth_recv1_cons (f : Nat) (c : Char) (cs : Str) (out : List Val) (eof : Bool) :
    methF (mkRec P (f+7)) P (encByteWorld (c :: cs) out eof) n_w_recv1 []
      = .ok (.str [c], encByteWorld cs out eof) := tf_recv1_cons f c cs out eof
theorem tf_meth_recv1_nil_eof (f : Nat) (out : List Val) :
    methF (mkRec P (f+7)) P (encByteWorld [] out true) n_w_recv1 []
      = .ok (.str [], encByteWorld [] out true) := tf_recv1_nil_eof f out
theorem tf_meth_recv1_nil_blocked (f : Nat) (out : List Val) :
    methF (mkRec P (f+7)) P (encByteWorld [] out false) n_w_recv1 [] = .error (.exc n_Blocked) :=
  tf_recv1_nil_blocked f out

/-! ## `send_message` -/
theorem tf_sendall_call (f : Nat) (cs : Str) (out : List Val) (eof : Bool) (t : Val) :
    callF (mkRec P (f+3)) m__World_w_sendall [encByteWorld cs out eof, t]
      = .ok (.none, encByteWorld cs (out ++ [.tuple [vstr "sendall", t]]) eof) := by
  rw [callF_def]
  simp only [tf_encByteWorld, m__World_w_sendall, bindParams, Option.map]
  ppsimp [↓R_bind_match]
  rfl

theorem tf_meth_sendall (f : Nat) (cs : Str) (out : List Val) (eof : Bool) (t : Val) :
    methF (mkRec P (f+4)) P (encByteWorld cs out eof) n_w_sendall [t]
      = .ok (.none, encByteWorld cs (out ++ [.tuple [vstr "sendall", t]]) eof) := tf_sendall_call f cs out eof t

theorem tf_send_call (f : Nat) (cs : Str) (out : List Val) (eof : Bool) (msg : Str) :
    callF (mkRec P (f+5)) m_Framing_send_message [encFraming (encByteWorld cs out eof), .str msg]
      = .ok (.none, encFraming (encByteWorld cs (out ++ [.tuple [vstr "sendall", .str (msg ++ ['\r', '\n'])]]) eof)) := by
  rw [callF_def]
  simp only [m_Framing_send_message, bindParams, Option.map, encFraming]
  ppsimp [↓R_bind_match, strOfF, tf_meth_sendall, List.flatten_cons, List.flatten_nil, List.append_nil]

/-! ## `receive_message`: the body of the `while True` loop -/
def tfCond : Expr := match m_Framing_receive_message.body.getD 1 .pass with
  | .while c _ => c
  | _ => default
def tfBody : List Stmt := match m_Framing_receive_message.body.getD 1 .pass with
  | .while _ b => b
  | _ => []

/-- the environment inside the loop -/
def tfEnv (cs : Str) (out : List Val) (eof : Bool) (acc : Str) (tail : Env) : Env :=
  (K.self, encFraming (encByteWorld cs out eof)) :: (n_byte_message, .str acc) :: tail

theorem tf_beq_str1_nil (c : Char) : (Val.str [c]).beq (.str []) = false := by simp [Val.beq]
theorem tf_beq_nil_nil : (Val.str []).beq (.str []) = true := by simp [Val.beq]
theorem tf_beq_nil_str1 (c : Char) : (Val.str []).beq (.str [c]) = false := by simp [Val.beq]
theorem tf_beq_str1 (c d : Char) : (Val.str [c]).beq (.str [d]) = decide (c = d) := by
  simp only [Val.beq]
  rw [Bool.eq_iff_iff]; simp

theorem tf_turn_char (f : Nat) (c : Char) (hc : c ≠ '\r') (cs : Str) (out : List Val) (eof : Bool) (acc : Str) (tail : Env) :
    execF (mkRec P (f+8)) P (tfEnv (c :: cs) out eof acc tail) tfBody
      = .ok (tfEnv cs out eof (acc ++ [c]) (update tail n_c (.str [c])), .next) := by
  simp only [tfBody, tfEnv, m_Framing_receive_message, List.getD_cons_succ, List.getD_cons_zero, encFraming]
  ppsimp [↓R_bind_match, tf_meth_recv1_cons, tf_beq_str1_nil, tf_beq_str1, hc]

theorem tf_turn_crlf (f : Nat) (rest : Str) (out : List Val) (eof : Bool) (acc : Str) (tail : Env) :
    execF (mkRec P (f+8)) P (tfEnv ('\r' :: '\n' :: rest) out eof acc tail) tfBody
      = .ok (tfEnv rest out eof acc (update (update tail n_c (.str ['\r'])) n_s (.str ['\n'])), .brk) := by
  simp only [tfBody, tfEnv, m_Framing_receive_message, List.getD_cons_succ, List.getD_cons_zero, encFraming]
  ppsimp [↓R_bind_match, tf_meth_recv1_cons, tf_beq_str1_nil, tf_beq_str1]

theorem tf_turn_cr_bad (f : Nat) (c : Char) (hc : c ≠ '\n') (rest : Str) (out : List Val) (eof : Bool) (acc : Str)
    (tail : Env) :
    execF (mkRec P (f+8)) P (tfEnv ('\r' :: c :: rest) out eof acc tail) tfBody = .error (.exc K.Exception) := by
  simp only [tfBody, tfEnv, m_Framing_receive_message, List.getD_cons_succ, List.getD_cons_zero, encFraming]
  ppsimp [↓R_bind_match, tf_meth_recv1_cons, tf_beq_str1_nil, tf_beq_str1, hc]

theorem tf_turn_cr_eof (f : Nat) (out : List Val) (acc : Str) (tail : Env) :
    execF (mkRec P (f+8)) P (tfEnv ['\r'] out true acc tail) tfBody = .error (.exc K.Exception) := by
  simp only [tfBody, tfEnv, m_Framing_receive_message, List.getD_cons_succ, List.getD_cons_zero, encFraming]
  ppsimp [↓R_bind_match, tf_meth_recv1_cons, tf_meth_recv1_nil_eof, tf_beq_str1_nil, tf_beq_str1, tf_beq_nil_str1]

theorem tf_turn_cr_blocked (f : Nat) (out : List Val) (acc : Str) (tail : Env) :
    execF (mkRec P (f+8)) P (tfEnv ['\r'] out false acc tail) tfBody = .error (.exc n_Blocked) := by
  simp only [tfBody, tfEnv, m_Framing_receive_message, List.getD_cons_succ, List.getD_cons_zero, encFraming]
  ppsimp [↓R_bind_match, tf_meth_recv1_cons, tf_meth_recv1_nil_blocked, tf_beq_str1_nil, tf_beq_str1]

theorem tf_turn_eof (f : Nat) (out : List Val) (acc : Str) (tail : Env) :
    execF (mkRec P (f+8)) P (tfEnv [] out true acc tail) tfBody = .error (.exc n_ConnectionError) := by
  simp only [tfBody, tfEnv, m_Framing_receive_message, List.getD_cons_succ, List.getD_cons_zero, encFraming]
  ppsimp [↓R_bind_match, tf_meth_recv1_nil_eof, tf_beq_nil_nil]

theorem tf_turn_blocked (f : Nat) (out : List Val) (acc : Str) (tail : Env) :
    execF (mkRec P (f+8)) P (tfEnv [] out false acc tail) tfBody = .error (.exc n_Blocked) := by
  simp only [tfBody, tfEnv, m_Framing_receive_message, List.getD_cons_succ, List.getD_cons_zero, encFraming]
  ppsimp [↓R_bind_match, tf_meth_recv1_nil_blocked]

/-! ## the loop -/
theorem tf_cond_eq : tfCond = .const (.bool true) := rfl

/-- one turn of `while True` -/
theorem tf_loop_step (n : Nat) (env : Env) :
    loopF (mkRec P (n+1)) env tfCond tfBody = (execF (mkRec P n) P env tfBody >>= fun x =>
      match x.2 with
      | .brk => .ok (x.1, .next)
      | .ret v => .ok (x.1, .ret v)
      | _ => loopF (mkRec P n) x.1 tfCond tfBody) := by
  rw [loopF, tf_cond_eq]
  simp only [eval_succ, exec_succ, loop_succ, evalF, pure_eq, bind_ok, Py.truthy_bool, if_true]
  cases execF (mkRec P n) P env tfBody with
  | error e => rfl
  | ok x => obtain ⟨e, fl⟩ := x; cases fl <;> rfl

/-- the CR-free prefix `m` of the stream is consumed in `m.length` turns and appended to `byte_message` -/
theorem tf_loop_prefix (k : Nat) (out : List Val) (eof : Bool) : ∀ (m : Str), '\r' ∉ m → ∀ (suffix acc : Str) (tail : Env),
    ∃ tail', loopF (mkRec P (m.length + k + 9)) (tfEnv (m ++ suffix) out eof acc tail) tfCond tfBody
      = loopF (mkRec P (k + 9)) (tfEnv suffix out eof (acc ++ m) tail') tfCond tfBody
  | [], _, suffix, acc, tail => ⟨tail, by simp only [List.length_nil, Nat.zero_add, List.nil_append, List.append_nil]⟩
  | c :: m, h, suffix, acc, tail => by
    have hc : c ≠ '\r' := fun e => h (e ▸ List.mem_cons_self ..)
    have hm : '\r' ∉ m := fun hm => h (List.mem_cons_of_mem _ hm)
    obtain ⟨tail', ih⟩ := tf_loop_prefix k out eof m hm suffix (acc ++ [c]) (update tail n_c (.str [c]))
    refine ⟨tail', ?_⟩
    have e : (c :: m).length + k + 9 = (m.length + k + 9) + 1 := by simp only [List.length_cons]; omega
    rw [e, tf_loop_step, List.cons_append, tf_turn_char _ c hc, bind_ok]
    simp only
    rw [ih, List.append_assoc, List.singleton_append]

/-! ## the call, from the outcome of the loop -/
theorem tf_call_error (n : Nat) (w : Val) (e : Err)
    (h : loopF (mkRec P n) [(K.self, encFraming w), (n_byte_message, .str [])] tfCond tfBody = .error e) :
    callF (mkRec P (n+2)) m_Framing_receive_message [encFraming w] = .error e := by
  rw [callF_def]
  simp only [tfCond, tfBody, m_Framing_receive_message, List.getD_cons_succ, List.getD_cons_zero] at h
  simp only [m_Framing_receive_message, bindParams, Option.map]
  ppsimp [↓R_bind_match, loop_succ, h]

theorem tf_call_ok (n : Nat) (w w' : Val) (m : Str) (tail : Env)
    (h : loopF (mkRec P n) [(K.self, encFraming w), (n_byte_message, .str [])] tfCond tfBody
      = .ok ((K.self, encFraming w') :: (n_byte_message, .str m) :: tail, .next)) :
    callF (mkRec P (n+2)) m_Framing_receive_message [encFraming w] = .ok (.str m, encFraming w') := by
  rw [callF_def]
  simp only [tfCond, tfBody, m_Framing_receive_message, List.getD_cons_succ, List.getD_cons_zero] at h
  simp only [m_Framing_receive_message, bindParams, Option.map]
  ppsimp [↓R_bind_match, loop_succ, h]

/-! ## `receive_message` at the fuel `m.length + k + 11` (`k` arbitrary) -/
theorem tf_recv_call (k : Nat) (m rest : Str) (hm : '\r' ∉ m) (out : List Val) (eof : Bool) :
    callF (mkRec P (m.length + k + 11)) m_Framing_receive_message
        [encFraming (encByteWorld (m ++ '\r' :: '\n' :: rest) out eof)]
      = .ok (.str m, encFraming (encByteWorld rest out eof)) := by
  obtain ⟨tail', hl⟩ := tf_loop_prefix k out eof m hm ('\r' :: '\n' :: rest) [] []
  have h2 := tf_loop_step (k + 8) (tfEnv ('\r' :: '\n' :: rest) out eof ([] ++ m) tail')
  rw [tf_turn_crlf, bind_ok] at h2
  exact tf_call_ok (m.length + k + 9) _ _ m _ (hl.trans h2)

theorem tf_recv_call_bad (k : Nat) (m rest : Str) (hm : '\r' ∉ m) (c : Char) (hc : c ≠ '\n') (out : List Val) (eof : Bool) :
    callF (mkRec P (m.length + k + 11)) m_Framing_receive_message
        [encFraming (encByteWorld (m ++ '\r' :: c :: rest) out eof)]
      = .error (.exc K.Exception) := by
  obtain ⟨tail', hl⟩ := tf_loop_prefix k out eof m hm ('\r' :: c :: rest) [] []
  have h2 := tf_loop_step (k + 8) (tfEnv ('\r' :: c :: rest) out eof ([] ++ m) tail')
  rw [tf_turn_cr_bad _ c hc, bind_err] at h2
  exact tf_call_error (m.length + k + 9) _ _ (hl.trans h2)

theorem tf_recv_call_eof (k : Nat) (m : Str) (hm : '\r' ∉ m) (out : List Val) :
    callF (mkRec P (m.length + k + 11)) m_Framing_receive_message [encFraming (encByteWorld m out true)]
      = .error (.exc n_ConnectionError) := by
  obtain ⟨tail', hl⟩ := tf_loop_prefix k out true m hm [] [] []
  have h2 := tf_loop_step (k + 8) (tfEnv [] out true ([] ++ m) tail')
  rw [tf_turn_eof, bind_err] at h2
  rw [List.append_nil] at hl
  exact tf_call_error (m.length + k + 9) _ _ (hl.trans h2)

theorem tf_recv_call_cr_eof (k : Nat) (m : Str) (hm : '\r' ∉ m) (out : List Val) :
    callF (mkRec P (m.length + k + 11)) m_Framing_receive_message [encFraming (encByteWorld (m ++ ['\r']) out true)]
      = .error (.exc K.Exception) := by
  obtain ⟨tail', hl⟩ := tf_loop_prefix k out true m hm ['\r'] [] []
  have h2 := tf_loop_step (k + 8) (tfEnv ['\r'] out true ([] ++ m) tail')
  rw [tf_turn_cr_eof, bind_err] at h2
  exact tf_call_error (m.length + k + 9) _ _ (hl.trans h2)

theorem tf_recv_call_blocked (k : Nat) (m : Str) (hm : '\r' ∉ m) (out : List Val) :
    callF (mkRec P (m.length + k + 11)) m_Framing_receive_message [encFraming (encByteWorld m out false)]
      = .error (.exc n_Blocked) := by
  obtain ⟨tail', hl⟩ := tf_loop_prefix k out false m hm [] [] []
  have h2 := tf_loop_step (k + 8) (tfEnv [] out false ([] ++ m) tail')
  rw [tf_turn_blocked, bind_err] at h2
  rw [List.append_nil] at hl
  exact tf_call_error (m.length + k + 9) _ _ (hl.trans h2)

theorem tf_recv_call_cr_blocked (k : Nat) (m : Str) (hm : '\r' ∉ m) (out : List Val) :
    callF (mkRec P (m.length + k + 11)) m_Framing_receive_message [encFraming (encByteWorld (m ++ ['\r']) out false)]
      = .error (.exc n_Blocked) := by
  obtain ⟨tail', hl⟩ := tf_loop_prefix k out false m hm ['\r'] [] []
  have h2 := tf_loop_step (k + 8) (tfEnv ['\r'] out false ([] ++ m) tail')
  rw [tf_turn_cr_blocked, bind_err] at h2
  exact tf_call_error (m.length + k + 9) _ _ (hl.trans h2)

/-- every fuel from `n + 1` on is `n + k + 1` -/
theorem tf_fuel_split {n f : Nat} (hf : n + 1 ≤ f) : ∃ k, f = n + k + 1 := ⟨f - (n + 1), by omega⟩

/-! ## THE THEOREMS -/

/-- (1) `send_message(msg)` appends exactly the operation `("sendall", msg + "\r\n")` to `out`, returns `None`, and leaves
the input stream and the end-of-stream flag untouched — for every fuel from 6 on (nothing depends on the length) -/
theorem framing_send_translated (msg cs : Str) (out : List Val) (eof : Bool) (f : Nat) (hf : 6 ≤ f) :
    callFn P f m_Framing_send_message [encFraming (encByteWorld cs out eof), .str msg]
      = .ok (.none, encFraming (encByteWorld cs (out ++ [.tuple [vstr "sendall", .str (msg ++ ['\r', '\n'])]]) eof)) := by
  obtain ⟨k, rfl⟩ := tf_fuel_split (n := 5) hf
  rw [show 5 + k + 1 = (k + 5) + 1 by omega]
  exact tf_send_call k cs out eof msg

example : callFn P 6 m_Framing_send_message [encFraming (encByteWorld "xy".toList [vstr "old"] false), .str "PASS".toList]
    = .ok (.none, encFraming (encByteWorld "xy".toList [vstr "old", .tuple [vstr "sendall", .str "PASS\r\n".toList]] false)) :=
  framing_send_translated "PASS".toList "xy".toList [vstr "old"] false 6 (Nat.le_refl _)

/-- (1'), the same for ANY world (`encWorld`, e.g. a seat thread's): only `out` grows -/
theorem framing_send_translated_world (msg : Str) (ins : List (Val × Val)) (out : List Val) (table : Val)
    (tables : List Val) (eof : Bool) (f : Nat) (hf : 6 ≤ f) :
    callFn P f m_Framing_send_message [encFraming (encWorld ins out table tables eof), .str msg]
      = .ok (.none, encFraming (encWorld ins (out ++ [.tuple [vstr "sendall", .str (msg ++ ['\r', '\n'])]]) table tables eof)) := by
  obtain ⟨k, rfl⟩ := tf_fuel_split (n := 5) hf
  rw [show 5 + k + 1 = (k + 5) + 1 by omega]
  unfold callFn
  rw [call_succ, callF_def]
  simp only [m_Framing_send_message, bindParams, Option.map, encFraming, encWorld]
  ppsimp [↓R_bind_match, strOfF, tf_mth_sendall, callF_def, m__World_w_sendall, List.flatten_cons, List.flatten_nil, List.append_nil]
  rfl

/-- (2) a CR-free message followed by CR LF is returned, and exactly its characters and the terminator are consumed -/
theorem framing_recv_translated (m rest : Str) (out : List Val) (eof : Bool) (hm : '\r' ∉ m)
    (f : Nat) (hf : m.length + 12 ≤ f) :
    callFn P f m_Framing_receive_message [encFraming (encByteWorld (m ++ '\r' :: '\n' :: rest) out eof)]
      = .ok (.str m, encFraming (encByteWorld rest out eof)) := by
  obtain ⟨k, rfl⟩ := tf_fuel_split (n := m.length + 11) hf
  rw [show m.length + 11 + k + 1 = (m.length + k + 11) + 1 by omega]
  exact tf_recv_call k m rest hm out eof

example : callFn P 16 m_Framing_receive_message [encFraming (encByteWorld "PASS\r\nxy".toList [vstr "old"] false)]
    = .ok (.str "PASS".toList, encFraming (encByteWorld "xy".toList [vstr "old"] false)) :=
  framing_recv_translated "PASS".toList "xy".toList [vstr "old"] false (by decide) 16 (by decide)

/-- (3) CR followed by anything but LF: `Exception` -/
theorem framing_recv_bad_terminator (m rest : Str) (c : Char) (out : List Val) (eof : Bool) (hm : '\r' ∉ m) (hc : c ≠ '\n')
    (f : Nat) (hf : m.length + 12 ≤ f) :
    callFn P f m_Framing_receive_message [encFraming (encByteWorld (m ++ '\r' :: c :: rest) out eof)]
      = .error (.exc K.Exception) := by
  obtain ⟨k, rfl⟩ := tf_fuel_split (n := m.length + 11) hf
  rw [show m.length + 11 + k + 1 = (m.length + k + 11) + 1 by omega]
  exact tf_recv_call_bad k m rest hm c hc out eof

example : callFn P 16 m_Framing_receive_message [encFraming (encByteWorld "PASS\rxy".toList [] false)]
    = .error (.exc K.Exception) :=
  framing_recv_bad_terminator "PASS".toList "y".toList 'x' [] false (by decide) (by decide) 16 (by decide)

/-- (4) the peer has closed the connection (`recv(1)` returns `b''`): `ConnectionError` inside a message, `Exception` after
a CR (`b'' != b'\n'`) -/
theorem framing_recv_eof (m : Str) (out : List Val) (hm : '\r' ∉ m) (f : Nat) (hf : m.length + 12 ≤ f) :
    callFn P f m_Framing_receive_message [encFraming (encByteWorld m out true)] = .error (.exc n_ConnectionError) ∧
    callFn P f m_Framing_receive_message [encFraming (encByteWorld (m ++ ['\r']) out true)] = .error (.exc K.Exception) := by
  obtain ⟨k, rfl⟩ := tf_fuel_split (n := m.length + 11) hf
  rw [show m.length + 11 + k + 1 = (m.length + k + 11) + 1 by omega]
  exact ⟨tf_recv_call_eof k m hm out, tf_recv_call_cr_eof k m hm out⟩

example : callFn P 16 m_Framing_receive_message [encFraming (encByteWorld "PASS".toList [] true)]
      = .error (.exc n_ConnectionError) ∧
    callFn P 16 m_Framing_receive_message [encFraming (encByteWorld "PASS\r".toList [] true)]
      = .error (.exc K.Exception) :=
  framing_recv_eof "PASS".toList [] (by decide) 16 (by decide)

/-- (5) the stream is empty for now but not closed: the call blocks (`Blocked`), inside a message as well as after a CR -/
theorem framing_recv_blocked (m : Str) (out : List Val) (hm : '\r' ∉ m) (f : Nat) (hf : m.length + 12 ≤ f) :
    callFn P f m_Framing_receive_message [encFraming (encByteWorld m out false)] = .error (.exc n_Blocked) ∧
    callFn P f m_Framing_receive_message [encFraming (encByteWorld (m ++ ['\r']) out false)] = .error (.exc n_Blocked) := by
  obtain ⟨k, rfl⟩ := tf_fuel_split (n := m.length + 11) hf
  rw [show m.length + 11 + k + 1 = (m.length + k + 11) + 1 by omega]
  exact ⟨tf_recv_call_blocked k m hm out, tf_recv_call_cr_blocked k m hm out⟩

example : callFn P 16 m_Framing_receive_message [encFraming (encByteWorld "PASS".toList [] false)]
      = .error (.exc n_Blocked) ∧
    callFn P 16 m_Framing_receive_message [encFraming (encByteWorld "PASS\r".toList [] false)]
      = .error (.exc n_Blocked) :=
  framing_recv_blocked "PASS".toList [] (by decide) 16 (by decide)

/-! ## (6) a stream of messages -/

/-- `n` successive calls of `receive_message` (each with fuel `f`) on the object `self`: the texts returned, in order, and
the object after the last call; the first exception (or a result that is not a text) ends the iteration -/
def recvN (f : Nat) : Nat → Val → R (List Str × Val)
  | 0, self => .ok ([], self)
  | n + 1, self =>
    match callFn P f m_Framing_receive_message [self] with
    | .ok (.str m, self') =>
      (match recvN f n self' with
       | .ok (ms, self'') => .ok (m :: ms, self'')
       | .error e => .error e)
    | .ok _ => .error (.stuck 0)
    | .error e => .error e

/-- (6) from the stream `msgs.flatMap (· ++ "\r\n") ++ rest` (every message CR-free) `msgs.length` successive calls return
exactly `msgs`, in order, and leave `rest`; `out` and the end-of-stream flag are untouched.  Fuel PER CALL: the longest
message + 12. -/
theorem framing_stream_translated (rest : Str) (out : List Val) (eof : Bool) (f : Nat) :
    ∀ (msgs : List Str), (∀ m ∈ msgs, '\r' ∉ m) → (∀ m ∈ msgs, m.length + 12 ≤ f) →
    recvN f msgs.length (encFraming (encByteWorld (msgs.flatMap (· ++ ['\r', '\n']) ++ rest) out eof))
      = .ok (msgs, encFraming (encByteWorld rest out eof))
  | [], _, _ => rfl
  | m :: msgs, hcr, hf => by
    have ih := framing_stream_translated rest out eof f msgs (fun x hx => hcr x (List.mem_cons_of_mem _ hx))
      (fun x hx => hf x (List.mem_cons_of_mem _ hx))
    have h1 := framing_recv_translated m (msgs.flatMap (· ++ ['\r', '\n']) ++ rest) out eof
      (hcr m (List.mem_cons_self ..)) f (hf m (List.mem_cons_self ..))
    have e : (m :: msgs).flatMap (· ++ ['\r', '\n']) ++ rest
        = m ++ '\r' :: '\n' :: (msgs.flatMap (· ++ ['\r', '\n']) ++ rest) := by
      simp only [List.flatMap_cons, List.append_assoc, List.cons_append, List.nil_append]
    rw [e, List.length_cons, recvN, h1]
    simp only [ih]

/-- a bound in the total length of the stream suffices -/
theorem framing_stream_translated_total (msgs : List Str) (rest : Str) (out : List Val) (eof : Bool)
    (hcr : ∀ m ∈ msgs, '\r' ∉ m) (f : Nat) (hf : (msgs.flatMap (· ++ ['\r', '\n'])).length + 12 ≤ f) :
    recvN f msgs.length (encFraming (encByteWorld (msgs.flatMap (· ++ ['\r', '\n']) ++ rest) out eof))
      = .ok (msgs, encFraming (encByteWorld rest out eof)) := by
  refine framing_stream_translated rest out eof f msgs hcr fun m hm => ?_
  have : m.length ≤ (msgs.flatMap (· ++ ['\r', '\n'])).length := by
    clear hf hcr
    induction msgs with
    | nil => cases hm
    | cons a msgs ih =>
      simp only [List.flatMap_cons, List.length_append]
      rcases List.mem_cons.1 hm with h | h
      · subst h; omega
      · have := ih h; omega
  omega

example : recvN 26 3 (encFraming (encByteWorld "PASS\r\n\r\nNorth bids 1NT\r\nxy".toList [] false))
    = .ok (["PASS".toList, [], "North bids 1NT".toList], encFraming (encByteWorld "xy".toList [] false)) := by
  have h := framing_stream_translated "xy".toList [] false 26 ["PASS".toList, [], "North bids 1NT".toList] (by decide)
    (by decide)
  -- literals as character lists on both sides, so that the two streams are compared syntactically
  simp only [String.reduceToList, List.flatMap_cons, List.flatMap_nil, List.cons_append, List.nil_append, List.append_nil,
    List.length_cons, List.length_nil] at h ⊢
  exact h

/-! ## (7) the byte-level model `Bridge.recvOne` (Model/Framing.lean), for ASCII text -/

/-- the UTF-8 encoding of an ASCII character is the one byte with its code -/
def tfByte (c : Char) : Byte := c.toNat.toUInt8
def tfBytes (cs : Str) : List Byte := cs.map fun c => c.toNat.toUInt8

theorem tf_byte_eq (c d : Char) (hc : c.toNat < 128) (hd : d.toNat < 128) : tfByte c = tfByte d ↔ c = d := by
  constructor
  · intro h
    have h' := congrArg UInt8.toNat h
    simp only [tfByte, Nat.toUInt8, UInt8.toNat_ofNat'] at h'
    have e : c.toNat = d.toNat := by omega
    rw [← Char.ofNat_toNat c, ← Char.ofNat_toNat d, e]
  · intro h; rw [h]

theorem tf_byte_cr (c : Char) (hc : c.toNat < 128) : tfByte c = CR ↔ c = '\r' :=
  tf_byte_eq c '\r' hc (by decide)
theorem tf_byte_lf (c : Char) (hc : c.toNat < 128) : tfByte c = LF ↔ c = '\n' :=
  tf_byte_eq c '\n' hc (by decide)

/-- a text without CR is nothing but a CR-free prefix; otherwise it splits at its first CR -/
theorem tf_split_cr : ∀ (cs : Str), '\r' ∉ cs ∨ ∃ m tl, cs = m ++ '\r' :: tl ∧ '\r' ∉ m
  | [] => .inl (by simp)
  | c :: cs => by
    by_cases hc : c = '\r'
    · exact .inr ⟨[], cs, by rw [hc]; rfl, by simp⟩
    · rcases tf_split_cr cs with h | ⟨m, tl, e, hm⟩
      · refine .inl fun hmem => ?_
        rcases List.mem_cons.1 hmem with h' | h'
        · exact hc h'.symm
        · exact h h'
      · refine .inr ⟨c :: m, tl, by rw [e]; rfl, fun hmem => ?_⟩
        rcases List.mem_cons.1 hmem with h' | h'
        · exact hc h'.symm
        · exact hm h'

/-- the model reader runs through a CR-free ASCII prefix, collecting its bytes -/
theorem tf_recvOne_prefix : ∀ (m : Str), (∀ c ∈ m, c.toNat < 128) → '\r' ∉ m → ∀ (acc bs : List Byte),
    recvOne (.body acc) (tfBytes m ++ bs) = recvOne (.body (acc ++ tfBytes m)) bs
  | [], _, _, acc, bs => by simp only [tfBytes, List.map_nil, List.nil_append, List.append_nil]
  | c :: m, ha, hm, acc, bs => by
    have hc : tfByte c ≠ CR := fun e =>
      hm (((tf_byte_cr c (ha c (List.mem_cons_self ..))).1 e) ▸ List.mem_cons_self ..)
    have ih := tf_recvOne_prefix m (fun x hx => ha x (List.mem_cons_of_mem _ hx))
      (fun h => hm (List.mem_cons_of_mem _ h)) (acc ++ [tfByte c]) bs
    show recvOne (.body acc) (tfByte c :: (tfBytes m ++ bs)) = recvOne (.body (acc ++ tfByte c :: tfBytes m)) bs
    rw [recvOne]
    simp only [rstep, hc, if_false]
    rw [ih, List.append_assoc, List.singleton_append]

theorem tf_mem_append_ascii {m tl : Str} (h : ∀ c ∈ m ++ tl, c.toNat < 128) :
    (∀ c ∈ m, c.toNat < 128) ∧ (∀ c ∈ tl, c.toNat < 128) :=
  ⟨fun c hc => h c (List.mem_append_left _ hc), fun c hc => h c (List.mem_append_right _ hc)⟩

/-- (7) for ASCII text `cs` (whose UTF-8 bytes are its character codes) and a closed stream (`eof = true`), the translated
`receive_message` and the byte-level model `recvOne (.body [])` of Model/Framing.lean agree: the model returns `.msg mb rb`
exactly when the translated call returns a text `m` and leaves `rest`, with `mb`, `rb` the bytes of `m`, `rest` (and then
`cs = m ++ "\r\n" ++ rest`); the model returns `.error _` exactly when the translated call raises — `ConnectionError` when
there is no CR in `cs` at all, `Exception` otherwise. -/
theorem framing_recv_model (cs : Str) (hascii : ∀ c ∈ cs, c.toNat < 128) (out : List Val)
    (f : Nat) (hf : cs.length + 12 ≤ f) :
    match recvOne (.body []) (cs.map fun c => c.toNat.toUInt8) with
    | .msg mb rb => ∃ m rest, cs = m ++ '\r' :: '\n' :: rest ∧ '\r' ∉ m ∧
        mb = m.map (fun c => c.toNat.toUInt8) ∧ rb = rest.map (fun c => c.toNat.toUInt8) ∧
        callFn P f m_Framing_receive_message [encFraming (encByteWorld cs out true)]
          = .ok (.str m, encFraming (encByteWorld rest out true))
    | .error _ =>
        callFn P f m_Framing_receive_message [encFraming (encByteWorld cs out true)]
          = .error (.exc (if '\r' ∈ cs then K.Exception else n_ConnectionError)) := by
  show match recvOne (.body []) (tfBytes cs) with
    | .msg mb rb => ∃ m rest, cs = m ++ '\r' :: '\n' :: rest ∧ '\r' ∉ m ∧ mb = tfBytes m ∧ rb = tfBytes rest ∧
        callFn P f m_Framing_receive_message [encFraming (encByteWorld cs out true)]
          = .ok (.str m, encFraming (encByteWorld rest out true))
    | .error _ =>
        callFn P f m_Framing_receive_message [encFraming (encByteWorld cs out true)]
          = .error (.exc (if '\r' ∈ cs then K.Exception else n_ConnectionError))
  rcases tf_split_cr cs with h | ⟨m, tl, e, hm⟩
  · have hr : recvOne (.body []) (tfBytes cs) = .error [] := by
      have := tf_recvOne_prefix cs hascii h [] []
      rw [List.append_nil] at this
      rw [this]; rfl
    rw [hr]
    simp only [h, if_false]
    exact (framing_recv_eof cs out h f hf).1
  · subst e
    obtain ⟨ham, hatl⟩ := tf_mem_append_ascii hascii
    have hlen : m.length + 12 ≤ f := by
      simp only [List.length_append, List.length_cons] at hf; omega
    have hmem : '\r' ∈ m ++ '\r' :: tl := List.mem_append_right _ (List.mem_cons_self ..)
    have hb : tfBytes (m ++ '\r' :: tl) = tfBytes m ++ CR :: tfBytes tl := by
      simp only [tfBytes, List.map_append, List.map_cons]; rfl
    rw [hb, tf_recvOne_prefix m ham hm, List.nil_append]
    cases tl with
    | nil =>
      have hr : recvOne (.body (tfBytes m)) (CR :: tfBytes []) = .error [] := rfl
      rw [hr]
      simp only [hmem, if_true]
      exact (framing_recv_eof m out hm f hlen).2
    | cons c rest =>
      have hac : c.toNat < 128 := hatl c (List.mem_cons_of_mem _ (List.mem_cons_self ..))
      by_cases hc : c = '\n'
      · subst hc
        have hr : recvOne (.body (tfBytes m)) (CR :: tfBytes ('\n' :: rest)) = .msg (tfBytes m) (tfBytes rest) := rfl
        rw [hr]
        exact ⟨m, rest, rfl, hm, rfl, rfl, framing_recv_translated m rest out true hm f hlen⟩
      · have hb : tfByte c ≠ LF := fun e => hc ((tf_byte_lf c hac).1 e)
        have hr : recvOne (.body (tfBytes m)) (CR :: tfBytes (c :: rest)) = .error (tfBytes rest) := by
          show recvOne (.body (tfBytes m)) (CR :: tfByte c :: tfBytes rest) = _
          rw [recvOne]
          simp only [rstep, if_true]
          rw [recvOne]
          simp only [rstep, hb, if_false]
        rw [hr]
        simp only [hmem, if_true]
        exact framing_recv_bad_terminator m rest c out true hm hc f hlen

example : ∃ m rest, "PASS\r\nxy".toList = m ++ '\r' :: '\n' :: rest ∧ '\r' ∉ m ∧
    [80, 65, 83, 83] = m.map (fun c => c.toNat.toUInt8) ∧ [120, 121] = rest.map (fun c => c.toNat.toUInt8) ∧
    callFn P 30 m_Framing_receive_message [encFraming (encByteWorld "PASS\r\nxy".toList [] true)]
      = .ok (.str m, encFraming (encByteWorld rest [] true)) :=
  framing_recv_model "PASS\r\nxy".toList (by decide) [] 30 (by decide)

/-- the model's error branch, both ways: no CR at all (`ConnectionError`), a CR not followed by LF (`Exception`) -/
example : callFn P 30 m_Framing_receive_message [encFraming (encByteWorld "PASS".toList [] true)]
    = .error (.exc n_ConnectionError) :=
  framing_recv_model "PASS".toList (by decide) [] 30 (by decide)
example : callFn P 30 m_Framing_receive_message [encFraming (encByteWorld "PASS\rxy".toList [] true)]
    = .error (.exc K.Exception) :=
  framing_recv_model "PASS\rxy".toList (by decide) [] 30 (by decide)

/-! ## the same at the top-level fuel (`Program.runMethod`, fuel `topFuel = 1000`) -/
theorem tf_mth_send : P.method? classDepth n_Framing n_send_message = some (n_Framing, m_Framing_send_message) := rfl
theorem tf_mth_receive :
    P.method? classDepth n_Framing n_receive_message = some (n_Framing, m_Framing_receive_message) := rfl

theorem framing_send_runMethod (msg cs : Str) (out : List Val) (eof : Bool) :
    P.runMethod n_Framing n_send_message [encFraming (encByteWorld cs out eof), .str msg]
      = .ok (.none, encFraming (encByteWorld cs (out ++ [.tuple [vstr "sendall", .str (msg ++ ['\r', '\n'])]]) eof)) := by
  unfold Program.runMethod
  rw [tf_mth_send]
  exact framing_send_translated msg cs out eof topFuel (by decide)

theorem framing_recv_runMethod (m rest : Str) (out : List Val) (eof : Bool) (hm : '\r' ∉ m) (hlen : m.length ≤ 988) :
    P.runMethod n_Framing n_receive_message [encFraming (encByteWorld (m ++ '\r' :: '\n' :: rest) out eof)]
      = .ok (.str m, encFraming (encByteWorld rest out eof)) := by
  unfold Program.runMethod
  rw [tf_mth_receive]
  exact framing_recv_translated m rest out eof hm topFuel (by show m.length + 12 ≤ 1000; omega)

/-! ## the fuel bounds are the least ones (on the examples above) -/
def tfIsFuel (x : R (Val × Val)) : Bool := match x with
  | .error .fuel => true
  | _ => false

/-- `m.length + 12` is sharp: with one level less the interpreter runs out of fuel (message of 4 characters: 16 suffices,
15 does not) -/
example : tfIsFuel (callFn P 15 m_Framing_receive_message [encFraming (encByteWorld "PASS\r\nxy".toList [] false)]) = true := by
  decide +kernel
/-- `send_message`: 6 suffices, 5 does not -/
example : tfIsFuel (callFn P 5 m_Framing_send_message
    [encFraming (encByteWorld "xy".toList [vstr "old"] false), .str "PASS".toList]) = true := by
  decide +kernel

end Bridge.Translated
