import BridgeVerif.Translated.HandsPbnLemmasA
/-! Translated `Hands._hand_parser` (hands.py) = model, part B: `_Match.group`, the inner loop
`for r in rank: cards.add(Card(Card.rank_str_to_int(r), suit))` by induction on the group, the outer loop over the four
items of `mapped_ranks` unrolled, the method at any sufficient fuel. -/
namespace Bridge.Translated.HandsPbn
open Bridge Bridge.Py Bridge.Generated.PyCore Bridge.Translated Bridge.RegexHands

theorem hp_mth_hand_parser : P.method? classDepth n_Hands n__hand_parser = some (n_Hands, m_Hands__hand_parser) := rfl
theorem hp_mth_group : P.method? classDepth n__Match n_group = some (n__Match, m__Match_group) := rfl

/-- `match.group(i)` on a match object with the texts `xs` -/
theorem hp_group_call (f : Nat) (xs : List Val) (i : Int) (k : Nat) (h : normIndex xs.length i = some k) :
    callF (mkRec P (f+6)) m__Match_group [.obj n__Match [(n_texts, .tuple xs)], .int i]
      = .ok (xs.getD k .none, .obj n__Match [(n_texts, .tuple xs)]) := by
  rw [callF_def]
  simp only [m__Match_group, bindParams, Option.map]
  ppsimp [index_tuple, h]

theorem hp_builtin_items (r : Rec) (kvs : List (Val × Val)) :
    builtinF r P .items [.dict kvs] = .ok (.tuple (kvs.map fun (k, v) => .tuple [k, v])) := rfl
theorem hp_iter_str (s : List Char) : iterItems P (.str s) = some (s.map fun c => .str [c]) := rfl

def hpOuter : List Stmt := match m_Hands__hand_parser.body.getD 5 .pass with
  | .for _ _ b => b
  | _ => []
def hpInner : List Stmt := match hpOuter.getD 0 .pass with
  | .for _ _ b => b
  | _ => []

theorem hp_suitCards_cons (su : Suit) (hsu : su ≠ .NT) (c : Char) (g : List Char) (r : Nat) (hr : rankOfChar? c = some r)
    (h1 : 2 ≤ r) (h2 : r ≤ 14) : suitCards su (c :: g) = ⟨r, su⟩ :: suitCards su g := by
  have h3 : ¬ (r < 2 ∨ 14 < r) := by omega
  simp only [suitCards, List.filterMap_cons, hr, Option.bind_some, mkCard?, h3, if_false, hsu]

/-- `set.add(card)` on a set of cards keeps the first occurrence -/
theorem hp_add_card (acc : List Card) (c : Card) :
    (if containsVal (acc.map encCard) (encCard c) = true then acc.map encCard else acc.map encCard ++ [encCard c])
      = (if c ∈ acc then acc else acc ++ [c]).map encCard := by
  rw [contains_encCard]
  by_cases h : c ∈ acc <;> simp [h]

/-- the inner loop: every rank character of the group adds its card (first occurrences stay) -/
theorem hp_inner (f : Nat) (a b d : Val) (su : Suit) (hsu : su ≠ .NT) : ∀ (g : List Char),
    (∀ c ∈ g, isRankChar c = true) → ∀ (acc : List Card) (rk : Val) (tail : Env),
    forF (mkRec P (f+14)) [n_r] hpInner
        ((n_pbn_hand, a) :: (n_cards, .tuple (acc.map encCard)) :: (n_match, b) :: (n_mapped_ranks, d)
          :: (n_suit, encSuit su) :: (n_rank, rk) :: tail) (g.map fun c => .str [c])
      = .ok ((n_pbn_hand, a)
          :: (n_cards, .tuple (((suitCards su g).foldl (fun acc c => if c ∈ acc then acc else acc ++ [c]) acc).map encCard))
          :: (n_match, b) :: (n_mapped_ranks, d) :: (n_suit, encSuit su) :: (n_rank, rk)
          :: g.foldl (fun t c => update t n_r (.str [c])) tail, .next) := by
  intro g
  induction g with
  | nil => intro _ acc rk tail; rfl
  | cons c g ih =>
    intro hg acc rk tail
    obtain ⟨r, hr, h1, h2⟩ := hp_rank_char c (hg c (List.mem_cons_self ..))
    have hok : (⟨r, su⟩ : Card).ok = true := by
      simp only [Card.ok, Bool.and_eq_true, decide_eq_true_eq]; exact ⟨⟨h1, h2⟩, hsu⟩
    have hc := fun k => hd_construct_card k ⟨r, su⟩ hok
    simp only at hc
    have ih' := fun acc' tail' => ih (fun x hx => hg x (List.mem_cons_of_mem _ hx)) acc' rk tail'
    simp only [hpInner, hpOuter, m_Hands__hand_parser, List.getD_cons_succ, List.getD_cons_zero] at ih' ⊢
    rw [hp_suitCards_cons su hsu c g r hr h1 h2]
    simp only [List.map_cons, forF, List.foldl_cons]
    ppsimp [jp_mth_rank_str_to_int, jp_rank_str_to_int_call _ _ _ hr, hc, hp_add_card]
    exact ih' _ _
theorem hp_enum_S : Val.enum n_Suit 4 = encSuit .S := rfl
theorem hp_enum_H : Val.enum n_Suit 3 = encSuit .H := rfl
theorem hp_enum_D : Val.enum n_Suit 2 = encSuit .D := rfl
theorem hp_enum_C : Val.enum n_Suit 1 = encSuit .C := rfl

theorem hp_truthy_obj (c : Id) (fs : List (Id × Val)) : truthy (.obj c fs) = true := rfl
theorem hp_truthy_none : truthy .none = false := rfl
theorem hp_norm5 : normIndex 5 1 = some 1 ∧ normIndex 5 2 = some 2 ∧ normIndex 5 3 = some 3 ∧ normIndex 5 4 = some 4 := by
  decide

/-! ## `MessageInterface.parse_match_base` (socket_interface.py): `re.match(pattern, content, re.IGNORECASE)`,
`Exception` when there is no match -/
theorem hp_mth_pmb : P.method? classDepth n_MessageInterface n_parse_match_base
    = some (n_MessageInterface, m_MessageInterface_parse_match_base) := rfl

theorem hp_pmb_none (f : Nat) (pat s : List Char)
    (h : (Re.pyMatch true pat s).map (Option.map (groupTexts s)) = some none) :
    callF (mkRec P (f+4)) m_MessageInterface_parse_match_base [.str pat, .str s] = .error (.exc K.Exception) := by
  rw [callF_def]
  simp only [m_MessageInterface_parse_match_base, bindParams, Option.map]
  ppsimp [hp_reMatch_none _ _ _ h]

theorem hp_pmb_some (pat s : List Char) (gs : List (List Char))
    (h : (Re.pyMatch true pat s).map (Option.map (groupTexts s)) = some (some (gs.map some))) :
    ∃ g0, ∀ f, callF (mkRec P (f+4)) m_MessageInterface_parse_match_base [.str pat, .str s]
      = .ok (.obj n__Match [(n_texts, .tuple (.str g0 :: gs.map Val.str))], .str pat) := by
  obtain ⟨g0, hre⟩ := hp_reMatch_some pat s gs h
  refine ⟨g0, fun f => ?_⟩
  rw [callF_def]
  simp only [m_MessageInterface_parse_match_base, bindParams, Option.map]
  ppsimp [hre, beq_obj_none]

/-- `Hands._hand_parser(field)` at any sufficient fuel, for a field without line feed -/
theorem hp_hand_parser_call (hf : HandsRegexFacts) (f : Nat) (fld : List Char) (hnl : '\n' ∉ fld) :
    callF (mkRec P (f+30)) m_Hands__hand_parser [.str fld]
      = match pyHandParser? fld with
        | some l => .ok (.tuple (l.map encCard), .str fld)
        | none => .error (.exc K.Exception) := by
  rw [callF_def]
  simp only [m_Hands__hand_parser, bindParams, Option.map]
  by_cases h1 : fld = ['-']
  · subst h1
    have e : pyHandParser? ['-'] = some [] := by simp [pyHandParser?, handRaw?, dedupFirst]
    rw [e]
    ppsimp [builtin_set_nil, beq_str_decide]
    rfl
  · have hfact := hf.match_hand fld hnl
    cases hm : matchGroups 3 fld with
    | none =>
      rw [hm] at hfact
      have e : pyHandParser? fld = none := by simp [pyHandParser?, handRaw?, h1, hm]
      rw [e]
      ppsimp [builtin_set_nil, beq_str_decide, h1, hp_glob_hand_pattern, hp_reMatch_none _ _ _ hfact, hp_truthy_none]
    | some gs =>
      rw [hm] at hfact
      obtain ⟨ga, gb, gc, gd, rfl, ha, hb, hc, hd⟩ := hp_matchGroups3 fld _ hm
      obtain ⟨g0, hre⟩ := hp_reMatch_some _ _ _ hfact
      have e : pyHandParser? fld = some ((suitCards .C gd).foldl (fun acc c => if c ∈ acc then acc else acc ++ [c])
          ((suitCards .D gc).foldl (fun acc c => if c ∈ acc then acc else acc ++ [c])
          ((suitCards .H gb).foldl (fun acc c => if c ∈ acc then acc else acc ++ [c])
          ((suitCards .S ga).foldl (fun acc c => if c ∈ acc then acc else acc ++ [c]) [])))) := by
        simp only [pyHandParser?, handRaw?, h1, hm, if_false, Option.map_some, dedupFirst, List.foldl_append]
      rw [e]
      have hi := fun su hsu g hg a b d acc => hp_inner (f+14) a b d su hsu g hg acc
      have hS := fun a b d => hi .S (by decide) ga ha a b d []
      simp only [hpInner, hpOuter, m_Hands__hand_parser, List.getD_cons_succ, List.getD_cons_zero, List.map_nil] at hi hS
      ppsimp [builtin_set_nil, beq_str_decide, h1, hp_glob_hand_pattern, hre, hp_truthy_obj, hp_mth_group,
        hp_group_call _ [_, _, _, _, _] _ _ hp_norm5.1, hp_group_call _ [_, _, _, _, _] _ _ hp_norm5.2.1,
        hp_group_call _ [_, _, _, _, _] _ _ hp_norm5.2.2.1, hp_group_call _ [_, _, _, _, _] _ _ hp_norm5.2.2.2,
        List.map_cons, List.map_nil, List.getD_cons_succ, List.getD_cons_zero, hp_enum_S, hp_enum_H, hp_enum_D, hp_enum_C,
        updateD, hp_builtin_items, iterItems_tuple, forF, hp_iter_str, hS, hi .H (by decide) gb hb, hi .D (by decide) gc hc,
        hi .C (by decide) gd hd]

end Bridge.Translated.HandsPbn
