import BridgeVerif.Translated.JsonParserLemmasE
/-! Translated JSON parser (parser.py) = model: the `BoardLog` encoder and the comprehensions of `convert_board_log` (players, scores, bids, tricks)
by induction on the JSON list -/
namespace Bridge.Translated
open Bridge Bridge.Py Bridge.Generated.PyCore

/-! ## the `BoardLog` encoder -/
def encPlayers (ps : List (Seat × Str)) : Val := encDict (ps.map fun pv => (encSeat pv.1, .str pv.2))
def encScores (sc : List (Side × Int)) : Val := encDict (sc.map fun kv => (encSide kv.1, .int kv.2))
/-- a `BoardLog` instance (fields in the order of the class definition) holding `hands` and `contract` -/
def encLogReadWith (hands contract : Val) (r : LogRead) : Val :=
  .obj n_BoardLog [(n_board_id, .str r.boardId), (n_hands, hands), (n_dealer, encSeat r.dealer), (n_vul, encVul r.vul),
    (n_declarer, encOpt encSeat r.declarer), (n_contract, contract), (n_taken_trick, encOpt .int r.tricks),
    (n_players, encOpt encPlayers r.players), (n_bid_history, encOpt (fun l => .tuple (l.map encCall)) r.bids),
    (n_play_history, encOpt (fun l => .tuple (l.map encTrick)) r.play), (n_dda, encOpt encDda r.dda),
    (n_score_type, encOpt .str r.scoreType), (n_scores, encOpt encScores r.scores)]
/-- the `BoardLog` instance for the model's record -/
def encLogRead (r : LogRead) : Val := encLogReadWith (encHands r.hands) (encContract r.contract) r

theorem jp_construct_log (r : Rec) (a b c d e f g h i j k l m : Val) :
    constructF r P n_BoardLog [a, b, c, d, e, f, g, h, i, j, k, l, m]
      = .ok (.obj n_BoardLog [(n_board_id, a), (n_hands, b), (n_dealer, c), (n_vul, d), (n_declarer, e), (n_contract, f),
          (n_taken_trick, g), (n_players, h), (n_bid_history, i), (n_play_history, j), (n_dda, k), (n_score_type, l),
          (n_scores, m)]) := rfl

/-! ## the comprehensions of `convert_board_log` -/
theorem jp_players_comp (f : Nat) (env : Env) (m : List (List Char × Json)) : ∀ (ps : List (Seat × Str)),
    m.mapM playerEntry? = some ps →
    dictCompTF (mkRec P (f+4)) env [n_p, K.name] (.byName n_Player (.var n_p)) (.var K.name) (itemsOf (membersToKvs m))
      = .ok (ps.map fun pv => (encSeat pv.1, .str pv.2)) := by
  induction m with
  | nil => intro ps h; simp at h; subst h; rfl
  | cons a m ih =>
    intro ps h
    obtain ⟨b, r', ha, hl, rfl⟩ := jp_mapM_cons_some _ _ _ _ h
    obtain ⟨k, v⟩ := a
    simp only [playerEntry?] at ha
    cases hk : seatOfName? k with
    | none => rw [hk] at ha; cases ha
    | some p =>
      rw [hk] at ha
      cases v <;> try (cases ha)
      rename_i s
      simp only [membersToKvs, jp_itemsOf_cons, dictCompTF, ih r' hl, jsonToVal]
      ppsimp [bindTargets, jp_cls_Player, jp_member_seat _ _ hk, List.map_cons]
      rfl

theorem jp_scores_comp (f : Nat) (env : Env) (m : List (List Char × Json)) : ∀ (sc : List (Side × Int)),
    m.mapM scoreEntry? = some sc →
    dictCompTF (mkRec P (f+4)) env [n_p, n_score] (.byName n_Pair (.var n_p)) (.var n_score) (itemsOf (membersToKvs m))
      = .ok (sc.map fun kv => (encSide kv.1, .int kv.2)) := by
  induction m with
  | nil => intro sc h; simp at h; subst h; rfl
  | cons a m ih =>
    intro sc h
    obtain ⟨b, r', ha, hl, rfl⟩ := jp_mapM_cons_some _ _ _ _ h
    obtain ⟨k, v⟩ := a
    simp only [scoreEntry?] at ha
    cases hk : sideOfName? k with
    | none => rw [hk] at ha; cases ha
    | some p =>
      rw [hk] at ha
      cases v <;> try (cases ha)
      rename_i n
      simp only [membersToKvs, jp_itemsOf_cons, dictCompTF, ih r' hl, jsonToVal]
      ppsimp [bindTargets, jp_cls_Pair, jp_member_side _ _ hk, List.map_cons]
      rfl

theorem jp_mapM_str_bind {β} (g : List Char → Option β) (cl : List Json) : ∀ (r : List β),
    cl.mapM (fun c => c.str?.bind g) = some r → ∃ ss, cl.mapM Json.str? = some ss ∧ ss.mapM g = some r := by
  induction cl with
  | nil => intro r h; simp at h; subst h; exact ⟨[], rfl, rfl⟩
  | cons c cl ih =>
    intro r h
    obtain ⟨b, r', ha, hl, rfl⟩ := jp_mapM_cons_some _ _ _ _ h
    obtain ⟨ss, h1, h2⟩ := ih r' hl
    cases c <;> try (cases ha)
    rename_i s
    refine ⟨s :: ss, ?_, ?_⟩
    · rw [List.mapM_cons, h1]; rfl
    · have ha' : g s = some b := ha
      rw [List.mapM_cons, ha', h2]; rfl

/-- `[Bid.str_to_bid(bid) for bid in …]` -/
theorem jp_comp_bids (f : Nat) (env : Env) (ss : List (List Char)) : ∀ (bs : List Call),
    ss.mapM strToCall? = some bs →
    compF (mkRec P (f+13)) env n_bid none (.static n_Bid n_str_to_bid [.const (.cls n_Bid), .var n_bid]) (ss.map .str)
      = .ok (bs.map encCall) := by
  induction ss with
  | nil => intro bs h; simp at h; subst h; rfl
  | cons s ss ih =>
    intro bs h
    obtain ⟨b, r', ha, hl, rfl⟩ := jp_mapM_cons_some _ _ _ _ h
    simp only [List.map_cons, compF, ih r' hl]
    ppsimp [jp_mth_str_to_bid, (cs_call P (f+11) _ _).symm.trans (str_to_bid_call PB_ext_P _ (by omega) _ _ ha)]

theorem jp_trick_cases (t : Json) (tr : Trick) (h : trickOfJson? t = some tr) :
    ∃ tl s cl ss, t = .obj tl ∧ (Json.obj tl).get? ['l', 'e', 'a', 'd', 'e', 'r'] = some (.str s) ∧ seatOfName? s = some tr.leader ∧
      (Json.obj tl).get? ['c', 'a', 'r', 'd', 's'] = some (.arr cl) ∧ cl.mapM Json.str? = some ss ∧ ss.mapM strToCard? = some tr.cards := by
  unfold trickOfJson? at h
  obtain ⟨ldr, h1, h⟩ := Option.bind_eq_some_iff.1 h
  obtain ⟨cl, h3, h⟩ := Option.bind_eq_some_iff.1 h
  obtain ⟨cs, h4, h⟩ := Option.bind_eq_some_iff.1 h
  cases h
  obtain ⟨s, h1, h2⟩ := Option.bind_eq_some_iff.1 h1
  have g1 := jp_bind_str_some _ _ h1
  obtain ⟨tl, rfl⟩ := jp_get_obj _ _ _ g1
  obtain ⟨cj, g3, h3⟩ := Option.bind_eq_some_iff.1 h3
  cases cj <;> cases h3
  obtain ⟨ss, h5, h6⟩ := jp_mapM_str_bind _ _ _ h4
  exact ⟨tl, s, cl, ss, rfl, g1, h2, g3, h5, h6⟩

/-- `TrickHistory(leader=Player[b['leader']], cards=tuple([Card.str_to_card(x) for x in b['cards']]))` -/
def trickExpr : Expr :=
  .new n_TrickHistory [(.byName n_Player (.index (.var n_b) (.const (.str ['l', 'e', 'a', 'd', 'e', 'r'])))),
    (.builtin .tuple [(.comp n_x (.index (.var n_b) (.const (.str ['c', 'a', 'r', 'd', 's']))) none
      (.static n_Card n_str_to_card [(.const (.cls n_Card)), (.var n_x)]))])]

theorem jp_comp_tricks (f : Nat) (env : Env) (m : List Json) : ∀ (ts : List Trick),
    m.mapM trickOfJson? = some ts →
    compF (mkRec P (f+22)) env n_b none trickExpr (jsonsToVals m) = .ok (ts.map encTrick) := by
  induction m with
  | nil => intro ts h; simp at h; subst h; rfl
  | cons t m ih =>
    intro ts h
    obtain ⟨tr, r', ha, hl, rfl⟩ := jp_mapM_cons_some _ _ _ _ h
    obtain ⟨tl, s, cl, ss, rfl, g1, g2, g3, g4, g5⟩ := jp_trick_cases t tr ha
    have ih' := ih r' hl
    simp only [trickExpr] at ih'
    simp only [jsonsToVals, compF, trickExpr, jsonToVal, ih']
    ppsimp [jp_lookupD_members, g1, g3, jsonToVal, jp_cls_Player, jp_member_seat _ _ g2, jp_jsonsToVals_strs _ _ g4,
      iterItems_tuple, jp_comp_cards _ _ _ _ _ g5, builtin_tuple_tuple, construct_trick, List.map_cons]
    rfl

end Bridge.Translated
