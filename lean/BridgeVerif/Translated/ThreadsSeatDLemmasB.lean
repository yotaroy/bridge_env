import BridgeVerif.Translated.ThreadsSeatC
import BridgeVerif.Props.C09
/-! (1) every `ready …` text the session model's client of seat `p` sends passes the translated `_check_message` against
the text the seat thread expects (the same text): finitely many texts, each decided in the kernel (the regular-expression
engine `Re.pyFullmatch` reduces there), then stated per shape. -/
namespace Bridge.Translated.SeatD
open Bridge Bridge.Py Bridge.Generated.PyCore
open Bridge.Translated.SeatB (passesB passesB_sound readyCardText readyDummyText)

/-- `SeatA`'s and `SeatB`'s `passesCheck` are the same proposition -/
theorem passesCheck_iff (e m : Str) : Bridge.Translated.passesCheck e m ↔ SeatB.passesCheck e m := Iff.rfl

/-- the five names a card can be announced under: a seat's formal name, or `dummy` -/
def whoTexts : List Str := Seat.all.map Seat.formal ++ ["dummy".toList]

/-- the numbers of the thirteen tricks -/
def trickNums : List Nat := [1, 2, 3, 4, 5, 6, 7, 8, 9, 10, 11, 12, 13]

/-! ## the finite families, decided in the kernel -/

theorem ready_fixed_B : (Seat.all.all fun p =>
    passesB (p.formal ++ " ready for teams".toList) (p.formal ++ " ready for teams".toList) &&
    passesB (p.formal ++ " ready to start".toList) (p.formal ++ " ready to start".toList) &&
    passesB (p.formal ++ " ready for deal".toList) (readyFor p "deal".toList) &&
    passesB (p.formal ++ " ready for cards".toList) (readyFor p "cards".toList) &&
    passesB (p.formal ++ " ready for dummy".toList) (readyFor p "dummy".toList)) = true := by decide +kernel

theorem ready_bid_B : (Seat.all.all fun p => Seat.all.all fun a =>
    passesB (p.formal ++ " ready for ".toList ++ a.formal ++ "'s bid".toList)
      (readyFor p (a.formal ++ "'s bid".toList))) = true := by decide +kernel

theorem ready_card_B : (Seat.all.all fun p => whoTexts.all fun who => trickNums.all fun k =>
    passesB (p.formal ++ " ready for ".toList ++ who ++ "'s card to trick ".toList ++ natStr k)
      (readyFor p (who ++ "'s card to trick ".toList ++ natStr k))) = true := by decide +kernel

/-! ## (1) per shape -/

theorem all_seats {f : Seat → Bool} (h : Seat.all.all f = true) (p : Seat) : f p = true :=
  List.all_eq_true.mp h p (by cases p <;> decide)

theorem fixedB (p : Seat) :
    (((passesB (p.formal ++ " ready for teams".toList) (p.formal ++ " ready for teams".toList) = true ∧
    passesB (p.formal ++ " ready to start".toList) (p.formal ++ " ready to start".toList) = true) ∧
    passesB (p.formal ++ " ready for deal".toList) (readyFor p "deal".toList) = true) ∧
    passesB (p.formal ++ " ready for cards".toList) (readyFor p "cards".toList) = true) ∧
    passesB (p.formal ++ " ready for dummy".toList) (readyFor p "dummy".toList) = true := by
  simpa only [Bool.and_eq_true] using all_seats ready_fixed_B p

/-- admission: `<p> ready for teams` -/
theorem ready_teams_passes (p : Seat) :
    SeatB.passesCheck (p.formal ++ " ready for teams".toList) (p.formal ++ " ready for teams".toList) :=
  passesB_sound (fixedB p).1.1.1.1
/-- seating: `<p> ready to start` (the first message of the session model's client) -/
theorem ready_start_passes (p : Seat) :
    SeatB.passesCheck (p.formal ++ " ready to start".toList) (p.formal ++ " ready to start".toList) :=
  passesB_sound (fixedB p).1.1.1.2
/-- `_deal`: `readyFor p "deal"` against the expected `<p> ready for deal` -/
theorem ready_deal_passes (p : Seat) :
    Bridge.Translated.passesCheck (p.formal ++ " ready for deal".toList) (readyFor p "deal".toList) :=
  passesB_sound (fixedB p).1.1.2
/-- `_deal`: `readyFor p "cards"` -/
theorem ready_cards_passes (p : Seat) :
    Bridge.Translated.passesCheck (p.formal ++ " ready for cards".toList) (readyFor p "cards".toList) :=
  passesB_sound (fixedB p).1.2
/-- `_playing_phase`: `readyFor p "dummy"` against `readyDummyText p` -/
theorem ready_dummy_passes (p : Seat) : SeatB.passesCheck (readyDummyText p) (readyFor p "dummy".toList) :=
  passesB_sound (fixedB p).2

/-- `_bidding_phase`: `readyFor p (a.formal ++ "'s bid")` against `<p> ready for <a>'s bid` -/
theorem ready_bid_passes (p a : Seat) :
    Bridge.Translated.passesCheck (p.formal ++ " ready for ".toList ++ a.formal ++ "'s bid".toList)
      (readyFor p (a.formal ++ "'s bid".toList)) :=
  passesB_sound (all_seats (all_seats ready_bid_B p) a)

theorem ready_who_passes (p : Seat) (who : Str) (hw : who ∈ whoTexts) (k : Nat) (hk : k ∈ trickNums) :
    SeatB.passesCheck (p.formal ++ " ready for ".toList ++ who ++ "'s card to trick ".toList ++ natStr k)
      (readyFor p (who ++ "'s card to trick ".toList ++ natStr k)) :=
  passesB_sound (List.all_eq_true.mp (List.all_eq_true.mp (all_seats ready_card_B p) who hw) k hk)

theorem formal_mem_who (a : Seat) : a.formal ∈ whoTexts := by cases a <;> decide
theorem dummy_mem_who : "dummy".toList ∈ whoTexts := by decide
theorem mem_trickNums {k : Nat} (h1 : 1 ≤ k) (h2 : k ≤ 13) : k ∈ trickNums := by
  have : k = 1 ∨ k = 2 ∨ k = 3 ∨ k = 4 ∨ k = 5 ∨ k = 6 ∨ k = 7 ∨ k = 8 ∨ k = 9 ∨ k = 10 ∨ k = 11 ∨ k = 12 ∨ k = 13 := by
    omega
  rcases this with h | h | h | h | h | h | h | h | h | h | h | h | h <;> subst h <;> decide

/-- `_playing_phase`: the `ready` text the session model's client sends while the card of seat `a` (declarer `d`) to
trick `k` is awaited, against `readyCardText p d a k` (what the translated thread expects) -/
theorem ready_card_passes (p d a : Seat) (k : Nat) (h1 : 1 ≤ k) (h2 : k ≤ 13) :
    SeatB.passesCheck (readyCardText p d a k)
      (readyFor p ((if a = d.partner then "dummy".toList else a.formal) ++ "'s card to trick ".toList ++ natStr k)) := by
  rw [SeatB.sb_readyCardText]
  by_cases h : a = d.partner
  · rw [if_pos h, if_neg (fun hn => hn h)]
    exact ready_who_passes p _ dummy_mem_who k (mem_trickNums h1 h2)
  · rw [if_neg h, if_pos h]
    exact ready_who_passes p _ (formal_mem_who a) k (mem_trickNums h1 h2)

/-- the expected texts ARE the session model's texts -/
theorem readyFor_deal (p : Seat) : readyFor p "deal".toList = p.formal ++ " ready for deal".toList := by
  simp only [readyFor, String.reduceToList, List.append_assoc, List.cons_append, List.nil_append]
theorem readyFor_cards (p : Seat) : readyFor p "cards".toList = p.formal ++ " ready for cards".toList := by
  simp only [readyFor, String.reduceToList, List.append_assoc, List.cons_append, List.nil_append]
theorem readyFor_dummy (p : Seat) : readyFor p "dummy".toList = readyDummyText p := by
  simp only [readyFor, readyDummyText, String.reduceToList, List.append_assoc, List.cons_append, List.nil_append]
theorem readyFor_bid (p a : Seat) : readyFor p (a.formal ++ "'s bid".toList)
    = p.formal ++ " ready for ".toList ++ a.formal ++ "'s bid".toList := by
  simp only [readyFor, List.append_assoc]
theorem readyFor_card (p d a : Seat) (k : Nat) :
    readyFor p ((if a = d.partner then "dummy".toList else a.formal) ++ "'s card to trick ".toList ++ natStr k)
      = readyCardText p d a k := by
  rw [SeatB.sb_readyCardText]
  by_cases h : a = d.partner
  · rw [if_pos h, if_neg (fun hn => hn h)]; simp only [readyFor, List.append_assoc]
  · rw [if_neg h, if_pos h]; simp only [readyFor, List.append_assoc]

/-- (1) EVERY `ready …` text of the session model's client of seat `p` passes the translated `_check_message` against
itself (= the text the seat thread expects, by the `readyFor_*` equations above): the two admission texts, `deal`,
`cards`, `dummy`, `<a>'s bid`, `<x>'s card to trick <k>` for `x` a seat's name or `dummy` and `k = 1..13` -/
theorem session_ready_messages_pass (p : Seat) :
    SeatB.passesCheck (p.formal ++ " ready for teams".toList) (p.formal ++ " ready for teams".toList) ∧
    SeatB.passesCheck (p.formal ++ " ready to start".toList) (p.formal ++ " ready to start".toList) ∧
    SeatB.passesCheck (readyFor p "deal".toList) (readyFor p "deal".toList) ∧
    SeatB.passesCheck (readyFor p "cards".toList) (readyFor p "cards".toList) ∧
    SeatB.passesCheck (readyFor p "dummy".toList) (readyFor p "dummy".toList) ∧
    (∀ a : Seat, SeatB.passesCheck (readyFor p (a.formal ++ "'s bid".toList)) (readyFor p (a.formal ++ "'s bid".toList))) ∧
    (∀ who ∈ whoTexts, ∀ k ∈ trickNums,
      SeatB.passesCheck (readyFor p (who ++ "'s card to trick ".toList ++ natStr k))
        (readyFor p (who ++ "'s card to trick ".toList ++ natStr k))) := by
  refine ⟨ready_teams_passes p, ready_start_passes p, ?_, ?_, ?_, fun a => ?_, fun who hw k hk => ?_⟩
  · have h := ready_deal_passes p; rw [← readyFor_deal] at h; exact h
  · have h := ready_cards_passes p; rw [← readyFor_cards] at h; exact h
  · have h := ready_dummy_passes p; rw [← readyFor_dummy] at h; exact h
  · have h := ready_bid_passes p a; rw [← readyFor_bid] at h; exact h
  · have h := ready_who_passes p who hw k hk
    rw [show p.formal ++ " ready for ".toList ++ who ++ "'s card to trick ".toList ++ natStr k
      = readyFor p (who ++ "'s card to trick ".toList ++ natStr k) from by simp only [readyFor, List.append_assoc]] at h
    exact h

end Bridge.Translated.SeatD
