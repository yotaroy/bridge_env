import BridgeVerif.Translated.ThreadsMainC
import BridgeVerif.Translated.ThreadsMainDLemmas
import BridgeVerif.Translated.ThreadsSeatD
import BridgeVerif.Props.C08
import BridgeVerif.Props.C09
/-!
# The CAPSTONE for the main thread: the TRANSLATED `MainThread.run` performs EXACTLY the session program, and writes
the session's log

`MainC.main_run_translated` (the generated `m_MainThread_run` in the whole translated program `P` = admission +
`mainReactive`) composed with `C08.main_thread_follows_the_messages` (`mainReactive` on the session's streams =
`sessionProg sc .main`).

* (1) `translated_main_thread_is_session_program`;
* (2) `translated_main_thread_writes_the_session_log` — the `emit` operations are the rendering of `emitsOf`;
* (3) `session_boards_parse` — the parse package `BoardsParse` of the session's streams holds when the texts are texts of
  the protocol (`ProtocolTexts`); `translated_main_thread_is_session_program_protocol` = (1) + (2) without it.
  The texts of the protocol are plain ASCII, which the translated parsers read as the model does
  (Translated/ThreadsMainCLemmasParse.lean: `good_of_plain_ascii`).
-/
namespace Bridge.Translated.MainD
open Bridge Bridge.Py Bridge.Generated.PyCore
open Bridge.Translated.MainA Bridge.Translated.MainB Bridge.Translated.SeatB
open Bridge.Translated.MainC
open Bridge.Admission

/-- (1) THE CAPSTONE.  A scenario `sc` with at least one board whose decisions are conforming and whose texts mean what was
decided (the hypotheses of `C08.main_thread_follows_the_messages`); the four queues `t2m p` deliver EXACTLY what the
session model's seat threads forward (`sendsOn (Chan.t2m p) (sessionProg sc (.seat p))`); the translated parsers read
these texts as the model does (`BoardsParse`, discharged for protocol texts by `session_boards_parse`); the cards of the
deals have ranks 2..14; the admission model fills the table with the scenario's team names and the world answers the
accept loop accordingly (the hypotheses of `MainC.main_run_translated`).  Then the generated `MainThread.run` returns
`None` and the world has recorded `bind`, `listen`, the accept rounds, `opsS`, and one `join` per thread alive, where
`opsS` without its `sleep`s IS the rendering of the session program `sessionProg sc .main` — every `emit write` carrying
`encRecord` of the record the session model writes. -/
theorem translated_main_thread_is_session_program (sc : Scenario) (h : sc.boards ≠ [])
    (hc : ∀ bd ∈ sc.boards, ConformingAuction bd.1 bd.2 ∧ ConformingPlay bd.1 bd.2 ∧ TextsConform bd.1 bd.2)
    (F : Nat)
    (hparse : BoardsParse sc F 1 (sc.boards.map (·.1)) (fun p => sendsOn (Chan.t2m p) (sessionProg sc (.seat p))))
    (hok : ∀ b ∈ sc.boards.map (·.1), ∀ p, ∀ c ∈ b.deal p, 2 ≤ c.rank ∧ c.rank ≤ 14)
    (reqs : List (List Char × List Char)) (opss : List (List Op)) (mops : List MainOp) (tf : Table) (conns : List Conn)
    (hacc : acceptLoopR Table.empty reqs = some (opss, mops, tf)) (hfull : tf.full = true)
    (hlen : conns.length = opss.length)
    (hN : tf .N = some sc.nsName) (hS : tf .S = some sc.nsName) (hE : tf .E = some sc.ewName) (hW : tf .W = some sc.ewName)
    (table0 : Val) (later accR ntR alR : List Val) (rest : List (Val × Val)) :
    ∃ opsS i', encMainActs encRecord (sessionProg sc .main) = some (stripSleep opsS) ∧
      mops = (conns.map fun _ => acceptRound).flatten ∧
      ∀ f, F + conns.length + 800 ≤ f →
        callFn P f m_MainThread_run [encMainThread (encMainWorld
            (fun p => sendsOn (Chan.t2m p) (sessionProg sc (.seat p))) [] table0
            ((acceptSnapshots Table.empty reqs).map encTable ++ later)
            (acceptMore (conns.map (fun c => .tuple [c.conn, c.addr]) ++ accR) (conns.map (·.thread) ++ ntR)
              (conns.map (fun c => .bool c.alive) ++ alR) rest)) (.tuple ((sc.boards.map (·.1)).map encBoardSetting))]
          = .ok (.none, encMainThread (encMainWorld i'
              ([opBind, opListen] ++ (conns.flatMap fun c => roundOps c.conn c.thread) ++ opsS ++
                ((conns.filter (·.alive)).map (·.thread)).map opJoin)
              (advBoards sc.boards.length (advTable (encTable tf) later).1 (advTable (encTable tf) later).2).1
              (advBoards sc.boards.length (advTable (encTable tf) later).1 (advTable (encTable tf) later).2).2
              (acceptMore accR ntR alR rest)) (.tuple ((sc.boards.map (·.1)).map encBoardSetting))) := by
  have hm := C08.main_thread_follows_the_messages sc h hc
  have hne : sc.boards.map (·.1) ≠ [] := by
    intro e; exact h (List.map_eq_nil_iff.1 e)
  obtain ⟨opsS, i', hops, hmops, hrun⟩ := main_run_translated sc F (sc.boards.map (·.1)) hne _ _ hm hparse hok reqs opss
    mops tf conns hacc hfull hlen hN hS hE hW table0 later accR ntR alR rest
  rw [List.length_map] at hrun
  exact ⟨opsS, i', hops, hmops, hrun⟩

/-! ## (2) the log -/

/-- the tag of the log writer's operations -/
def emitTag : List Char := ['e', 'm', 'i', 't']
theorem vstr_emit : vstr "emit" = .str emitTag := rfl

/-- a world operation of the log writer: a tuple whose first component is the text `emit` -/
def isEmitOp : Val → Bool
  | .tuple (.str s :: _) => s == emitTag
  | _ => false

/-- a log operation as the world records it: `("emit", "open", None)`, `("emit", "write", <record>)`,
`("emit", "close", None)` -/
def encLogOp (encRec : BoardRecord → Val) : LogOp → Val
  | .open => .tuple [vstr "emit", vstr "open", .none]
  | .close => .tuple [vstr "emit", vstr "close", .none]
  | .write r => .tuple [vstr "emit", vstr "write", encRec r]

theorem isEmitOp_tuple_str (s : List Char) (l : List Val) : isEmitOp (.tuple (.str s :: l)) = (s == emitTag) := rfl

theorem emitsOf_cons (a : SAct Text LogOp) (r : List (SAct Text LogOp)) : emitsOf (a :: r) = emitsOf [a] ++ emitsOf r := by
  cases a <;> rfl

/-- one action: the emit operations among its rendering are the rendering of what it emits -/
theorem encMainAct_emits (encRec : BoardRecord → Val) (a : SAct Text LogOp) (x : List Val)
    (h : encMainAct encRec a = some x) : x.filter isEmitOp = (emitsOf [a]).map (encLogOp encRec) := by
  cases a with
  | send ch m =>
    cases ch <;> simp only [encMainAct, Option.some.injEq, reduceCtorEq] at h
    subst h; rfl
  | recv ch =>
    cases ch <;> simp only [encMainAct, Option.some.injEq, reduceCtorEq] at h
    subst h; rfl
  | emit o =>
    cases o <;> simp only [encMainAct, Option.some.injEq] at h <;> subst h <;> rfl
  | arrive => simp only [encMainAct, Option.some.injEq] at h; subst h; rfl
  | depart => simp only [encMainAct, Option.some.injEq] at h; subst h; rfl

/-- a program: the emit operations among its rendering are the rendering of `emitsOf` -/
theorem encMainActs_emits (encRec : BoardRecord → Val) (acts : List (SAct Text LogOp)) (ops : List Val)
    (h : encMainActs encRec acts = some ops) : ops.filter isEmitOp = (emitsOf acts).map (encLogOp encRec) := by
  induction acts generalizing ops with
  | nil => simp only [encMainActs, Option.some.injEq] at h; subst h; rfl
  | cons a r ih =>
    obtain ⟨vx, vr, hx, hr, rfl⟩ := encMainActs_cons_some h
    rw [List.filter_append, encMainAct_emits encRec a vx hx, ih vr hr, emitsOf_cons a r, List.map_append]

/-- a `sleep` is not an operation of the log writer -/
theorem isEmitOp_not_sleep (v : Val) (h : isEmitOp v = true) : (!v.beq opSleep) = true := by
  unfold isEmitOp at h
  split at h
  · next s l =>
    have hs : s = emitTag := by simpa using h
    subst hs
    simp [opSleep, vstr, Val.beq, beqL, emitTag]
  · cases h

theorem filter_emit_stripSleep (l : List Val) : (stripSleep l).filter isEmitOp = l.filter isEmitOp := by
  unfold stripSleep
  rw [List.filter_filter]
  apply List.filter_congr
  intro v _
  cases hv : isEmitOp v with
  | false => rfl
  | true => rw [isEmitOp_not_sleep v hv]; rfl


theorem filter_emit_roundOps (conns : List Conn) :
    (conns.flatMap fun c => roundOps c.conn c.thread).filter isEmitOp = [] := by
  induction conns with
  | nil => rfl
  | cons c r ih =>
    rw [List.flatMap_cons, List.filter_append, ih]; rfl

theorem filter_emit_joins (l : List Val) : (l.map opJoin).filter isEmitOp = [] := by
  induction l with
  | nil => rfl
  | cons c r ih => rw [List.map_cons, List.filter_cons, ih]; rfl

/-- the log the session model's main thread writes, as the world records it: `open`, one `write` per board carrying
`encRecord` of the record `recordOf` of the board, `close` -/
def sessionLogOps (sc : Scenario) : List Val :=
  encLogOp encRecord .open :: (sc.boards.map fun bd => encLogOp encRecord (.write (recordOf sc bd.1 bd.2))) ++
    [encLogOp encRecord .close]

theorem sessionLogOps_eq (sc : Scenario) (h : sc.boards ≠ []) :
    (emitsOf (sessionProg sc .main)).map (encLogOp encRecord) = sessionLogOps sc := by
  rw [C09.log_is_opened_written_closed sc h]
  simp only [sessionLogOps, List.map_cons, List.map_append, List.map_map, List.map_nil]
  rfl

/-- (2) THE LOG.  Under the hypotheses of (1): the operations of the log writer (`isEmitOp`: tuples tagged `emit`) among
`opsS` — and among ALL the operations `out` the world has recorded — are, in order, the rendering of
`emitsOf (sessionProg sc .main)`, i.e. (`C09.log_is_opened_written_closed`) `open`, one `write (encRecord (recordOf sc b d))`
per board, `close` (`sessionLogOps`).  The record `recordOf` is what the rules say: `C08.record_follows_rules`. -/
theorem translated_main_thread_writes_the_session_log (sc : Scenario) (h : sc.boards ≠ [])
    (hc : ∀ bd ∈ sc.boards, ConformingAuction bd.1 bd.2 ∧ ConformingPlay bd.1 bd.2 ∧ TextsConform bd.1 bd.2)
    (F : Nat)
    (hparse : BoardsParse sc F 1 (sc.boards.map (·.1)) (fun p => sendsOn (Chan.t2m p) (sessionProg sc (.seat p))))
    (hok : ∀ b ∈ sc.boards.map (·.1), ∀ p, ∀ c ∈ b.deal p, 2 ≤ c.rank ∧ c.rank ≤ 14)
    (reqs : List (List Char × List Char)) (opss : List (List Op)) (mops : List MainOp) (tf : Table) (conns : List Conn)
    (hacc : acceptLoopR Table.empty reqs = some (opss, mops, tf)) (hfull : tf.full = true)
    (hlen : conns.length = opss.length)
    (hN : tf .N = some sc.nsName) (hS : tf .S = some sc.nsName) (hE : tf .E = some sc.ewName) (hW : tf .W = some sc.ewName)
    (table0 : Val) (later accR ntR alR : List Val) (rest : List (Val × Val)) :
    ∃ opsS i' out,
      out = [opBind, opListen] ++ (conns.flatMap fun c => roundOps c.conn c.thread) ++ opsS ++
                ((conns.filter (·.alive)).map (·.thread)).map opJoin ∧
      encMainActs encRecord (sessionProg sc .main) = some (stripSleep opsS) ∧
      opsS.filter isEmitOp = (emitsOf (sessionProg sc .main)).map (encLogOp encRecord) ∧
      out.filter isEmitOp = (emitsOf (sessionProg sc .main)).map (encLogOp encRecord) ∧
      out.filter isEmitOp = sessionLogOps sc ∧
      ∀ f, F + conns.length + 800 ≤ f →
        callFn P f m_MainThread_run [encMainThread (encMainWorld
            (fun p => sendsOn (Chan.t2m p) (sessionProg sc (.seat p))) [] table0
            ((acceptSnapshots Table.empty reqs).map encTable ++ later)
            (acceptMore (conns.map (fun c => .tuple [c.conn, c.addr]) ++ accR) (conns.map (·.thread) ++ ntR)
              (conns.map (fun c => .bool c.alive) ++ alR) rest)) (.tuple ((sc.boards.map (·.1)).map encBoardSetting))]
          = .ok (.none, encMainThread (encMainWorld i' out
              (advBoards sc.boards.length (advTable (encTable tf) later).1 (advTable (encTable tf) later).2).1
              (advBoards sc.boards.length (advTable (encTable tf) later).1 (advTable (encTable tf) later).2).2
              (acceptMore accR ntR alR rest)) (.tuple ((sc.boards.map (·.1)).map encBoardSetting))) := by
  obtain ⟨opsS, i', hops, _, hrun⟩ := translated_main_thread_is_session_program sc h hc F hparse hok reqs opss mops tf
    conns hacc hfull hlen hN hS hE hW table0 later accR ntR alR rest
  have h1 : opsS.filter isEmitOp = (emitsOf (sessionProg sc .main)).map (encLogOp encRecord) := by
    rw [← filter_emit_stripSleep, encMainActs_emits encRecord _ _ hops]
  have h2 : ([opBind, opListen] ++ (conns.flatMap fun c => roundOps c.conn c.thread) ++ opsS ++
                ((conns.filter (·.alive)).map (·.thread)).map opJoin).filter isEmitOp
      = (emitsOf (sessionProg sc .main)).map (encLogOp encRecord) := by
    rw [List.filter_append, List.filter_append, List.filter_append, filter_emit_roundOps, filter_emit_joins, h1]
    show [] ++ [] ++ _ ++ [] = _
    simp only [List.nil_append, List.append_nil]
  exact ⟨opsS, i', _, rfl, hops, h1, h2, h2.trans (sessionLogOps_eq sc h), hrun⟩



/-! ## (3) the parse hypotheses discharged for the texts of the protocol -/

/-- every text the players send is a text of the protocol: a call text is `bidMsg c q.formal` (`"<Seat> passes"`,
`"<Seat> doubles"`, `"<Seat> redoubles"`, `"<Seat> bids <level><denomination>"`) and a card text is `playMsg q c nota`
(`"<Seat> plays <rank><suit>"` or `<suit><rank>`) for a card of the deck.  WHICH call / card / seat is not asked here:
that the text means what was decided is `TextsConform`. -/
def ProtocolTexts (sc : Scenario) : Prop :=
  ∀ bd ∈ sc.boards,
    (∀ x ∈ bd.2.calls, ∃ (c : Call) (q : Seat), x.2 = bidMsg c q.formal) ∧
    (∀ x ∈ bd.2.cards, ∃ (c : Card) (q : Seat) (nota : Bool), c ∈ Card.deck ∧ x.2 = playMsg q c nota)

/-- every call text of the protocol, for every seat -/
theorem bid_texts_ascii : ∀ c ∈ Call.all, ∀ p ∈ Seat.all, MainE.PlainAscii (bidMsg c p.formal) := by
  decide +kernel

/-- every card text of the protocol (rank-suit as the client writes it, suit-rank as `str(card)`), for every seat -/
theorem card_texts_ascii : ∀ c ∈ Card.deck, ∀ p ∈ Seat.all, ∀ nota : Bool, MainE.PlainAscii (playMsg p c nota) := by
  decide +kernel

theorem asciiTexts_of_protocol (sc : Scenario) (hp : ProtocolTexts sc) : MainE.AsciiTexts sc := by
  intro bd hbd
  refine ⟨fun x hx => ?_, fun x hx => ?_⟩
  · obtain ⟨c, q, e⟩ := (hp bd hbd).1 x hx
    rw [e]
    exact bid_texts_ascii c (call_mem_all c) q (seat_mem_all q)
  · obtain ⟨c, q, nota, hc, e⟩ := (hp bd hbd).2 x hx
    rw [e]
    exact card_texts_ascii c hc q (seat_mem_all q) nota

set_option linter.unusedVariables false in
/-- (3) `BoardsParse` OF THE SESSION'S STREAMS HOLDS (at fuel 40) when the texts are texts of the protocol: all 38 × 4 call
texts and all 52 × 4 × 2 card texts are plain ASCII (`bid_texts_ascii`, `card_texts_ascii`), and the translated
`remove_alert_word` / `parse_bid` / `parse_card` read every plain-ASCII text as the model does (`MainE.good_of_plain_ascii`) -/
theorem session_boards_parse (sc : Scenario)
    (hc : ∀ bd ∈ sc.boards, ConformingAuction bd.1 bd.2 ∧ ConformingPlay bd.1 bd.2 ∧ TextsConform bd.1 bd.2)
    (hp : ProtocolTexts sc) :
    BoardsParse sc 40 1 (sc.boards.map (·.1)) (fun p => sendsOn (Chan.t2m p) (sessionProg sc (.seat p))) :=
  boardsParse_of_good sc 40 _ 1 _
    (MainE.allGood_of_plain_ascii 40 (by decide) _ (MainE.session_streams_ascii sc (asciiTexts_of_protocol sc hp)))

/-- (1) + (2) WITHOUT THE PARSE HYPOTHESIS, for texts of the protocol -/
theorem translated_main_thread_is_session_program_protocol (sc : Scenario) (h : sc.boards ≠ [])
    (hc : ∀ bd ∈ sc.boards, ConformingAuction bd.1 bd.2 ∧ ConformingPlay bd.1 bd.2 ∧ TextsConform bd.1 bd.2)
    (hp : ProtocolTexts sc)
    (hok : ∀ b ∈ sc.boards.map (·.1), ∀ p, ∀ c ∈ b.deal p, 2 ≤ c.rank ∧ c.rank ≤ 14)
    (reqs : List (List Char × List Char)) (opss : List (List Op)) (mops : List MainOp) (tf : Table) (conns : List Conn)
    (hacc : acceptLoopR Table.empty reqs = some (opss, mops, tf)) (hfull : tf.full = true)
    (hlen : conns.length = opss.length)
    (hN : tf .N = some sc.nsName) (hS : tf .S = some sc.nsName) (hE : tf .E = some sc.ewName) (hW : tf .W = some sc.ewName)
    (table0 : Val) (later accR ntR alR : List Val) (rest : List (Val × Val)) :
    ∃ opsS i' out,
      out = [opBind, opListen] ++ (conns.flatMap fun c => roundOps c.conn c.thread) ++ opsS ++
                ((conns.filter (·.alive)).map (·.thread)).map opJoin ∧
      encMainActs encRecord (sessionProg sc .main) = some (stripSleep opsS) ∧
      opsS.filter isEmitOp = (emitsOf (sessionProg sc .main)).map (encLogOp encRecord) ∧
      out.filter isEmitOp = (emitsOf (sessionProg sc .main)).map (encLogOp encRecord) ∧
      out.filter isEmitOp = sessionLogOps sc ∧
      ∀ f, 40 + conns.length + 800 ≤ f →
        callFn P f m_MainThread_run [encMainThread (encMainWorld
            (fun p => sendsOn (Chan.t2m p) (sessionProg sc (.seat p))) [] table0
            ((acceptSnapshots Table.empty reqs).map encTable ++ later)
            (acceptMore (conns.map (fun c => .tuple [c.conn, c.addr]) ++ accR) (conns.map (·.thread) ++ ntR)
              (conns.map (fun c => .bool c.alive) ++ alR) rest)) (.tuple ((sc.boards.map (·.1)).map encBoardSetting))]
          = .ok (.none, encMainThread (encMainWorld i' out
              (advBoards sc.boards.length (advTable (encTable tf) later).1 (advTable (encTable tf) later).2).1
              (advBoards sc.boards.length (advTable (encTable tf) later).1 (advTable (encTable tf) later).2).2
              (acceptMore accR ntR alR rest)) (.tuple ((sc.boards.map (·.1)).map encBoardSetting))) :=
  translated_main_thread_writes_the_session_log sc h hc 40 (session_boards_parse sc hc hp) hok reqs opss mops tf conns
    hacc hfull hlen hN hS hE hW table0 later accR ntR alR rest

/-! ## non-vacuity: `SeatD.exSc` — one board, passed out; teams Alpha (N/S) and Beta (E/W) -/

theorem ex_auction : ConformingAuction SeatD.exBoard SeatD.exDecisions := by
  refine ⟨?_, Or.inl rfl⟩
  show LegalLaw .N [.pass, .pass, .pass, .pass]
  exact .cons (.cons (.cons (.cons .nil (by decide) rfl) (by decide) rfl) (by decide) rfl) (by decide) rfl

theorem ex_play : ConformingPlay SeatD.exBoard SeatD.exDecisions := by
  have h : (WithHands.init (boardContract SeatD.exBoard SeatD.exDecisions) SeatD.exBoard.deal).isNone = true := by decide +kernel
  unfold ConformingPlay
  cases hw : WithHands.init (boardContract SeatD.exBoard SeatD.exDecisions) SeatD.exBoard.deal with
  | none => rfl
  | some w => rw [hw] at h; cases h

theorem ex_texts : TextsConform SeatD.exBoard SeatD.exDecisions := by
  refine ⟨?_, ?_⟩
  · decide +kernel
  · intro s0 _ j hj
    exact absurd hj (Nat.not_lt_zero _)

theorem ex_conform : ∀ bd ∈ SeatD.exSc.boards, ConformingAuction bd.1 bd.2 ∧ ConformingPlay bd.1 bd.2 ∧ TextsConform bd.1 bd.2 := by
  intro bd hbd
  simp only [SeatD.exSc, List.mem_singleton] at hbd
  subst hbd
  exact ⟨ex_auction, ex_play, ex_texts⟩

theorem ex_ok : ∀ b ∈ SeatD.exSc.boards.map (·.1), ∀ p, ∀ c ∈ b.deal p, 2 ≤ c.rank ∧ c.rank ≤ 14 := by
  intro b hb p c hc
  simp only [SeatD.exSc, List.map_cons, List.map_nil, List.mem_singleton] at hb
  subst hb
  cases hc

theorem ex_protocol : ProtocolTexts SeatD.exSc := by
  intro bd hbd
  simp only [SeatD.exSc, List.mem_singleton] at hbd
  subst hbd
  refine ⟨?_, fun x hx => by cases hx⟩
  intro x hx
  simp only [SeatD.exDecisions, List.mem_cons, List.mem_nil_iff, or_false] at hx
  rcases hx with rfl | rfl | rfl | rfl
  · exact ⟨.pass, .N, by decide +kernel⟩
  · exact ⟨.pass, .E, by decide +kernel⟩
  · exact ⟨.pass, .S, by decide +kernel⟩
  · exact ⟨.pass, .W, by decide +kernel⟩

theorem ex_parse : BoardsParse SeatD.exSc 40 1 (SeatD.exSc.boards.map (·.1))
    (fun p => sendsOn (Chan.t2m p) (sessionProg SeatD.exSc (.seat p))) :=
  session_boards_parse SeatD.exSc ex_conform ex_protocol

/-- (3) on the example: the parse package needs no evaluation of its own -/
example : BoardsParse SeatD.exSc 40 1 (SeatD.exSc.boards.map (·.1))
    (fun p => sendsOn (Chan.t2m p) (sessionProg SeatD.exSc (.seat p))) :=
  session_boards_parse SeatD.exSc ex_conform ex_protocol

/-- the families of (3) are not vacuous: the model reads every protocol text back as the call / card it was built from -/
example : ∀ c ∈ Call.all, ∀ p ∈ Seat.all, parseBid? (preprocessBid (bidMsg c p.formal)) p.formal = some c := by
  decide +kernel
example : ∀ c ∈ Card.deck, ∀ p ∈ Seat.all, ∀ nota : Bool, parseCard? (playMsg p c nota) p = some c := by decide +kernel

/-- four connection attempts, all served and seated: North and South for Alpha, East and West for Beta -/
def exReqs : List (List Char × List Char) :=
  [("Connecting \"Alpha\" as North using protocol version 18".toList, "North ready for teams".toList),
   ("Connecting \"Beta\" as East using protocol version 18".toList, "East ready for teams".toList),
   ("Connecting \"Alpha\" as South using protocol version 18".toList, "South ready for teams".toList),
   ("Connecting \"Beta\" as West using protocol version 18".toList, "West ready for teams".toList)]

/-- what the world answers for the four served connections -/
def exConns : List Conn :=
  [⟨.int 1, .none, .int 11, true⟩, ⟨.int 2, .none, .int 12, true⟩, ⟨.int 3, .none, .int 13, true⟩,
   ⟨.int 4, .none, .int 14, true⟩]

/-- one evaluation of the model's accept loop: four rounds, 24 operations, the table full under the two team names -/
theorem ex_acc :
    (acceptLoopR Table.empty exReqs).map (fun x => (x.1.length, x.2.1.length, x.2.2.full)) = some (4, 24, true) ∧
    (acceptLoopR Table.empty exReqs).map (fun x => (x.2.2 .N, x.2.2 .E, x.2.2 .S, x.2.2 .W))
      = some (some "Alpha".toList, some "Beta".toList, some "Alpha".toList, some "Beta".toList) := by
  simp only [exReqs]
  repeat rw [String.toList_ofList]
  decide +kernel
theorem ex_acc_model : (acceptLoopR Table.empty exReqs).map (fun x => (x.1.length, x.2.1.length, x.2.2.full))
    = some (4, 24, true) := ex_acc.1
theorem ex_acc_names : (acceptLoopR Table.empty exReqs).map (fun x => (x.2.2 .N, x.2.2 .E, x.2.2 .S, x.2.2 .W))
    = some (some "Alpha".toList, some "Beta".toList, some "Alpha".toList, some "Beta".toList) := ex_acc.2

/-- the session program of the main thread on this scenario is not trivial -/
theorem ex_main_length : (sessionProg SeatD.exSc .main).length = 61 := by decide +kernel

/-- (1) and (2) on the example, EVERY hypothesis discharged: four served connections, one passed-out board -/
example : ∃ opsS i', encMainActs encRecord (sessionProg SeatD.exSc .main) = some (stripSleep opsS) ∧
    (sessionProg SeatD.exSc .main).length = 61 ∧
    opsS.filter isEmitOp = [encLogOp encRecord .open,
      encLogOp encRecord (.write (recordOf SeatD.exSc SeatD.exBoard SeatD.exDecisions)), encLogOp encRecord .close] ∧
    ∀ f, 844 ≤ f →
      callFn P f m_MainThread_run [encMainThread (encMainWorld
          (fun p => sendsOn (Chan.t2m p) (sessionProg SeatD.exSc (.seat p))) [] .none
          ((acceptSnapshots Table.empty exReqs).map encTable ++ [])
          (acceptMore (exConns.map (fun c => .tuple [c.conn, c.addr]) ++ []) (exConns.map (·.thread) ++ [])
            (exConns.map (fun c => .bool c.alive) ++ []) []))
          (.tuple ((SeatD.exSc.boards.map (·.1)).map encBoardSetting))]
        = .ok (.none, encMainThread (encMainWorld i'
            ([opBind, opListen] ++ (exConns.flatMap fun c => roundOps c.conn c.thread) ++ opsS ++
              [opJoin (.int 11), opJoin (.int 12), opJoin (.int 13), opJoin (.int 14)])
            (encTable (fun p => match p with | .N | .S => some "Alpha".toList | _ => some "Beta".toList)) []
            (acceptMore [] [] [] [])) (.tuple ((SeatD.exSc.boards.map (·.1)).map encBoardSetting))) := by
  have ha := ex_acc_model
  have hn := ex_acc_names
  cases hacc : acceptLoopR Table.empty exReqs with
  | none => rw [hacc] at ha; cases ha
  | some x =>
    obtain ⟨opss, mops, tf⟩ := x
    rw [hacc] at ha hn
    simp only [Option.map_some, Option.some.injEq, Prod.mk.injEq] at ha hn
    obtain ⟨h1, h2, h3⟩ := ha
    obtain ⟨hN, hE, hS, hW⟩ := hn
    obtain ⟨opsS, i', out, rfl, hops, hlog, _, _, hrun⟩ := translated_main_thread_is_session_program_protocol SeatD.exSc
      SeatD.exSc_boards ex_conform ex_protocol ex_ok exReqs opss mops tf exConns hacc h3 (by rw [h1]; rfl) hN hS hE hW
      .none [] [] [] [] []
    have htf : tf = (fun p => match p with | .N | .S => some "Alpha".toList | _ => some "Beta".toList) := by
      funext p; cases p <;> assumption
    refine ⟨opsS, i', ?_, ex_main_length, ?_, ?_⟩
    · exact hops
    · rw [hlog, sessionLogOps_eq _ SeatD.exSc_boards]; rfl
    · intro f hf
      have h := hrun f (by simpa [exConns] using hf)
      rw [htf] at h
      exact h

end Bridge.Translated.MainD
