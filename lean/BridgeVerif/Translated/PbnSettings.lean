import BridgeVerif.Translated.PbnSettingsLemmasC
import BridgeVerif.Props.C17
/-!
# `PbnParser.parse_board_settings` AS TRANSLATED reads the model's boards  (C17)

The last method of the class (`m_PbnParser_parse_board_settings`, Generated/PyCorePbn.lean): `parse_stream(fp)`, then for
every game `Hands.convert_pbn(x['Deal'])`, `Player[x['Dealer']]`, `Vul.str_to_vul(x['Vulnerable'])`, `x['Board']`,
`BoardSetting(hands=…, dealer=…, vul=…, board_id=…, dda=None)` — against `pbnBoardSettings?` / `settingOfGame?` of
Model/Pbn.lean.

* `pp_parse_board_settings_wide` (`…_from`: from any parser state; `…_closed`: regular-expression facts plugged in):
  - `pbnBoardSettings? lines = some es`  ⇒  the call returns `.tuple (es'.map encSetting)` with `SameSettings es' es`:
    entry by entry the same board id, dealer, vulnerability, `dda = None`, and hands with the same members seat by seat,
    listed without repetition (`SameSetting`; the interpreter's sets keep FIRST occurrences, the model's `dedup` LAST
    ones, so only the order inside a hand can differ);
  - `pbnBoardSettings? lines = none`  ⇒  the call raises an exception of a class in `psErrors = [KeyError, Exception]`:
    `KeyError` for a missing tag, for `Player[name]` and for `Vul[name]` on an unknown name, `Exception` from
    `Hands.convert_pbn`.  The FIRST failing game decides (`mapM`; Python stops there).
* `pp_pbn_import_round_trip_translated` / `…_universal` — with `C17.pbn_import_round_trip(_universal)`: for every
  admissible layout `f` describing boards `bs`, the TRANSLATED `parse_board_settings` on `pyLines f.text`
  (`pyLines (universalNewlines f.text)`) returns records `es'` with `es'.length = bs.length`, `SameBoard es'[i] bs[i]`
  and duplicate-free hands.
* a two-board file by instantiation (end of the file).

Hypotheses:
* `PbnRegexFacts`, `PbnSubNonempty`, `HandsRegexFacts` (discharged in the `_closed` versions by `pbnRegexFacts`,
  `sub_matches_nonempty`, `handsRegexFacts`);
* every line non-empty and of at most 466 characters (fuel: `f + 4 * N + 60` levels for lines with `length + 1 < 2 * N`,
  `ps_settings_call`; the number of lines and of boards is unbounded) — in the round-trip corollaries non-emptiness is
  DERIVED from admissibility (every line ends with the line end), the length bound stays a hypothesis on the lines;
* `pctLineOk l` for the lines that start with `%` (Translated/PbnParserLemmasF.lean): in the round-trip corollaries this
  stays a hypothesis on the lines of the layout (its header lines are arbitrary `%` lines, and no regular-expression
  reasoning is done for `re.match(r'% PBN (\d+)\.(\d+)')`); `…_no_pct` asks instead that no line of the
  layout starts with `%`, and then needs nothing about `re.match`.
-/
namespace Bridge.Translated
open Bridge Bridge.Py Bridge.Generated.PyCore Bridge.RegexPbn Bridge.RegexHands

theorem pp_parse_board_settings_wide_from (hf : PbnRegexFacts) (hne : PbnSubNonempty) (hh : HandsRegexFacts)
    (lines : List Str) (hok : ∀ l ∈ lines, l ≠ [] ∧ l.length ≤ 466)
    (hpct : ∀ l ∈ lines, l.head? = some '%' → pctLineOk l = true) (st : PbnSt) (cl cb : List Str) :
    match (streamFrom st lines).mapM settingOfGame? with
    | some es => ∃ es' st' cl' cb', SameSettings es' es ∧
        P.runMethod n_PbnParser n_parse_board_settings [encPbnParser st cl cb, .tuple (lines.map Val.str)]
        = .ok (.tuple (es'.map encSetting), encPbnParser st' cl' cb')
    | none => ∃ c, c ∈ psErrors ∧
        P.runMethod n_PbnParser n_parse_board_settings [encPbnParser st cl cb, .tuple (lines.map Val.str)]
        = .error (.exc c) := by
  rw [pp_runMethod_eq _ _ _ _ _ ps_mth_settings]
  exact ps_settings_call hf hne hh 3 234 lines (pp_linesOk 234 466 (by decide) lines hok hpct) st cl cb

/-- THE TRANSLATED `PbnParser().parse_board_settings(lines)` -/
theorem pp_parse_board_settings_wide (hf : PbnRegexFacts) (hne : PbnSubNonempty) (hh : HandsRegexFacts)
    (lines : List Str) (hok : ∀ l ∈ lines, l ≠ [] ∧ l.length ≤ 466)
    (hpct : ∀ l ∈ lines, l.head? = some '%' → pctLineOk l = true) :
    match pbnBoardSettings? lines with
    | some es => ∃ es' self', SameSettings es' es ∧
        P.runMethod n_PbnParser n_parse_board_settings [encPbnParser {} [] [], .tuple (lines.map Val.str)]
        = .ok (.tuple (es'.map encSetting), self')
    | none => ∃ c, c ∈ psErrors ∧
        P.runMethod n_PbnParser n_parse_board_settings [encPbnParser {} [] [], .tuple (lines.map Val.str)]
        = .error (.exc c) := by
  have h := pp_parse_board_settings_wide_from hf hne hh lines hok hpct {} [] []
  have e : pbnBoardSettings? lines = (streamFrom {} lines).mapM settingOfGame? := rfl
  rw [e]
  cases hm : (streamFrom {} lines).mapM settingOfGame? with
  | none => rw [hm] at h; exact h
  | some es =>
    rw [hm] at h
    obtain ⟨es', st', cl', cb', hs, hr⟩ := h
    exact ⟨es', _, hs, hr⟩

theorem pp_parse_board_settings_wide_closed (lines : List Str) (hok : ∀ l ∈ lines, l ≠ [] ∧ l.length ≤ 466)
    (hpct : ∀ l ∈ lines, l.head? = some '%' → pctLineOk l = true) :
    match pbnBoardSettings? lines with
    | some es => ∃ es' self', SameSettings es' es ∧
        P.runMethod n_PbnParser n_parse_board_settings [encPbnParser {} [] [], .tuple (lines.map Val.str)]
        = .ok (.tuple (es'.map encSetting), self')
    | none => ∃ c, c ∈ psErrors ∧
        P.runMethod n_PbnParser n_parse_board_settings [encPbnParser {} [] [], .tuple (lines.map Val.str)]
        = .error (.exc c) :=
  pp_parse_board_settings_wide pbnRegexFacts pbnSubNonempty handsRegexFacts lines hok hpct

theorem pp_parse_board_settings_wide_closed_some (lines : List Str) (hok : ∀ l ∈ lines, l ≠ [] ∧ l.length ≤ 466)
    (hpct : ∀ l ∈ lines, l.head? = some '%' → pctLineOk l = true) (es : List SettingEntry)
    (hm : pbnBoardSettings? lines = some es) :
    ∃ es' self', SameSettings es' es ∧
      P.runMethod n_PbnParser n_parse_board_settings [encPbnParser {} [] [], .tuple (lines.map Val.str)]
      = .ok (.tuple (es'.map encSetting), self') := by
  have h := pp_parse_board_settings_wide_closed lines hok hpct
  rw [hm] at h; exact h

theorem pp_parse_board_settings_wide_closed_none (lines : List Str) (hok : ∀ l ∈ lines, l ≠ [] ∧ l.length ≤ 466)
    (hpct : ∀ l ∈ lines, l.head? = some '%' → pctLineOk l = true) (hm : pbnBoardSettings? lines = none) :
    ∃ c, c ∈ psErrors ∧
      P.runMethod n_PbnParser n_parse_board_settings [encPbnParser {} [] [], .tuple (lines.map Val.str)]
      = .error (.exc c) := by
  have h := pp_parse_board_settings_wide_closed lines hok hpct
  rw [hm] at h; exact h

/-! ## the round trip of C17 through the translated reader -/
theorem ps_lines_nonempty (f : FileL) (hf : f.Admissible) : ∀ l ∈ f.lines, l ≠ [] := by
  intro l hl
  rw [f.lines_eq_bodies] at hl
  obtain ⟨b, _, rfl⟩ := List.mem_map.1 hl
  intro e
  have : f.eol = [] := (List.append_eq_nil_iff.1 e).2
  rcases hf.eol with h | h <;> rw [h] at this <;> cases this

theorem ps_round_trip_lines (lines : List Str) (hne : ∀ l ∈ lines, l ≠ []) (hlen : ∀ l ∈ lines, l.length ≤ 466)
    (hpct : ∀ l ∈ lines, l.head? = some '%' → pctLineOk l = true) (bs : List SettingEntry)
    (hr : ∃ rs, pbnBoardSettings? lines = some rs ∧ rs.length = bs.length ∧
      ∀ i (h₁ : i < rs.length) (h₂ : i < bs.length), SameBoard rs[i] bs[i]) :
    ∃ (es' : List SettingEntry) (self' : Val), P.runMethod n_PbnParser n_parse_board_settings [encPbnParser {} [] [], .tuple (lines.map Val.str)]
        = .ok (.tuple (es'.map encSetting), self') ∧ es'.length = bs.length ∧
      ∀ i (h₁ : i < es'.length) (h₂ : i < bs.length), SameBoard es'[i] bs[i] ∧ ∀ p, (es'[i].deal p).Nodup := by
  obtain ⟨rs, hm, hl, hsb⟩ := hr
  obtain ⟨es', self', hs, hrun⟩ := pp_parse_board_settings_wide_closed_some lines
    (fun l h => ⟨hne l h, hlen l h⟩) hpct rs hm
  refine ⟨es', self', hrun, hs.length_eq.trans hl, fun i h₁ h₂ => ?_⟩
  have hi : i < rs.length := by rw [← hs.length_eq]; exact h₁
  obtain ⟨a1, a2, a3, a4, a5, a6⟩ := hs.getElem i h₁ hi
  obtain ⟨b1, b2, b3, b4, b5⟩ := hsb i hi h₂
  exact ⟨⟨a1.trans b1, a2.trans b2, a3.trans b3, fun p => (a5 p).trans (b4 p), a4.trans b5⟩, a6⟩

/-- C17 (PBN) through the translated reader: `io.StringIO(text)` -/
theorem pp_pbn_import_round_trip_translated (f : FileL) (hf : f.Admissible) (bs : List SettingEntry)
    (hlen : f.games.length = bs.length)
    (hd : ∀ i (h₁ : i < f.games.length) (h₂ : i < bs.length), f.games[i].Describes bs[i])
    (hw : ∀ b ∈ bs, PartialDeal b.deal)
    (hsize : ∀ l ∈ f.lines, l.length ≤ 466) (hpct : ∀ l ∈ f.lines, l.head? = some '%' → pctLineOk l = true) :
    ∃ (es' : List SettingEntry) (self' : Val), P.runMethod n_PbnParser n_parse_board_settings
          [encPbnParser {} [] [], .tuple ((pyLines f.text).map Val.str)]
        = .ok (.tuple (es'.map encSetting), self') ∧ es'.length = bs.length ∧
      ∀ i (h₁ : i < es'.length) (h₂ : i < bs.length), SameBoard es'[i] bs[i] ∧ ∀ p, (es'[i].deal p).Nodup := by
  have hr := C17.pbn_import_round_trip f hf bs hlen hd hw
  rw [pyLines_text f hf] at hr ⊢
  exact ps_round_trip_lines f.lines (ps_lines_nonempty f hf) hsize hpct bs hr

/-- … and through `open()` (universal newlines): the conditions are on the lines with LF line ends -/
theorem pp_pbn_import_round_trip_translated_universal (f : FileL) (hf : f.Admissible) (bs : List SettingEntry)
    (hlen : f.games.length = bs.length)
    (hd : ∀ i (h₁ : i < f.games.length) (h₂ : i < bs.length), f.games[i].Describes bs[i])
    (hw : ∀ b ∈ bs, PartialDeal b.deal)
    (hsize : ∀ l ∈ ({ f with eol := ['\n'] } : FileL).lines, l.length ≤ 466)
    (hpct : ∀ l ∈ ({ f with eol := ['\n'] } : FileL).lines, l.head? = some '%' → pctLineOk l = true) :
    ∃ (es' : List SettingEntry) (self' : Val), P.runMethod n_PbnParser n_parse_board_settings
          [encPbnParser {} [] [], .tuple ((pyLines (universalNewlines f.text)).map Val.str)]
        = .ok (.tuple (es'.map encSetting), self') ∧ es'.length = bs.length ∧
      ∀ i (h₁ : i < es'.length) (h₂ : i < bs.length), SameBoard es'[i] bs[i] ∧ ∀ p, (es'[i].deal p).Nodup := by
  have hr := C17.pbn_import_round_trip_universal f hf bs hlen hd hw
  rw [pyLines_universal f hf] at hr ⊢
  exact ps_round_trip_lines _ (ps_lines_nonempty _ (admissible_lf f hf)) hsize hpct bs hr

/-- layouts without a line that starts with `%`: nothing is needed about the two `re.match` calls -/
theorem pp_pbn_import_round_trip_translated_no_pct (f : FileL) (hf : f.Admissible) (bs : List SettingEntry)
    (hlen : f.games.length = bs.length)
    (hd : ∀ i (h₁ : i < f.games.length) (h₂ : i < bs.length), f.games[i].Describes bs[i])
    (hw : ∀ b ∈ bs, PartialDeal b.deal)
    (hsize : ∀ l ∈ f.lines, l.length ≤ 466) (hno : ∀ l ∈ f.lines, l.head? ≠ some '%') :
    ∃ (es' : List SettingEntry) (self' : Val), P.runMethod n_PbnParser n_parse_board_settings
          [encPbnParser {} [] [], .tuple ((pyLines f.text).map Val.str)]
        = .ok (.tuple (es'.map encSetting), self') ∧ es'.length = bs.length ∧
      ∀ i (h₁ : i < es'.length) (h₂ : i < bs.length), SameBoard es'[i] bs[i] ∧ ∀ p, (es'[i].deal p).Nodup :=
  pp_pbn_import_round_trip_translated f hf bs hlen hd hw hsize fun l hl h => absurd h (hno l hl)

/-! ## non-vacuity: a two-board file (a `%` header, a blank line between the boards, an unknown tag) -/
def psExampleLines : List Str :=
  ["% PBN 2.1\n".toList,
   "[Board \"7\"]\n".toList, "[Dealer \"S\"]\n".toList, "[Vulnerable \"Both\"]\n".toList,
   "[Deal \"N:AKQJ.T98.765.432 - - -\"]\n".toList, "[Event \"x\"]\n".toList,
   "\n".toList,
   "[Board \"8\"]\n".toList, "[Dealer \"W\"]\n".toList, "[Vulnerable \"None\"]\n".toList,
   "[Deal \"E:- - - -\"]\n".toList]

/-- what is compared: board id, dealer, vulnerability, the number of cards North holds -/
def psView (e : SettingEntry) : Str × Seat × Vul × Nat := (e.boardId, e.dealer, e.vul, (e.deal .N).length)

theorem ps_example_model : (pbnBoardSettings? psExampleLines).map (List.map psView)
    = some [("7".toList, .S, .both, 13), ("8".toList, .W, .none, 0)] := by
  rw [psExampleLines]
  -- the characters of each literal by `String.toList_ofList`: the kernel would get them by decoding UTF-8
  repeat rw [String.toList_ofList]
  decide +kernel
theorem ps_example_ok : ∀ l ∈ psExampleLines, l ≠ [] ∧ l.length ≤ 466 := by
  rw [psExampleLines]
  repeat rw [String.toList_ofList]
  decide +kernel
theorem ps_example_pct : ∀ l ∈ psExampleLines, l.head? = some '%' → pctLineOk l = true := by
  rw [psExampleLines]
  repeat rw [String.toList_ofList]
  decide +kernel

theorem ps_view_same {as bs : List SettingEntry} (h : SameSettings as bs) : as.map psView = bs.map psView := by
  induction h with
  | nil => rfl
  | cons hab _ ih =>
    obtain ⟨a1, a2, a3, _, a5, _⟩ := hab
    simp only [List.map_cons, ih, psView, a1, a2, a3, (a5 .N).length_eq]

/-- the translated `parse_board_settings` returns the two boards -/
theorem ps_example :
    ∃ (es' : List SettingEntry) (self' : Val),
      P.runMethod n_PbnParser n_parse_board_settings [encPbnParser {} [] [], .tuple (psExampleLines.map Val.str)]
        = .ok (.tuple (es'.map encSetting), self') ∧
      es'.map psView = [("7".toList, .S, .both, 13), ("8".toList, .W, .none, 0)] := by
  have hm := ps_example_model
  cases hb : pbnBoardSettings? psExampleLines with
  | none => rw [hb] at hm; cases hm
  | some es =>
    rw [hb] at hm
    simp only [Option.map, Option.some.injEq] at hm
    obtain ⟨es', self', hs, hr⟩ := pp_parse_board_settings_wide_closed_some psExampleLines ps_example_ok ps_example_pct es hb
    exact ⟨es', self', hr, (ps_view_same hs).trans hm⟩

end Bridge.Translated
