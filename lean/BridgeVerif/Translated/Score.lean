import BridgeVerif.Translated.ContractMethods
import BridgeVerif.Props.C07
import BridgeVerif.Lemmas.MiniPyExtend
/-!
# score.py AS TRANSLATED satisfies the duplicate scoring law  (C07)

These theorems are about `Generated/PyCoreBase.lean` — the functions of `bridge_env/score.py` (and of `bid.py`, `suit.py`
that they call) re-written from the source on every run — executed by the MiniPy interpreter.

`calc_bid_score` is executed SYMBOLICALLY, in every program `Q` that extends the base program and at every sufficient
fuel: the tricks stay a variable, the bid is read only through `bid.level`, `bid.suit`, `suit.is_minor()`,
`suit.is_major()` (evaluated by the kernel on the 35 bids without `isinstance`, hence valid in `Q` by `callNI_extend`),
and the cases are those the Python branches on.  The result is the model's `calcBidScore` (Model/Score.lean), which reads
the same translated constants; that `calcBidScore` is the duplicate law is `C07.table_fin`.
-/
namespace Bridge.Translated
open Bridge.Py Bridge.Generated.PyCore

def status (x xx : Bool) : Dbl := if xx then .xx else if x then .x else .none

/-! ## the four things `calc_bid_score` asks of the bid -/

theorem suit_is_minor_ni : ∀ b : Fin 35,
    (callNI PB 8 m_Suit_is_minor [encSuit (bidDenom b)]).bool? = some (bidDenom b).isMinor := by
  decide +kernel
theorem suit_is_major_ni : ∀ b : Fin 35,
    (callNI PB 8 m_Suit_is_major [encSuit (bidDenom b)]).bool? = some (bidDenom b).isMajor := by
  decide +kernel

theorem meth_enum (r : Rec) {Q : Program} {c c' m : Id} {fd : FuncDef} (n : Int) (args : List Val)
    (hm : Q.method? classDepth c m = some (c', fd)) : methF r Q (.enum c n) m args = r.call fd (.enum c n :: args) := by
  simp only [methF, classOf?, callMethod, hm]

section bid
variable {Q : Program} (hQ : PB.Ext Q) (b : Fin 35) (g : Nat)
include hQ

theorem attr_level_ext : getAttrF (mkRec Q (g + 12)) Q (encBid b) n_level = .ok (.int (bidLevel b)) :=
  attr_bid_level hQ _ (Nat.le_add_left 12 g) b

theorem attr_suit_ext : getAttrF (mkRec Q (g + 12)) Q (encBid b) n_suit = .ok (encSuit (bidDenom b)) :=
  attr_bid_suit hQ _ (Nat.le_add_left 12 g) b

theorem is_minor_ext :
    ∃ s', methF (mkRec Q (g + 8)) Q (encSuit (bidDenom b)) n_is_minor [] = .ok (.bool (bidDenom b).isMinor, s') := by
  obtain ⟨s', h⟩ := callNI_extend hQ (Nat.le_add_left 8 g) _ _ _ (bool?_eq_some (suit_is_minor_ni b))
  exact ⟨s', by rw [encSuit, meth_enum _ _ _ (hQ.method (x := (n_Suit, m_Suit_is_minor)) rfl)]; exact h⟩

theorem is_major_ext :
    ∃ s', methF (mkRec Q (g + 8)) Q (encSuit (bidDenom b)) n_is_major [] = .ok (.bool (bidDenom b).isMajor, s') := by
  obtain ⟨s', h⟩ := callNI_extend hQ (Nat.le_add_left 8 g) _ _ _ (bool?_eq_some (suit_is_major_ni b))
  exact ⟨s', by rw [encSuit, meth_enum _ _ _ (hQ.method (x := (n_Suit, m_Suit_is_major)) rfl)]; exact h⟩
end bid

/-- a global of the base program, in an extension of it -/
theorem glob_ext {Q : Program} (hQ : PB.Ext Q) (x : Id) (v : Val) (h : lookup PB.globals x = some v := by rfl) :
    lookup Q.globals x = some v := hQ.glob h

/-! ## the body of `calc_bid_score`, piece by piece -/

theorem execF_append (r : Rec) (Q : Program) (env env' : Env) (xs ys : List Stmt)
    (h : execF r Q env xs = .ok (env', .next)) : execF r Q env (xs ++ ys) = execF r Q env' ys := by
  induction xs generalizing env with
  | nil =>
    cases h
    rfl
  | cons s xs ih =>
    simp only [execF, List.cons_append] at h ⊢
    cases hs : execStmtF r Q env s with
    | error e => simp [hs, bind, Except.bind] at h
    | ok p =>
      obtain ⟨e1, fl⟩ := p
      simp only [hs, bind, Except.bind] at h ⊢
      cases fl <;> first | exact ih _ h | simp [pure, Except.pure] at h

/-- a table of integers indexed inside its bounds -/
theorem index_table (r : Rec) (Q : Program) (l : List Int) (i : Int) (h0 : 0 ≤ i) (h1 : i.toNat < l.length) :
    indexF r Q (.tuple (l.map .int)) (.int i) = .ok (.int (l.getD i.toNat 0)) := by
  simp [indexF, asInt?, normIndex, h0, h1, pure, Except.pure, List.getD_eq_getElem?_getD]

theorem not_non_bid (b : Fin 35) : containsVal [.enum n_Bid 36, .enum n_Bid 37, .enum n_Bid 38] (encBid b) = false := by
  simp [containsVal, encBid, Val.beq]
  omega

/-- `a if c else b` of two integers, with `c` undecided -/
theorem ite_ok_int (c : Prop) [Decidable c] (a b : Int) :
    (if c then (.ok (.int a) : R Val) else .ok (.int b)) = .ok (.int (if c then a else b)) := by
  split <;> rfl

/-- `calc_bid_score` is three guards followed by `if level + 6 > taken_trick_num: ⟨down⟩ else: ⟨made⟩` -/
def cbsParts : Expr × List Stmt × List Stmt :=
  match f_calc_bid_score.body with
  | [_, _, _, .ite c t e] => (c, t, e)
  | _ => default

/-- the local variables after the three guards -/
def cbsEnv (b : Fin 35) (x xx vul : Bool) (t : Nat) : Env :=
  [(n_bid, encBid b), (n_x, .bool x), (n_xx, .bool xx), (n_vul, .bool vul), (n_taken_trick_num, .int t)]
/-- … and for a made contract, once `overtrick_num`, `score` and `overtrick_score_per_trick` are set -/
def cbsEnvM (b : Fin 35) (x xx vul : Bool) (t : Nat) (o s p : Int) : Env :=
  cbsEnv b x xx vul t ++ [(n_overtrick_num, .int o), (n_score, .int s), (n_overtrick_score_per_trick, .int p)]

section body
variable {Q : Program} (hQ : PB.Ext Q) (b : Fin 35) (f : Nat) (x xx vul : Bool) (t : Nat)
include hQ

attribute [local simp] cs_exec cs_eval execF execStmtF evalF mapR cmpF compareF binopVal asInt? truthy assignToF lookup update
  bind Except.bind pure Except.pure ite_ok_int f_calc_bid_score cbsParts cbsEnv cbsEnvM

theorem guards_run :
    execF (mkRec Q (f + 20)) Q (cbsEnv b x xx vul t) (f_calc_bid_score.body.take 3) = .ok (cbsEnv b x xx vul t, .next) := by
  simp +decide [attr_level_ext hQ b, attr_suit_ext hQ b, not_non_bid, beq_int_none, beq_encSuit_none]

theorem cond_run :
    (mkRec Q (f + 20)).eval (cbsEnv b x xx vul t) cbsParts.1 = .ok (.bool (decide (t < bidLevel b + 6))) := by
  simp +decide [attr_level_ext hQ b]
  omega

/-- down: one of the six tables at `level + 6 - taken_trick_num - 1` -/
theorem down_run (h : t < bidLevel b + 6) :
    execF (mkRec Q (f + 20)) Q (cbsEnv b x xx vul t) cbsParts.2.1
      = .ok (cbsEnv b x xx vul t ++ [(n_down_n, .int ((bidLevel b : Int) + 6 - t))],
          .ret (.int (calcBidScore b x xx vul t))) := by
  have hb : bidLevel b ≤ 7 := by unfold bidLevel; omega
  have hi : (0 : Int) ≤ (bidLevel b : Int) + 6 - t - 1 := by omega
  have hi2 : ((bidLevel b : Int) + 6 - t - 1).toNat = bidLevel b + 6 - t - 1 := by omega
  have ix := fun (r : Rec) (l : List Int) (hl : l.length = 13) => index_table r Q l _ hi (by rw [hi2, hl]; omega)
  simp +decide [attr_level_ext hQ b, hi2, calcBidScore, h, glob_ext hQ n__DOWN (.tuple (DOWN.map .int)), ix _ DOWN rfl,
    glob_ext hQ n__DOWN_VUL (.tuple (DOWN_VUL.map .int)), ix _ DOWN_VUL rfl,
    glob_ext hQ n__DOWN_X (.tuple (DOWN_X.map .int)), ix _ DOWN_X rfl,
    glob_ext hQ n__DOWN_X_VUL (.tuple (DOWN_X_VUL.map .int)), ix _ DOWN_X_VUL rfl,
    glob_ext hQ n__DOWN_XX (.tuple (DOWN_XX.map .int)), ix _ DOWN_XX rfl,
    glob_ext hQ n__DOWN_XX_VUL (.tuple (DOWN_XX_VUL.map .int)), ix _ DOWN_XX_VUL rfl]
  cases xx <;> cases x <;> cases vul <;> rfl

/-- made, `overtrick_num = …` and `if suit.is_minor(): … elif suit.is_major(): … else: …` -/
theorem made_base_run (h : ¬ t < bidLevel b + 6) :
    execF (mkRec Q (f + 20)) Q (cbsEnv b x xx vul t) (cbsParts.2.2.take 2)
      = let base : Int × Int :=
          if (bidDenom b).isMinor then (MINOR * bidLevel b, MINOR)
          else if (bidDenom b).isMajor then (MAJOR * bidLevel b, MAJOR)
          else (MAJOR * bidLevel b + NTB, MAJOR)
        .ok (cbsEnvM b x xx vul t ((t - bidLevel b - 6 : Nat) : Int) base.1 base.2, .next) := by
  obtain ⟨s1, h1⟩ := is_minor_ext hQ b (f + 11)
  obtain ⟨s2, h2⟩ := is_major_ext hQ b (f + 10)
  have ho : (t : Int) - bidLevel b - 6 = ((t - bidLevel b - 6 : Nat) : Int) := by omega
  simp +decide [attr_level_ext hQ b, attr_suit_ext hQ b, h1, h2, ho, glob_ext hQ n__MINOR (.int MINOR),
    glob_ext hQ n__MAJOR (.int MAJOR), glob_ext hQ n__NT (.int NTB)]
  cases (bidDenom b).isMinor <;> cases (bidDenom b).isMajor <;> rfl

variable (o s p : Int)

omit hQ in
/-- `if xx: score *= 4 elif x: score *= 2` -/
theorem made_mult_run :
    execF (mkRec Q (f + 20)) Q (cbsEnvM b x xx vul t o s p) ((cbsParts.2.2.drop 2).take 1)
      = .ok (cbsEnvM b x xx vul t o (if xx then s * 4 else if x then s * 2 else s) p, .next) := by
  simp +decide
  cases xx <;> cases x <;> rfl

/-- the game and slam bonuses -/
theorem made_bonus_run :
    execF (mkRec Q (f + 20)) Q (cbsEnvM b x xx vul t o s p) ((cbsParts.2.2.drop 3).take 1)
      = .ok (cbsEnvM b x xx vul t o
          (if s ≥ 100 then
            if bidLevel b ≥ 6 then
              if bidLevel b = 7 then
                s + (if vul then GAME_VUL else GAME) + (if vul then SMALL_SLAM_VUL else SMALL_SLAM)
                  + (if vul then GRAND_SLAM_VUL else GRAND_SLAM)
              else s + (if vul then GAME_VUL else GAME) + (if vul then SMALL_SLAM_VUL else SMALL_SLAM)
            else s + (if vul then GAME_VUL else GAME)
          else s) p, .next) := by
  have e6 : ((6 : Int) ≤ bidLevel b) = (6 ≤ bidLevel b) := propext (by omega)
  have e7 : ((bidLevel b : Int) = 7) = (bidLevel b = 7) := propext (by omega)
  simp +decide [attr_level_ext hQ b, beq_int, e6, e7, glob_ext hQ n__GAME (.int GAME), glob_ext hQ n__GAME_VUL (.int GAME_VUL),
    glob_ext hQ n__SMALL_SLAM (.int SMALL_SLAM), glob_ext hQ n__SMALL_SLAM_VUL (.int SMALL_SLAM_VUL),
    glob_ext hQ n__GRAND_SLAM (.int GRAND_SLAM), glob_ext hQ n__GRAND_SLAM_VUL (.int GRAND_SLAM_VUL)]
  by_cases h1 : 100 ≤ s
  · by_cases h6 : 6 ≤ bidLevel b
    · by_cases h7 : bidLevel b = 7 <;> simp [h1, h6, h7]
    · simp [h1, h6]
  · simp [h1]

/-- `score += _MAKE`, the insult bonuses, the overtricks, `return score` -/
theorem made_rest_run :
    execF (mkRec Q (f + 20)) Q (cbsEnvM b x xx vul t o s p) (cbsParts.2.2.drop 4)
      = let r : Int × Int :=
          if x || xx then
            if xx then (s + MAKE + MAKE_X + MAKE_XX, if vul then OVERTRICK_XX_VUL else OVERTRICK_XX)
            else (s + MAKE + MAKE_X, if vul then OVERTRICK_X_VUL else OVERTRICK_X)
          else (s + MAKE, p)
        .ok (cbsEnvM b x xx vul t o (r.1 + r.2 * o) r.2, .ret (.int (r.1 + r.2 * o))) := by
  simp +decide [glob_ext hQ n__MAKE (.int MAKE), glob_ext hQ n__MAKE_X (.int MAKE_X), glob_ext hQ n__MAKE_XX (.int MAKE_XX),
    glob_ext hQ n__OVERTRICK_X (.int OVERTRICK_X), glob_ext hQ n__OVERTRICK_X_VUL (.int OVERTRICK_X_VUL),
    glob_ext hQ n__OVERTRICK_XX (.int OVERTRICK_XX), glob_ext hQ n__OVERTRICK_XX_VUL (.int OVERTRICK_XX_VUL)]
  cases x <;> cases xx <;> rfl

omit o s p in
theorem made_run (h : ¬ t < bidLevel b + 6) : ∃ o s p,
    execF (mkRec Q (f + 20)) Q (cbsEnv b x xx vul t) cbsParts.2.2
      = .ok (cbsEnvM b x xx vul t o s p, .ret (.int (calcBidScore b x xx vul t))) := by
  refine ⟨?_, ?_, ?_, ?e⟩
  case e =>
    rw [show cbsParts.2.2 = cbsParts.2.2.take 2 ++ ((cbsParts.2.2.drop 2).take 1 ++ ((cbsParts.2.2.drop 3).take 1
        ++ cbsParts.2.2.drop 4)) from rfl,
      execF_append _ _ _ _ _ _ (made_base_run hQ b f x xx vul t h),
      execF_append _ _ _ _ _ _ (made_mult_run b f x xx vul t _ _ _),
      execF_append _ _ _ _ _ _ (made_bonus_run hQ b f x xx vul t _ _ _), made_rest_run hQ b f x xx vul t]
    simp only [calcBidScore, if_neg (show ¬ bidLevel b + 6 > t from h)]
    rfl
end body

/-- THE TRANSLATED `calc_bid_score`, run in any program that extends `PB` with 23 levels of fuel or more, returns what the
model `calcBidScore` computes, for every bid, doubling, vulnerability and number of tricks -/
theorem calc_bid_score_call {Q : Program} (hQ : PB.Ext Q) (b : Fin 35) (x xx vul : Bool) (t f : Nat) :
    (mkRec Q (f + 23)).call f_calc_bid_score [encBid b, .bool x, .bool xx, .bool vul, .int t]
      = .ok (.int (calcBidScore b x xx vul t), encBid b) := by
  have hb : ∃ env', lookup env' n_bid = some (encBid b) ∧
      (mkRec Q (f + 22)).exec (cbsEnv b x xx vul t) f_calc_bid_score.body
        = .ok (env', .ret (.int (calcBidScore b x xx vul t))) := by
    rw [cs_exec, show f_calc_bid_score.body = f_calc_bid_score.body.take 3 ++ [.ite cbsParts.1 cbsParts.2.1 cbsParts.2.2]
      from rfl, execF_append _ _ _ _ _ _ (guards_run hQ b (f + 1) x xx vul t)]
    simp only [execF, execStmtF, cond_run hQ b (f + 1) x xx vul t, truthy, cs_exec, bind, Except.bind, decide_eq_true_eq]
    by_cases h : t < bidLevel b + 6
    · exact ⟨_, rfl, by rw [if_pos h, down_run hQ b f x xx vul t h]; rfl⟩
    · obtain ⟨o, s, p, hm⟩ := made_run hQ b f x xx vul t h
      exact ⟨_, rfl, by rw [if_neg h, hm]; rfl⟩
  obtain ⟨env', hl, he⟩ := hb
  rw [cs_call, callF, show bindParams f_calc_bid_score.params f_calc_bid_score.defaults _ = some (cbsEnv b x xx vul t) from rfl]
  simp only [he, bind, Except.bind, pure, Except.pure]
  rw [show f_calc_bid_score.params = [n_bid, n_x, n_xx, n_vul, n_taken_trick_num] from rfl]
  simp only [hl, Option.getD_some]

/-- … hence, by `C07.table_fin`, the duplicate scoring law for 0..13 tricks: in EVERY PROGRAM THAT EXTENDS `PB` (in
particular the whole translated program, Translated/EncExtend.lean) with any fuel from 80 up -/
theorem calc_bid_score_extend {Q : Program} (hQ : PB.Ext Q) (b : Fin 35) (x xx vul : Bool) (t : Nat) (ht : t ≤ 13)
    (f : Nat) (hf : 80 ≤ f) :
    ∃ self', callFn Q f f_calc_bid_score [encBid b, .bool x, .bool xx, .bool vul, .int t]
      = .ok (.int (dupScore (bidLevel b) (bidDenom b) (status x xx) vul t), self') := by
  obtain ⟨g, rfl⟩ : ∃ g, f = g + 23 := ⟨f - 23, by omega⟩
  exact ⟨_, (calc_bid_score_call hQ b x xx vul t g).trans (by rw [C07.table_fin b x xx vul ⟨t, by omega⟩]; rfl)⟩

/-- … in `PB` itself: this is the form used where `calc_bid_score` is called from inside another translated function -/
theorem calc_bid_score_any_fuel (b : Fin 35) (x xx vul : Bool) (t : Nat) (ht : t ≤ 13) (f : Nat) (hf : 80 ≤ f) :
    ∃ self', callFn PB f f_calc_bid_score [encBid b, .bool x, .bool xx, .bool vul, .int t]
      = .ok (.int (dupScore (bidLevel b) (bidDenom b) (status x xx) vul t), self') :=
  calc_bid_score_extend (.refl PB) b x xx vul t ht f hf

/-- THE TRANSLATED `calc_bid_score` is the duplicate scoring law on its whole domain
(35 bids × doubled / redoubled flags × vulnerability × 0..13 tricks) -/
theorem calc_bid_score_translated_is_law (b : Fin 35) (x xx vul : Bool) (t : Nat) (ht : t ≤ 13) :
    (fn n_calc_bid_score [encBid b, .bool x, .bool xx, .bool vul, .int t]).int?
      = some (dupScore (bidLevel b) (bidDenom b) (status x xx) vul t) := by
  obtain ⟨s', h⟩ := calc_bid_score_any_fuel b x xx vul t ht topFuel (by decide)
  have hf : findFunc PB.funcs n_calc_bid_score = some f_calc_bid_score := rfl
  simp only [fn, Program.runFn, hf, h, Except.map, R.int?]

/-- the translated function and the hand-written model of it agree on the whole domain -/
theorem calc_bid_score_translated_is_model (b : Fin 35) (x xx vul : Bool) (t : Nat) (ht : t ≤ 13) :
    (fn n_calc_bid_score [encBid b, .bool x, .bool xx, .bool vul, .int t]).int? = some (calcBidScore b x xx vul t) := by
  rw [calc_bid_score_translated_is_law b x xx vul t ht]
  exact congrArg some (C07.table_fin b x xx vul ⟨t, by omega⟩).symm

/-- Pass, X and XX are refused with `ValueError`, whatever the other arguments -/
theorem calc_bid_score_translated_rejects_non_bids : ∀ v : Fin 3, ∀ x xx vul : Bool, ∀ t : Fin 14,
    (fn n_calc_bid_score [.enum n_Bid (36 + v.val), .bool x, .bool xx, .bool vul, .int t.val]).exc? = some K.ValueError := by
  decide +kernel

/-! sanity: 4♠ vulnerable making 10 = 620; 7NT XX vul made = 2980 -/
example : (fn n_calc_bid_score [encBid ⟨18, by omega⟩, .bool false, .bool false, .bool true, .int 10]).int? = some 620 := by
  decide +kernel
example : (fn n_calc_bid_score [encBid ⟨34, by omega⟩, .bool true, .bool true, .bool true, .int 13]).int? = some 2980 := by
  decide +kernel

end Bridge.Translated
