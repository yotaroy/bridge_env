import BridgeVerif.Translated.AuctionLemmasC
import BridgeVerif.Translated.ContractMethods
import BridgeVerif.Translated.EncExtend
/-! Translated `BiddingPhase` = model: `take_bid` — the guards (has_done / assertion / illegal call), the branch for each
kind of call, the common tail (both histories, next player, the X / XX slots) -/
namespace Bridge.Translated
open Bridge Bridge.Py Bridge.Generated.PyCore

theorem getAttr_suit (f : Nat) (i : Fin 35) :
    getAttrF (mkRec P (f+12)) P (encBid i) n_suit = .ok (encSuit (bidDenom i)) :=
  attr_bid_suit PB_ext_P _ (Nat.le_add_left 12 f) i

/-- statements 1-3 when the auction is over: `raise Exception` -/
theorem tb_head_none (f : Nat) (s : AState) (c : Call) (h : s.active = none) (rest : List Stmt) :
    execF (mkRec P (f+30)) P (envOf s c) (tbHead ++ rest) = .error (.exc K.Exception) := by
  obtain ⟨dealer, vul, active, lastBidder, lastBid, calledX, calledXX, history, perSeat, declCheck, avail⟩ := s
  simp only at h; subst h
  simp only [tbHead, m_BiddingPhase_take_bid, List.take, List.cons_append, envOf, encState]
  pysimp [↓has_done_obj]

/-- statements 1-3 when a player is to call: the illegal-call exit, or on to the rest -/
theorem tb_head_some (f : Nat) (s : AState) (c : Call) (p : Seat) (h : s.active = some p) (rest : List Stmt) :
    execF (mkRec P (f+30)) P (envOf s c) (tbHead ++ rest) =
      if s.avail c = false then .ok (envOf s c, .ret (encRes .illegal)) else execF (mkRec P (f+30)) P (envOf s c) rest := by
  obtain ⟨dealer, vul, active, lastBidder, lastBid, calledX, calledXX, history, perSeat, declCheck, avail⟩ := s
  simp only at h; subst h
  simp only [tbHead, m_BiddingPhase_take_bid, List.take, List.cons_append, List.nil_append, envOf, encState]
  rcases Bool.eq_false_or_eq_true (avail c) with ha | ha <;>
  pysimp [↓has_done_obj, beq_encSeat_none, getAttr_idx, index_avail, beq_slot_zero, ha, encRes]

theorem tb_kind_dbl (f : Nat) (s : AState) :
    execStmtF (mkRec P (f+30)) P (envOf s .dbl) tbKind = .ok (envOf { s with calledX := true } .dbl, .next) := by
  simp only [tbKind, m_BiddingPhase_take_bid, List.getD_cons_succ, List.getD_cons_zero, envOf, encState]
  pysimp [beq_encCall_pass, beq_encCall_dbl, beq_encCall_rdbl]

theorem tb_kind_rdbl (f : Nat) (s : AState) :
    execStmtF (mkRec P (f+30)) P (envOf s .rdbl) tbKind = .ok (envOf { s with calledXX := true } .rdbl, .next) := by
  simp only [tbKind, m_BiddingPhase_take_bid, List.getD_cons_succ, List.getD_cons_zero, envOf, encState]
  pysimp [beq_encCall_pass, beq_encCall_dbl, beq_encCall_rdbl]

theorem tb_kind_bid (f : Nat) (s : AState) (p : Seat) (i : Fin 35) (h : s.active = some p) :
    execStmtF (mkRec P (f+30)) P (envOf s (.bid i)) tbKind = .ok (envOf (bidState s p i) (.bid i), .next) := by
  obtain ⟨dealer, vul, active, lastBidder, lastBid, calledX, calledXX, history, perSeat, declCheck, avail⟩ := s
  simp only at h; subst h
  simp only [tbKind, m_BiddingPhase_take_bid, List.getD_cons_succ, List.getD_cons_zero, envOf, encState, bidState]
  have key : (fun sd su => if sd = p.side ∧ su = bidDenom i ∧ declCheck sd su = none then some p else declCheck sd su)
      = match declCheck p.side (bidDenom i) with
        | none => fun sd' => if sd' = p.side then fun su' => if su' = bidDenom i then some p else declCheck p.side su'
            else declCheck sd'
        | some _ => declCheck := by
    funext sd su
    by_cases h1 : sd = p.side
    · subst h1
      by_cases h2 : su = bidDenom i
      · subst h2; cases hd : declCheck p.side (bidDenom i) <;> simp [hd]
      · cases declCheck p.side (bidDenom i) <;> simp [h2]
    · cases declCheck p.side (bidDenom i) <;> simp [h1]
  rw [key]
  cases hd : declCheck p.side (bidDenom i) <;>
  pysimp [beq_encBid_pass, beq_encBid_dbl, beq_encBid_rdbl, encCall_bid, getAttr_suit, getAttr_idx_bid, beq_encSuit_none,
    getAttr_pair, lookup_declKvs, lookup_declRow, update_declRow, update_declKvs, hd, beq_encSeat_none, fillSlice_avail]
  all_goals rfl

theorem tb_kind_pass_fin (f : Nat) (s : AState) (p : Seat) (h : s.active = some p)
    (hc : 3 ≤ s.history.length ∧ s.history.head? = some .pass ∧ s.history.tail.head? = some .pass) :
    execStmtF (mkRec P (f+30)) P (envOf s .pass) tbKind =
      .ok (envOf { s with history := .pass :: s.history,
                          perSeat := fun q => if q = p then .pass :: s.perSeat q else s.perSeat q,
                          active := none } .pass, .ret (encRes .finished)) := by
  obtain ⟨dealer, vul, active, lastBidder, lastBid, calledX, calledXX, history, perSeat, declCheck, avail⟩ := s
  simp only at h; subst h
  simp only at hc
  obtain ⟨h3, h1, h2⟩ := hc
  match history, h3, h1, h2 with
  | c1 :: c2 :: c3 :: rest, _, h1, h2 =>
    simp only [List.head?, List.tail, Option.some.injEq] at h1 h2
    subst h1; subst h2
    simp only [tbKind, m_BiddingPhase_take_bid, List.getD_cons_succ, List.getD_cons_zero, envOf, encState, encRes]
    have e : 3 ≤ rest.length + 1 + 1 + 1 := by omega
    pysimp [beq_encCall_pass, hist_len, hist_last, hist_last2, compare_len_ge3, lookup_perSeat, update_perSeat, e]
    simp only [List.reverse_cons, List.map_append, List.map_cons, List.map_nil]


theorem tb_kind_pass_go (f : Nat) (s : AState)
    (hc : ¬ (3 ≤ s.history.length ∧ s.history.head? = some .pass ∧ s.history.tail.head? = some .pass)) :
    execStmtF (mkRec P (f+30)) P (envOf s .pass) tbKind = .ok (envOf s .pass, .next) := by
  obtain ⟨dealer, vul, active, lastBidder, lastBid, calledX, calledXX, history, perSeat, declCheck, avail⟩ := s
  simp only at hc
  simp only [tbKind, m_BiddingPhase_take_bid, List.getD_cons_succ, List.getD_cons_zero, envOf, encState]
  by_cases h3 : 3 ≤ history.length
  · match history, h3, hc with
    | c1 :: c2 :: c3 :: rest, _, hc =>
      have e : 3 ≤ rest.length + 1 + 1 + 1 := by omega
      by_cases e1 : c1 = .pass
      · have e2 : c2 ≠ .pass := by
          intro h; apply hc; simp [e1, h]
        subst e1
        pysimp [beq_encCall_pass, hist_len, hist_last, hist_last2, compare_len_ge3, e, e2, decide_false, decide_true]
      · pysimp [beq_encCall_pass, hist_len, hist_last, hist_last2, compare_len_ge3, e, e1, decide_false, decide_true]
  · have e : decide (3 ≤ history.length) = false := by simp [h3]
    pysimp [beq_encCall_pass, hist_len, compare_len_ge3, e]

theorem tb_tail (f : Nat) (s : AState) (c : Call) (p : Seat) (h : s.active = some p) :
    execF (mkRec P (f+30)) P (envOf s c) tbTail = .ok (envOf (advance s p c) c, .ret (encRes .ongoing)) := by
  obtain ⟨dealer, vul, active, lastBidder, lastBid, calledX, calledXX, history, perSeat, declCheck, avail⟩ := s
  simp only at h; subst h
  simp only [tbTail, m_BiddingPhase_take_bid, List.drop, envOf, encState, advance, encRes]
  cases lastBidder with
  | none =>
    pysimp [lookup_perSeat, update_perSeat, getAttr_next, List.reverse_cons, List.map_append, List.map_cons, List.map_nil]
  | some lb =>
    pysimp [lookup_perSeat, update_perSeat, getAttr_next, List.reverse_cons, List.map_append, List.map_cons, List.map_nil,
      is_partner_meth, beq_encSeat_none]
    cases hp : p.left.isPartner lb <;> cases calledX <;> cases calledXX <;>
    pysimp [lookup_perSeat, update_perSeat, getAttr_next, List.reverse_cons, List.map_append, List.map_cons, List.map_nil,
      is_partner_meth, hp, getAttr_Bid_idx, replaceAt_dbl_0, replaceAt_dbl_1, replaceAt_rdbl_0, replaceAt_rdbl_1,
      beq_encSeat_none]
    all_goals (congr; funext k; cases k <;> simp)

end Bridge.Translated
