import BridgeVerif.Translated.Hands
import BridgeVerif.Model.JsonLog
import BridgeVerif.Lemmas.MiniPyFuel
import BridgeVerif.Translated.ContractMethods
import BridgeVerif.Translated.EncExtend
/-! Translated JSON parser (parser.py) = model: the notation readers on ARBITRARY strings, at any sufficient fuel: `Card.str_to_card`,
`Card.rank_str_to_int`, `Bid.str_to_bid`, `Vul.str_to_vul` return the encoding of what the model (`strToCard?`, `strToCall?`,
`strToVul?`) reads (only this direction: where the model answers `none` nothing is claimed); `C[name]` for the Enum classes -/
namespace Bridge.Translated
open Bridge Bridge.Py Bridge.Generated.PyCore

theorem jp_mth_rank_str_to_int : P.method? classDepth n_Card n_rank_str_to_int = some (n_Card, m_Card_rank_str_to_int) := rfl
theorem jp_mth_str_to_card : P.method? classDepth n_Card n_str_to_card = some (n_Card, m_Card_str_to_card) := rfl

theorem jp_digit_parse (b : Char) (r : Nat) (h : digitVal? b = some r) : parseInt? [b] = some (r : Int) := by
  unfold digitVal? at h
  split at h
  · rename_i hd
    cases h
    have h1 : b ≠ '-' := by rintro rfl; exact absurd hd (by decide)
    have h2 : b ≠ '+' := by rintro rfl; exact absurd hd (by decide)
    have hdig : b.isDigit = true := by
      obtain ⟨ha, hb⟩ := hd
      simp only [Char.isDigit, Bool.and_eq_true, decide_eq_true_eq]
      exact ⟨ha, hb⟩
    unfold parseInt?
    split
    · rename_i heq; cases heq; exact absurd rfl h1
    · rename_i heq; cases heq; exact absurd rfl h2
    · simp [parseNat?, hdig]
  · cases h

theorem jp_rankOfChar_cases (b : Char) (r : Nat) (h : rankOfChar? b = some r) :
    (b = 'T' ∧ r = 10) ∨ (b = 'J' ∧ r = 11) ∨ (b = 'Q' ∧ r = 12) ∨ (b = 'K' ∧ r = 13) ∨ (b = 'A' ∧ r = 14) ∨
    (b ≠ 'T' ∧ b ≠ 'J' ∧ b ≠ 'Q' ∧ b ≠ 'K' ∧ b ≠ 'A' ∧ digitVal? b = some r) := by
  unfold rankOfChar? at h
  split at h
  · cases h; simp
  · cases h; simp
  · cases h; simp
  · cases h; simp
  · cases h; simp
  · rename_i h1 h2 h3 h4 h5
    right; right; right; right; right
    exact ⟨fun e => h1 e, fun e => h2 e, fun e => h3 e, fun e => h4 e, fun e => h5 e, h⟩

theorem jp_builtin_int_str (r : Rec) (s : List Char) :
    builtinF r P .int [.str s] = match parseInt? s with
      | some n => .ok (.int n)
      | none => .error (.exc K.ValueError) := rfl

theorem jp_rank_str_to_int_call (f : Nat) (b : Char) (r : Nat) (h : rankOfChar? b = some r) :
    callF (mkRec P (f+10)) m_Card_rank_str_to_int [.cls n_Card, .str [b]] = .ok (.int r, .cls n_Card) := by
  rw [callF_def]
  simp only [m_Card_rank_str_to_int, bindParams, Option.map]
  rcases jp_rankOfChar_cases b r h with ⟨rfl, rfl⟩ | ⟨rfl, rfl⟩ | ⟨rfl, rfl⟩ | ⟨rfl, rfl⟩ | ⟨rfl, rfl⟩ | ⟨h1, h2, h3, h4, h5, hd⟩
  · ppsimp [beq_str]; rfl
  · ppsimp [beq_str]; rfl
  · ppsimp [beq_str]; rfl
  · ppsimp [beq_str]; rfl
  · ppsimp [beq_str]; rfl
  · ppsimp [beq_str, List.cons.injEq, beq_iff_eq, and_true, h1, h2, h3, h4, h5, jp_builtin_int_str, jp_digit_parse b r hd]

theorem jp_strToCard_cases (s : List Char) (c : Card) (h : strToCard? s = some c) :
    ∃ a b, s = [a, b] ∧ suitOfName? [a] = some c.suit ∧ rankOfChar? b = some c.rank ∧ c.ok = true := by
  unfold strToCard? at h
  split at h
  · rename_i a b
    split at h
    · rename_i su r hs hr
      refine ⟨a, b, rfl, ?_⟩
      unfold mkCard? at h
      split at h
      · cases h
      · split at h
        · cases h
        · cases h
          rename_i h1 h2
          refine ⟨hs, hr, ?_⟩
          simp only [Card.ok, Bool.and_eq_true, decide_eq_true_eq]
          exact ⟨by omega, h2⟩
    · cases h
  · cases h

theorem jp_suitOfName_one (a : Char) (su : Suit) (h : suitOfName? [a] = some su) :
    (a = 'C' ∧ su = .C) ∨ (a = 'D' ∧ su = .D) ∨ (a = 'H' ∧ su = .H) ∨ (a = 'S' ∧ su = .S) := by
  unfold suitOfName? at h
  split at h <;> simp_all

theorem jp_len_str (r : Rec) (s : List Char) : builtinF r P .len [.str s] = .ok (.int s.length) := rfl
theorem jp_index_str (r : Rec) (s : List Char) (iv : Val) :
    indexF r P (.str s) iv = match asInt? iv with
      | some n => (match normIndex s.length n with
        | some k => .ok (.str [s.getD k ' '])
        | none => .error (.exc K.IndexError))
      | none => .error (.exc K.TypeError) := rfl

def clsOf (c : Id) : ClassDef := (P.cls? c).getD default
theorem jp_cls_Suit : P.cls? n_Suit = some (clsOf n_Suit) := rfl
theorem jp_cls_Player : P.cls? n_Player = some (clsOf n_Player) := rfl
theorem jp_cls_Pair : P.cls? n_Pair = some (clsOf n_Pair) := rfl
theorem jp_cls_Vul : P.cls? n_Vul = some (clsOf n_Vul) := rfl
theorem jp_member_suit (s : List Char) (su : Suit) (h : suitOfName? s = some su) :
    memberValue? (clsOf n_Suit) s = some (su.value : Int) := by
  unfold suitOfName? at h
  split at h <;> cases h <;> rfl
theorem jp_member_seat (s : List Char) (p : Seat) (h : seatOfName? s = some p) :
    memberValue? (clsOf n_Player) s = some (p.value : Int) := by
  unfold seatOfName? at h
  split at h <;> cases h <;> rfl
theorem jp_member_side (s : List Char) (sd : Side) (h : sideOfName? s = some sd) :
    memberValue? (clsOf n_Pair) s = some (sd.value : Int) := by
  unfold sideOfName? at h
  split at h
  · cases h; subst_vars; rfl
  · split at h
    · cases h; subst_vars; rfl
    · cases h

theorem jp_getD_0 (a : Char) (l : List Char) : (a :: l).getD (Int.toNat 0) ' ' = a := rfl
theorem jp_getD_1 (a b : Char) (l : List Char) : (a :: b :: l).getD (Int.toNat 1) ' ' = b := rfl

theorem jp_str_to_card_call (f : Nat) (s : List Char) (c : Card) (h : strToCard? s = some c) :
    callF (mkRec P (f+14)) m_Card_str_to_card [.cls n_Card, .str s] = .ok (encCard c, .cls n_Card) := by
  obtain ⟨a, b, rfl, hs, hr, hok⟩ := jp_strToCard_cases s c h
  rw [callF_def]
  simp only [m_Card_str_to_card, bindParams, Option.map]
  obtain ⟨r, su⟩ := c
  simp only at hs hr
  ppsimp [jp_len_str, jp_index_str, normIndex, beq_int, jp_mth_rank_str_to_int, jp_rank_str_to_int_call _ _ _ hr,
      jp_getD_0, jp_getD_1, jp_cls_Suit, jp_member_suit _ _ hs]
  have hc := hd_construct_card (f+3) ⟨r, su⟩ hok
  simp only [encSuit] at hc
  ppsimp [hc]

/-- the texts `Vul.str_to_vul` accepts, with what it returns -/
def vulTexts : List (List Char × Vul) :=
  [("None".toList, .none), ("Love".toList, .none), (['-'], .none), ("Both".toList, .both), ("All".toList, .both),
   ("NS".toList, .ns), ("EW".toList, .ew), ("NONE".toList, .none), ("BOTH".toList, .both)]

theorem jp_ite_some {α} {c : Prop} [Decidable c] {a v : α} {e : Option α} (h : (if c then some a else e) = some v) :
    (c ∧ a = v) ∨ (¬ c ∧ e = some v) := by
  by_cases hc : c
  · rw [if_pos hc] at h; exact .inl ⟨hc, Option.some.inj h⟩
  · rw [if_neg hc] at h; exact .inr ⟨hc, h⟩

theorem jp_strToVul_dom (s : List Char) (v : Vul) (h : strToVul? s = some v) : (s, v) ∈ vulTexts := by
  unfold strToVul? at h
  rcases jp_ite_some h with ⟨hc, rfl⟩ | ⟨-, h⟩
  · rcases hc with rfl | rfl | rfl <;> decide
  rcases jp_ite_some h with ⟨hc, rfl⟩ | ⟨-, h⟩
  · rcases hc with rfl | rfl <;> decide
  rcases jp_ite_some h with ⟨rfl, rfl⟩ | ⟨-, h⟩
  · decide
  rcases jp_ite_some h with ⟨rfl, rfl⟩ | ⟨-, h⟩
  · decide
  rcases jp_ite_some h with ⟨rfl, rfl⟩ | ⟨-, h⟩
  · decide
  rcases jp_ite_some h with ⟨rfl, rfl⟩ | ⟨-, h⟩
  · decide
  cases h

theorem jp_mth_str_to_vul : P.method? classDepth n_Vul n_str_to_vul = some (n_Vul, m_Vul_str_to_vul) := rfl

def enumIs (r : R (Val × Val)) (c : Id) (n : Int) : Bool :=
  match r with
  | .ok (.enum c' n', .cls c'') => c' == c && n' == n && c'' == c
  | _ => false

theorem jp_str_to_vul_at_11 :
    ∀ sv ∈ vulTexts, enumIs (callFn P 11 m_Vul_str_to_vul [.cls n_Vul, .str sv.1]) n_Vul sv.2.value = true := by
  decide +kernel

/-- kernel evaluation on the nine texts at a fixed fuel, moved to any larger fuel by `callFn_fuel_mono` -/
theorem jp_str_to_vul_call (f : Nat) (s : List Char) (v : Vul) (h : strToVul? s = some v) :
    callF (mkRec P (f+10)) m_Vul_str_to_vul [.cls n_Vul, .str s] = .ok (encVul v, .cls n_Vul) := by
  have h11 := jp_str_to_vul_at_11 (s, v) (jp_strToVul_dom s v h)
  cases hr : callFn P 11 m_Vul_str_to_vul [.cls n_Vul, .str s] with
  | error e => simp [hr, enumIs] at h11
  | ok p =>
    obtain ⟨r, c⟩ := p
    cases r <;> cases c <;> simp [hr, enumIs] at h11
    obtain ⟨⟨rfl, rfl⟩, rfl⟩ := h11
    exact callFn_fuel_mono P (show 11 ≤ f + 11 by omega) _ _ _ hr (by simp)

theorem jp_mth_contract_post : P.method? classDepth n_Contract K.postInit = some (n_Contract, m_Contract___post_init__) := rfl
theorem jp_mth_str_to_contract :
    P.method? classDepth n_Contract n_str_to_contract = some (n_Contract, m_Contract_str_to_contract) := rfl
theorem jp_mth_str_to_bid : P.method? classDepth n_Bid n_str_to_bid = some (n_Bid, m_Bid_str_to_bid) := rfl

end Bridge.Translated
