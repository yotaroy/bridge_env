import BridgeVerif.Translated.PlayLemmasG
/-! Translated playing phases = model: `ObservedPlayingPhase` -/
namespace Bridge.Translated
open Bridge Bridge.Py Bridge.Generated.PyCore

theorem beq_tuple_none (xs : List Val) : (Val.tuple xs).beq .none = false := by simp only [Val.beq]

/-- the attributes `ObservedPlayingPhase.__init__` adds -/
def obsEx (me : Seat) (hand : List Card) (dh : Option (List Card)) : List (Id × Val) :=
  [(n__player, encSeat me), (n__hand, encCards hand), (n__dummy_hand, encOpt encCards dh)]

theorem encObserved_eq (c : Contract) (o : Observed) :
    encObserved c o = ppObj n_ObservedPlayingPhase c o.base (obsEx o.me o.hand o.dummyHand) := rfl

theorem observed_play_call (f : Nat) (c : Contract) (o : Observed) (card : Card) (p : Seat) (hwf : WF o.base) :
    callF (mkRec P (f+60)) m_ObservedPlayingPhase_play_card_by_player [encObserved c o, encCard card, encSeat p]
      = match o.play card p with
        | .error .dummyNotSet => .error (.exc K.Exception)
        | .error _ => .error (.exc K.ValueError)
        | .ok o' => .ok (.none, encObserved c o') := by
  rw [callF_def]
  simp only [m_ObservedPlayingPhase_play_card_by_player, bindParams, Option.map]
  obtain ⟨s, me, hand, dh⟩ := o
  simp only at hwf
  have h1 := check_active_call (f+48) n_ObservedPlayingPhase (obsEx me hand dh) c s p
  simp only [encObserved, obsEx, ppObj, baseFields, List.cons_append, List.nil_append, encCards] at h1 ⊢
  by_cases h : p = s.active
  · subst h
    simp only [ne_eq, not_true_eq_false, if_false] at h1
    by_cases hme : s.active = me
    · by_cases hm : card ∈ hand
      · have h2 := play_card_call (f+8) n_ObservedPlayingPhase ppclass_observed (obsEx me (hand.erase card) dh) c s card
          (fun _ => hwf)
        simp only [obsEx, ppObj, baseFields, List.cons_append, List.nil_append, encCards] at h2
        ppsimp [mth_pp_check_active, mth_pp_play_card, mth_pp_check_has, h1, if_pos hme, check_has_call, hm,
          removeFirst_encCard, h2, Observed.play]
      · ppsimp [mth_pp_check_active, mth_pp_play_card, mth_pp_check_has, h1, if_pos hme, check_has_call, hm,
          Observed.play]
    · by_cases hdu : s.active = s.dummy
      · cases dh with
        | none =>
          simp only [encOpt] at h1
          ppsimp [mth_pp_check_active, mth_pp_play_card, mth_pp_check_has, h1, if_neg hme, if_pos hdu, Observed.play]
        | some dl =>
          simp only [encOpt, encCards] at h1
          by_cases hm : card ∈ dl
          · have h2 := play_card_call (f+8) n_ObservedPlayingPhase ppclass_observed
              (obsEx me hand (some (dl.erase card))) c s card (fun _ => hwf)
            simp only [obsEx, ppObj, baseFields, List.cons_append, List.nil_append, encCards, encOpt] at h2
            ppsimp [mth_pp_check_active, mth_pp_play_card, mth_pp_check_has, h1, if_neg hme, if_pos hdu, check_has_call,
              hm, removeFirst_encCard, beq_tuple_none, encCards, h2, Observed.play]
          · ppsimp [mth_pp_check_active, mth_pp_play_card, mth_pp_check_has, h1, if_neg hme, if_pos hdu, check_has_call,
              hm, beq_tuple_none, encCards, Observed.play]
      · have h2 := play_card_call (f+8) n_ObservedPlayingPhase ppclass_observed (obsEx me hand dh) c s card (fun _ => hwf)
        simp only [obsEx, ppObj, baseFields, List.cons_append, List.nil_append, encCards] at h2
        ppsimp [mth_pp_check_active, mth_pp_play_card, mth_pp_check_has, h1, if_neg hme, if_neg hdu, h2, Observed.play]
  · simp only [ne_eq, h, not_false_eq_true, if_true] at h1
    ppsimp [mth_pp_check_active, mth_pp_play_card, h1, Observed.play, h]

theorem set_dummy_call (f : Nat) (c : Contract) (o : Observed) (dl : List Card) :
    callF (mkRec P (f+10)) m_ObservedPlayingPhase_set_dummy_hand [encObserved c o, encCards dl]
      = .ok (.none, encObserved c (o.setDummy dl)) := by
  rw [callF_def]
  simp only [m_ObservedPlayingPhase_set_dummy_hand, bindParams, Option.map, encObserved, baseFields, Observed.setDummy]
  ppsimp []

theorem observed_init_call (f : Nat) (c : Contract) (me : Seat) (hand : List Card) :
    callF (mkRec P (f+50)) m_ObservedPlayingPhase___init__
        [.obj n_ObservedPlayingPhase [], encContract c, encSeat me, encCards hand] =
      match c.finalBid, c.declarer with
      | none, _ => .error (.exc K.Exception)
      | some _, none => .error (.exc K.AssertionError)
      | some b, some d => .ok (.none, encObserved c ⟨initState b d, me, hand, none⟩) := by
  rw [callF_def]
  simp only [m_ObservedPlayingPhase___init__, bindParams, Option.map]
  have h := init_call (f+8) n_ObservedPlayingPhase c
  cases hb : c.finalBid with
  | none =>
    simp only [hb] at h
    ppsimp [mth_pp_init, h]
  | some b =>
    cases hd : c.declarer with
    | none =>
      simp only [hb, hd] at h
      ppsimp [mth_pp_init, h]
    | some d =>
      simp only [hb, hd] at h
      ppsimp [mth_pp_init, h, ppObj, baseFields, encObserved]

theorem observed_available_call (f : Nat) (c : Contract) (o : Observed) :
    callF (mkRec P (f+30)) m_ObservedPlayingPhase_current_available_cards_in_hand [encObserved c o]
      = .ok (encCards (o.base.currentAvailable o.hand), encObserved c o) := by
  rw [callF_def]
  simp only [m_ObservedPlayingPhase_current_available_cards_in_hand, bindParams, Option.map]
  obtain ⟨s, me, hand, dh⟩ := o
  have h1 := current_available_call (f+7) n_ObservedPlayingPhase (obsEx me hand dh) c s hand
  simp only [encObserved, obsEx, ppObj, baseFields, List.cons_append, List.nil_append] at h1 ⊢
  ppsimp [mth_pp_current_available, h1]

theorem observed_available_dummy_call (f : Nat) (c : Contract) (o : Observed) :
    callF (mkRec P (f+30)) m_ObservedPlayingPhase_current_available_cards_in_dummy_hand [encObserved c o]
      = match o.dummyHand with
        | none => .error (.exc K.Exception)
        | some dl => .ok (encCards (o.base.currentAvailable dl), encObserved c o) := by
  rw [callF_def]
  simp only [m_ObservedPlayingPhase_current_available_cards_in_dummy_hand, bindParams, Option.map]
  obtain ⟨s, me, hand, dh⟩ := o
  cases dh with
  | none =>
    simp only [encObserved, baseFields, List.cons_append, List.nil_append]
    ppsimp []
  | some dl =>
    have h1 := current_available_call (f+7) n_ObservedPlayingPhase (obsEx me hand (some dl)) c s dl
    simp only [encObserved, obsEx, ppObj, baseFields, List.cons_append, List.nil_append, encOpt] at h1 ⊢
    ppsimp [mth_pp_current_available, beq_encCards_none, h1]

end Bridge.Translated
