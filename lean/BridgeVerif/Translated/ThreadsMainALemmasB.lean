import BridgeVerif.Translated.ThreadsMainALemmas
/-! Translated `MainThread.bidding_phase`: the calls on the `BiddingPhase` / `Contract` objects (from Translated/Auction*.lean), the
rendering of the model's actions, one turn of the `while not bidding_env.has_done()` loop statement by statement (the call
accepted, refused, or its text unparseable), what precedes and follows the loop -/
namespace Bridge.Translated.MainA

section
open Bridge Bridge.Py Bridge.Generated.PyCore

/-! ## `BiddingPhase(dealer, vul)`, `take_bid`, `contract`, `active_player`, `bid_history` -/
theorem mt_take_bid_meth (f : Nat) (s : AState) (c : Call) :
    methF (mkRec P (f+32)) P (encState s) n_take_bid [encCall c] =
      match takeBid s c with
      | .error () => .error (.exc K.Exception)
      | .ok (s', r) => .ok (encRes r, encState s') := by
  have e : methF (mkRec P (f+32)) P (encState s) n_take_bid [encCall c]
      = callF (mkRec P (f+31)) m_BiddingPhase_take_bid [encState s, encCall c] := rfl
  exact e.trans (take_bid_call f s c)

theorem mt_mth_active_player :
    P.method? classDepth n_BiddingPhase n_active_player = some (n_BiddingPhase, m_BiddingPhase_active_player) := rfl
theorem mt_getAttr_active (f : Nat) (s : AState) :
    getAttrF (mkRec P (f+7)) P (encState s) n_active_player = .ok (encOpt encSeat s.active) := by
  have e : getAttrF (mkRec P (f+7)) P (encState s) n_active_player
      = (callF (mkRec P (f+6)) m_BiddingPhase_active_player [encState s] >>= fun x => .ok x.1) := rfl
  rw [e, callF_def]
  simp only [m_BiddingPhase_active_player, bindParams, Option.map, encState]
  ppsimp []
theorem mt_getAttr_bid_history (f : Nat) (s : AState) :
    getAttrF (mkRec P (f+7)) P (encState s) n_bid_history = .ok (.tuple (s.history.reverse.map encCall)) := by
  have e : getAttrF (mkRec P (f+7)) P (encState s) n_bid_history
      = (callF (mkRec P (f+6)) m_BiddingPhase_bid_history [encState s] >>= fun x => .ok x.1) := rfl
  rw [e, callF_def]
  simp only [m_BiddingPhase_bid_history, bindParams, Option.map, encState]
  ppsimp []

theorem mt_contract_meth (f : Nat) (s : AState) (h : s.contract.isSome ∨ s.active.isSome) :
    methF (mkRec P (f+41)) P (encState s) n_contract [] = .ok (encOpt encContract s.contract, encState s) := by
  have e : methF (mkRec P (f+41)) P (encState s) n_contract []
      = callF (mkRec P (f+40)) m_BiddingPhase_contract [encState s] := rfl
  rw [e, contract_call f s h]

theorem mt_ipo_meth (f : Nat) (c : Contract) :
    methF (mkRec P (f+11)) P (encContract c) n_is_passed_out [] = .ok (.bool c.isPassedOut, encContract c) := by
  have e : methF (mkRec P (f+11)) P (encContract c) n_is_passed_out []
      = callF (mkRec P (f+10)) m_Contract_is_passed_out [encContract c] := rfl
  rw [e, jw_contract_ipo_call]

theorem mt_beq_encContract_none (c : Contract) : (encContract c).beq .none = false := by
  simp only [encContract, Val.beq]
theorem mt_beq_encRes_illegal (r : Res) :
    (encRes r).beq (.enum n_BiddingPhaseState (-1)) = decide (r = .illegal) := by
  cases r <;> simp [encRes, Val.beq]

theorem mt_mth_parse_bid :
    P.method? classDepth n_MessageInterface n_parse_bid = some (n_MessageInterface, m_MessageInterface_parse_bid) := rfl
theorem mt_mth_remove_alert :
    P.method? classDepth n_Server n_remove_alert_word = some (n_Server, m_Server_remove_alert_word) := rfl
theorem mt_lower (r : Rec) (s : List Char) : builtinF r P .lower [.str s] = .ok (.str (s.map lowerC)) := rfl

/-! ## the model's actions as world operations -/
/-- the world operation of `put` on queue `m2t q` -/
def putOp (q : Seat) (m : Str) : Val := .tuple [vstr "put", vstr "m2t", encSeat q, .str m]
def getOp (q : Seat) : Val := .tuple [vstr "get", vstr "t2m", encSeat q]
def syncOp : Val := .tuple [vstr "sync"]

/-- `putAll m` -/
def putAllOps (m : Str) : List Val := [putOp .N m, putOp .E m, putOp .S m, putOp .W m]
/-- `putAllBut a m` -/
def putButOps (a : Seat) (m : Str) : List Val :=
  (if Seat.N = a then [] else [putOp .N m]) ++ (if Seat.E = a then [] else [putOp .E m]) ++
  (if Seat.S = a then [] else [putOp .S m]) ++ (if Seat.W = a then [] else [putOp .W m])

theorem mt_putAll_ops (encRec : BoardRecord → Val) (m : Str) : encMainActs encRec (putAll m) = some (putAllOps m) := rfl
theorem mt_putAllBut_ops (encRec : BoardRecord → Val) (a : Seat) (m : Str) :
    encMainActs encRec (putAllBut a m) = some (putButOps a m) := by
  cases a <;> rfl
theorem mt_recv_ops (encRec : BoardRecord → Val) (a : Seat) : encMainActs encRec [.recv (.t2m a)] = some [getOp a] := rfl

end

section
open Bridge Bridge.Py Bridge.Generated.PyCore

/-- the main thread object -/
def mtObj (i : Seat → List Str) (out : List Val) (table : Val) (tables : List Val) (more : List (Val × Val)) (bs : Val) : Val :=
  encMainThread (encMainWorld i out table tables more) bs

theorem mtObj_eq (i : Seat → List Str) (out : List Val) (table : Val) (tables : List Val) (more : List (Val × Val)) (bs : Val) :
    mtObj i out table tables more bs = .obj n_MainThread [(n__w, .obj n__World [(n_ins, .dict (mainIns i more)),
      (n_out, .tuple out), (n_table, table), (n_tables, .tuple tables), (n_eof, .bool false)]), (n_board_settings, bs)] := rfl

/-! ## the statements of `bidding_phase` -/
def bpWhile : Stmt := m_MainThread_bidding_phase.body.getD 1 .pass
def bpCond : Expr := match bpWhile with | .while c _ => c | _ => .const .none
def bpBody : List Stmt := match bpWhile with | .while _ b => b | _ => []
def bpRelay : Stmt := bpBody.getD 8 .pass

/-- `put` on main's world, as the symbolic execution meets it -/
theorem mt_main_put (f : Nat) (i : Seat → List Str) (more : List (Val × Val)) (out : List Val) (table : Val) (tables : List Val)
    (p : Seat) (m : Str) :
    callF (mkRec P (f+8)) m__World_w_put [.obj n__World [(n_ins, .dict (mainIns i more)),
      (n_out, .tuple out), (n_table, table), (n_tables, .tuple tables), (n_eof, .bool false)],
      .str ['m', '2', 't'], encSeat p, .str m]
    = .ok (.none, .obj n__World [(n_ins, .dict (mainIns i more)),
      (n_out, .tuple (out ++ [putOp p m])), (n_table, table), (n_tables, .tuple tables), (n_eof, .bool false)]) :=
  SeatB.sb_w_put (f+2) (mainIns i more) out table tables false _ _ _

theorem mt_main_get (f : Nat) (i : Seat → List Str) (more : List (Val × Val)) (out : List Val) (table : Val) (tables : List Val)
    (a : Seat) (msg : Str) (r : List Str) (hi : i a = msg :: r) :
    callF (mkRec P (f+12)) m__World_w_get [.obj n__World [(n_ins, .dict (mainIns i more)),
      (n_out, .tuple out), (n_table, table), (n_tables, .tuple tables), (n_eof, .bool false)],
      .str ['t', '2', 'm'], encSeat a]
    = .ok (.str msg, .obj n__World [(n_ins, .dict (mainIns (fun q => if q = a then r else i q) more)),
      (n_out, .tuple (out ++ [getOp a])), (n_table, table), (n_tables, .tuple tables), (n_eof, .bool false)]) :=
  mt_get_call f i (fun q => if q = a then r else i q) a msg (by simp only [MainIn.get, hi]) out table tables more

theorem mt_main_get_empty (f : Nat) (i : Seat → List Str) (more : List (Val × Val)) (out : List Val) (table : Val)
    (tables : List Val) (a : Seat) (hi : i a = []) :
    callF (mkRec P (f+12)) m__World_w_get [.obj n__World [(n_ins, .dict (mainIns i more)),
      (n_out, .tuple out), (n_table, table), (n_tables, .tuple tables), (n_eof, .bool false)],
      .str ['t', '2', 'm'], encSeat a]
    = .error (.exc n_Blocked) :=
  SeatB.sb_w_get_blocked (f+4) (mainIns i more) out table tables false (vstr "t2m") (encSeat a)
    (by rw [mt_lookup_mainIns, hi]; rfl)

def bpRelayBody : List Stmt := match bpRelay with | .for _ _ b => b | _ => []
theorem bpRelay_eq : bpRelay = .for [n_player] (.const (.cls n_Player)) bpRelayBody := rfl

/-- one seat of the relay loop: the message goes to it unless it is the bidder -/
theorem mt_relay_iter (f : Nat) (i : Seat → List Str) (more : List (Val × Val)) (out : List Val) (table : Val) (tables : List Val)
    (bs dv vv be bv stv : Val) (a p : Seat) (m : Str) :
    execF (mkRec P (f+19)) P
      [(K.self, mtObj i out table tables more bs), (n_dealer, dv), (n_vul, vv), (n_bidding_env, be),
       (n_active_player, encSeat a), (n_player, encSeat p), (n_bid_message, .str m), (n_bid, bv), (n_bidding_phase_state, stv)]
      bpRelayBody
    = .ok ([(K.self, mtObj i (out ++ if p = a then [] else [putOp p m]) table tables more bs), (n_dealer, dv), (n_vul, vv),
       (n_bidding_env, be), (n_active_player, encSeat a), (n_player, encSeat p), (n_bid_message, .str m), (n_bid, bv),
       (n_bidding_phase_state, stv)], .next) := by
  simp only [bpRelayBody, bpRelay, bpBody, bpWhile, m_MainThread_bidding_phase, List.getD_cons_succ, List.getD_cons_zero, mtObj_eq]
  by_cases h : p = a
  · subst h
    ppsimp [SeatB.sb_mth_w_put, mt_main_put, List.append_nil]
  · ppsimp [SeatB.sb_mth_w_put, mt_main_put, h]

/-- the last statement of a turn: the (possibly cleaned) bid message goes to every seat but the bidder -/
theorem mt_relay_stmt (f : Nat) (i : Seat → List Str) (more : List (Val × Val)) (out : List Val) (table : Val) (tables : List Val)
    (bs dv vv be pv bv stv : Val) (a : Seat) (m : Str) :
    execStmtF (mkRec P (f+20)) P
      [(K.self, mtObj i out table tables more bs), (n_dealer, dv), (n_vul, vv), (n_bidding_env, be),
       (n_active_player, encSeat a), (n_player, pv), (n_bid_message, .str m), (n_bid, bv), (n_bidding_phase_state, stv)]
      bpRelay
    = .ok ([(K.self, mtObj i (out ++ putButOps a m) table tables more bs), (n_dealer, dv), (n_vul, vv), (n_bidding_env, be),
       (n_active_player, encSeat a), (n_player, encSeat .W), (n_bid_message, .str m), (n_bid, bv),
       (n_bidding_phase_state, stv)], .next) := by
  have hit := fun o p => mt_relay_iter f i more o table tables bs dv vv be bv stv a p m
  rw [bpRelay_eq]
  simp +decide only [execStmtF, eval_succ, evalF, bind_ok, pure_eq, mt_iter_player, forF, update, exec_succ, hit, ↓reduceIte,
    putButOps, List.append_assoc]

/-- the variables a turn of the loop assigns: absent in the first turn, present afterwards -/
def LoopTail (tail : Env) : Prop :=
  tail = [] ∨ ∃ x1 x2 x3 x4 x5, tail = [(n_active_player, x1), (n_player, x2), (n_bid_message, x3), (n_bid, x4),
    (n_bidding_phase_state, x5)]

/-- `'alert' in msg.lower()` as the interpreter computes it -/
def hasAlert (msg : Str) : Bool := isInfixC ['a', 'l', 'e', 'r', 't'] (msg.map lowerC)

def bpCheck : Stmt := bpBody.getD 7 .pass

def bpPrefix4 : List Stmt := bpBody.take 4
def bpAlert : Stmt := bpBody.getD 4 .pass
def bpParse : Stmt := bpBody.getD 5 .pass
def bpTake : Stmt := bpBody.getD 6 .pass
theorem bpBody_eq : bpBody = bpPrefix4 ++ [bpAlert, bpParse, bpTake, bpCheck, bpRelay] := rfl

theorem update_same : ∀ (env : Env) (x : Id) (v : Val), lookup env x = some v → update env x v = env := by
  intro env
  induction env with
  | nil => intro x v h; cases h
  | cons kv r ih =>
    intro x v h
    obtain ⟨k, w⟩ := kv
    simp only [lookup, update] at h ⊢
    split
    · rename_i hk; rw [if_pos hk] at h; cases h; rfl
    · rename_i hk; rw [if_neg hk] at h; rw [ih x v h]

/-- a turn up to the message received: the bidder's name to every seat, then `get` -/
theorem mt_prefix4 (f : Nat) (i : Seat → List Str) (more : List (Val × Val)) (out : List Val) (table : Val) (tables : List Val)
    (bs dv vv : Val) (s : AState) (a : Seat) (ha : s.active = some a) (msg : Str) (r : List Str) (hi : i a = msg :: r)
    (tail : Env) (htail : LoopTail tail) :
    execF (mkRec P (f+50)) P
      ((K.self, mtObj i out table tables more bs) :: (n_dealer, dv) :: (n_vul, vv) :: (n_bidding_env, encState s) :: tail)
      bpPrefix4
    = .ok ((K.self, mtObj (fun q => if q = a then r else i q) (out ++ (putAllOps a.formal ++ [getOp a])) table tables more bs) ::
       (n_dealer, dv) :: (n_vul, vv) :: (n_bidding_env, encState s) ::
       (n_active_player, encSeat a) :: (n_player, encSeat .W) :: (n_bid_message, .str msg) :: tail.drop 3, .next) := by
  have hget := fun g o => mt_main_get g i more o table tables a msg r hi
  simp only [bpPrefix4, bpBody, bpWhile, m_MainThread_bidding_phase, List.getD_cons_succ, List.getD_cons_zero, mtObj_eq,
    List.take]
  rcases htail with rfl | ⟨x1, x2, x3, x4, x5, rfl⟩ <;>
    ppsimp [mt_iter_player, forF, SeatB.sb_mth_w_put, mt_main_put, SeatB.sb_mth_w_get, hget, mt_getAttr_active, ha, beq_encSeat_none,
      mt_getAttr_formal, putAllOps, List.append_assoc, List.drop]

/-- `if 'alert' in bid_message.lower(): bid_message = Server.remove_alert_word(bid_message)` -/
theorem mt_alert_stmt (f : Nat) (env : Env) (msg msg' : Str) (xa : Nat → Val)
    (hbm : lookup env n_bid_message = some (.str msg))
    (hpre : if hasAlert msg = true then
        ∀ j, callF (mkRec P (f+j)) m_Server_remove_alert_word [.str msg] = .ok (.str msg', xa j) else msg' = msg) :
    execStmtF (mkRec P (f+50)) P env bpAlert = .ok (update env n_bid_message (.str msg'), .next) := by
  simp only [bpAlert, bpBody, bpWhile, m_MainThread_bidding_phase, List.getD_cons_succ, List.getD_cons_zero]
  by_cases hA : hasAlert msg = true
  · rw [if_pos hA] at hpre
    simp only [hasAlert] at hA
    ppsimp [hbm, mt_lower, hA, mt_mth_remove_alert, hpre]
  · rw [if_neg hA] at hpre
    subst hpre
    have hA' : isInfixC ['a', 'l', 'e', 'r', 't'] (msg'.map lowerC) = false := by
      simpa [hasAlert] using hA
    ppsimp [hbm, mt_lower, hA']
    rw [update_same env _ _ hbm]

/-- `bid = MessageInterface.parse_bid(bid_message, active_player.formal_name)`, whatever it answers -/
theorem mt_parse_stmt (f : Nat) (env : Env) (msg' : Str) (a : Seat) (res : Nat → R (Val × Val))
    (hbm : lookup env n_bid_message = some (.str msg')) (hap : lookup env n_active_player = some (encSeat a))
    (hparse : ∀ j, callF (mkRec P (f+j)) m_MessageInterface_parse_bid [.str msg', .str a.formal] = res j) :
    execStmtF (mkRec P (f+50)) P env bpParse
      = (res 48 >>= fun x => .ok (update env n_bid x.1, .next)) := by
  simp only [bpParse, bpBody, bpWhile, m_MainThread_bidding_phase, List.getD_cons_succ, List.getD_cons_zero]
  ppsimp [hbm, hap, mt_getAttr_formal, mt_mth_parse_bid, hparse]
  cases res 48 <;> rfl

/-- `bidding_phase_state = bidding_env.take_bid(bid)` -/
theorem mt_take_stmt (f : Nat) (env : Env) (s s1 : AState) (c : Call) (res : Res)
    (hbe : lookup env n_bidding_env = some (encState s)) (hbid : lookup env n_bid = some (encCall c))
    (ht : takeBid s c = .ok (s1, res)) :
    execStmtF (mkRec P (f+50)) P env bpTake
      = .ok (update (update env n_bidding_env (encState s1)) n_bidding_phase_state (encRes res), .next) := by
  simp only [bpTake, bpBody, bpWhile, m_MainThread_bidding_phase, List.getD_cons_succ, List.getD_cons_zero]
  ppsimp [hbe, hbid, mt_take_bid_meth, ht]

/-- `if bidding_phase_state is BiddingPhaseState.illegal:` when it is not -/
theorem mt_check_ok (f : Nat) (X dv vv be av pv bm bv : Val) (res : Res) (hres : res ≠ .illegal) :
    execStmtF (mkRec P (f+20)) P
      [(K.self, X), (n_dealer, dv), (n_vul, vv), (n_bidding_env, be), (n_active_player, av), (n_player, pv),
       (n_bid_message, bm), (n_bid, bv), (n_bidding_phase_state, encRes res)] bpCheck
    = .ok ([(K.self, X), (n_dealer, dv), (n_vul, vv), (n_bidding_env, be), (n_active_player, av), (n_player, pv),
       (n_bid_message, bm), (n_bid, bv), (n_bidding_phase_state, encRes res)], .next) := by
  have hres' : decide (res = .illegal) = false := by simp [hres]
  simp only [bpCheck, bpBody, bpWhile, m_MainThread_bidding_phase, List.getD_cons_succ, List.getD_cons_zero]
  ppsimp [mt_beq_encRes_illegal, hres']

/-- the environment of the loop -/
def envL (table : Val) (tables : List Val) (more : List (Val × Val)) (bs dv vv : Val)
    (s : AState) (i : Seat → List Str) (out : List Val) (tail : Env) : Env :=
  (K.self, mtObj i out table tables more bs) :: (n_dealer, dv) :: (n_vul, vv) :: (n_bidding_env, encState s) :: tail

theorem LoopTail_full (x1 x2 x3 x4 x5 : Val) : LoopTail [(n_active_player, x1), (n_player, x2), (n_bid_message, x3), (n_bid, x4),
    (n_bidding_phase_state, x5)] := Or.inr ⟨x1, x2, x3, x4, x5, rfl⟩

/-! ## the loop, generically -/
theorem mt_loop_step (f : Nat) (env env' : Env) (c : Expr) (body : List Stmt)
    (hc : (mkRec P (f+1)).eval env c = .ok (.bool true)) (hb : (mkRec P (f+1)).exec env body = .ok (env', .next)) :
    loopF (mkRec P (f+1)) env c body = loopF (mkRec P f) env' c body := by
  simp only [loopF, hc, hb, bind_ok, truthy, if_true, loop_succ]

theorem mt_loop_exit (r : Rec) (env : Env) (c : Expr) (body : List Stmt) (hc : r.eval env c = .ok (.bool false)) :
    loopF r env c body = .ok (env, .next) := by
  simp only [loopF, hc, bind_ok, truthy, Bool.false_eq_true, if_false, pure_eq]

/-- `not bidding_env.has_done()` -/
theorem mt_cond_eval (f : Nat) (table : Val) (tables : List Val) (more : List (Val × Val)) (bs dv vv : Val)
    (s : AState) (i : Seat → List Str) (out : List Val) (tail : Env) :
    (mkRec P (f+12)).eval (envL table tables more bs dv vv s i out tail) bpCond = .ok (.bool s.active.isSome) := by
  simp only [bpCond, bpWhile, m_MainThread_bidding_phase, List.getD_cons_succ, List.getD_cons_zero, envL]
  ppsimp [has_done_meth]
  cases s.active <;> rfl

/-! ## before and after the loop -/
/-- the closing operations: `nothing happens`, then `passed out` / `nothing happens`, to every seat -/
def finalOps (c : Contract) : List Val :=
  [putOp .N MSG_NULL, putOp .N (if c.isPassedOut then MSG_PASSED_OUT else MSG_NULL),
   putOp .E MSG_NULL, putOp .E (if c.isPassedOut then MSG_PASSED_OUT else MSG_NULL),
   putOp .S MSG_NULL, putOp .S (if c.isPassedOut then MSG_PASSED_OUT else MSG_NULL),
   putOp .W MSG_NULL, putOp .W (if c.isPassedOut then MSG_PASSED_OUT else MSG_NULL)]

theorem mt_final_ops (encRec : BoardRecord → Val) (c : Contract) :
    encMainActs encRec (forSeats (fun p => [.send (.m2t p) MSG_NULL,
      .send (.m2t p) (if c.isPassedOut then MSG_PASSED_OUT else MSG_NULL)])) = some (finalOps c) := rfl

/-- from "the value returned at every fuel `≥ F`" to an equation the symbolic execution can rewrite with -/
theorem mt_of_map_fst (fd : FuncDef) (args : List Val) (v : Val) (F f0 : Nat) (hF : F ≤ f0)
    (h : ∀ g, F ≤ g → (callFn P g fd args).map (·.1) = .ok v) :
    ∃ x : Nat → Val, ∀ j, callF (mkRec P (f0 + j)) fd args = .ok (v, x j) := by
  refine ⟨fun j => match callF (mkRec P (f0 + j)) fd args with | .ok (_, b) => b | .error _ => .none, fun j => ?_⟩
  have hj := h (f0 + j + 1) (by omega)
  have e : callFn P (f0 + j + 1) fd args = callF (mkRec P (f0 + j)) fd args := rfl
  rw [e] at hj
  cases hr : callF (mkRec P (f0 + j)) fd args with
  | error e => rw [hr] at hj; cases hj
  | ok x =>
    obtain ⟨a, b⟩ := x
    rw [hr] at hj
    simp only [Except.map, Except.ok.injEq] at hj
    subst hj
    simp only [hr]


def bpInit : Stmt := m_MainThread_bidding_phase.body.getD 0 .pass
def bpAfter : List Stmt := m_MainThread_bidding_phase.body.drop 2
theorem bp_body_eq : m_MainThread_bidding_phase.body = [bpInit] ++ ([bpWhile] ++ bpAfter) := rfl
theorem bpWhile_eq : bpWhile = .while bpCond bpBody := rfl

theorem mt_init_stmt (f : Nat) (X : Val) (d : Seat) (v : Vul) :
    execF (mkRec P (f+45)) P [(K.self, X), (n_dealer, encSeat d), (n_vul, encVul v)] [bpInit]
      = .ok ([(K.self, X), (n_dealer, encSeat d), (n_vul, encVul v), (n_bidding_env, encState (AState.init d v))], .next) := by
  simp only [bpInit, m_MainThread_bidding_phase, List.getD_cons_zero]
  ppsimp [construct_bidding]

theorem mt_ite_ok {α : Type} (b : Prop) [Decidable b] (x y : α) :
    (if b then (Except.ok x : R α) else .ok y) = .ok (if b then x else y) := by
  split <;> rfl
theorem mt_ite_str (b : Prop) [Decidable b] (x y : List Char) : (if b then Val.str x else .str y) = .str (if b then x else y) := by
  split <;> rfl

/-- after the loop, on any environment that holds the thread and the auction: the contract, the closing operations, the
value returned -/
theorem mt_after (f : Nat) (env : Env) (table : Val) (tables : List Val) (more : List (Val × Val)) (bs : Val)
    (s : AState) (i : Seat → List Str) (out : List Val) (c : Contract)
    (hself : lookup env K.self = some (mtObj i out table tables more bs))
    (hbe : lookup env n_bidding_env = some (encState s))
    (hc : s.contract = some c) :
    ∃ env', lookup env' K.self = some (mtObj i (out ++ finalOps c) table tables more bs) ∧
      execF (mkRec P (f+50)) P env bpAfter
        = .ok (env', .ret (.tuple [encContract c, .tuple (s.history.reverse.map encCall)])) := by
  have hcm := fun g => mt_contract_meth g s (Or.inl (by rw [hc]; rfl))
  rw [hc] at hcm
  simp only [mtObj_eq] at hself ⊢
  refine ⟨?_, ?hl, ?he⟩
  case he =>
    simp only [bpAfter, m_MainThread_bidding_phase, List.drop]
    ppsimp [hself, hbe, hcm, mt_beq_encContract_none, mt_iter_player, forF, SeatB.sb_mth_w_put, mt_main_put, mt_ipo_meth, mt_ite_ok,
      mt_ite_str, mt_getAttr_bid_history, List.append_assoc]
    rfl
  case hl =>
    simp only [lookup_update_same, finalOps]
    rfl

/-! ## `'alert' in msg.lower()` -/
theorem mt_isPrefixC_eq (a b : List Char) : isPrefixC a b = a.isPrefixOf b := by
  induction a generalizing b with
  | nil => cases b <;> rfl
  | cons x xs ih =>
    cases b with
    | nil => rfl
    | cons y ys => simp only [isPrefixC, List.isPrefixOf, ih]

theorem mt_any_range_succ (p : Nat → Bool) (n : Nat) :
    (List.range (n + 1)).any p = (p 0 || (List.range n).any fun i => p (i + 1)) := by
  rw [List.range_succ_eq_map, List.any_cons, List.any_map]
  rfl

theorem mt_isInfixC_eq (a s : List Char) : isInfixC a s = containsSub a s := by
  induction s with
  | nil =>
    cases a <;> rfl
  | cons c r ih =>
    simp only [isInfixC, containsSub, List.length_cons, mt_any_range_succ _ (r.length + 1), List.drop_zero,
      List.drop_succ_cons, mt_isPrefixC_eq, ih]

/-- the interpreter's test `'alert' in msg.lower()` is the model's -/
theorem hasAlert_eq (msg : Str) : hasAlert msg = containsSub "alert".toList (lowerS msg) := by
  rw [hasAlert, mt_isInfixC_eq]; rfl

theorem preprocessBid_of_no_alert (msg : Str) (h : ¬ hasAlert msg = true) : preprocessBid msg = msg := by
  rw [hasAlert_eq] at h
  simp only [preprocessBid, h]; rfl
theorem preprocessBid_of_alert (msg : Str) (h : hasAlert msg = true) : preprocessBid msg = removeAlert msg := by
  rw [hasAlert_eq] at h
  simp only [preprocessBid, h, if_true]

/-- the hypothesis (h1) of `BidMsgsOK` in the form a turn of the loop uses -/
theorem mt_alert_hyp (F f0 : Nat) (hF : F ≤ f0) (msg : Str)
    (hpre : hasAlert msg = true →
      ∀ g, F ≤ g → (callFn P g m_Server_remove_alert_word [.str msg]).map (·.1) = .ok (.str (preprocessBid msg))) :
    ∃ xa : Nat → Val, if hasAlert msg = true then
      ∀ j, callF (mkRec P (f0+j)) m_Server_remove_alert_word [.str msg] = .ok (.str (preprocessBid msg), xa j)
      else preprocessBid msg = msg := by
  by_cases hA : hasAlert msg = true
  · obtain ⟨xa, hxa⟩ := mt_of_map_fst _ _ _ F f0 hF (hpre hA)
    exact ⟨xa, by rw [if_pos hA]; exact hxa⟩
  · exact ⟨fun _ => .none, by rw [if_neg hA]; exact preprocessBid_of_no_alert msg hA⟩

end

section
open Bridge Bridge.Py Bridge.Generated.PyCore

theorem mt_execF_append_err (r : Rec) (l1 l2 : List Stmt) (e : Err) : ∀ (env : Env), execF r P env l1 = .error e →
    execF r P env (l1 ++ l2) = .error e := by
  induction l1 with
  | nil => intro env h; simp only [execF, pure_eq, reduceCtorEq] at h
  | cons s ss ih =>
    intro env h
    simp only [List.cons_append, execF] at h ⊢
    cases hs : execStmtF r P env s with
    | error e' => rw [hs] at h; exact h
    | ok x =>
      obtain ⟨e', fl⟩ := x
      rw [hs] at h
      simp only [bind_ok] at h ⊢
      cases fl with
      | next => exact ih e' h
      | ret v => simp only [pure_eq, reduceCtorEq] at h
      | brk => simp only [pure_eq, reduceCtorEq] at h
      | cont => simp only [pure_eq, reduceCtorEq] at h

theorem mt_loop_err (f : Nat) (env : Env) (c : Expr) (body : List Stmt) (e : Err)
    (hc : (mkRec P (f+1)).eval env c = .ok (.bool true)) (hb : (mkRec P (f+1)).exec env body = .error e) :
    loopF (mkRec P (f+1)) env c body = .error e := by
  simp only [loopF, hc, hb, bind_ok, bind_err, truthy, if_true]

def bpIllegalBody : List Stmt := match bpCheck with
  | .ite _ (.for _ _ b :: _) _ => b
  | _ => []
theorem bpCheck_eq : bpCheck = .ite (.cmp .is (.var n_bidding_phase_state) (.const (.enum n_BiddingPhaseState (-1))))
    [.for [n_player] (.const (.cls n_Player)) bpIllegalBody, .raise K.Exception] [] := rfl

/-- one seat of the loop that reports a refused call: `illegal bid` to the bidder, `error detected` to the others -/
theorem mt_illegal_iter (f : Nat) (i : Seat → List Str) (more : List (Val × Val)) (out : List Val) (table : Val)
    (tables : List Val) (bs dv vv be bm bv stv : Val) (a p : Seat) :
    execF (mkRec P (f+18)) P
      [(K.self, mtObj i out table tables more bs), (n_dealer, dv), (n_vul, vv), (n_bidding_env, be),
       (n_active_player, encSeat a), (n_player, encSeat p), (n_bid_message, bm), (n_bid, bv), (n_bidding_phase_state, stv)]
      bpIllegalBody
    = .ok ([(K.self, mtObj i (out ++ [putOp p (if p = a then "illegal bid".toList else "error detected".toList)])
          table tables more bs), (n_dealer, dv), (n_vul, vv), (n_bidding_env, be),
       (n_active_player, encSeat a), (n_player, encSeat p), (n_bid_message, bm), (n_bid, bv),
       (n_bidding_phase_state, stv)], .next) := by
  simp only [bpIllegalBody, bpCheck, bpBody, bpWhile, m_MainThread_bidding_phase, List.getD_cons_succ, List.getD_cons_zero,
    mtObj_eq]
  by_cases h : p = a
  · subst h
    ppsimp [SeatB.sb_mth_w_put, mt_main_put]
    rfl
  · ppsimp [SeatB.sb_mth_w_put, mt_main_put, h]
    rfl

/-- `if bidding_phase_state is BiddingPhaseState.illegal:` when it is: `illegal bid` to the bidder, `error detected` to the
others, then `raise Exception` -/
theorem mt_check_illegal (f : Nat) (i : Seat → List Str) (more : List (Val × Val)) (out : List Val) (table : Val)
    (tables : List Val) (bs dv vv be pv bm bv : Val) (a : Seat) :
    execStmtF (mkRec P (f+20)) P
      [(K.self, mtObj i out table tables more bs), (n_dealer, dv), (n_vul, vv), (n_bidding_env, be),
       (n_active_player, encSeat a), (n_player, pv), (n_bid_message, bm), (n_bid, bv),
       (n_bidding_phase_state, encRes .illegal)] bpCheck
    = .error (.exc K.Exception) := by
  have hit := fun o p => mt_illegal_iter f i more o table tables bs dv vv be bm bv (encRes .illegal) a p
  rw [bpCheck_eq]
  ppsimp [mt_beq_encRes_illegal, mt_iter_player, forF, update, hit]

/-- one whole turn of the loop: the call is relayed, unless `take_bid` answers `illegal` — then the turn raises -/
theorem mt_turn (f : Nat) (i : Seat → List Str) (more : List (Val × Val)) (out : List Val) (table : Val) (tables : List Val)
    (bs dv vv : Val) (s : AState) (a : Seat) (ha : s.active = some a) (msg : Str) (r : List Str) (hi : i a = msg :: r)
    (msg' : Str) (xa : Nat → Val)
    (hpre : if hasAlert msg = true then
        ∀ j, callF (mkRec P (f+j)) m_Server_remove_alert_word [.str msg] = .ok (.str msg', xa j) else msg' = msg)
    (c : Call) (xp : Nat → Val)
    (hparse : ∀ j, callF (mkRec P (f+j)) m_MessageInterface_parse_bid [.str msg', .str a.formal] = .ok (encCall c, xp j))
    (s1 : AState) (res : Res) (ht : takeBid s c = .ok (s1, res))
    (tail : Env) (htail : LoopTail tail) :
    ∃ tail', LoopTail tail' ∧
    execF (mkRec P (f+50)) P (envL table tables more bs dv vv s i out tail) bpBody
    = if res = .illegal then .error (.exc K.Exception) else
      .ok (envL table tables more bs dv vv s1 (fun q => if q = a then r else i q)
        (out ++ (putAllOps a.formal ++ [getOp a] ++ putButOps a msg')) tail', .next) := by
  refine ⟨_, LoopTail_full (encSeat a) (encSeat .W) (.str msg') (encCall c) (encRes res), ?_⟩
  rw [bpBody_eq, envL, execF_append_next _ (mt_prefix4 f i more out table tables bs dv vv s a ha msg r hi tail htail)]
  rcases htail with rfl | ⟨x1, x2, x3, x4, x5, rfl⟩
  all_goals
    simp only [execF]
    rw [mt_alert_stmt f _ msg msg' xa rfl hpre]
    simp only [bind_ok]
    rw [mt_parse_stmt f _ msg' a _ rfl rfl hparse]
    simp only [bind_ok]
    rw [mt_take_stmt f _ s s1 c res rfl rfl ht]
    simp +decide only [bind_ok, update, List.drop, ↓reduceIte]
    by_cases hres : res = .illegal
    · subst hres
      simp only [mt_check_illegal, bind_err, if_true]
    · simp only [mt_check_ok _ _ _ _ _ _ _ _ _ _ hres, mt_relay_stmt, bind_ok, pure_eq, envL, List.append_assoc, hres,
        if_false]

/-- a turn in which `parse_bid` raises: the statements up to it, then the exception -/
theorem mt_turn_unparseable (f : Nat) (i : Seat → List Str) (more : List (Val × Val)) (out : List Val) (table : Val)
    (tables : List Val) (bs dv vv : Val) (s : AState) (a : Seat) (ha : s.active = some a) (msg : Str) (r : List Str)
    (hi : i a = msg :: r) (msg' : Str) (xa : Nat → Val)
    (hpre : if hasAlert msg = true then
        ∀ j, callF (mkRec P (f+j)) m_Server_remove_alert_word [.str msg] = .ok (.str msg', xa j) else msg' = msg)
    (c : Id)
    (hparse : ∀ j, callF (mkRec P (f+j)) m_MessageInterface_parse_bid [.str msg', .str a.formal] = .error (.exc c))
    (tail : Env) (htail : LoopTail tail) :
    execF (mkRec P (f+50)) P (envL table tables more bs dv vv s i out tail) bpBody = .error (.exc c) := by
  rw [bpBody_eq, envL, execF_append_next _ (mt_prefix4 f i more out table tables bs dv vv s a ha msg r hi tail htail)]
  simp only [execF]
  rw [mt_alert_stmt f _ msg msg' xa rfl hpre]
  simp only [bind_ok]
  rw [mt_parse_stmt f _ msg' a _ (by rcases htail with rfl | ⟨x1, x2, x3, x4, x5, rfl⟩ <;> rfl)
    (by rcases htail with rfl | ⟨x1, x2, x3, x4, x5, rfl⟩ <;> rfl) hparse]
  rfl

end

end Bridge.Translated.MainA
