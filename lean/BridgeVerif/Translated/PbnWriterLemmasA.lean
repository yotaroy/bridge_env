import BridgeVerif.Translated.JsonWriterLemmasE
import BridgeVerif.Model.Pbn
/-! Translated PBN writer (pbn_handler/writer.py) = model: `write_line` — the `while` loop by induction on the fuel -/
namespace Bridge.Translated
open Bridge Bridge.Py Bridge.Generated.PyCore

/-! ## one statement off a body whose tail `ss` stays as it is -/

/-- `assert c` -/
theorem pw_execF_assert (g : Nat) (env : Env) (c : Expr) (ss : List Stmt) (w : Val)
    (hc : evalF (mkRec P g) P env c = .ok w) :
    execF (mkRec P (g + 1)) P env (.assert c :: ss) =
      if truthy w = true then execF (mkRec P (g + 1)) P env ss else .error (.exc K.AssertionError) := by
  simp only [execF, execStmtF, eval_succ, hc, bind_ok]
  cases truthy w <;> rfl

/-- the `PbnWriter` instance whose `writer` is the file object holding `chunks` -/
def encPbnWriter (chunks : List Str) : Val := .obj n_PbnWriter [(n_writer, encFile chunks)]
/-- the synthetic date object: `strftime` returns the text -/
def encDate (t : Str) : Val := .obj n__Date [(n_text, .str t)]

/-- condition and body of the `while` loop of `write_line` -/
def pwCond : Expr := match m_PbnWriter_write_line.body.getD 1 .pass with
  | .while c _ => c
  | _ => default
def pwBody : List Stmt := match m_PbnWriter_write_line.body.getD 1 .pass with
  | .while _ b => b
  | _ => []

/-- `k` turns of the loop: the chunks written, and the string left -/
def pwSplit : Nat → Str → List Str × Str
  | 0, s => ([], s)
  | k + 1, s =>
    if s.length > MAX_LINE_CHARS then
      ((s.take (MAX_LINE_CHARS - 1) ++ ['\n']) :: (pwSplit k (s.drop (MAX_LINE_CHARS - 1))).1,
        (pwSplit k (s.drop (MAX_LINE_CHARS - 1))).2)
    else ([], s)

theorem pw_split_aux (k : Nat) (s : Str) : writeLineAux k s = (pwSplit k s).1 ++ [(pwSplit k s).2] := by
  induction k generalizing s with
  | zero => rfl
  | succ k ih =>
    simp only [writeLineAux, pwSplit]
    split
    · simp only [ih, List.cons_append]
    · rfl

/-- `writeLineAux` does not depend on its fuel once there is enough of it -/
theorem pw_aux_fuel (k : Nat) : ∀ (k' : Nat) (s : Str), k ≤ k' → s.length ≤ 254 * k + 255 →
    writeLineAux k s = writeLineAux k' s := by
  induction k with
  | zero =>
    intro k' s _ h
    cases k' with
    | zero => rfl
    | succ k' =>
      have : ¬ s.length > MAX_LINE_CHARS := by simp only [MAX_LINE_CHARS]; omega
      simp only [writeLineAux, this, if_false]
  | succ k ih =>
    intro k' s hk h
    cases k' with
    | zero => omega
    | succ k' =>
      simp only [writeLineAux]
      split
      · rw [ih k' _ (by omega) (by simp only [List.length_drop, MAX_LINE_CHARS]; omega)]
      · rfl

theorem pw_aux_fuel' (k k' : Nat) (s : Str) (h : s.length ≤ 254 * k + 255) (h' : s.length ≤ 254 * k' + 255) :
    writeLineAux k s = writeLineAux k' s := by
  rw [pw_aux_fuel k (max k k') s (Nat.le_max_left ..) h, pw_aux_fuel k' (max k k') s (Nat.le_max_right ..) h']

/-! ## slices -/
theorem pw_slice_take (s : Str) : sliceList s none (some 254) = s.take 254 := by
  simp only [sliceList, clampIndex, List.drop_zero, Nat.sub_zero]
  have : (0:Int) ≤ 254 := by decide
  simp only [this, if_true]
  rw [show (254 : Int).toNat = 254 from rfl]
  by_cases h : 254 ≤ s.length
  · rw [Nat.min_eq_left h]
  · rw [Nat.min_eq_right (by omega), List.take_of_length_le (Nat.le_refl _), List.take_of_length_le (by omega)]

theorem pw_slice_drop (s : Str) : sliceList s (some 254) none = s.drop 254 := by
  simp only [sliceList, clampIndex]
  have : (0:Int) ≤ 254 := by decide
  simp only [this, if_true]
  rw [show (254 : Int).toNat = 254 from rfl]
  rw [List.take_of_length_le (by simp only [List.length_drop]; omega)]
  by_cases h : 254 ≤ s.length
  · rw [Nat.min_eq_left h]
  · rw [Nat.min_eq_right (by omega), List.drop_of_length_le (Nat.le_refl _), List.drop_of_length_le (by omega)]

/-! ## the class attribute -/
theorem pw_mth_max : P.method? classDepth n_PbnWriter n_MAX_LINE_CHARS = some (n_PbnWriter, m_PbnWriter_MAX_LINE_CHARS) := rfl
theorem pw_max_call (f : Nat) (v : Val) :
    callF (mkRec P (f+4)) m_PbnWriter_MAX_LINE_CHARS [v] = .ok (.int 255, v) := rfl

theorem pw_len_str (r : Rec) (s : Str) : builtinF r P .len [.str s] = .ok (.int (Int.ofNat s.length)) := rfl

theorem pw_gt_255 (n : Nat) : decide (Int.ofNat n > 255) = decide (n > 255) := by
  rw [Bool.eq_iff_iff]; simp only [decide_eq_true_eq, Int.ofNat_eq_natCast]; omega

theorem pw_cond (f : Nat) (s : Str) (chunks : List Str) (tail : Env) :
    evalF (mkRec P (f+10)) P ((K.self, .obj n_PbnWriter [(n_writer, encFile chunks)]) :: (n_string, .str s) :: tail) pwCond
      = .ok (.bool (decide (s.length > 255))) := by
  simp only [pwCond, m_PbnWriter_write_line, List.getD_cons_succ, List.getD_cons_zero]
  ppsimp [pw_len_str, pw_mth_max, pw_max_call, pw_gt_255]

theorem pw_turn (f : Nat) (s : Str) (chunks : List Str) (tail : Env) :
    execF (mkRec P (f+20)) P ((K.self, .obj n_PbnWriter [(n_writer, encFile chunks)]) :: (n_string, .str s) :: tail) pwBody
      = .ok ((K.self, .obj n_PbnWriter [(n_writer, encFile (chunks ++ [s.take 254 ++ ['\n']]))]) :: (n_string, .str (s.drop 254))
          :: update tail n_part_string (.str (s.take 254 ++ ['\n'])), .next) := by
  simp only [pwBody, m_PbnWriter_write_line, List.getD_cons_succ, List.getD_cons_zero]
  ppsimp [pw_mth_max, pw_max_call, jw_file_write_meth, pw_slice_take, pw_slice_drop]

/-- the loop at an arbitrary fuel: `k` levels for the turns -/
theorem pw_loop (k : Nat) : ∀ (s : Str) (chunks : List Str) (tail : Env), s.length ≤ 254 * k + 255 →
    ∃ tail', loopF (mkRec P (k + 21)) ((K.self, .obj n_PbnWriter [(n_writer, encFile chunks)]) :: (n_string, .str s) :: tail)
        pwCond pwBody
      = .ok ((K.self, .obj n_PbnWriter [(n_writer, encFile (chunks ++ (pwSplit k s).1))])
          :: (n_string, .str (pwSplit k s).2) :: tail', .next) := by
  induction k with
  | zero =>
    intro s chunks tail h
    refine ⟨tail, ?_⟩
    have hs : ¬ s.length > 255 := by omega
    rw [loopF]
    simp only [eval_succ, Nat.zero_add, pw_cond, bind_ok, Py.truthy_bool, hs, decide_false, Bool.false_eq_true,
      if_false, pure_eq, pwSplit, List.append_nil]
  | succ k ih =>
    intro s chunks tail h
    by_cases hs : s.length > 255
    · obtain ⟨tail', ih⟩ := ih (s.drop 254) (chunks ++ [s.take 254 ++ ['\n']])
        (update tail n_part_string (.str (s.take 254 ++ ['\n']))) (by simp only [List.length_drop]; omega)
      refine ⟨tail', ?_⟩
      have e : k + 1 + 21 = (k + 21) + 1 := by omega
      rw [e, loopF]
      simp only [eval_succ, exec_succ, loop_succ, pw_cond, bind_ok, Py.truthy_bool, hs, decide_true, if_true, pw_turn,
        ih, pwSplit, MAX_LINE_CHARS, List.append_assoc, List.cons_append, List.nil_append, Nat.add_one_sub_one]
    · refine ⟨tail, ?_⟩
      have hs' : ¬ s.length > MAX_LINE_CHARS := hs
      have e : k + 1 + 21 = (k + 21) + 1 := by omega
      rw [e, loopF]
      simp only [eval_succ, pw_cond, bind_ok, Py.truthy_bool, hs, decide_false, Bool.false_eq_true,
        if_false, pure_eq, pwSplit, hs', List.append_nil]

theorem pw_mth_write_line : P.method? classDepth n_PbnWriter n_write_line = some (n_PbnWriter, m_PbnWriter_write_line) := rfl

theorem pw_getLast_index (r : Rec) (s : Str) (c : Char) (h : s.getLast? = some c) :
    indexF r P (.str s) (.int (-1)) = .ok (.str [c]) := by
  have hne : s ≠ [] := by intro e; rw [e] at h; cases h
  have hl : 1 ≤ s.length := List.length_pos_iff.2 hne
  have hn : normIndex s.length (-1) = some (s.length - 1) := by
    simp only [normIndex]
    rw [if_neg (by decide), if_pos (by simpa using hl)]
    rfl
  have hg : s.getD (s.length - 1) ' ' = c := by
    rw [List.getLast?_eq_getElem?] at h
    rw [List.getD_eq_getElem?_getD, h]; rfl
  simp only [indexF, asInt?, hn, hg]; rfl

theorem pw_index_empty (r : Rec) (iv : Int) : indexF r P (.str []) (.int iv) = .error (.exc K.IndexError) := by
  have hn : normIndex 0 iv = none := by
    simp only [normIndex]
    split
    · rw [if_neg (by omega)]
    · rw [if_neg (by omega)]
  simp only [indexF, asInt?, List.length_nil, hn]; rfl

theorem pw_beq_nl (c : Char) : (Val.str [c]).beq (.str ['\n']) = decide (c = '\n') := by
  simp only [Val.beq]
  rw [Bool.eq_iff_iff]; simp

/-- `write_line` at an arbitrary fuel: `k` levels for the turns of the loop -/
theorem pw_write_line_call (k : Nat) (chunks : List Str) (s : Str) (cs : List Str) (h : writeLine? s = some cs)
    (hlen : s.length ≤ 254 * k + 254) :
    callF (mkRec P (k + 23)) m_PbnWriter_write_line [.obj n_PbnWriter [(n_writer, encFile chunks)], .str s]
      = .ok (.none, .obj n_PbnWriter [(n_writer, encFile (chunks ++ cs))]) := by
  rw [callF_def]
  cases hg : s.getLast? with
  | none => rw [writeLine?, hg] at h; cases h
  | some c =>
    rw [writeLine?, hg] at h
    simp only [Option.some.injEq] at h
    subst h
    simp only [m_PbnWriter_write_line, bindParams, Option.map]
    by_cases hc : c = '\n'
    · simp only [hc, if_true]
      have hl := pw_loop k s chunks [] (by omega)
      simp only [pwCond, pwBody, m_PbnWriter_write_line, List.getD_cons_succ, List.getD_cons_zero] at hl
      obtain ⟨tail', hl⟩ := hl
      rw [pw_aux_fuel' s.length k s (by omega) (by omega), pw_split_aux]
      ppsimp [pw_getLast_index _ s c hg, pw_beq_nl, hc, loop_succ, hl, jw_file_write_meth, List.append_assoc]
    · simp only [hc, if_false]
      have hl := pw_loop k (s ++ ['\n']) chunks [] (by simp only [List.length_append, List.length_singleton]; omega)
      simp only [pwCond, pwBody, m_PbnWriter_write_line, List.getD_cons_succ, List.getD_cons_zero] at hl
      obtain ⟨tail', hl⟩ := hl
      rw [pw_aux_fuel' (s ++ ['\n']).length k (s ++ ['\n']) (by omega)
        (by simp only [List.length_append, List.length_singleton]; omega), pw_split_aux]
      ppsimp [pw_getLast_index _ s c hg, pw_beq_nl, hc, loop_succ, hl, jw_file_write_meth, List.append_assoc]

theorem pw_write_line_call_empty (f : Nat) (chunks : List Str) :
    callF (mkRec P (f + 10)) m_PbnWriter_write_line [.obj n_PbnWriter [(n_writer, encFile chunks)], .str []]
      = .error (.exc K.IndexError) := by
  rw [callF_def]
  simp only [m_PbnWriter_write_line, bindParams, Option.map]
  ppsimp [pw_index_empty]

end Bridge.Translated
