import BridgeVerif.Translated.ThreadsSeatDLemmasD
/-! (2) one board and all the boards of the session model satisfy `boardChecks` / `boardsChecks` (following
`seatBoardsR_board` / `seatBoardsR_boards` of Lemmas/SeatThread.lean) -/
namespace Bridge.Translated.SeatD
open Bridge Bridge.Py Bridge.Generated.PyCore
open Bridge.Translated.SeatB (playingChecks)
open Bridge.Translated.SeatC (boardChecks boardsChecks seatBoardR)

/-- the deal phase of board `k` -/
abbrev dealPhase (k : Nat) (b : BoardSetting) : Phase Text LogOp :=
  Phase.deal (boardHeader k b.dealer b.vul) (fun p => cardsMsg p.formal (b.deal p))
    (fun p => readyFor p "deal".toList) (fun p => readyFor p "cards".toList)

/-- the second message of the end of the auction -/
abbrev secondMsg (b : BoardSetting) (d : Decisions) : Text :=
  if (boardContractOf b d).isPassedOut then MSG_PASSED_OUT else MSG_NULL

/-- one board, the status message `st` at the end of the queue part: the checks hold, and `seatBoardR` consumes exactly
the board and returns `st` -/
theorem board_core (p : Seat) (k : Nat) (b : BoardSetting) (d : Decisions) (hp : BoardPlayable b d) (st : Text)
    (q' c' : List Text) :
    boardChecks p
      { q := qOf p (dealPhase k b) ++ ((callPhases b.dealer 0 d.calls).flatMap (qOf p) ++
              MSG_NULL :: secondMsg b d :: ((playPhases b d).flatMap (qOf p) ++ st :: q')),
        c := cOf p (dealPhase k b) ++ ((callPhases b.dealer 0 d.calls).flatMap (cOf p) ++
              ((playPhases b d).flatMap (cOf p) ++ c')) } ∧
    ∃ pre, seatBoardR p
      { q := qOf p (dealPhase k b) ++ ((callPhases b.dealer 0 d.calls).flatMap (qOf p) ++
              MSG_NULL :: secondMsg b d :: ((playPhases b d).flatMap (qOf p) ++ st :: q')),
        c := cOf p (dealPhase k b) ++ ((callPhases b.dealer 0 d.calls).flatMap (cOf p) ++
              ((playPhases b d).flatMap (cOf p) ++ c')) } = some (pre, st, { q := q', c := c' }) := by
  obtain ⟨m1, m2, m3⟩ := msg_facts
  have hlt : ∀ (X : List Text), d.calls.length < ((callPhases b.dealer 0 d.calls).flatMap (qOf p) ++ X).length + 1 := by
    intro X
    have := callPhases_q_length p b.dealer d.calls 0
    rw [List.length_append]; omega
  constructor
  · refine ⟨deal_checks p _ _ _, fun dd i1 hd => ?_⟩
    rw [seatDealR_phase] at hd
    simp only [Option.some.injEq, Prod.mk.injEq] at hd
    obtain ⟨_, rfl⟩ := hd
    refine ⟨bid_checks p b.dealer _ _ d.calls 0 _, fun bb i2 i3 hb hq => ?_⟩
    dsimp only at hb
    rw [seatBiddingR_calls p b.dealer _ _ d.calls 0 _ (hlt _)] at hb
    simp only [Option.some.injEq, Prod.mk.injEq] at hb
    obtain ⟨_, rfl⟩ := hb
    simp only [getQ_cons, Option.some.injEq, Prod.mk.injEq] at hq
    obtain ⟨hsec, rfl⟩ := hq
    cases hpo : (boardContractOf b d).isPassedOut with
    | true =>
      simp only [secondMsg, hpo, if_true] at hsec
      exact absurd hsec m1
    | false => exact play_checks p b d hp hpo _ _
  · have hplay := seatPlay_board p b d hp (st :: q') c'
    rw [seatBoardR]
    simp only [Option.bind_eq_bind, seatDealR_phase, Option.bind_some]
    rw [seatBiddingR_calls p b.dealer _ _ d.calls 0 _ (hlt _)]
    simp only [Option.bind_some, getQ_cons, secondMsg]
    cases hpo : (boardContractOf b d).isPassedOut with
    | true =>
      simp only [hpo, if_true] at hplay ⊢
      simp only [Option.some.injEq, Prod.mk.injEq] at hplay
      obtain ⟨_, hi⟩ := hplay
      simp only [hi, Option.pure_def, Option.bind_some, getQ_cons]
      exact ⟨_, rfl⟩
    | false =>
      simp only [hpo, Bool.false_eq_true, if_false] at hplay ⊢
      simp only [if_neg m3, if_true, hplay, Option.bind_some, getQ_cons, Option.pure_def]
      exact ⟨_, rfl⟩

/-- one board of the session -/
theorem board_checks (sc : Scenario) (p : Seat) (k : Nat) (last : Bool) (b : BoardSetting) (d : Decisions)
    (hp : BoardPlayable b d) (q' c' : List Text) :
    boardChecks p { q := (boardPhases sc k last b d).flatMap (qOf p) ++ q',
                    c := (boardPhases sc k last b d).flatMap (cOf p) ++ c' } ∧
    ∃ pre, seatBoardR p { q := (boardPhases sc k last b d).flatMap (qOf p) ++ q',
                          c := (boardPhases sc k last b d).flatMap (cOf p) ++ c' }
      = some (pre, (if last then MSG_END else MSG_NEXT), { q := q', c := c' }) := by
  have hcore := board_core p k b d hp (if last then MSG_END else MSG_NEXT) q' c'
  rw [boardPhases_eq]
  simp only [List.flatMap_append, List.flatMap_cons, List.flatMap_nil, List.append_nil, List.append_assoc,
    qOf_auctionEnd, cOf_auctionEnd, List.cons_append, List.nil_append]
  cases last
  · simp only [Bool.false_eq_true, if_false, qOf_nextBoard, cOf_nextBoard, List.cons_append, List.nil_append] at hcore ⊢
    exact hcore
  · simp only [if_true, qOf_lastBoard, cOf_lastBoard, List.cons_append, List.nil_append] at hcore ⊢
    exact hcore

/-- all the boards of a session -/
theorem boards_checks (sc : Scenario) (p : Seat) (q' c' : List Text) :
    ∀ (boards : List (BoardSetting × Decisions)) (k n : Nat), boards ≠ [] →
      (∀ bd ∈ boards, BoardPlayable bd.1 bd.2) →
      boardsChecks p n { q := (boardsPhases sc k boards).flatMap (qOf p) ++ q',
                         c := (boardsPhases sc k boards).flatMap (cOf p) ++ c' } := by
  intro boards
  induction boards with
  | nil => intro k n h; exact absurd rfl h
  | cons x r ih =>
    intro k n _ hp
    obtain ⟨b, d⟩ := x
    have hbd : BoardPlayable b d := hp (b, d) List.mem_cons_self
    cases n with
    | zero => trivial
    | succ n =>
      cases r with
      | nil =>
        simp only [boardsPhases]
        obtain ⟨hc, pre, hr⟩ := board_checks sc p k true b d hbd q' c'
        refine ⟨hc, fun pre' i1 h1 => ?_⟩
        rw [hr] at h1
        simp only [if_true, Option.some.injEq, Prod.mk.injEq] at h1
        exact absurd h1.2.1.symm msg_facts.2.1
      | cons y r' =>
        have ih := ih (k + 1) n (by simp) (fun bd h => hp bd (List.mem_cons_of_mem _ h))
        rw [boardsPhases]
        · simp only [List.flatMap_append, List.append_assoc]
          obtain ⟨hc, pre, hr⟩ := board_checks sc p k false b d hbd
            ((boardsPhases sc (k + 1) (y :: r')).flatMap (qOf p) ++ q')
            ((boardsPhases sc (k + 1) (y :: r')).flatMap (cOf p) ++ c')
          refine ⟨hc, fun pre' i1 h1 => ?_⟩
          rw [hr] at h1
          simp only [Option.some.injEq, Prod.mk.injEq] at h1
          obtain ⟨_, _, rfl⟩ := h1
          exact ih
        · simp

/-- the number of boards `boardsTables` counts on the session's streams is the number of boards of the scenario -/
theorem boards_num (sc : Scenario) (p : Seat) (q' c' : List Text) :
    ∀ (boards : List (BoardSetting × Decisions)) (k n : Nat), boards ≠ [] →
      (∀ bd ∈ boards, BoardPlayable bd.1 bd.2) → boards.length ≤ n →
      SeatC.boardsNum p n { q := (boardsPhases sc k boards).flatMap (qOf p) ++ q',
                            c := (boardsPhases sc k boards).flatMap (cOf p) ++ c' } = boards.length := by
  intro boards
  induction boards with
  | nil => intro k n h; exact absurd rfl h
  | cons x r ih =>
    intro k n _ hp hn
    obtain ⟨b, d⟩ := x
    have hbd : BoardPlayable b d := hp (b, d) List.mem_cons_self
    obtain ⟨n, rfl⟩ : ∃ m, n = m + 1 := ⟨n - 1, by simp at hn; omega⟩
    cases r with
    | nil =>
      simp only [boardsPhases]
      obtain ⟨_, pre, hr⟩ := board_checks sc p k true b d hbd q' c'
      simp only [SeatC.boardsNum, hr, if_true, if_neg msg_facts.2.1.symm, List.length_cons, List.length_nil]
    | cons y r' =>
      have ih := ih (k + 1) n (by simp) (fun bd h => hp bd (List.mem_cons_of_mem _ h)) (by simp at hn ⊢; omega)
      rw [boardsPhases]
      · simp only [List.flatMap_append, List.append_assoc]
        obtain ⟨_, pre, hr⟩ := board_checks sc p k false b d hbd
          ((boardsPhases sc (k + 1) (y :: r')).flatMap (qOf p) ++ q')
          ((boardsPhases sc (k + 1) (y :: r')).flatMap (cOf p) ++ c')
        simp only [SeatC.boardsNum, hr, Bool.false_eq_true, if_false, if_true, ih, List.length_cons]
      · simp

end Bridge.Translated.SeatD
