import BridgeVerif.Translated.JsonParserLemmasF
/-! Translated JSON parser (parser.py) = model: `convert_board_log`, one statement at a time (each right-hand side evaluated by its own lemma, so
that the case distinctions on the optional members do not multiply), then the whole function -/
namespace Bridge.Translated
open Bridge Bridge.Py Bridge.Generated.PyCore

/-! ## the statements of `convert_board_log`, one at a time (`data` is the first variable of the environment) -/
def cblExpr (i : Nat) : Expr :=
  match f_convert_board_log.body.getD i .pass with
  | .assign _ e => e
  | .assert e => e
  | .ret e => e
  | _ => .const .none

theorem jp_find_convert_board_log : findFunc P.funcs n_convert_board_log = some f_convert_board_log := rfl

theorem jp_eval_in (f : Nat) (l : List (List Char × Json)) (tail : Env) (k : List Char) (v : Json)
    (h : (Json.obj l).get? k = some v) :
    evalF (mkRec P (f+2)) P ((n_data, .dict (membersToKvs l)) :: tail) (.cmp .inn (.const (.str k)) (.var n_data))
      = .ok (.bool true) := by
  ppsimp [jp_lookupD_members, h, bne]
  rfl

theorem jp_eval_setting (f : Nat) (l : List (List Char × Json)) (tail : Env) (st : SettingEntry)
    (hst : settingOfJson? (.obj l) = some st) :
    evalF (mkRec P (f+43)) P ((n_data, .dict (membersToKvs l)) :: tail) (cblExpr 0)
      = .ok (encSettingWith (encHands (pyHands (dealOf (.obj l)))) st) := by
  have hc := fun g => jp_convert_board_setting_call g (.obj l) st hst
  simp only [jsonToVal] at hc
  simp only [cblExpr, f_convert_board_log, List.getD_cons_zero]
  ppsimp [jp_find_convert_board_setting, hc]

theorem jp_eval_declarer (f : Nat) (l : List (List Char × Json)) (tail : Env) (d : Option Seat)
    (h : ((Json.obj l).get? ['d', 'e', 'c', 'l', 'a', 'r', 'e', 'r'] = some .null ∧ d = none) ∨
        (∃ s p, (Json.obj l).get? ['d', 'e', 'c', 'l', 'a', 'r', 'e', 'r'] = some (.str s) ∧ seatOfName? s = some p ∧ d = some p)) :
    evalF (mkRec P (f+6)) P ((n_data, .dict (membersToKvs l)) :: tail) (cblExpr 4) = .ok (encOpt encSeat d) := by
  simp only [cblExpr, f_convert_board_log, List.getD_cons_succ, List.getD_cons_zero]
  rcases h with ⟨h, rfl⟩ | ⟨s, p, h, hp, rfl⟩
  · ppsimp [jp_lookupD_members, h, jsonToVal]
  · ppsimp [jp_lookupD_members, h, jsonToVal, Val.beq, jp_cls_Player, jp_member_seat _ _ hp]
    rfl

theorem jp_eval_contract (f : Nat) (l : List (List Char × Json)) (tail : Env) (hands : Val) (st : SettingEntry)
    (d : Option Seat) (ctext : List Char) (c : Contract)
    (h : (Json.obj l).get? ['c', 'o', 'n', 't', 'r', 'a', 'c', 't'] = some (.str ctext)) (hk : strToContract? ctext st.vul d = some c) :
    evalF (mkRec P (f+28)) P ((n_data, .dict (membersToKvs l)) :: (n_board_setting, encSettingWith hands st) ::
        (n_declarer, encOpt encSeat d) :: tail) (cblExpr 5) = .ok (pyContract ctext c) := by
  simp only [cblExpr, f_convert_board_log, List.getD_cons_succ, List.getD_cons_zero, encSettingWith]
  ppsimp [jp_lookupD_members, h, jsonToVal, jp_mth_str_to_contract,
    (cs_call P (f+27) _ _).symm.trans (str_to_contract_call PB_ext_P _ (by omega) _ _ _ _ hk)]

theorem jp_eval_tricks (f : Nat) (l : List (List Char × Json)) (tail : Env) (t : Option Int)
    (h : ((Json.obj l).get? ['t', 'a', 'k', 'e', 'n', '_', 't', 'r', 'i', 'c', 'k'] = some .null ∧ t = none) ∨
        (∃ n, (Json.obj l).get? ['t', 'a', 'k', 'e', 'n', '_', 't', 'r', 'i', 'c', 'k'] = some (.int n) ∧ t = some n)) :
    evalF (mkRec P (f+3)) P ((n_data, .dict (membersToKvs l)) :: tail) (cblExpr 6) = .ok (encOpt .int t) := by
  simp only [cblExpr, f_convert_board_log, List.getD_cons_succ, List.getD_cons_zero]
  rcases h with ⟨h, rfl⟩ | ⟨n, h, rfl⟩
  · ppsimp [jp_lookupD_members, h, jsonToVal]
  · ppsimp [jp_lookupD_members, h, jsonToVal]

theorem jp_eval_players (f : Nat) (l : List (List Char × Json)) (tail : Env) (o : Option (List (Seat × Str)))
    (h : ((Json.obj l).get? ['p', 'l', 'a', 'y', 'e', 'r', 's'] = none ∧ o = none) ∨
        (∃ m ps, (Json.obj l).get? ['p', 'l', 'a', 'y', 'e', 'r', 's'] = some (.obj m) ∧ m.mapM playerEntry? = some ps ∧ o = some ps)) :
    evalF (mkRec P (f+10)) P ((n_data, .dict (membersToKvs l)) :: tail) (cblExpr 7) = .ok (encOpt encPlayers o) := by
  simp only [cblExpr, f_convert_board_log, List.getD_cons_succ, List.getD_cons_zero]
  rcases h with ⟨h, rfl⟩ | ⟨m, ps, h, hp, rfl⟩
  · ppsimp [jp_lookupD_members, h, bne]
  · ppsimp [jp_lookupD_members, h, bne, jsonToVal, jp_items, iterItems_tuple, jp_players_comp _ _ _ _ hp]
    rfl

theorem jp_eval_bids (f : Nat) (l : List (List Char × Json)) (tail : Env) (o : Option (List Call))
    (h : ((Json.obj l).get? ['b', 'i', 'd', '_', 'h', 'i', 's', 't', 'o', 'r', 'y'] = none ∧ o = none) ∨
        (∃ m bs, (Json.obj l).get? ['b', 'i', 'd', '_', 'h', 'i', 's', 't', 'o', 'r', 'y'] = some (.arr m) ∧ m.mapM bidEntry? = some bs ∧ o = some bs)) :
    evalF (mkRec P (f+18)) P ((n_data, .dict (membersToKvs l)) :: tail) (cblExpr 8)
      = .ok (encOpt (fun l => .tuple (l.map encCall)) o) := by
  simp only [cblExpr, f_convert_board_log, List.getD_cons_succ, List.getD_cons_zero]
  rcases h with ⟨h, rfl⟩ | ⟨m, bs, h, hp, rfl⟩
  · ppsimp [jp_lookupD_members, h, bne]
  · obtain ⟨ss, h1, h2⟩ := jp_mapM_str_bind _ _ _ hp
    ppsimp [jp_lookupD_members, h, bne, jsonToVal, jp_jsonsToVals_strs _ _ h1, iterItems_tuple, jp_comp_bids _ _ _ _ h2]

theorem jp_eval_play (f : Nat) (l : List (List Char × Json)) (tail : Env) (o : Option (List Trick))
    (h : ((Json.obj l).get? ['p', 'l', 'a', 'y', '_', 'h', 'i', 's', 't', 'o', 'r', 'y'] = none ∧ o = none) ∨
        ((Json.obj l).get? ['p', 'l', 'a', 'y', '_', 'h', 'i', 's', 't', 'o', 'r', 'y'] = some .null ∧ o = none) ∨
        (∃ m ts, (Json.obj l).get? ['p', 'l', 'a', 'y', '_', 'h', 'i', 's', 't', 'o', 'r', 'y'] = some (.arr m) ∧ m.mapM trickOfJson? = some ts ∧ o = some ts)) :
    evalF (mkRec P (f+26)) P ((n_data, .dict (membersToKvs l)) :: tail) (cblExpr 9)
      = .ok (encOpt (fun l => .tuple (l.map encTrick)) o) := by
  simp only [cblExpr, f_convert_board_log, List.getD_cons_succ, List.getD_cons_zero]
  rcases h with ⟨h, rfl⟩ | ⟨h, rfl⟩ | ⟨m, ts, h, hp, rfl⟩
  · ppsimp [jp_lookupD_members, h, bne]
  · ppsimp [jp_lookupD_members, h, bne, jsonToVal]
  · have hc := fun g env => jp_comp_tricks g env m ts hp
    simp only [trickExpr] at hc
    ppsimp [jp_lookupD_members, h, bne, jsonToVal, beq_tuple_none, iterItems_tuple, hc]

theorem jp_eval_score_type (f : Nat) (l : List (List Char × Json)) (tail : Env) (o : Option Str)
    (h : ((Json.obj l).get? ['s', 'c', 'o', 'r', 'e', '_', 't', 'y', 'p', 'e'] = none ∧ o = none) ∨
        (∃ s, (Json.obj l).get? ['s', 'c', 'o', 'r', 'e', '_', 't', 'y', 'p', 'e'] = some (.str s) ∧ o = some s)) :
    evalF (mkRec P (f+5)) P ((n_data, .dict (membersToKvs l)) :: tail) (cblExpr 10) = .ok (encOpt .str o) := by
  simp only [cblExpr, f_convert_board_log, List.getD_cons_succ, List.getD_cons_zero]
  rcases h with ⟨h, rfl⟩ | ⟨s, h, rfl⟩
  · ppsimp [jp_lookupD_members, h, bne]
  · ppsimp [jp_lookupD_members, h, bne, jsonToVal]

theorem jp_eval_scores (f : Nat) (l : List (List Char × Json)) (tail : Env) (o : Option (List (Side × Int)))
    (h : ((Json.obj l).get? ['s', 'c', 'o', 'r', 'e', 's'] = none ∧ o = none) ∨
        (∃ m sc, (Json.obj l).get? ['s', 'c', 'o', 'r', 'e', 's'] = some (.obj m) ∧ m.mapM scoreEntry? = some sc ∧ o = some sc)) :
    evalF (mkRec P (f+10)) P ((n_data, .dict (membersToKvs l)) :: tail) (cblExpr 11) = .ok (encOpt encScores o) := by
  simp only [cblExpr, f_convert_board_log, List.getD_cons_succ, List.getD_cons_zero]
  rcases h with ⟨h, rfl⟩ | ⟨m, sc, h, hp, rfl⟩
  · ppsimp [jp_lookupD_members, h, bne]
  · ppsimp [jp_lookupD_members, h, bne, jsonToVal, jp_items, iterItems_tuple, jp_scores_comp _ _ _ _ hp]
    rfl

/-- the `contract` member of a record -/
def contractText (j : Json) : Str := ((j.get? (jkey "contract")).bind Json.str?).getD []

theorem jp_convert_board_log_call (f : Nat) (j : Json) (r : LogRead) (hm : logOfJson? j = some r) :
    callF (mkRec P (f+60)) f_convert_board_log [jsonToVal j]
      = .ok (encLogReadWith (encHands (pyHands (dealOf j))) (pyContract (contractText j) r.contract) r, jsonToVal j) := by
  obtain ⟨st, declarer, ctext, contract, tricks, players, bids, play, scoreType, scores, hst, hd, hc, hk, ht, hp, hb, hpl,
    hs, hsc, rfl⟩ := jp_logOfJson_cases j r hm
  obtain ⟨l, -, -, -, rfl, -⟩ := jp_setting_cases j st hst
  have hdv : ∃ v, (Json.obj l).get? ['d', 'e', 'c', 'l', 'a', 'r', 'e', 'r'] = some v := by
    rcases hd with ⟨h, -⟩ | ⟨s, p, h, -⟩ <;> exact ⟨_, h⟩
  have htv : ∃ v, (Json.obj l).get? ['t', 'a', 'k', 'e', 'n', '_', 't', 'r', 'i', 'c', 'k'] = some v := by
    rcases ht with ⟨h, -⟩ | ⟨n, h, -⟩ <;> exact ⟨_, h⟩
  obtain ⟨dv, hdv⟩ := hdv
  obtain ⟨tv, htv⟩ := htv
  have hct : contractText (Json.obj l) = ctext := by
    show (((Json.obj l).get? ['c', 'o', 'n', 't', 'r', 'a', 'c', 't']).bind Json.str?).getD [] = ctext
    rw [hc]; rfl
  have e0 := fun g tail => jp_eval_setting g l tail st hst
  have e1 := fun g tail => jp_eval_in g l tail _ _ hdv
  have e2 := fun g tail => jp_eval_in g l tail _ _ hc
  have e3 := fun g tail => jp_eval_in g l tail _ _ htv
  have e4 := fun g tail => jp_eval_declarer g l tail _ hd
  have e5 := fun g tail hands => jp_eval_contract g l tail hands st _ _ _ hc hk
  have e6 := fun g tail => jp_eval_tricks g l tail _ ht
  have e7 := fun g tail => jp_eval_players g l tail _ hp
  have e8 := fun g tail => jp_eval_bids g l tail _ hb
  have e9 := fun g tail => jp_eval_play g l tail _ hpl
  have e10 := fun g tail => jp_eval_score_type g l tail _ hs
  have e11 := fun g tail => jp_eval_scores g l tail _ hsc
  simp only [cblExpr, f_convert_board_log, List.getD_cons_succ, List.getD_cons_zero] at e0 e4 e5 e6 e7 e8 e9 e10 e11
  rw [callF_def]
  simp only [f_convert_board_log, bindParams, Option.map, jsonToVal]
  simp -implicitDefEqProofs +decide only [exec_succ, execF, execStmtF, eval_succ, bind_ok, pure_eq, assignToF, update,
    ↓reduceIte, reduceIte, truthy, e0, e1, e2, e3, e4, e5, e6, e7, e8, e9, e10, e11]
  ppsimp [encSettingWith, jp_construct_log]
  rw [hct]; rfl

end Bridge.Translated
