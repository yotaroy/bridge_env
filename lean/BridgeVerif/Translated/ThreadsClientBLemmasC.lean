import BridgeVerif.Translated.ThreadsClientBLemmasB
/-! The model's `clientTrickR` / `clientPlayingR` cut into the steps of the generated `playing_phase`: the opening of
dummy's hand, the card, one turn, the "… to lead" message -/
namespace Bridge.Translated.ClientB
open Bridge Bridge.Py Bridge.Generated.PyCore Bridge.Translated Bridge.Translated.ClientA

/-! ## the model's `clientTrickR`, one step at a time -/

/-- the opening of dummy's hand in one turn of `clientTrickR` -/
def clientOpenR (p declarer : Seat) (o : Observed) (opened : Bool) (i : ClientIn) :
    Option (ClientActs × Observed × Bool × ClientIn) :=
  if o.base.active = declarer.partner ∧ !opened then
    if declarer.partner ≠ p then do
      let (m, i) ← i.recv
      let dh ← (parseCards? m "Dummy".toList).bind parseHand?
      pure ([Act.send (.c2s p) (readyFor p "dummy".toList), .recv (.s2c p)], o.setDummy dh, true, i)
    else pure ([], o, true, i)
  else pure ([], o, opened, i)

/-- the card of one turn of `clientTrickR` (`a`: who is on turn) -/
def clientMoveR (p declarer a : Seat) (o : Observed) (i : ClientIn) : Option (ClientActs × Observed × ClientIn) :=
  if a = p ∧ p ≠ declarer.partner then do
    let (c, i) ← i.nextCard
    match o.play c p with
    | .error _ => none
    | .ok o' => pure ([Act.send (.c2s p) (playMsg p c false)], o', i)
  else if a = declarer.partner ∧ p = declarer then do
    if o.dummyHand.isNone then none
    else do
      let (c, i) ← i.nextCard
      match o.play c declarer.partner with
      | .error _ => none
      | .ok o' => pure ([Act.send (.c2s p) (playMsg declarer.partner c false)], o', i)
  else do
    let who : Text := if a = declarer.partner then "dummy".toList else a.formal
    let (m, i) ← i.recv
    let c ← parseCard? m a
    match o.play c a with
    | .error _ => none
    | .ok o' =>
      pure ([Act.send (.c2s p) (readyFor p (who ++ "'s card to trick ".toList ++ natStr o.base.trickNum)),
             .recv (.s2c p)], o', i)

/-- one turn of `clientTrickR` -/
def clientCardR (p declarer : Seat) (o : Observed) (opened : Bool) (i : ClientIn) :
    Option (ClientActs × Observed × Bool × ClientIn) := do
  let (acts0, o1, opened1, i1) ← clientOpenR p declarer o opened i
  let (acts1, o2, i2) ← clientMoveR p declarer o.base.active o1 i1
  pure (acts0 ++ acts1, o2, opened1, i2)

set_option hygiene false in
/-- the case analysis of the second half of a turn (`clientMoveR`), on the replica `o1` and the streams `i1` -/
macro "stage1" o1:term "," i1:term : tactic => `(tactic| (
  by_cases h1 : o.base.active = p ∧ p ≠ declarer.partner
  · simp only [if_pos h1]
    cases hn : ClientIn.nextCard $i1 with
    | none => rfl
    | some y =>
      simp only [Option.bind_some]
      cases hp : Observed.play $o1 y.1 p <;> rfl
  · simp only [if_neg h1]
    by_cases h2 : o.base.active = declarer.partner ∧ p = declarer
    · simp only [if_pos h2]
      cases hd : (Observed.dummyHand $o1).isNone with
      | true => rfl
      | false =>
        simp only [Bool.false_eq_true, if_false]
        cases hn : ClientIn.nextCard $i1 with
        | none => rfl
        | some y =>
          simp only [Option.bind_some]
          cases hp : Observed.play $o1 y.1 declarer.partner <;> rfl
    · simp only [if_neg h2]
      cases hr : ClientIn.recv $i1 with
      | none => rfl
      | some x =>
        simp only [Option.bind_some]
        cases hc : parseCard? x.1 o.base.active with
        | none => rfl
        | some c =>
          simp only [Option.bind_some]
          cases hp : Observed.play $o1 c o.base.active <;> rfl))

theorem clientTrickR_succ (p declarer : Seat) (n : Nat) (o : Observed) (opened : Bool) (i : ClientIn) :
    clientTrickR p declarer (n+1) o opened i = (do
      let (acts, o2, opened1, i2) ← clientCardR p declarer o opened i
      let (rest, o3, opened3, i3) ← clientTrickR p declarer n o2 opened1 i2
      pure (acts ++ rest, o3, opened3, i3)) := by
  rw [clientTrickR]
  unfold clientCardR clientOpenR clientMoveR
  by_cases hA : o.base.active = declarer.partner ∧ (!opened) = true
  · by_cases hB : declarer.partner ≠ p
    · simp only [if_pos hA, if_pos hB]
      cases hr0 : i.recv with
      | none => rfl
      | some x0 =>
        cases hd0 : (parseCards? x0.1 "Dummy".toList).bind parseHand? with
        | none => simp only [Option.bind_eq_bind, Option.bind_some, hd0]; rfl
        | some dh =>
          simp only [Option.bind_eq_bind, Option.pure_def, Option.bind_some, hd0]
          stage1 (o.setDummy dh), x0.2
    · simp only [if_pos hA, if_neg hB, Option.bind_eq_bind, Option.pure_def, Option.bind_some]
      stage1 o, i
  · simp only [if_neg hA, Option.bind_eq_bind, Option.pure_def, Option.bind_some]
    stage1 o, i

/-! ## the model's `clientPlayingR`, one trick at a time -/

/-- the "… to lead" message of one turn of `clientPlayingR` -/
def clientLeadR (p declarer : Seat) (o : Observed) (i : ClientIn) : Option (ClientActs × ClientIn) :=
  if (o.base.active = p ∧ p ≠ declarer.partner) ∨ (o.base.active = declarer.partner ∧ p = declarer) then do
    let (m, i) ← i.recv
    let leader ← parseLeader? m declarer.partner
    if leader = o.base.active then pure ([Act.recv (.s2c p)], i) else none
  else pure ([], i)

theorem clientPlayingR_succ (p declarer : Seat) (fuel : Nat) (o : Observed) (opened : Bool) (i : ClientIn) :
    clientPlayingR p declarer (fuel+1) o opened i =
      if o.base.hasDone then some ([], o, i) else (do
        let (acts0, i1) ← clientLeadR p declarer o i
        let (t, o2, opened2, i2) ← clientTrickR p declarer 4 o opened i1
        let (rest, o3, i3) ← clientPlayingR p declarer fuel o2 opened2 i2
        pure (acts0 ++ t ++ rest, o3, i3)) := by
  rw [clientPlayingR]
  unfold clientLeadR
  cases hd : o.base.hasDone with
  | true => rfl
  | false =>
    simp only [Bool.false_eq_true, if_false]
    by_cases hc : (o.base.active = p ∧ p ≠ declarer.partner) ∨ (o.base.active = declarer.partner ∧ p = declarer)
    · simp only [if_pos hc]
      cases hr : i.recv with
      | none => rfl
      | some x =>
        simp only [Option.bind_eq_bind, Option.bind_some]
        cases hl : parseLeader? x.1 declarer.partner with
        | none => rfl
        | some l =>
          simp only [Option.bind_some]
          by_cases hla : l = o.base.active
          · simp only [if_pos hla]
          · simp only [if_neg hla]
    · simp only [if_neg hc]

end Bridge.Translated.ClientB
