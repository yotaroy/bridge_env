import BridgeVerif.Translated.ThreadsMainBLemmasC
import BridgeVerif.Translated.MsgParsersA
/-! Translated `MainThread.playing_phase`: a sufficient condition for the `parse_card` hypotheses (every message of the
streams parses alike on both sides; it holds for ASCII texts), structurally recursive twins of `mainTrickR` /
`mainPlayingR` (which the kernel can evaluate) -/
set_option linter.unusedSimpArgs false
namespace Bridge.Translated.MainB
open Bridge Bridge.Py Bridge.Generated.PyCore

/-! ## `mainTrickR` unfolded; structurally recursive twins -/

/-- `mainTrickR` by recursion on the number of cards still to come -/
def mainTrickS (decl : Seat) (dm : Text) (first : Bool) : Nat → Nat → WithHands → MainIn →
    Option (MainActs × WithHands × MainIn)
  | 0, _, w, i => some ([], w, i)
  | n + 1, idx, w, i =>
    match MainIn.get i (playedM decl w) with
    | none => none
    | some (message, i1) =>
      match parseCard? message w.base.active with
      | none => none
      | some card =>
        match w.play card w.base.active with
        | .error _ => none
        | .ok w1 =>
          match mainTrickS decl dm first n (idx + 1) w1 i1 with
          | none => none
          | some (rest, wf, i2) =>
            some ([.recv (.t2m (playedM decl w))] ++ putAllBut (playedM decl w) message ++
              (if first ∧ idx = 0 then putAllBut decl.partner dm else []) ++ rest, wf, i2)

theorem mainTrickS_eq (decl : Seat) (dm : Text) (first : Bool) : ∀ (n idx : Nat) (w : WithHands) (i : MainIn),
    idx + n = 4 → mainTrickR decl dm first idx w i = mainTrickS decl dm first n idx w i := by
  intro n
  induction n with
  | zero =>
    intro idx w i h
    have : idx = 4 := by omega
    subst this
    rw [mainTrickR_four]; rfl
  | succ n ih =>
    intro idx w i h
    rw [mainTrickR_unfold _ _ _ _ _ _ (by omega), mainTrickS]
    cases MainIn.get i (playedM decl w) with
    | none => rfl
    | some mi =>
      obtain ⟨message, i1⟩ := mi
      simp only
      cases parseCard? message w.base.active with
      | none => rfl
      | some card =>
        simp only
        cases w.play card w.base.active with
        | error e => rfl
        | ok w1 =>
          simp only
          rw [ih (idx + 1) w1 i1 (by omega)]
          cases mainTrickS decl dm first n (idx + 1) w1 i1 <;> rfl

/-- `mainPlayingR.tricks` over `mainTrickS` -/
def tricksS (decl : Seat) (dm : Text) : Nat → Nat → WithHands → MainIn → Option (MainActs × WithHands × MainIn)
  | 0, _, w, i => some ([], w, i)
  | n + 1, k, w, i =>
    match mainTrickS decl dm (k = 1) 4 0 w i with
    | none => none
    | some (t, w', i') =>
      match tricksS decl dm n (k + 1) w' i' with
      | none => none
      | some (rest, wf, i_f) => some (putAll w.base.leader.formal ++ t ++ rest, wf, i_f)

theorem tricksS_eq (decl : Seat) (dm : Text) : ∀ (n k : Nat) (w : WithHands) (i : MainIn),
    mainPlayingR.tricks decl dm n k w i = tricksS decl dm n k w i := by
  intro n
  induction n with
  | zero => intro k w i; rfl
  | succ n ih =>
    intro k w i
    rw [tricks_succ, tricksS, mainTrickS_eq decl dm _ 4 0 w i rfl]
    cases mainTrickS decl dm (k = 1) 4 0 w i with
    | none => rfl
    | some x =>
      obtain ⟨t, w', i'⟩ := x
      simp only
      rw [ih]
      cases tricksS decl dm n (k + 1) w' i' <;> rfl

def mainPlayingS (decl : Seat) (dm : Text) (w0 : WithHands) (i : MainIn) : Option (MainActs × WithHands × MainIn) :=
  match tricksS decl dm 13 1 w0 i with
  | none => none
  | some (ts, w, i') => some (putAll decl.formal ++ ts, w, i')

theorem mainPlayingS_eq (decl : Seat) (dm : Text) (w0 : WithHands) (i : MainIn) :
    mainPlayingR decl dm w0 i = mainPlayingS decl dm w0 i := by
  rw [mainPlayingR_eq, tricksS_eq]; rfl

/-! ## the play only takes messages from the streams -/

theorem get_mem {i i1 : MainIn} {p : Seat} {m : Text} (hg : MainIn.get i p = some (m, i1)) :
    m ∈ i p ∧ ∀ q, ∀ x ∈ i1 q, x ∈ i q := by
  unfold MainIn.get at hg
  split at hg
  · rename_i m' r hip
    simp only [Option.some.injEq, Prod.mk.injEq] at hg
    obtain ⟨rfl, rfl⟩ := hg
    refine ⟨by rw [hip]; exact List.mem_cons_self .., fun q x hx => ?_⟩
    by_cases hq : q = p
    · subst hq
      simp only [if_true] at hx
      rw [hip]; exact List.mem_cons_of_mem _ hx
    · simpa only [hq, if_false] using hx
  · cases hg

theorem mainTrickR_mem (decl : Seat) (dm : Text) (first : Bool) : ∀ (n idx : Nat), idx + n = 4 →
    ∀ (w wf : WithHands) (i i_f : MainIn) (acts : MainActs), mainTrickR decl dm first idx w i = some (acts, wf, i_f) →
      ∀ p, ∀ m ∈ i_f p, m ∈ i p := by
  intro n
  induction n with
  | zero =>
    intro idx hidx w wf i i_f acts hr
    have : idx = 4 := by omega
    subst this
    rw [mainTrickR_four] at hr
    simp only [Option.some.injEq, Prod.mk.injEq] at hr
    obtain ⟨_, _, rfl⟩ := hr
    exact fun p m hm => hm
  | succ n ih =>
    intro idx hidx w wf i i_f acts hr
    obtain ⟨message, i1, card, w1, rest, hget, _, _, hrest, _⟩ := mainTrickR_inv (by omega) hr
    have h1 := ih (idx + 1) (by omega) w1 wf i1 i_f rest hrest
    exact fun p m hm => (get_mem hget).2 p m (h1 p m hm)

theorem tricks_mem (decl : Seat) (dm : Text) : ∀ (n k : Nat) (w wf : WithHands) (i i_f : MainIn) (acts : MainActs),
    mainPlayingR.tricks decl dm n k w i = some (acts, wf, i_f) → ∀ p, ∀ m ∈ i_f p, m ∈ i p := by
  intro n
  induction n with
  | zero =>
    intro k w wf i i_f acts hr
    simp only [mainPlayingR.tricks, Option.some.injEq, Prod.mk.injEq] at hr
    obtain ⟨_, _, rfl⟩ := hr
    exact fun p m hm => hm
  | succ n ih =>
    intro k w wf i i_f acts hr
    rw [tricks_succ] at hr
    cases ht : mainTrickR decl dm (k = 1) 0 w i with
    | none => rw [ht] at hr; cases hr
    | some x =>
      obtain ⟨t, w1, i1⟩ := x
      rw [ht] at hr
      simp only at hr
      cases hrs : mainPlayingR.tricks decl dm n (k + 1) w1 i1 with
      | none => rw [hrs] at hr; cases hr
      | some y =>
        obtain ⟨rest, w2, i2⟩ := y
        rw [hrs] at hr
        simp only [Option.some.injEq, Prod.mk.injEq] at hr
        obtain ⟨_, _, rfl⟩ := hr
        exact fun p m hm => mainTrickR_mem decl dm _ 4 0 rfl w w1 i i1 t ht p m (ih (k + 1) w1 w2 i1 i2 rest hrs p m hm)

theorem mainPlayingR_mem (decl : Seat) (dm : Text) (w0 w : WithHands) (i i' : MainIn) (acts : MainActs)
    (hr : mainPlayingR decl dm w0 i = some (acts, w, i')) : ∀ p, ∀ m ∈ i' p, m ∈ i p := by
  rw [mainPlayingR_eq] at hr
  cases hts : mainPlayingR.tricks decl dm 13 1 w0 i with
  | none => rw [hts] at hr; cases hr
  | some x =>
    obtain ⟨ts, wf, i_f⟩ := x
    rw [hts] at hr
    simp only [Option.some.injEq, Prod.mk.injEq] at hr
    obtain ⟨_, _, rfl⟩ := hr
    exact tricks_mem decl dm 13 1 w0 wf i i_f ts hts

/-! ## every message of the streams parses alike on both sides -/

/-- whatever the model's `parseCard?` makes of a queued message (for whichever seat), the translated `parse_card` makes
the same of it -/
def AllParse (i : MainIn) : Prop :=
  ∀ p, ∀ m ∈ i p, ∀ a card, parseCard? m a = some card → ParsesTo m a card

theorem allParse_of_mem {i i1 : MainIn} (h : AllParse i) (hsub : ∀ p, ∀ m ∈ i1 p, m ∈ i p) : AllParse i1 :=
  fun p m hm a card hp => h p m (hsub p m hm) a card hp

theorem trickParses_of_all (decl : Seat) : ∀ (n : Nat) (w : WithHands) (i : MainIn), AllParse i → TrickParses decl n w i := by
  intro n
  induction n with
  | zero => intro w i _; trivial
  | succ n ih =>
    intro w i h
    simp only [TrickParses]
    cases hg : MainIn.get i (playedM decl w) with
    | none => trivial
    | some mi =>
      obtain ⟨message, i1⟩ := mi
      obtain ⟨hm, hsub⟩ := get_mem hg
      simp only
      cases hp : parseCard? message w.base.active with
      | none => trivial
      | some card =>
        simp only
        refine ⟨h _ _ hm _ _ hp, ?_⟩
        cases w.play card w.base.active with
        | error e => trivial
        | ok w1 => exact ih w1 i1 (allParse_of_mem h hsub)

/-- THE SUFFICIENT CONDITION: if every queued message parses alike on both sides, the hypotheses of
`main_playing_translated` about `parse_card` hold -/
theorem playParses_of_all (decl : Seat) (dm : Text) : ∀ (n k : Nat) (w : WithHands) (i : MainIn),
    AllParse i → PlayParses decl dm n k w i := by
  intro n
  induction n with
  | zero => intro k w i _; trivial
  | succ n ih =>
    intro k w i h
    simp only [PlayParses]
    refine ⟨trickParses_of_all decl 4 w i h, ?_⟩
    cases ht : mainTrickR decl dm (k = 1) 0 w i with
    | none => trivial
    | some x =>
      obtain ⟨t, w', i'⟩ := x
      exact ih (k + 1) w' i' (allParse_of_mem h (mainTrickR_mem decl dm _ 4 0 rfl w w' i i' t ht))

/-- every text of the class `RegexMsgBid.agree` (every ASCII text) parses alike on both sides
(`MsgParsers.parse_card_translated`) -/
theorem allParse_of_agree (i : MainIn) (h : ∀ p, ∀ m ∈ i p, ∀ x ∈ m, RegexMsgBid.agree x = true) : AllParse i :=
  fun p m hm a card hc => MsgParsers.parse_card_translated m (h p m hm) a card hc

end Bridge.Translated.MainB
