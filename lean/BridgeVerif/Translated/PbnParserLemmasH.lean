import BridgeVerif.Translated.PbnParserLemmasG
/-! Translated PBN parser = model: the loop of `parse_stream`, `parse_stream`, `parse_all` -/
namespace Bridge.Translated
open Bridge Bridge.Py Bridge.Generated.PyCore Bridge.RegexPbn

theorem pp_psEnv_update (st : PbnSt) (cl cb : List Str) (fpv : Val) (games : List Game) (tail : Env) (v : Val) :
    update (psEnv st cl cb fpv games tail) n_line v = psEnv st cl cb fpv games (update tail n_line v) := rfl

/-- the games `parse_stream` yields, from a parser in state `st` -/
def streamFrom (st : PbnSt) (lines : List Str) : List Game :=
  ((if (lines.foldl streamStep (st, [])).1.buffer.isEmpty then (lines.foldl streamStep (st, [])).2
    else parseBoard (lines.foldl streamStep (st, [])).1.buffer.reverse :: (lines.foldl streamStep (st, [])).2)).reverse

theorem pp_streamFrom_fresh (lines : List Str) : streamFrom {} lines = parseStream lines := rfl

theorem pp_stream_loop (hf : PbnRegexFacts) (hne : PbnSubNonempty) (f N : Nat) (fpv : Val) : ∀ (lines : List Str)
    (st : PbnSt) (cl cb : List Str) (games : List Game) (tail : Env), LinesOk N lines →
    ∃ cl' cb' tail', forF (mkRec P (f + 4 * N + 32)) [n_line] psBody (psEnv st cl cb fpv games tail) (lines.map Val.str)
      = .ok (psEnv (lines.foldl streamStep (st, games)).1 cl' cb' fpv (lines.foldl streamStep (st, games)).2 tail', .next) := by
  intro lines
  induction lines with
  | nil => intro st cl cb games tail _; exact ⟨cl, cb, tail, rfl⟩
  | cons l lines ih =>
    intro st cl cb games tail hok
    have hl := hok l (List.mem_cons_self ..)
    have hok' : LinesOk N lines := fun x hx => hok x (List.mem_cons_of_mem _ hx)
    cases l with
    | nil => exact absurd rfl hl.1
    | cons c rest =>
    obtain ⟨cl', cb', tail', fl, hfl, hs⟩ := pp_step hf hne f N fpv c rest hl.2.1
      (fun hc => hl.2.2 (by rw [hc]; rfl)) st cl cb games tail
    simp only [List.map_cons, forF, pure_eq, bind_ok, pp_psEnv_update, exec_succ, List.foldl_cons, hs]
    rcases hfl with rfl | rfl <;> exact ih _ cl' cb' _ tail' hok'

/-- … and when an empty line follows the good lines `pre`, the loop raises `IndexError` -/
theorem pp_stream_loop_empty (hf : PbnRegexFacts) (hne : PbnSubNonempty) (f N : Nat) (fpv : Val) (post : List Str) :
    ∀ (pre : List Str) (st : PbnSt) (cl cb : List Str) (games : List Game) (tail : Env), LinesOk N pre →
    forF (mkRec P (f + 4 * N + 32)) [n_line] psBody (psEnv st cl cb fpv games tail) ((pre ++ [] :: post).map Val.str)
      = .error (.exc K.IndexError) := by
  intro pre
  induction pre with
  | nil =>
    intro st cl cb games tail _
    simp only [List.nil_append, List.map_cons, forF, pure_eq, bind_ok, pp_psEnv_update, exec_succ, pp_step_empty hf, bind_err]
  | cons l lines ih =>
    intro st cl cb games tail hok
    have hl := hok l (List.mem_cons_self ..)
    have hok' : LinesOk N lines := fun x hx => hok x (List.mem_cons_of_mem _ hx)
    cases l with
    | nil => exact absurd rfl hl.1
    | cons c rest =>
    obtain ⟨cl', cb', tail', fl, hfl, hs⟩ := pp_step hf hne f N fpv c rest hl.2.1
      (fun hc => hl.2.2 (by rw [hc]; rfl)) st cl cb games tail
    simp only [List.cons_append, List.map_cons, forF, pure_eq, bind_ok, pp_psEnv_update, exec_succ, hs]
    rcases hfl with rfl | rfl <;> exact ih _ cl' cb' _ tail' hok'

/-- `parse_stream(lines)` at an arbitrary fuel, from any parser state -/
theorem pp_stream_call (hf : PbnRegexFacts) (hne : PbnSubNonempty) (f N : Nat) (lines : List Str)
    (hok : LinesOk N lines) (st : PbnSt) (cl cb : List Str) :
    ∃ st' cl' cb', callF (mkRec P (f + 4 * N + 33)) m_PbnParser_parse_stream
        [encPbnParser st cl cb, .tuple (lines.map Val.str)]
      = .ok (.tuple ((streamFrom st lines).map encGame), encPbnParser st' cl' cb') := by
  obtain ⟨cl', cb', tail', hl⟩ := pp_stream_loop hf hne f N (.tuple (lines.map Val.str)) lines st cl cb [] [] hok
  simp only [streamFrom]
  generalize lines.foldl streamStep (st, []) = res at hl ⊢
  obtain ⟨⟨ic', buf'⟩, games'⟩ := res
  refine ⟨⟨ic', buf'⟩, cl', cb', ?_⟩
  have hbc : callF (mkRec P (f + 4 * N + 29)) m_PbnParser_parse_board [encPbnParser ⟨ic', buf'⟩ cl' cb']
      = .ok (encGame (parseBoard buf'.reverse), encPbnParser ⟨ic', buf'⟩ cl' cb') :=
    pp_board_call hf hne (f + 4 * N + 9) ⟨ic', buf'⟩ cl' cb'
  simp only [psBody, m_PbnParser_parse_stream, List.getD_cons_succ, List.getD_cons_zero, psEnv, encPbnParser,
    List.reverse_nil, List.map_nil] at hl
  simp only [encPbnParser] at hbc
  rw [callF_def]
  simp only [m_PbnParser_parse_stream, bindParams, Option.map, encPbnParser]
  cases buf' with
  | nil =>
    ppsimp [iterItems_tuple, hl, builtin_len_tuple, ofNat_beq_zero, List.length_map, List.length_reverse, List.isEmpty_nil]
  | cons b0 buf' =>
    simp only [List.reverse_cons, List.map_append, List.map_cons, List.map_nil] at hbc hl
    ppsimp [iterItems_tuple, hl, builtin_len_tuple, ofNat_beq_zero, List.length_map, List.length_reverse, List.isEmpty_cons,
      pp_mth_board, hbc, List.length_cons, List.reverse_cons, List.map_append, List.map_cons, List.map_nil,
      List.length_append]

theorem pp_stream_call_empty (hf : PbnRegexFacts) (hne : PbnSubNonempty) (f N : Nat) (pre post : List Str)
    (hok : LinesOk N pre) (st : PbnSt) (cl cb : List Str) :
    callF (mkRec P (f + 4 * N + 33)) m_PbnParser_parse_stream
        [encPbnParser st cl cb, .tuple ((pre ++ [] :: post).map Val.str)] = .error (.exc K.IndexError) := by
  have hl := pp_stream_loop_empty hf hne f N (.tuple ((pre ++ [] :: post).map Val.str)) post pre st cl cb [] [] hok
  simp only [psBody, m_PbnParser_parse_stream, List.getD_cons_succ, List.getD_cons_zero, psEnv, encPbnParser,
    List.reverse_nil, List.map_nil] at hl
  rw [callF_def]
  simp only [m_PbnParser_parse_stream, bindParams, Option.map, encPbnParser]
  ppsimp [iterItems_tuple, hl]

/-! ## `parse_all` -/
def paBody : List Stmt := [.mut (.var n_outputs) .append (.var n_x)]

theorem pp_all_loop (f : Nat) (sv fv iv : Val) : ∀ (vals acc : List Val) (tail : Env),
    ∃ tail', forF (mkRec P (f + 5)) [n_x] paBody
        ((K.self, sv) :: (n_fp, fv) :: (n_outputs, .tuple acc) :: (n__it1, iv) :: tail) vals
      = .ok ((K.self, sv) :: (n_fp, fv) :: (n_outputs, .tuple (acc ++ vals)) :: (n__it1, iv) :: tail', .next) := by
  intro vals
  induction vals with
  | nil => intro acc tail; exact ⟨tail, by simp only [forF, List.append_nil]; rfl⟩
  | cons v vals ih =>
    intro acc tail
    simp only [forF, paBody]
    ppsimp []
    obtain ⟨tail', h⟩ := ih (acc ++ [v]) (update tail n_x v)
    refine ⟨tail', ?_⟩
    simp only [paBody] at h
    rw [h]
    simp only [List.append_assoc, List.cons_append, List.nil_append]

theorem pp_all_call (hf : PbnRegexFacts) (hne : PbnSubNonempty) (f N : Nat) (lines : List Str)
    (hok : LinesOk N lines) (st : PbnSt) (cl cb : List Str) :
    ∃ st' cl' cb', callF (mkRec P (f + 4 * N + 36)) m_PbnParser_parse_all
        [encPbnParser st cl cb, .tuple (lines.map Val.str)]
      = .ok (.tuple ((streamFrom st lines).map encGame), encPbnParser st' cl' cb') := by
  obtain ⟨st', cl', cb', hs⟩ := pp_stream_call hf hne f N lines hok st cl cb
  refine ⟨st', cl', cb', ?_⟩
  obtain ⟨tail', hl⟩ := pp_all_loop (f + 4 * N + 29) (encPbnParser st' cl' cb') (.tuple (lines.map Val.str))
    (.tuple ((streamFrom st lines).map encGame)) ((streamFrom st lines).map encGame) [] []
  have e : f + 4 * N + 29 + 5 = f + 4 * N + 34 := by omega
  rw [e] at hl
  simp only [paBody, encPbnParser, List.nil_append] at hl
  simp only [encPbnParser] at hs
  rw [callF_def]
  simp only [m_PbnParser_parse_all, bindParams, Option.map, encPbnParser]
  ppsimp [builtin_tuple_nil, pp_mth_stream, hs, iterItems_tuple, hl]

theorem pp_all_call_empty (hf : PbnRegexFacts) (hne : PbnSubNonempty) (f N : Nat) (pre post : List Str)
    (hok : LinesOk N pre) (st : PbnSt) (cl cb : List Str) :
    callF (mkRec P (f + 4 * N + 36)) m_PbnParser_parse_all
        [encPbnParser st cl cb, .tuple ((pre ++ [] :: post).map Val.str)] = .error (.exc K.IndexError) := by
  have hs := pp_stream_call_empty hf hne f N pre post hok st cl cb
  simp only [encPbnParser] at hs
  rw [callF_def]
  simp only [m_PbnParser_parse_all, bindParams, Option.map, encPbnParser]
  ppsimp [builtin_tuple_nil, pp_mth_stream, hs]

end Bridge.Translated
