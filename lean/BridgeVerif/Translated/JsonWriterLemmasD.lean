import BridgeVerif.Translated.JsonWriterLemmasC
/-! Translated JSON writers = model: the last two statements shared by both `write` methods, the body of
`JsonLogWriter.write` (symbolic execution up to the call of `_write_content`), and what `json.dumps` sees of the dict it
builds -/
namespace Bridge.Translated
open Bridge Bridge.Py Bridge.Generated.PyCore

/-- well-formedness of a double-dummy table as a Python `dict` of `dict`s: the keys are pairwise distinct -/
def DdaWF (d : Dda) : Prop := (d.map (·.1)).Nodup ∧ ∀ pr ∈ d, (pr.2.map (·.1)).Nodup

/-- what the code needs of the arguments of `JsonLogWriter.write` -/
structure LogWF (e : LogEntry) : Prop where
  /-- ranks 2..14: `str(card)` prints the model's text and `sorted(deal[p])` is `sortAsc` -/
  deal : ∀ p, ∀ c ∈ e.deal p, 2 ≤ c.rank ∧ c.rank ≤ 14
  play : ∀ ts, e.play = some ts → ∀ t ∈ ts, ∀ c ∈ t.cards, 2 ≤ c.rank ∧ c.rank ≤ 14
  dda : ∀ d, e.dda = some d → DdaWF d

def ddaKvs : Option Dda → List (Val × Val)
  | none => []
  | some d => [(.str (jkey "dda"), ddaVal d)]

/-- the dict `JsonLogWriter.write` builds before it looks at `dda` -/
def logKvs (e : LogEntry) : List (Val × Val) :=
  [(.str (jkey "players"), .dict [(.str ['N'], .str e.north), (.str ['E'], .str e.east), (.str ['S'], .str e.south),
                                  (.str ['W'], .str e.west)]),
   (.str (jkey "board_id"), .str e.boardId),
   (.str (jkey "dealer"), .str e.dealer.name),
   (.str (jkey "deal"), dealVal e.deal),
   (.str (jkey "vulnerability"), .str (vulStr e.contract.vul)),
   (.str (jkey "bid_history"), strList (e.bids.map callStr)),
   (.str (jkey "contract"), .str (contractStr e.contract)),
   (.str (jkey "declarer"), if e.contract.isPassedOut = true then .none else .str (seatOptStr e.contract.declarer)),
   (.str (jkey "play_history"), playVal e.play),
   (.str (jkey "taken_trick"), encOpt Val.int e.tricks),
   (.str (jkey "score_type"), .str e.scoring.value),
   (.str (jkey "scores"), .dict [(.str (jkey "NS"), .int e.scoreNS), (.str (jkey "EW"), .int e.scoreEW)])]

/-- the dict `JsonLogWriter.write` hands to `_write_content` -/
def logVal (e : LogEntry) : Val := .dict (logKvs e ++ ddaKvs e.dda)

theorem jw_ite_ok {α} (b : Prop) [Decidable b] (x y : α) :
    (if b then (Except.ok x : R α) else Except.ok y) = Except.ok (if b then x else y) := by
  split <;> rfl

theorem jw_mth_lw_write : P.method? classDepth n_JsonLogWriter n_write = some (n_JsonLogWriter, m_JsonLogWriter_write) := rfl
theorem jw_mth_base_write_content :
    P.method? classDepth n_JsonWriter n__write_content = some (n_JsonWriter, m_JsonWriter__write_content) := rfl
theorem jw_beq_dda_none (d : Dda) : (jwEncDda d).beq .none = false := by simp only [jwEncDda, Val.beq]

theorem jw_contract_vul (r : Rec) (c : Contract) : getAttrF r P (encContract c) n_vul = .ok (encVul c.vul) := rfl
theorem jw_contract_declarer (r : Rec) (c : Contract) :
    getAttrF r P (encContract c) n_declarer = .ok (encOpt encSeat c.declarer) := rfl
theorem jw_meth_ipo (f : Nat) (c : Contract) :
    methF (mkRec P (f+11)) P (encContract c) n_is_passed_out [] = .ok (.bool c.isPassedOut, encContract c) := by
  simp only [encContract, Py.meth_obj, callMethod, jw_mth_contract_ipo, call_succ]
  exact jw_contract_ipo_call f c

/-! ## the end of both `write` methods -/
/-- the last two statements of `JsonLogWriter.write` (`x = result`) and of `JsonBoardSettingWriter.write`
(`x = setting`): `if dda is not None: x['dda'] = {…}` and `JsonWriter._write_content(self, x)` -/
def jwWriteTail (x : Id) : List Stmt :=
  [.ite (.cmp .isNot (.var n_dda) (.const .none)) [.assign (.index (.var x) (.const (.str ['d', 'd', 'a']))) jwDdaExpr] [],
   .callMutStatic n_JsonWriter n__write_content [.var K.self, .var x]]

theorem jw_lw_body : m_JsonLogWriter_write.body = m_JsonLogWriter_write.body.take 2 ++ jwWriteTail n_result := rfl

theorem jw_update_self (env : Env) (x : Id) (v : Val) (h : lookup env x = some v) : update env x v = env := by
  induction env with
  | nil => cases h
  | cons a r ih =>
    obtain ⟨k, w⟩ := a
    by_cases hk : k = x
    · simp only [lookup, hk, if_true, Option.some.injEq] at h
      simp only [update, hk, if_true, h]
    · simp only [lookup, hk, if_false] at h
      simp only [update, hk, if_false, ih h]

/-- with the record `kvs` in `x`: the double-dummy table, if any, becomes its last item (`'dda'` is not yet a key), and
the record goes to `_write_content` -/
theorem jw_write_tail (f : Nat) (x : Id) (hx : x ≠ K.self) (env : Env) (self : Val) (kvs : List (Val × Val))
    (dda : Option Dda) (hs : lookup env K.self = some self) (hr : lookup env x = some (.dict kvs))
    (hd : lookup env n_dda = some (encOpt jwEncDda dda)) (hk : ∀ a ∈ kvs, a.1.beq (.str ['d', 'd', 'a']) = false)
    (hwf : ∀ d, dda = some d → DdaWF d) :
    execF (mkRec P (f+30)) P env (jwWriteTail x)
      = (callF (mkRec P (f+29)) m_JsonWriter__write_content [self, .dict (kvs ++ ddaKvs dda)] >>= fun r =>
          .ok (update (update env x (.dict (kvs ++ ddaKvs dda))) K.self r.2, .next)) := by
  cases dda with
  | none =>
    simp only [jwWriteTail, jwDdaExpr, m_JsonLogWriter_write, List.getD_cons_succ, List.getD_cons_zero]
    ppsimp [hs, hr, hd, beq_none_none, jw_mth_base_write_content, ddaKvs, List.append_nil, jw_update_self env x _ hr]
    rw [bind_assoc]; rfl
  | some d =>
    have he := fun f => jw_eval_dda f env d hd (hwf d rfl).1 (hwf d rfl).2
    simp only [jwWriteTail, jwDdaExpr, m_JsonLogWriter_write, List.getD_cons_succ, List.getD_cons_zero] at he ⊢
    ppsimp [hs, hr, hd, jw_beq_dda_none, jw_mth_base_write_content, ddaKvs, ↓he, jw_updateD_fresh kvs _ _ hk, hx, jkey,
      String.reduceToList]
    rw [bind_assoc]; rfl

/-! ## `JsonLogWriter.write` -/
theorem jw_logKvs_fresh (e : LogEntry) : ∀ a ∈ logKvs e, a.1.beq (.str ['d', 'd', 'a']) = false := by
  have hk : ∀ k ∈ (logKvs e).map (·.1), k.beq (.str ['d', 'd', 'a']) = false := by
    simp only [logKvs, List.map_cons, List.map_nil]
    decide +kernel
  exact fun a ha => hk a.1 (List.mem_map_of_mem ha)

theorem jw_log_write_call_aux (f : Nat) (chunks : List Str) (fl : Bool) (e : LogEntry) (sc : List (Val × Val))
    (hns : lookupD sc (encSide .NS) = some (.int e.scoreNS)) (hew : lookupD sc (encSide .EW) = some (.int e.scoreEW))
    (hwf : LogWF e) :
    callF (mkRec P (f+70)) m_JsonLogWriter_write (encWriter n_JsonLogWriter chunks true fl :: logArgsWith (.dict sc) e)
      = (callF (mkRec P (f+68)) m_JsonWriter__write_content [encWriter n_JsonLogWriter chunks true fl, logVal e]
          >>= fun x => .ok (.none, x.2)) := by
  rw [callF_def, jw_lw_body, logVal]
  have htail := fun f env => jw_write_tail f n_result (by decide) env (encWriter n_JsonLogWriter chunks true fl) _ e.dda
    (hk := jw_logKvs_fresh e) (hwf := hwf.dda)
  have hplay := fun f env hl => jw_eval_play f env e.contract e.play hl hwf.play
  have hns' : lookupD sc (.enum n_Pair 1) = some (.int e.scoreNS) := hns
  have hew' : lookupD sc (.enum n_Pair 2) = some (.int e.scoreEW) := hew
  simp only [m_JsonLogWriter_write, List.take_succ_cons, List.take_zero, List.cons_append, List.nil_append, bindParams,
    Option.map, encWriter, logArgsWith, logKvs, jkey, String.reduceToList, strList, jwPlayExpr, List.getD_cons_succ,
    List.getD_cons_zero] at htail hplay ⊢
  -- the first two statements; the conditional expression for `play_history` is `jw_eval_play`, given as a rewrite to
  -- try first (`↓`): otherwise the expression is unfolded before the lemma about it is tried
  ppsimp [jw_str_seat, jw_fn_convert_deal, jw_convert_deal_call _ _ hwf.deal, jw_str_vul, iterItems_tuple, jw_comp_str_bids,
    jw_str_contract, jw_meth_ipo, jw_contract_vul, jw_contract_declarer, jw_ite_ok, jw_str_optSeat, hns', hew', updateD,
    beq_str, List.map_cons, List.map_nil, encScoring, ↓hplay]
  rw [htail _ _ rfl rfl rfl]
  simp only [bind_assoc, bind_ok, lookup_update_same, Option.getD_some, Nat.add_assoc, Nat.reduceAdd]

/-! ## what `json.dumps` sees -/
theorem jw_ddaKvs_json (o : Option Dda) :
    kvsToJson (ddaKvs o) = some (match o with | none => [] | some d => [(jkey "dda", ddaJson d)]) := by
  cases o with
  | none => rfl
  | some d => simp only [ddaKvs, kvsToJson, jw_ddaVal_json]

theorem jw_kvsToJson_append (a b : List (Val × Val)) :
    kvsToJson (a ++ b) = match kvsToJson a, kvsToJson b with
      | some x, some y => some (x ++ y)
      | _, _ => none := by
  induction a with
  | nil => simp only [List.nil_append, kvsToJson]; cases kvsToJson b <;> rfl
  | cons x a ih =>
    obtain ⟨k, v⟩ := x
    cases k <;> try (simp only [List.cons_append, kvsToJson]; done)
    simp only [List.cons_append, kvsToJson, ih]
    cases valToJson v <;> cases kvsToJson a <;> cases kvsToJson b <;> rfl

theorem jw_playVal_json (play : Option (List Trick)) :
    valToJson (playVal play) = some (match play with | none => .null | some ts => .arr (ts.map trickJson)) := by
  cases play with
  | none => rfl
  | some ts => simp only [playVal, valToJson, jw_tricks_json, Option.map]

theorem jw_optInt_json (n : Option Int) :
    valToJson (encOpt Val.int n) = some (match n with | none => .null | some n => .int n) := by
  cases n <;> rfl

theorem jw_logVal_json (e : LogEntry) : valToJson (logVal e) = some (logJson e) := by
  have hd : valToJson (if e.contract.isPassedOut = true then .none else .str (seatOptStr e.contract.declarer))
      = some (if e.contract.isPassedOut = true then .null else jstr (seatOptStr e.contract.declarer)) := by
    split <;> rfl
  simp only [logVal, logKvs, valToJson, kvsToJson, Option.map, logJson, jw_kvsToJson_append, jw_ddaKvs_json, jw_dealVal_json,
    jw_strList_json, jw_playVal_json, jw_optInt_json, hd, jstr, List.map_map]
  rfl
end Bridge.Translated
