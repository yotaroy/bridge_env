import BridgeVerif.Translated.ThreadsSeatA
import BridgeVerif.Translated.Auction
import BridgeVerif.Lemmas.MiniPyFuel
/-! Translated `ClientThread`: encodings of the client's world and thread object, the `_World` methods on a client
world, parser hypotheses, `Client.create_bid_message` evaluated on every call × seat -/
namespace Bridge.Translated.ClientA
open Bridge Bridge.Py Bridge.Generated.PyCore

/-! ## encodings -/

/-- the client's world: the connection stream `s2c p`, the decisions the bidding system / the playing system will return
(what `w_ask("bid", …)` / `w_ask("play", …)` take from) -/
def encClientWorld (s : List Str) (bids : List Val) (plays : List Val) (out : List Val) : Val :=
  encWorld [(vstr "conn", vtexts s), (vstr "bid", .tuple bids), (vstr "play", .tuple plays)] out (.dict []) [] false

/-- the client object: the four attributes `ClientThread.__init__` assigns, in its order, then `extra`
(`_deal` adds `board_num`, `dealer`, `vul`, `hand_set`, `hand_binary`) -/
def encClientThread (p : Seat) (w : Val) (team : Str) (opp : Val) (extra : List (Id × Val)) : Val :=
  .obj n_ClientThread ((n__w, w) :: (n_player, encSeat p) :: (n_team_name, .str team) :: (n_opponent_team_name, opp) :: extra)

/-- one action of the client of seat `p` as the world operation it records -/
def encClientAct (p : Seat) : SAct Text LogOp → Option (List Val)
  | .send (.c2s q) m => if q = p then some [.tuple [vstr "send", .str m]] else none
  | .recv (.s2c q) => if q = p then some [.tuple [vstr "recv"]] else none
  | _ => none

def encClientActs (p : Seat) : List (SAct Text LogOp) → Option (List Val)
  | [] => some []
  | a :: r => do
    let x ← encClientAct p a
    let xs ← encClientActs p r
    pure (x ++ xs)

/-- the world operation of a decision of the bidding system: `w_ask("bid", None)` -/
def bidAsk : Val := .tuple [vstr "bid", .none]

/-! ## the client's world, opened -/
theorem ct_encClientWorld_def (s : List Str) (bids plays out : List Val) :
    encClientWorld s bids plays out = .obj n__World [(n_ins, .dict [(vstr "conn", vtexts s), (vstr "bid", .tuple bids),
      (vstr "play", .tuple plays)]), (n_out, .tuple out), (n_table, .dict []), (n_tables, .tuple []), (n_eof, .bool false)] := rfl

theorem ct_lookupD_conn (a b c : Val) :
    lookupD [(vstr "conn", a), (vstr "bid", b), (vstr "play", c)] (.str ['c', 'o', 'n', 'n']) = some a := by
  simp [lookupD, vstr, Val.beq]
theorem ct_updateD_conn (a b c v : Val) :
    updateD [(vstr "conn", a), (vstr "bid", b), (vstr "play", c)] (.str ['c', 'o', 'n', 'n']) v
      = [(vstr "conn", v), (vstr "bid", b), (vstr "play", c)] := by
  simp [updateD, vstr, Val.beq]
theorem ct_lookupD_bid (a b c : Val) :
    lookupD [(vstr "conn", a), (vstr "bid", b), (vstr "play", c)] (.str ['b', 'i', 'd']) = some b := by
  simp [lookupD, vstr, Val.beq]
theorem ct_updateD_bid (a b c v : Val) :
    updateD [(vstr "conn", a), (vstr "bid", b), (vstr "play", c)] (.str ['b', 'i', 'd']) v
      = [(vstr "conn", a), (vstr "bid", v), (vstr "play", c)] := by
  simp [updateD, vstr, Val.beq]



attribute [pyworld] ct_lookupD_conn ct_updateD_conn ct_lookupD_bid ct_updateD_bid
theorem ct_w_recv_call (f : Nat) (msg : Str) (s : List Str) (bids plays out : List Val) :
    callF (mkRec P (f+12)) m__World_w_recv [encClientWorld (msg :: s) bids plays out]
      = .ok (.str msg, encClientWorld s bids plays (out ++ [.tuple [vstr "recv"]])) := by
  have h := SeatB.sb_w_recv_of (f+4) _ out (.dict []) [] false _ _
    (ct_lookupD_conn (vtexts (msg :: s)) (.tuple bids) (.tuple plays))
  rwa [ct_updateD_conn] at h

theorem ct_w_recv_blocked (f : Nat) (bids plays out : List Val) :
    callF (mkRec P (f+12)) m__World_w_recv [encClientWorld [] bids plays out] = .error (.exc n_Blocked) :=
  SeatB.sb_w_recv_blocked (f+4) _ out _ _ false (ct_lookupD_conn _ _ _)

theorem ct_w_send_call (f : Nat) (s : List Str) (bids plays out : List Val) (m : Val) :
    callF (mkRec P (f+12)) m__World_w_send [encClientWorld s bids plays out, m]
      = .ok (.none, encClientWorld s bids plays (out ++ [.tuple [vstr "send", m]])) :=
  SeatB.sb_w_send (f+6) _ out _ _ false m

theorem ct_w_ask_bid_call (f : Nat) (s : List Str) (b : Val) (bids plays out : List Val) :
    callF (mkRec P (f+12)) m__World_w_ask [encClientWorld s (b :: bids) plays out, .str ['b', 'i', 'd'], .none]
      = .ok (b, encClientWorld s bids plays (out ++ [bidAsk])) := by
  have h := SeatB.sb_w_ask_of (f+4) _ out (.dict []) [] false _ .none _ _
    (ct_lookupD_bid (vtexts s) (.tuple (b :: bids)) (.tuple plays))
  rwa [ct_updateD_bid] at h

theorem ct_w_ask_bid_blocked (f : Nat) (s : List Str) (plays out : List Val) :
    callF (mkRec P (f+12)) m__World_w_ask [encClientWorld s [] plays out, .str ['b', 'i', 'd'], .none]
      = .error (.exc n_Blocked) :=
  SeatB.sb_w_ask_blocked (f+4) _ out _ _ false _ _ (ct_lookupD_bid _ _ _)

theorem ct_methF_world (r : Rec) (s : List Str) (bids plays out : List Val) (m : Id) (args : List Val) :
    methF r P (encClientWorld s bids plays out) m args
      = callMethod r P n__World m (encClientWorld s bids plays out :: args) (.exc K.AttributeError) := rfl

theorem ct_thread_def (p : Seat) (w : Val) (team : Str) (opp : Val) (extra : List (Id × Val)) :
    encClientThread p w team opp extra = .obj n_ClientThread ((n__w, w) :: (n_player, encSeat p) ::
      (n_team_name, .str team) :: (n_opponent_team_name, opp) :: extra) := rfl

attribute [pyworld] ct_methF_world ct_w_recv_call ct_w_recv_blocked ct_w_send_call ct_w_ask_bid_call ct_w_ask_bid_blocked
/-! ## "the static method returns `v`" at every sufficiently large fuel -/

/-- `fd(args)` returns `v` at every interpreter fuel `≥ N` (the hypotheses about the translated parsers have this form) -/
def Returns (N : Nat) (fd : FuncDef) (args : List Val) (v : Val) : Prop :=
  ∀ f, N ≤ f → (callFn P f fd args).map (·.1) = .ok v

/-- one fuel suffices (`callFn_fuel_mono`) -/
theorem Returns.of_fuel {N : Nat} {fd : FuncDef} {args : List Val} {v : Val}
    (h : (callFn P N fd args).map (·.1) = .ok v) : Returns N fd args v := by
  intro f hf
  cases hx : callFn P N fd args with
  | error e => rw [hx] at h; cases h
  | ok x =>
    rw [callFn_fuel_mono P hf fd args (.ok x) hx (by intro h'; cases h')]
    rw [hx] at h; exact h

theorem Returns.callF {N : Nat} {fd : FuncDef} {args : List Val} {v : Val} (h : Returns N fd args v) :
    ∃ s, ∀ g, N ≤ g + 1 → callF (mkRec P g) fd args = .ok (v, s) := by
  cases hx : callFn P N fd args with
  | error e => have := h N (Nat.le_refl _); rw [hx] at this; cases this
  | ok x =>
    obtain ⟨v', s⟩ := x
    have hv := h N (Nat.le_refl _)
    rw [hx] at hv
    have hv' : v' = v := by injection hv
    subst hv'
    exact ⟨s, fun g hg => callFn_fuel_mono P hg fd args _ hx (by intro h'; cases h')⟩

/-! ## `Client.create_bid_message` on every call × seat -/

def retStr (r : R (Val × Val)) (s : Str) : Bool :=
  match r with
  | .ok (.str t, _) => t == s
  | _ => false

theorem ct_cbm_all : ∀ c ∈ Call.all, ∀ p ∈ Seat.all,
    retStr (callFn P 15 m_Client_create_bid_message [encCall c, .str p.formal]) (bidMsg c p.formal) = true := by
  decide +kernel

/-- `Client.create_bid_message(bid, name)` is `bidMsg` (evaluated over the 38 calls × 4 seats) -/
theorem create_bid_message_translated (c : Call) (p : Seat) :
    Returns 15 m_Client_create_bid_message [encCall c, .str p.formal] (.str (bidMsg c p.formal)) := by
  apply Returns.of_fuel
  have h := ct_cbm_all c (call_mem_all c) p (seat_mem_all p)
  cases hx : callFn P 15 m_Client_create_bid_message [encCall c, .str p.formal] with
  | error e => rw [hx] at h; simp [retStr] at h
  | ok x =>
    obtain ⟨v, s⟩ := x
    rw [hx] at h
    cases v <;> simp [retStr] at h
    subst h
    rfl

theorem ct_mth_cbm :
    P.method? classDepth n_Client n_create_bid_message = some (n_Client, m_Client_create_bid_message) := rfl
theorem ct_mth_parse_bid :
    P.method? classDepth n_MessageInterface n_parse_bid = some (n_MessageInterface, m_MessageInterface_parse_bid) := rfl
theorem ct_mth_parse_board : P.method? classDepth n_Client n_parse_board = some (n_Client, m_Client_parse_board) := rfl
theorem ct_mth_parse_cards : P.method? classDepth n_Client n_parse_cards = some (n_Client, m_Client_parse_cards) := rfl
theorem ct_mth_parse_hand : P.method? classDepth n_Client n_parse_hand = some (n_Client, m_Client_parse_hand) := rfl

theorem ct_active_player (f : Nat) (s : AState) :
    getAttrF (mkRec P (f+8)) P (encState s) n_active_player = .ok (encOpt encSeat s.active) := by
  rfl

end Bridge.Translated.ClientA
