import BridgeVerif.Translated.ThreadsClientCLemmasB
import BridgeVerif.Translated.ThreadsClientHands
/-!
# The TRANSLATED client thread, whole: `ClientThread.run` (Generated/PyCoreThreads.lean) IS `_connect` + `clientReactive`

Statements are about the generated `m_ClientThread_run` (its `while True` statement `crLoop` and the loop's body `crBody`
are EXTRACTED from `m_ClientThread_run.body`, ThreadsClientCLemmasB.lean) run by the MiniPy interpreter in the whole
translated program `P`, for EVERY fuel from a stated bound on, on the client object
`encClientThread p (encClientWorld s (calls.map encCall) (cards.map encCard) out) team opp extra`.  The phases are the
colleagues' theorems (`client_connect_translated`, `client_deal_translated`, `client_bidding_translated` of
Translated/ThreadsClientA.lean, `client_playing_translated` of Translated/ThreadsClientB.lean), composed here.

* Translated/ThreadsClientCLemmas.lean — `clientBoardR` = ONE board of the model's `clientBoardsR` (`clientBoardsR_succ`);
  what the phases do to the three streams (`clientBiddingR_streams`, `clientPlayingR_inv`: they consume from the front); `eraseDecisions` = `erasePlays ∘
  eraseAsks` and the rendering of the model's actions contains no decision (`encClientActs_clean`).
* Translated/ThreadsClientCLemmasB.lean — `crBody` cut into `crFront` (the "start of board" test, `_deal`, `bidding_phase`,
  `playing_phase` unless passed out) and `crBack` (the next message, the "End of session" test, `board_num += 1`), both
  executed symbolically with the phases as rewrite rules.
* here: `boardParses` / `boardsParses` (the parse hypotheses of the phases composed, walking the streams like the model),
  (1) `client_board_translated`, (2) `cr_boards_loop` (the loop invariant, by induction on the model's fuel; one
  interpreter level per board) and `client_boards_translated`, (3) `client_run_translated`, and closed instances of all
  three (a passed-out board that ends the session; the translated parsers are evaluated on its header and relayed passes,
  the hand message is read by the theorems of Translated/ThreadsClientHands.lean).

The operations are given as `∃ ops` with `encClientActs p acts = some (eraseDecisions ops)` (as in ThreadsClientB.lean),
`ops` not depending on the fuel.  The object's attributes: `Dealt` / `DealtStar` (`dealtFields` iterated, `hand_set` the
encoding of the model's hand), `DealtStar.shape_nil`: from a fresh object exactly the five attributes of `_deal`.
The local `board_num` ends as the initial value plus `boardsMore` (the boards after the first).
-/
namespace Bridge.Translated.ClientC
open Bridge Bridge.Py Bridge.Generated.PyCore Bridge.Translated Bridge.Translated.ClientA Bridge.Translated.ClientB

/-! ## (1) one board -/

theorem lookup_dealtFields_hand_set (extra : List (Id × Val)) (k : Nat) (dealer : Seat) (vul : Vul) (hs hb : Val) :
    lookup (dealtFields extra k dealer vul hs hb) n_hand_set = some hs := by
  unfold dealtFields
  rw [lookup_update_ne _ _ _ _ (by decide), lookup_update_same]

theorem clientDealR_len (p : Seat) (i i' : ClientIn) (acts : ClientActs) (b : Nat × Seat × Vul) (hand : List Card)
    (h : clientDealR p i = some (acts, b, hand, i')) : i'.s.length + 2 = i.s.length := by
  obtain ⟨_, _, e⟩ := clientDealR_decisions p i i' acts b hand h
  obtain ⟨s, calls, cards⟩ := i
  match s, h, e with
  | _ :: _ :: s0, _, e => rw [e]; simp
  | [], h, _ => simp [clientDealR, ClientIn.recv] at h
  | [hd], h, _ =>
    simp only [clientDealR, ClientIn.recv, Option.bind_eq_bind, Option.bind_some] at h
    cases hb0 : parseBoard? hd <;> simp [hb0] at h

/-- the parse hypotheses of ONE board, walking the streams like `clientBoardR`: `dealParses` on the two messages of `_deal`
(with `hand_set` the encoding of the hand the model parses), `bidParses` along `clientBiddingR`, and — when a contract was
reached — `PlayParses` on the stream the auction leaves -/
def boardParses (N : Nat) (p : Seat) (i : ClientIn) : Prop :=
  match clientDealR p i with
  | none => True
  | some (_, (_, dealer, vul), hand, i1) =>
    (∃ hb, dealParses N p i (encCards hand) hb) ∧
    bidParses N p (320 + 1) (AState.init dealer vul) i1 ∧
    match clientBiddingR p (320 + 1) (AState.init dealer vul) i1 with
    | none => True
    | some (_, s, i2) =>
      match s.contract with
      | none => True
      | some c => c.isPassedOut = false → PlayParses N i2

/-- how to establish `boardParses` -/
theorem boardParses_of (N : Nat) (p : Seat) (i i1 : ClientIn) (d : ClientActs) (kb : Nat) (dealer : Seat) (vul : Vul)
    (hand : List Card) (hd : clientDealR p i = some (d, (kb, dealer, vul), hand, i1))
    (h1 : ∃ hb, dealParses N p i (encCards hand) hb) (h2 : bidParses N p (320 + 1) (AState.init dealer vul) i1)
    (h3 : ∀ b s i2 c, clientBiddingR p (320 + 1) (AState.init dealer vul) i1 = some (b, s, i2) → s.contract = some c →
      c.isPassedOut = false → PlayParses N i2) : boardParses N p i := by
  unfold boardParses
  rw [hd]
  refine ⟨h1, h2, ?_⟩
  cases hb : clientBiddingR p (320 + 1) (AState.init dealer vul) i1 with
  | none => trivial
  | some x =>
    obtain ⟨b, s, i2⟩ := x
    dsimp only
    cases hc : s.contract with
    | none => trivial
    | some c => exact h3 b s i2 c hb hc

/-- the object's attributes after one more `_deal` -/
def Dealt (extra extra' : List (Id × Val)) : Prop :=
  ∃ (k : Nat) (dealer : Seat) (vul : Vul) (hand : List Card) (hb : Val),
    extra' = dealtFields extra k dealer vul (encCards hand) hb

theorem callFn_eq_callF (f : Nat) (fd : FuncDef) (args : List Val) :
    callFn P (f+1) fd args = callF (mkRec P f) fd args := rfl

/-- the playing part of a board, translated; nothing happens when the auction was passed out -/
theorem cr_play_all_fuels (p : Seat) (c : Contract) (hand : List Card) (i2 i3 : ClientIn) (pl : ClientActs) (N : Nat)
    (h : clientPlayR p c hand i2 = some (pl, i3)) (hp : c.isPassedOut = false → PlayParses N i2)
    (out : List Val) (team : Str) (opp : Val) (extra : List (Id × Val))
    (hhs : lookup extra n_hand_set = some (encCards hand)) :
    ∃ ops, encClientActs p pl = some (erasePlays ops) ∧ i3.calls = i2.calls ∧ i3.s.length ≤ i2.s.length ∧
      (c.isPassedOut = true → i3 = i2 ∧ ops = []) ∧
      (c.isPassedOut = false → ∀ f, N + 124 ≤ f →
        callFn P f m_ClientThread_playing_phase
          [encClientThread p (encClientWorld i2.s (i2.calls.map encCall) (i2.cards.map encCard) out) team opp extra,
            encContract c]
        = .ok (.none, encClientThread p (encClientWorld i3.s (i2.calls.map encCall) (i3.cards.map encCard) (out ++ ops))
            team opp extra)) := by
  unfold clientPlayR at h
  cases hpo : c.isPassedOut with
  | true =>
    simp only [hpo, if_true, Option.pure_def, Option.some.injEq, Prod.mk.injEq] at h
    obtain ⟨rfl, rfl⟩ := h
    exact ⟨[], rfl, rfl, Nat.le_refl _, fun _ => ⟨rfl, rfl⟩, fun h => absurd h (by decide)⟩
  | false =>
    simp only [hpo, Bool.false_eq_true, if_false] at h
    cases hdecl : c.declarer with
    | none => rw [hdecl] at h; cases h
    | some decl =>
      cases h0 : Observed.init c p hand with
      | none => rw [hdecl, h0] at h; cases h
      | some o0 =>
        rw [hdecl, h0] at h
        simp only [Option.bind_eq_bind] at h
        obtain ⟨⟨acts, o', i3'⟩, hpl, h⟩ := Option.bind_eq_some_iff.1 h
        simp only [Option.pure_def, Option.some.injEq, Prod.mk.injEq] at h
        obtain ⟨rfl, rfl⟩ := h
        obtain ⟨ops, ho, hx⟩ := client_playing_translated p decl c hand o0 o' 14 N i2 i3' acts hdecl h0 hpl (hp hpo)
          (i2.calls.map encCall) out team opp extra hhs (14 + N + 110) (Nat.le_refl _)
        obtain ⟨e1, e2, _⟩ := clientPlayingR_inv p decl 14 o0 o' false i2 i3' acts hpl
        exact ⟨ops, ho, e1, e2.length_le, fun h => absurd h (by decide), fun _ f hf =>
          callFn_fuel_mono P (by omega) _ _ _ hx (by intro h'; cases h')⟩

/-- (1) ONE iteration of the `while True` loop of `run` (`crBody`, extracted from `m_ClientThread_run.body`) IS one board
of the model (`clientBoardR`, `clientBoardsR_succ`).  Entered with `message` a "Start of board" (any case) the body runs
`_deal`, `bidding_phase`, `playing_phase(contract)` unless passed out, receives the next message `m'` and ends by `break`
if it is "End of session", else with `board_num + 1`; the streams are the ones the model leaves; the operations appended to
`out` are the model's actions with a `bidAsk` / `playAsk` per decision (`eraseDecisions`); the object has been `Dealt`. -/
theorem client_board_translated (p : Seat) (N : Nat) (i i' : ClientIn) (acts : ClientActs) (m m' : Text)
    (hm : lowerS m = lowerS MSG_START) (h : clientBoardR p i = some (acts, m', i')) (hp : boardParses N p i)
    (out : List Val) (team : Str) (opp : Val) (extra : List (Id × Val)) (k : Int) (rest : Env) :
    ∃ ops extra', encClientActs p acts = some (eraseDecisions ops) ∧ Dealt extra extra' ∧
      i'.s.length + 3 ≤ i.s.length ∧ i'.calls.length ≤ i.calls.length ∧
      ∀ f, i.s.length + i.calls.length + N + 155 ≤ f → ∃ rest',
        exec P f ((K.self, encClientThread p (encClientWorld i.s (i.calls.map encCall) (i.cards.map encCard) out)
            team opp extra) :: (n_message, .str m) :: (n_board_num, .int k) :: rest) crBody
          = .ok ((K.self, encClientThread p (encClientWorld i'.s (i'.calls.map encCall) (i'.cards.map encCard)
              (out ++ ops)) team opp extra') :: (n_message, .str m') ::
              (n_board_num, .int (if m' = MSG_END then k else k + 1)) :: rest',
              if m' = MSG_END then .brk else .next) := by
  unfold clientBoardR at h
  simp only [Option.bind_eq_bind] at h
  obtain ⟨⟨d, ⟨kb, dealer, vul⟩, hand, i1⟩, hd, h⟩ := Option.bind_eq_some_iff.1 h
  obtain ⟨⟨b, s, i2⟩, hb, h⟩ := Option.bind_eq_some_iff.1 h
  obtain ⟨c, hc, h⟩ := Option.bind_eq_some_iff.1 h
  obtain ⟨⟨pl, i3⟩, hpl, h⟩ := Option.bind_eq_some_iff.1 h
  obtain ⟨⟨m'', i4⟩, hr, h⟩ := Option.bind_eq_some_iff.1 h
  simp only [Option.pure_def, Option.some.injEq, Prod.mk.injEq] at h
  obtain ⟨rfl, rfl, rfl⟩ := h
  unfold boardParses at hp
  rw [hd] at hp
  dsimp only at hp
  rw [hb] at hp
  dsimp only at hp
  rw [hc] at hp
  dsimp only at hp
  obtain ⟨⟨hbv, hp1⟩, hp2, hp3⟩ := hp
  -- `_deal`
  obtain ⟨ops1, ho1, hdeal⟩ := client_deal_translated p i i1 d kb dealer vul hand N (encCards hand) hbv
    (i.cards.map encCard) out team opp extra hd hp1
  obtain ⟨ec1, ec2, ec3⟩ := clientDealR_decisions p i i1 d _ hand hd
  -- `bidding_phase`
  obtain ⟨ho2, hbid⟩ := client_bidding_translated p (320 + 1) dealer vul i1 i2 b s c N (i.cards.map encCard) (out ++ ops1)
    team opp (dealtFields extra kb dealer vul (encCards hand) hbv) (lookup_dealtFields_dealer ..)
    (lookup_dealtFields_vul ..) hb hc hp2
  obtain ⟨eb1, eb2, eb3⟩ := clientBiddingR_streams p _ _ i1 b s i2 hb
  replace eb2 := eb2.length_le
  replace eb3 := eb3.length_le
  have hlen1 : i1.s.length + 2 = i.s.length := clientDealR_len p i i1 d _ hand hd
  have hrecv : encClientActs p [.recv (.s2c p)] = some [.tuple [vstr "recv"]] := by simp [encClientActs, encClientAct]
  have e1 := eraseDecisions_clean p d ops1 ho1
  have e2 := eraseDecisions_of_asks p b _ ho2
  have hd' : ∀ g, i.s.length + i.calls.length + N + 124 ≤ g → ∀ j, callF (mkRec P (g+j)) m_ClientThread__deal
      [encClientThread p (encClientWorld i.s (i.calls.map encCall) (i.cards.map encCard) out) team opp extra] = _ :=
    fun g hg j => hdeal (g+j+1) (by omega)
  have hb' : ∀ g, i.s.length + i.calls.length + N + 124 ≤ g → ∀ j, callF (mkRec P (g+j)) m_ClientThread_bidding_phase
      [encClientThread p (encClientWorld i1.s (i1.calls.map encCall) (i.cards.map encCard) (out ++ ops1)) team opp
        (dealtFields extra kb dealer vul (encCards hand) hbv)] = _ :=
    fun g hg j => hbid (g+j+1) (by rw [ec1]; omega)
  obtain ⟨st3, calls3, cards3⟩ := i3
  cases st3 with
  | nil => simp [ClientIn.recv] at hr
  | cons mm st =>
    simp only [ClientIn.recv, Option.some.injEq, Prod.mk.injEq] at hr
    obtain ⟨rfl, rfl⟩ := hr
    obtain ⟨pops, ho3, ep1, ep2, hpass, hplay⟩ := cr_play_all_fuels p c hand i2 _ pl N hpl hp3
      (out ++ ops1 ++ clientBidOps p (320 + 1) (AState.init dealer vul) i1) team opp
      (dealtFields extra kb dealer vul (encCards hand) hbv) (lookup_dealtFields_hand_set ..)
    have e3 := eraseDecisions_of_plays p pl _ ho3
    dsimp only at ep1 ep2 hplay
    refine ⟨ops1 ++ clientBidOps p (320 + 1) (AState.init dealer vul) i1 ++ pops ++ [.tuple [vstr "recv"]],
      dealtFields extra kb dealer vul (encCards hand) hbv, ?_, ⟨kb, dealer, vul, hand, hbv, rfl⟩, ?_, ?_,
      fun f hf => ?_⟩
    · rw [eraseDecisions_append, eraseDecisions_append, eraseDecisions_append, e1, eraseDecisions_clean p _ _ hrecv]
      exact encClientActs_append p _ _ _ _
        (encClientActs_append p _ _ _ _ (encClientActs_append p _ _ _ _ ho1 e2) e3) hrecv
    · simp only [List.length_cons] at ep2 ⊢; omega
    · rw [ep1, ← ec1]; exact eb3
    · obtain ⟨g, rfl⟩ : ∃ g, f = g + 31 := ⟨f - 31, by omega⟩
      obtain ⟨rest1, hfront⟩ := cr_front g p m hm k i.s i1.s i2.s (mm :: st) (i.calls.map encCall)
        (i1.calls.map encCall) (i2.calls.map encCall) (i.cards.map encCard) (cards3.map encCard) out (out ++ ops1)
        (out ++ ops1 ++ clientBidOps p (320 + 1) (AState.init dealer vul) i1)
        (out ++ ops1 ++ clientBidOps p (320 + 1) (AState.init dealer vul) i1 ++ pops) team opp extra
        (dealtFields extra kb dealer vul (encCards hand) hbv) c rest (hd' g (by omega)) (hb' g (by omega))
        (fun hpo => by
          obtain ⟨rfl, rfl⟩ := hpass hpo
          exact ⟨rfl, by rw [← ec2]; exact congrArg _ eb1, List.append_nil _⟩)
        (fun hpo j => by
          have := hplay hpo (g+j+1) (by omega)
          rw [eb1, ec2] at this
          exact this)
      refine ⟨rest1, ?_⟩
      show execF (mkRec P (g+30)) P _ crBody = _
      rw [crBody_eq, execF_append_next _ hfront, ep1]
      by_cases hend : mm = MSG_END
      · subst hend
        simp only [if_true, ← List.append_assoc]
        exact cr_back_end g p m k st _ _ _ team opp _ rest1
      · simp only [if_neg hend, ← List.append_assoc]
        exact cr_back_next g p m mm hend k st _ _ _ team opp _ rest1

/-! ## (2) the board loop -/



/-- the loop at any larger fuel -/
theorem cr_loop_mono {f g : Nat} (h : f ≤ g) (env : Env) (c : Expr) (b : List Stmt) (env' : Env) (fl : Flow)
    (hx : (mkRec P f).loop env c b = .ok (env', fl)) : (mkRec P g).loop env c b = .ok (env', fl) :=
  (mkRec_mono P h).2.2.2 env c b _ hx (by simp)

/-- the object's attributes after one or more `_deal`s -/
inductive DealtStar : List (Id × Val) → List (Id × Val) → Prop
  | one {a b : List (Id × Val)} : Dealt a b → DealtStar a b
  | step {a b c : List (Id × Val)} : Dealt a b → DealtStar b c → DealtStar a c

/-- the five attributes `_deal` assigns, in its order -/
def DealtShape (e : List (Id × Val)) : Prop :=
  ∃ (k : Nat) (dealer : Seat) (vul : Vul) (hand : List Card) (hb : Val),
    e = [(n_board_num, .int k), (n_dealer, encSeat dealer), (n_vul, encVul vul), (n_hand_set, encCards hand),
      (n_hand_binary, hb)]

theorem Dealt.shape {a b : List (Id × Val)} (h : Dealt a b) (ha : a = [] ∨ DealtShape a) : DealtShape b := by
  obtain ⟨k, d, v, hand, hb, rfl⟩ := h
  rcases ha with rfl | ⟨k0, d0, v0, hand0, hb0, rfl⟩
  · exact ⟨k, d, v, hand, hb, rfl⟩
  · exact ⟨k, d, v, hand, hb, rfl⟩

theorem DealtStar.shape {a b : List (Id × Val)} (h : DealtStar a b) : (a = [] ∨ DealtShape a) → DealtShape b := by
  induction h with
  | one h1 => exact h1.shape
  | step h1 _ ih => exact fun ha => ih (Or.inr (h1.shape ha))

/-- from a fresh object (`ClientThread.__init__`: no further attribute), after the boards the object carries exactly
`board_num`, `dealer`, `vul`, `hand_set`, `hand_binary` (appended by the first `_deal`, overwritten in place by the later
ones: `dealtFields_nil`, `dealtFields_again`) -/
theorem DealtStar.shape_nil {b : List (Id × Val)} (h : DealtStar [] b) : DealtShape b := h.shape (Or.inl rfl)

/-- the parse hypotheses of the boards, walking the streams like `clientBoardsR` -/
def boardsParses (N : Nat) (p : Seat) : Nat → ClientIn → Prop
  | 0, _ => True
  | fuel + 1, i =>
    boardParses N p i ∧
    match clientBoardR p i with
    | none => True
    | some (_, m, i') => m ≠ MSG_END → boardsParses N p fuel i'

/-- how to establish `boardsParses`: a last board -/
theorem boardsParses_last (N : Nat) (p : Seat) (n : Nat) (i i' : ClientIn) (acts : ClientActs)
    (h : clientBoardR p i = some (acts, MSG_END, i')) (hp : boardParses N p i) : boardsParses N p (n+1) i := by
  refine ⟨hp, ?_⟩
  rw [h]
  exact fun hne => absurd rfl hne

/-- how to establish `boardsParses`: a board, then the others -/
theorem boardsParses_more (N : Nat) (p : Seat) (n : Nat) (i i' : ClientIn) (acts : ClientActs) (m : Text)
    (h : clientBoardR p i = some (acts, m, i')) (hp : boardParses N p i) (hr : boardsParses N p n i') :
    boardsParses N p (n+1) i := by
  refine ⟨hp, ?_⟩
  rw [h]
  exact fun _ => hr

/-- the boards after the first one that `clientBoardsR` goes through (`board_num` is incremented once for each) -/
def boardsMore (p : Seat) : Nat → ClientIn → Nat
  | 0, _ => 0
  | n + 1, i =>
    match clientBoardR p i with
    | some (_, m, i') => if m = MSG_END then 0 else boardsMore p n i' + 1
    | none => 0

/-- the environment of `run` inside the loop -/
def renv (self : Val) (m : Str) (k : Int) (rest : Env) : Env :=
  (K.self, self) :: (n_message, .str m) :: (n_board_num, .int k) :: rest

/-- THE LOOP INVARIANT of the board loop of `run`: entered with `message` a "Start of board" on the streams of `i`, the
loop ends (by `break` on "End of session") on the streams `clientBoardsR` leaves, having appended its actions — with the
decisions — to `out`; one interpreter level per board -/
theorem cr_boards_loop (p : Seat) (N : Nat) (team : Str) (opp : Val) :
    ∀ (n : Nat) (i i' : ClientIn) (acts : ClientActs) (m : Text) (out : List Val) (extra : List (Id × Val)) (k : Int)
      (rest : Env) (f : Nat),
      lowerS m = lowerS MSG_START → clientBoardsR p n i = some (acts, i') → boardsParses N p n i →
      i.s.length + i.calls.length + N + 156 ≤ f →
      ∃ ops extra' rest', encClientActs p acts = some (eraseDecisions ops) ∧ DealtStar extra extra' ∧
        (mkRec P f).loop
            (renv (encClientThread p (encClientWorld i.s (i.calls.map encCall) (i.cards.map encCard) out) team opp extra)
              m k rest) (.const (.bool true)) crBody
          = .ok (renv (encClientThread p (encClientWorld i'.s (i'.calls.map encCall) (i'.cards.map encCard) (out ++ ops))
              team opp extra') MSG_END (k + (boardsMore p n i : Nat)) rest', .next) := by
  intro n
  induction n with
  | zero => intro i i' acts m out extra k rest f _ h; simp [clientBoardsR] at h
  | succ n ih =>
    intro i i' acts m out extra k rest f hm h hp hf
    obtain ⟨g, rfl⟩ : ∃ g, f = g + 2 := ⟨f - 2, by omega⟩
    rw [clientBoardsR_succ] at h
    simp only [Option.bind_eq_bind] at h
    obtain ⟨⟨pre, m', i1⟩, hb, h⟩ := Option.bind_eq_some_iff.1 h
    dsimp only at h
    obtain ⟨hp1, hp2⟩ := hp
    rw [hb] at hp2
    dsimp only at hp2
    obtain ⟨ops1, extra1, ho1, hd1, hl1, hl2, hbody⟩ := client_board_translated p N i i1 pre m m' hm hb hp1 out team opp
      extra k rest
    obtain ⟨rest1, hbody⟩ := hbody (g+1) (by omega)
    by_cases hend : m' = MSG_END
    · subst hend
      simp only [if_true, Option.pure_def, Option.some.injEq, Prod.mk.injEq] at h hbody
      obtain ⟨rfl, rfl⟩ := h
      have ek : k + ((boardsMore p (n+1) i : Nat) : Int) = k := by
        have : boardsMore p (n+1) i = 0 := by simp [boardsMore, hb]
        omega
      rw [ek]
      exact ⟨ops1, extra1, rest1, ho1, .one hd1, while_true_brk g _ _ _ hbody⟩
    · simp only [if_neg hend] at h hbody
      by_cases hst : lowerS m' = lowerS MSG_START
      · simp only [if_pos hst] at h
        obtain ⟨⟨acts2, i2⟩, hr, h⟩ := Option.bind_eq_some_iff.1 h
        simp only [Option.pure_def, Option.some.injEq, Prod.mk.injEq] at h
        obtain ⟨rfl, rfl⟩ := h
        obtain ⟨ops2, extra2, rest2, ho2, hd2, hloop⟩ := ih i1 i2 acts2 m' (out ++ ops1) extra1 (k + 1) rest1 (g+1)
          hst hr (hp2 hend) (by omega)
        have ek : k + ((boardsMore p (n+1) i : Nat) : Int) = k + 1 + ((boardsMore p n i1 : Nat) : Int) := by
          have : boardsMore p (n+1) i = boardsMore p n i1 + 1 := by simp [boardsMore, hb, hend]
          omega
        rw [ek]
        refine ⟨ops1 ++ ops2, extra2, rest2, ?_, .step hd1 hd2, ?_⟩
        · rw [eraseDecisions_append]
          exact encClientActs_append p _ _ _ _ ho1 ho2
        · refine (while_true_next g _ _ _ hbody).trans ?_
          rw [← List.append_assoc]
          exact hloop
      · simp only [if_neg hst] at h
        cases h

/-- (2) THE BOARD LOOP of `run` (the statement `crLoop` = `while True: …` of the generated body, executed in an
environment whose `self` is the client on the streams of `i` and whose `message` is a "Start of board") IS
`clientBoardsR`: it ends normally (the `break` on "End of session"), leaves the streams `clientBoardsR` leaves, and has
appended the rendering of its actions, with a `bidAsk` / `playAsk` per decision, to `out`.  Fuel: one level per board. -/
theorem client_boards_translated (p : Seat) (N fuel : Nat) (i i' : ClientIn) (acts : ClientActs) (m : Text)
    (hm : lowerS m = lowerS MSG_START) (h : clientBoardsR p fuel i = some (acts, i')) (hp : boardsParses N p fuel i)
    (out : List Val) (team : Str) (opp : Val) (extra : List (Id × Val)) (k : Int) (rest : Env) :
    ∃ ops extra' rest', encClientActs p acts = some (eraseDecisions ops) ∧ DealtStar extra extra' ∧
      ∀ f, i.s.length + i.calls.length + N + 157 ≤ f →
        exec P f (renv (encClientThread p (encClientWorld i.s (i.calls.map encCall) (i.cards.map encCard) out) team opp
            extra) m k rest) [crLoop]
          = .ok (renv (encClientThread p (encClientWorld i'.s (i'.calls.map encCall) (i'.cards.map encCard) (out ++ ops))
              team opp extra') MSG_END (k + (boardsMore p fuel i : Nat)) rest', .next) := by
  obtain ⟨ops, extra', rest', ho, hd, hl⟩ := cr_boards_loop p N team opp fuel i i' acts m out extra k rest
    (i.s.length + i.calls.length + N + 156) hm h hp (Nat.le_refl _)
  refine ⟨ops, extra', rest', ho, hd, fun f hf => ?_⟩
  obtain ⟨j, rfl⟩ : ∃ j, f = j + 1 := ⟨f - 1, by omega⟩
  have hl' := cr_loop_mono (show i.s.length + i.calls.length + N + 156 ≤ j by omega) _ _ _ _ _ hl
  show execF (mkRec P j) P _ [crLoop] = _
  simp only [execF, crLoop_eq, execStmtF, hl', bind_ok, pure_eq]

/-! ## (3) `run` -/

theorem cr_mth_connect :
    P.method? classDepth n_ClientThread n__connect = some (n_ClientThread, m_ClientThread__connect) := rfl

/-- `run` when `_connect` returns, the next message is received and the loop ends -/
theorem cr_run_call (g : Nat) (p : Seat) (w0 : Val) (start : Str) (s : List Str) (bids plays out1 : List Val)
    (team : Str) (opp opp1 : Val) (extra : List (Id × Val)) (self2 : Val) (rest' : Env)
    (hc : ∀ j, callF (mkRec P (g+j)) m_ClientThread__connect [encClientThread p w0 team opp extra]
      = .ok (.none, encClientThread p (encClientWorld (start :: s) bids plays out1) team opp1 extra))
    (hl : ∀ j, (mkRec P (g+j)).loop
        (renv (encClientThread p (encClientWorld s bids plays (out1 ++ [.tuple [vstr "recv"]])) team opp1 extra) start 1 [])
        (.const (.bool true)) crBody = .ok ((K.self, self2) :: rest', .next)) :
    callF (mkRec P (g+20)) m_ClientThread_run [encClientThread p w0 team opp extra] = .ok (.none, self2) := by
  rw [callF_def]
  simp only [renv, ct_thread_def] at hc hl
  simp only [crBody, crLoop, m_ClientThread_run, List.getD_cons_zero, List.getD_cons_succ] at hl
  simp only [m_ClientThread_run, bindParams, Option.map, ct_thread_def]
  ppsimp [pyworld, cr_mth_connect, hc, hl]

theorem clientReactive_nil (p : Seat) (calls : List Call) (cards : List Card) :
    clientReactive p calls cards [] = none := rfl
theorem clientReactive_one (p : Seat) (calls : List Call) (cards : List Card) (t : Text) :
    clientReactive p calls cards [t] = none := by
  show (parseTeamNames? t).bind (fun _ => none) = none
  cases parseTeamNames? t <;> rfl
theorem clientReactive_cons2 (p : Seat) (calls : List Call) (cards : List Card) (teams start : Text) (s : List Text) :
    clientReactive p calls cards (teams :: start :: s) =
      (parseTeamNames? teams).bind fun _ =>
        if lowerS start = lowerS MSG_START then
          (clientBoardsR p ((teams :: start :: s).length + 1) ⟨s, calls, cards⟩).bind fun x =>
            some ([.recv (.s2c p), .send (.c2s p) (p.formal ++ " ready to start".toList), .recv (.s2c p)] ++ x.1)
        else none := rfl

/-- the operations of `_connect` BEFORE `clientReactive` starts: the socket's `connect`, the request, its answer,
"ready for teams" -/
def connectOps (p : Seat) (team : Str) : List Val :=
  [.tuple [vstr "connect", .none], .tuple [vstr "send", .str (connectText team p.formal)], .tuple [vstr "recv"],
   .tuple [vstr "send", .str (readyFor p "teams".toList)]]

/-- (3) THE WHOLE BUNDLED CLIENT.  The connection delivers `reply` (the answer to the request: `… seated`, either form),
then `s2c`; the reactive model on `s2c`, with the decisions `calls` / `cards`, performs `acts`; the own side's name in the
`Teams` message is the own team name (`hmine`; `_connect` raises otherwise, the reactive model does not look);
`connectParses` on the `Teams` message and `boardsParses` along the boards.  Then `run()` returns `None`; the world has
recorded `out ++ connectOps ++ ops` with `ops` the rendering of ALL of `acts` plus one `bidAsk` / `playAsk` per decision
(`eraseDecisions`), on the streams `clientBoardsR` leaves; `opponent_team_name` is the other side's name, and the object
has been dealt (`DealtStar []`). -/
theorem client_run_translated (p : Seat) (team : Text) (reply : Text) (s2c : List Text) (calls : List Call)
    (cards : List Card) (acts : ClientActs) (N : Nat) (out : List Val) (opp : Val)
    (hreply : reply = seatedPlain p team ∨ reply = seatedQuoted p team)
    (hmine : ∀ teams ∈ s2c.head?, ∀ ns ew, parseTeamNames? teams = some (ns, ew) →
      (if p.side = .NS then ns else ew) = team)
    (hm : clientReactive p calls cards s2c = some acts)
    (hp1 : connectParses N ⟨reply :: s2c, calls, cards⟩)
    (hp2 : boardsParses N p (s2c.length + 1) ⟨s2c.drop 2, calls, cards⟩) :
    ∃ ops bs i' oppName extra', encClientActs p acts = some (eraseDecisions ops) ∧
      clientBoardsR p (s2c.length + 1) ⟨s2c.drop 2, calls, cards⟩ = some (bs, i') ∧ DealtStar [] extra' ∧
      (∀ teams ∈ s2c.head?, ∀ ns ew, parseTeamNames? teams = some (ns, ew) →
        oppName = if p.side = .NS then ew else ns) ∧
      ∀ f, s2c.length + calls.length + N + 178 ≤ f →
        callFn P f m_ClientThread_run
            [encClientThread p (encClientWorld (reply :: s2c) (calls.map encCall) (cards.map encCard) out) team opp []]
          = .ok (.none, encClientThread p (encClientWorld i'.s (i'.calls.map encCall) (i'.cards.map encCard)
              (out ++ connectOps p team ++ ops)) team (.str oppName) extra') := by
  match s2c, hmine, hm, hp1, hp2 with
  | [], _, hm, _, _ => rw [clientReactive_nil] at hm; cases hm
  | [t], _, hm, _, _ => rw [clientReactive_one] at hm; cases hm
  | teams :: start :: s, hmine, hm, hp1, hp2 =>
    rw [clientReactive_cons2] at hm
    obtain ⟨⟨ns, ew⟩, ht, hm⟩ := Option.bind_eq_some_iff.1 hm
    by_cases hst : lowerS start = lowerS MSG_START
    · rw [if_pos hst] at hm
      obtain ⟨⟨bs, i'⟩, hbs, hm⟩ := Option.bind_eq_some_iff.1 hm
      simp only [Option.some.injEq] at hm
      subst hm
      have hmine' := hmine teams (by simp) ns ew ht
      have hcon : clientConnectR p team ⟨reply :: teams :: start :: s, calls, cards⟩
          = some ([.send (.c2s p) (connectText team p.formal), .recv (.s2c p),
             .send (.c2s p) (readyFor p "teams".toList), .recv (.s2c p),
             .send (.c2s p) (p.formal ++ " ready to start".toList)], if p.side = .NS then ew else ns,
             ⟨start :: s, calls, cards⟩) := by
        simp only [clientConnectR, ClientIn.recv, Option.bind_eq_bind, Option.bind_some, if_pos hreply, ht,
          if_pos hmine', Option.pure_def]
      obtain ⟨cops, hco, hcall⟩ := client_connect_translated p team _ _ _ _ N (calls.map encCall) (cards.map encCard) out
        opp [] hcon hp1
      have hcops : cops = [.tuple [vstr "send", .str (connectText team p.formal)], .tuple [vstr "recv"],
          .tuple [vstr "send", .str (readyFor p "teams".toList)], .tuple [vstr "recv"],
          .tuple [vstr "send", .str (p.formal ++ " ready to start".toList)]] := by
        simp [encClientActs, encClientAct] at hco
        exact hco.symm
      subst hcops
      have hp2' : boardsParses N p ((teams :: start :: s).length + 1) ⟨s, calls, cards⟩ := hp2
      obtain ⟨ops, extra', rest', ho, hd, hl⟩ := cr_boards_loop p N team (.str (if p.side = .NS then ew else ns))
        ((teams :: start :: s).length + 1) ⟨s, calls, cards⟩ i' bs start
        (out ++ .tuple [vstr "connect", .none] :: [.tuple [vstr "send", .str (connectText team p.formal)],
          .tuple [vstr "recv"], .tuple [vstr "send", .str (readyFor p "teams".toList)], .tuple [vstr "recv"],
          .tuple [vstr "send", .str (p.formal ++ " ready to start".toList)]] ++ [.tuple [vstr "recv"]])
        [] 1 [] (s.length + calls.length + N + 156) hst hbs hp2' (Nat.le_refl _)
      refine ⟨[.tuple [vstr "recv"], .tuple [vstr "send", .str (p.formal ++ " ready to start".toList)],
        .tuple [vstr "recv"]] ++ ops, bs, i', if p.side = .NS then ew else ns, extra', ?_, hbs, hd, ?_, fun f hf => ?_⟩
      · rw [eraseDecisions_append]
        refine encClientActs_append p _ _ _ _ ?_ ho
        have : encClientActs p [.recv (.s2c p), .send (.c2s p) (p.formal ++ " ready to start".toList), .recv (.s2c p)]
            = some [.tuple [vstr "recv"], .tuple [vstr "send", .str (p.formal ++ " ready to start".toList)],
                .tuple [vstr "recv"]] := by simp [encClientActs, encClientAct]
        rw [eraseDecisions_clean p _ _ this]
        exact this
      · intro t' ht' ns' ew' hpt
        simp only [List.head?_cons, Option.mem_def, Option.some.injEq] at ht'
        subst ht'
        rw [ht] at hpt
        simp only [Option.some.injEq, Prod.mk.injEq] at hpt
        obtain ⟨rfl, rfl⟩ := hpt
        rfl
      · obtain ⟨g, rfl⟩ : ∃ g, f = g + 21 := ⟨f - 21, by omega⟩
        simp only [List.length_cons] at hf
        have hc' : ∀ j, callF (mkRec P (g+j)) m_ClientThread__connect
            [encClientThread p (encClientWorld (reply :: teams :: start :: s) (calls.map encCall) (cards.map encCard) out)
              team opp []] = _ := fun j => hcall (g+j+1) (by omega)
        have hl' := fun j => cr_loop_mono (show s.length + calls.length + N + 156 ≤ g + j by omega) _ _ _ _ _ hl
        have hx := cr_run_call g p _ start s _ _ _ team opp _ [] _ _ hc' hl'
        rw [callFn, call_succ, hx]
        simp only [connectOps, List.append_assoc, List.cons_append, List.nil_append]
    · rw [if_neg hst] at hm
      cases hm

/-! ## non-vacuity: South's client through a passed-out board that ends the session -/

-- a term elaborated against `boardParses … i` has that type put into weak head normal form: on a concrete `i` that
-- runs the model's parsers
attribute [local irreducible] boardParses boardsParses

def exPasses : List Text :=
  ["North passes".toList, "East passes".toList, "West passes".toList, "End of session".toList]

/-- board 1, North deals, South holds `hand` (any hand: the hand message is read by Translated/ThreadsClientHands.lean) -/
def exBoardS (hand : List Card) : List Text := exHeader :: cardsMsg Seat.S.formal hand :: exPasses

/-- the twelve operations of the board, decisions erased -/
def exOps : List Val :=
  [.tuple [vstr "send", vstr "South ready for deal"], .tuple [vstr "recv"],
   .tuple [vstr "send", vstr "South ready for cards"], .tuple [vstr "recv"],
   .tuple [vstr "send", vstr "South ready for North's bid"], .tuple [vstr "recv"],
   .tuple [vstr "send", vstr "South ready for East's bid"], .tuple [vstr "recv"],
   .tuple [vstr "send", vstr "South passes"],
   .tuple [vstr "send", vstr "South ready for West's bid"], .tuple [vstr "recv"], .tuple [vstr "recv"]]

theorem exPasses_agree : ∀ m ∈ exPasses, ∀ a ∈ Seat.all, parseBidAgrees 30 m a = true := by decide +kernel

theorem exPasses_bidding : ∃ b s, clientBiddingR .S (320 + 1) (AState.init .N .none) ⟨exPasses, [.pass], []⟩
      = some (b, s, ⟨[MSG_END], [], []⟩) ∧ s.contract = some ⟨none, false, false, .none, none⟩ ∧
    encClientActs .S b = some
      [.tuple [vstr "send", vstr "South ready for North's bid"], .tuple [vstr "recv"],
       .tuple [vstr "send", vstr "South ready for East's bid"], .tuple [vstr "recv"],
       .tuple [vstr "send", vstr "South passes"],
       .tuple [vstr "send", vstr "South ready for West's bid"], .tuple [vstr "recv"]] :=
  ⟨_, _, by with_unfolding_all rfl, by with_unfolding_all rfl, by with_unfolding_all rfl⟩

theorem exBoardS_deal (hand : List Card) (hok : HandOK hand) :
    clientDealR .S ⟨exBoardS hand, [.pass], []⟩ = some ([.send (.c2s .S) (readyFor .S "deal".toList), .recv (.s2c .S),
      .send (.c2s .S) (readyFor .S "cards".toList), .recv (.s2c .S)], (1, .N, .none), ClientHands.wording hand,
      ⟨exPasses, [.pass], []⟩) := by
  obtain ⟨h1, h2, _⟩ := ClientHands.hand_message_translated _ (RegexMsgHand.formal_mem_cardNames .S) hand hok
  simp only [clientDealR, exBoardS, ClientIn.recv, exHeader_board, h1, h2, Option.bind_eq_bind, Option.bind_some,
    Option.pure_def]

theorem exBoardS_run (hand : List Card) (hok : HandOK hand) :
    ∃ acts, clientBoardR .S ⟨exBoardS hand, [.pass], []⟩ = some (acts, MSG_END, ⟨[], [], []⟩) ∧
      encClientActs .S acts = some exOps := by
  obtain ⟨b, s, hb, hc, hops⟩ := exPasses_bidding
  refine ⟨[.send (.c2s .S) (readyFor .S "deal".toList), .recv (.s2c .S), .send (.c2s .S) (readyFor .S "cards".toList),
    .recv (.s2c .S)] ++ b ++ [] ++ [.recv (.s2c .S)], ?_, ?_⟩
  · simp only [clientBoardR, exBoardS_deal hand hok, hb, hc, clientPlayR, Contract.isPassedOut, Option.isNone_none,
      if_true, ClientIn.recv, Option.bind_eq_bind, Option.bind_some, Option.pure_def]
  · have hd : encClientActs .S [.send (.c2s .S) (readyFor .S "deal".toList), .recv (.s2c .S),
        .send (.c2s .S) (readyFor .S "cards".toList), .recv (.s2c .S)] = some (exOps.take 4) := by
      with_unfolding_all rfl
    have hr : encClientActs .S [.recv (.s2c .S)] = some [.tuple [vstr "recv"]] := by with_unfolding_all rfl
    rw [List.append_nil]
    exact encClientActs_append .S _ _ _ _ (encClientActs_append .S _ _ _ _ hd hops) hr

theorem exBoardS_parses (hand : List Card) (hok : HandOK hand) : boardParses 30 .S ⟨exBoardS hand, [.pass], []⟩ := by
  obtain ⟨b, s, hb, hc, _⟩ := exPasses_bidding
  refine boardParses_of 30 .S _ _ _ 1 .N .none _ (exBoardS_deal hand hok)
    ⟨_, ClientHands.dealParses_of_hand 30 (by decide) .S exHeader hand hok exPasses [.pass] [] exHeader_parses⟩
    (bidParses_of_agrees 30 .S _ _ _ fun m hm a => exPasses_agree m hm a (seat_mem_all a)) ?_
  intro b' s' i2' c' hb' hc' hpo
  rw [hb] at hb'
  simp only [Option.some.injEq, Prod.mk.injEq] at hb'
  obtain ⟨_, rfl, _⟩ := hb'
  rw [hc] at hc'
  simp only [Option.some.injEq] at hc'
  subst hc'
  cases hpo

/-- board 1, North deals: North and East pass (relayed), South's bidding system passes, West passes (relayed); then
"End of session" -/
def exS : List Text :=
  ["Board number 1. Dealer North. Neither vulnerable.".toList, "South's cards : S A K. H -. D -. C -.".toList,
   "North passes".toList, "East passes".toList, "West passes".toList, "End of session".toList]
def exI : ClientIn := ⟨exS, [.pass], []⟩
def exHand : List Card := [⟨14, .S⟩, ⟨13, .S⟩]

theorem exS_eq : exS = exBoardS exHand := by
  have e : cardsMsg Seat.S.formal exHand = "South's cards : S A K. H -. D -. C -.".toList := by decide +kernel
  rw [exBoardS, e]
  rfl
theorem exHand_ok : HandOK exHand := by unfold HandOK; decide

theorem exBoardParses : boardParses 30 .S exI := by
  have h := exBoardS_parses exHand exHand_ok
  rw [← exS_eq] at h
  exact h

theorem exBoard : ∃ acts, clientBoardR .S exI = some (acts, MSG_END, ⟨[], [], []⟩) ∧
    encClientActs .S acts = some
      [.tuple [vstr "send", vstr "South ready for deal"], .tuple [vstr "recv"],
       .tuple [vstr "send", vstr "South ready for cards"], .tuple [vstr "recv"],
       .tuple [vstr "send", vstr "South ready for North's bid"], .tuple [vstr "recv"],
       .tuple [vstr "send", vstr "South ready for East's bid"], .tuple [vstr "recv"],
       .tuple [vstr "send", vstr "South passes"],
       .tuple [vstr "send", vstr "South ready for West's bid"], .tuple [vstr "recv"], .tuple [vstr "recv"]] := by
  have h := exBoardS_run exHand exHand_ok
  rw [← exS_eq] at h
  exact h

/-- non-vacuity of (1): the body of the loop on that board, entered with `message = "START of Board"`: `break`, both
streams consumed, the twelve operations (plus the decision) recorded, the object dealt -/
example (f : Nat) (hf : 6 + 1 + 30 + 155 ≤ f) (rest : Env) : ∃ ops extra' rest', eraseDecisions ops = exOps ∧
    Dealt [] extra' ∧
    exec P f (renv (encClientThread .S (encClientWorld exS [encCall .pass] [] []) "T".toList (.str "U".toList) [])
        "START of Board".toList 1 rest) crBody
      = .ok (renv (encClientThread .S (encClientWorld [] [] [] ([] ++ ops)) "T".toList (.str "U".toList) extra')
          MSG_END 1 rest', .brk) := by
  obtain ⟨acts, hb, henc⟩ := exBoard
  obtain ⟨ops, extra', ho, hd, _, _, hx⟩ := client_board_translated .S 30 exI _ acts "START of Board".toList MSG_END
    (by decide +kernel) hb exBoardParses [] "T".toList (.str "U".toList) [] 1 rest
  obtain ⟨rest', hx⟩ := hx f hf
  rw [ho] at henc
  simp only [↓reduceIte] at hx
  exact ⟨ops, extra', rest', Option.some.inj henc, hd, hx⟩

/-- non-vacuity of (2): the loop statement on the same streams -/
example (f : Nat) (hf : 6 + 1 + 30 + 157 ≤ f) (rest : Env) : ∃ ops extra' k' rest', eraseDecisions ops = exOps ∧
    exec P f (renv (encClientThread .S (encClientWorld exS [encCall .pass] [] []) "T".toList (.str "U".toList) [])
        "Start of board".toList 1 rest) [crLoop]
      = .ok (renv (encClientThread .S (encClientWorld [] [] [] ([] ++ ops)) "T".toList (.str "U".toList) extra')
          MSG_END k' rest', .next) := by
  obtain ⟨acts, hb, henc⟩ := exBoard
  have hbs : clientBoardsR .S 1 exI = some (acts, ⟨[], [], []⟩) := by
    rw [clientBoardsR_succ, hb]
    rfl
  obtain ⟨ops, extra', rest', ho, _, hx⟩ := client_boards_translated .S 30 1 exI _ acts "Start of board".toList
    rfl hbs (boardsParses_last 30 .S 0 exI _ acts hb exBoardParses) [] "T".toList (.str "U".toList) [] 1 rest
  rw [ho] at henc
  exact ⟨ops, extra', _, rest', Option.some.inj henc, hx f hf⟩

/-! ### the whole client -/

def exS2C : List Text := "Teams : N/S : \"T\" E/W : \"U\"".toList :: "Start of board".toList :: exS

theorem exTeams : parseTeamNames? "Teams : N/S : \"T\" E/W : \"U\"".toList = some ("T".toList, "U".toList) :=
  exTeamsTU

/-- non-vacuity of (3): South's client of team "T" — the request answered in the plain form, the `Teams` message,
"Start of board", the passed-out board, "End of session": `run()` returns `None`, the stream and the decision are
consumed, after the four connection operations the world has recorded `clientReactive`'s fifteen actions (plus the
decision), and the opponents are "U" -/
example (f : Nat) (hf : exS2C.length + 1 + 30 + 178 ≤ f) : ∃ ops extra',
    eraseDecisions ops = [.tuple [vstr "recv"], .tuple [vstr "send", vstr "South ready to start"], .tuple [vstr "recv"]]
      ++ exOps ∧ DealtStar [] extra' ∧
    callFn P f m_ClientThread_run
        [encClientThread .S (encClientWorld ("South T seated".toList :: exS2C) [encCall .pass] [] []) "T".toList .none []]
      = .ok (.none, encClientThread .S (encClientWorld [] [] [] ([] ++ connectOps .S "T".toList ++ ops)) "T".toList
          (.str "U".toList) extra') := by
  obtain ⟨bacts, hb, hbe⟩ := exBoard
  have hbs' : clientBoardsR .S (exS2C.length + 1) ⟨exS, [.pass], []⟩ = some (bacts, ⟨[], [], []⟩) := by
    rw [clientBoardsR_succ]
    show (clientBoardR .S exI).bind _ = _
    rw [hb]
    rfl
  have hm : clientReactive .S [.pass] [] exS2C = some ([.recv (.s2c .S),
      .send (.c2s .S) (Seat.S.formal ++ " ready to start".toList), .recv (.s2c .S)] ++ bacts) := by
    show clientReactive .S [.pass] [] ("Teams : N/S : \"T\" E/W : \"U\"".toList :: "Start of board".toList :: exS) = _
    have hst : lowerS "Start of board".toList = lowerS MSG_START := by decide +kernel
    rw [clientReactive_cons2, exTeams, Option.bind_some, if_pos hst]
    show (clientBoardsR .S (exS2C.length + 1) ⟨exS, [.pass], []⟩).bind _ = _
    rw [hbs']
    rfl
  have henc := encClientActs_append .S [.recv (.s2c .S), .send (.c2s .S) (Seat.S.formal ++ " ready to start".toList),
    .recv (.s2c .S)] _ [.tuple [vstr "recv"], .tuple [vstr "send", vstr "South ready to start"], .tuple [vstr "recv"]] _
    (by with_unfolding_all rfl) hbe
  have hmine : ∀ teams ∈ exS2C.head?, ∀ ns ew, parseTeamNames? teams = some (ns, ew) →
      (if Seat.S.side = .NS then ns else ew) = "T".toList := by
    intro teams ht ns ew hh
    simp only [exS2C, List.head?_cons, Option.mem_def, Option.some.injEq] at ht
    subst ht
    rw [exTeams] at hh
    obtain ⟨rfl, rfl⟩ : "T".toList = ns ∧ "U".toList = ew := by simpa using hh
    rfl
  obtain ⟨ops, bs, i', oppName, extra', ho, hbs, hd, hopp, hx⟩ := client_run_translated .S "T".toList
    "South T seated".toList exS2C [.pass] [] _ 30 [] .none (Or.inl (by decide +kernel)) hmine hm
    (exTeamsTU_connect _ _ _ _) (boardsParses_last 30 .S _ exI _ bacts hb exBoardParses)
  have hfin := hbs'.symm.trans hbs
  simp only [Option.some.injEq, Prod.mk.injEq] at hfin
  obtain ⟨_, rfl⟩ := hfin
  have ho' : oppName = "U".toList := hopp _ rfl _ _ exTeams
  subst ho'
  rw [ho] at henc
  exact ⟨ops, extra', Option.some.inj henc, hd, hx f hf⟩

end Bridge.Translated.ClientC
