import BridgeVerif.Translated.ThreadsMainG
/-!
# `MainThread.playing_phase` RAISES on a card text the model's parser refuses — after any number of completed tricks

`main_playing_unparseable_raises` : the streams hold texts of the class `RegexMsgBid.agree` (every ASCII text); the model
plays any number of complete tricks (`mainTrickR` succeeds), then, in the current trick, any run of accepted cards, then
meets a text `parseCard?` refuses for the seat on turn (`mainPlayingUnparseable`).  Then the translated
`MainThread.playing_phase(contract, cards)` raises one of `cardErrs` (`Exception`, `IndexError`, `ValueError`, `KeyError`) at
every fuel ≥ 80 — out of the statement `card = MessageInterface.parse_card(...)` of that card (`ThreadsMainG`), i.e. before
`play_card` and before the relay of the card to the other seats.
-/
set_option linter.unusedSimpArgs false
namespace Bridge.Translated.MainB
open Bridge Bridge.Py Bridge.Generated.PyCore
open Bridge.Translated.MsgParsers Bridge.RegexMsgBid

/-- `n` tricks from trick number `k` on: complete tricks, then a trick in which the model comes to a refused text -/
def mainPlayingUnparseable (decl : Seat) (dm : Text) : Nat → Nat → WithHands → MainIn → Bool
  | 0, _, _, _ => false
  | n + 1, k, w, i =>
    match mainTrickR decl dm (k = 1) 0 w i with
    | some (_, w', i') => mainPlayingUnparseable decl dm n (k + 1) w' i'
    | none => mainTrickUnparseable decl 4 w i

theorem mb_tricks_loop_unparseable (f : Nat) (decl : Seat) (c : Contract) (deal : Seat → List Card)
    (table : Val) (tables : List Val) (more : List (Val × Val)) (bs : Val)
    (hok : ∀ c ∈ deal decl.partner, 2 ≤ c.rank ∧ c.rank ≤ 14) :
    ∀ (n k : Nat) (env : Env) (w : WithHands) (i : MainIn) (out : List Val),
      lookup env K.self = some (encMainThread (encMainWorld i out table tables more) bs) →
      lookup env n_playing_env = some (encWithHands c w) →
      lookup env n_cards = some (.dict (handsKvs deal)) →
      MInv decl w →
      (∀ p, ∀ m ∈ i p, ∀ x ∈ m, agree x = true) →
      mainPlayingUnparseable decl (cardsMsg "Dummy".toList (deal decl.partner)) n k w i = true →
      ∃ e ∈ cardErrs, forF (mkRec P (f+73)) [n_trick_num] mbTrickBody env (natItems k n) = .error (.exc e) := by
  intro n
  induction n with
  | zero => intro k env w i out _ _ _ _ _ h; simp [mainPlayingUnparseable] at h
  | succ n ih =>
    intro k env w i out hself hpe hcards hinv hasc h
    have hne : ∀ y, n_trick_num ≠ y → lookup (update env n_trick_num (.int (Int.ofNat k))) y = lookup env y :=
      fun y hy => lookup_update_ne _ _ _ _ hy
    cases ht : mainTrickR decl (cardsMsg "Dummy".toList (deal decl.partner)) (k = 1) 0 w i with
    | none =>
      simp only [mainPlayingUnparseable, ht] at h
      obtain ⟨e, he, hraise⟩ := main_trick_unparseable_raises decl c deal table tables more bs k
        (update env n_trick_num (.int (Int.ofNat k))) w i out (by rw [hne _ (by decide), hself])
        (by rw [hne _ (by decide), hpe]) (lookup_update_same _ _ _) (by rw [hne _ (by decide), hcards]) hinv hasc h hok
        (f + 73) (by omega)
      refine ⟨e, he, ?_⟩
      rw [natItems_succ]
      exact mb_forF_err _ _ _ _ _ _ _ hraise
    | some x =>
      obtain ⟨t, w1, i1⟩ := x
      simp only [mainPlayingUnparseable, ht] at h
      obtain ⟨e1, tops, h1, _, hs1, hp1, hinv1, hf1⟩ := mb_trick (fun _ => .none) f decl c deal table tables more bs k hok
        (update env n_trick_num (.int (Int.ofNat k))) w i out t w1 i1 (by rw [hne _ (by decide), hself])
        (by rw [hne _ (by decide), hpe]) (lookup_update_same _ _ _) (by rw [hne _ (by decide), hcards]) hinv ht
        (trickParses_of_all decl 4 w i (allParse_of_agree i hasc))
      have hsub := mainTrickR_mem decl _ _ 4 0 rfl w w1 i i1 t ht
      obtain ⟨e, he, h2⟩ := ih (k + 1) e1 w1 i1 _ hs1 hp1
        (by rw [hf1 _ (by decide), hne _ (by decide), hcards]) hinv1 (fun p m hm => hasc p m (hsub p m hm)) h
      refine ⟨e, he, ?_⟩
      rw [natItems_succ, forF_cons_next _ _ _ _ e1 _ _ h1, h2]

theorem mb_playing_call_unparseable (f : Nat) (contract : Contract) (deal : Seat → List Card)
    (decl : Seat) (w0 : WithHands) (i : MainIn) (out : List Val) (table : Val)
    (tables : List Val) (more : List (Val × Val)) (bs : Val)
    (hw0 : WithHands.init contract deal = some w0)
    (hdecl : contract.declarer = some decl)
    (hasc : ∀ p, ∀ m ∈ i p, ∀ x ∈ m, agree x = true)
    (hbad : mainPlayingUnparseable decl (cardsMsg "Dummy".toList (deal decl.partner)) 13 1 w0 i = true)
    (hok : ∀ c ∈ deal decl.partner, 2 ≤ c.rank ∧ c.rank ≤ 14) :
    ∃ e ∈ cardErrs, callF (mkRec P (f+79)) m_MainThread_playing_phase
          [encMainThread (encMainWorld i out table tables more) bs, encContract contract, .dict (handsKvs deal)]
        = .error (.exc e) := by
  let env0 : Env := [(K.self, encMainThread (encMainWorld i out table tables more) bs), (n_contract, encContract contract),
    (n_cards, .dict (handsKvs deal))]
  have h0 := mb_new (f+18) env0 contract deal w0 rfl rfl hw0
  have h0' : execStmtF (mkRec P (f+78)) P env0 mbNew = .ok (update env0 n_playing_env (encWithHands contract w0), .next) := h0
  have hinv0 := minv_init contract deal w0 decl hw0 hdecl
  obtain ⟨e1, h1, hs1, hf1⟩ := mb_loop_decl (f+48) (update env0 n_playing_env (encWithHands contract w0)) i out table
    tables more bs contract w0 rfl rfl
  have h1' : execStmtF (mkRec P (f+78)) P (update env0 n_playing_env (encWithHands contract w0)) mbDeclLoop
      = .ok (e1, .next) := h1
  rw [hinv0.2.1] at hs1
  obtain ⟨e, he, h2⟩ := mb_tricks_loop_unparseable (f+5) decl contract deal table tables more bs
    hok 13 1 e1 w0 i _ hs1 (by rw [hf1 _ (by decide)]; rfl) (by rw [hf1 _ (by decide)]; rfl) hinv0 hasc hbad
  have h2' : execStmtF (mkRec P (f+78)) P e1 mbTricksLoop = .error (.exc e) := by
    rw [mb_tricksLoop_stmt (f+76) e1]; exact h2
  refine ⟨e, he, ?_⟩
  rw [callF_def]
  have hb : (mkRec P (f+79)).exec env0 m_MainThread_playing_phase.body = .error (.exc e) := by
    rw [exec_succ, mbBody_eq, execF_cons_next _ h0', execF_cons_next _ h1']
    simp only [execF, h2', bind_err]
  have hparams : bindParams m_MainThread_playing_phase.params m_MainThread_playing_phase.defaults
      [encMainThread (encMainWorld i out table tables more) bs, encContract contract, .dict (handsKvs deal)]
      = some env0 := rfl
  rw [hparams]
  simp only [hb, bind_err]

/-- THE UNPARSEABLE-CARD BRANCH of `MainThread.playing_phase` -/
theorem main_playing_unparseable_raises (contract : Contract) (deal : Seat → List Card)
    (decl : Seat) (w0 : WithHands) (i : MainIn) (out : List Val) (table : Val)
    (tables : List Val) (more : List (Val × Val)) (bs : Val)
    (hw0 : WithHands.init contract deal = some w0)
    (hdecl : contract.declarer = some decl)
    (hasc : ∀ p, ∀ m ∈ i p, ∀ x ∈ m, agree x = true)
    (hbad : mainPlayingUnparseable decl (cardsMsg "Dummy".toList (deal decl.partner)) 13 1 w0 i = true)
    (hok : ∀ c ∈ deal decl.partner, 2 ≤ c.rank ∧ c.rank ≤ 14) :
    ∃ e ∈ cardErrs, ∀ f, 80 ≤ f →
      callFn P f m_MainThread_playing_phase
          [encMainThread (encMainWorld i out table tables more) bs, encContract contract, .dict (handsKvs deal)]
        = .error (.exc e) := by
  obtain ⟨e, he, h80⟩ := mb_playing_call_unparseable 0 contract deal decl w0 i out table tables more bs hw0 hdecl hasc hbad hok
  have h80' : callFn P 80 m_MainThread_playing_phase
      [encMainThread (encMainWorld i out table tables more) bs, encContract contract, .dict (handsKvs deal)]
      = .error (.exc e) := h80
  exact ⟨e, he, fun f hf => callFn_fuel_mono P hf _ _ _ h80' (by intro x; cases x)⟩

/-- `mainPlayingUnparseable` over the structurally recursive `mainTrickS` (kernel-computable) -/
def mainPlayingUnparseableS (decl : Seat) (dm : Text) : Nat → Nat → WithHands → MainIn → Bool
  | 0, _, _, _ => false
  | n + 1, k, w, i =>
    match mainTrickS decl dm (decide (k = 1)) 4 0 w i with
    | some (_, w', i') => mainPlayingUnparseableS decl dm n (k + 1) w' i'
    | none => mainTrickUnparseable decl 4 w i

theorem mainPlayingUnparseableS_eq (decl : Seat) (dm : Text) : ∀ (n k : Nat) (w : WithHands) (i : MainIn),
    mainPlayingUnparseable decl dm n k w i = mainPlayingUnparseableS decl dm n k w i := by
  intro n
  induction n with
  | zero => intro k w i; rfl
  | succ n ih =>
    intro k w i
    simp only [mainPlayingUnparseable, mainPlayingUnparseableS, mainTrickS_eq decl dm _ 4 0 w i rfl]
    cases mainTrickS decl dm (decide (k = 1)) 4 0 w i with
    | none => rfl
    | some x => exact ih _ _ _

/-! ## non-vacuity: the thirteen-trick example of ThreadsMainBLemmasE.lean; the first trick is played, then East's second
text is no card -/
def exInBad2 : MainIn := fun p =>
  if p = .E then (exIn .E).take 1 ++ ["east plays zz".toList] ++ (exIn .E).drop 2 else exIn p

example : ∃ e ∈ cardErrs, ∀ f, 80 ≤ f →
    callFn P f m_MainThread_playing_phase
      [encMainThread (encMainWorld exInBad2 [] (.dict []) [] []) .none, encContract exContract, .dict (handsKvs exDeal)]
      = .error (.exc e) := by
  have hbad : ∀ x ∈ "east plays zz".toList, x.toNat < 128 := by decide +kernel
  have hasc : ∀ p, ∀ m ∈ exInBad2 p, ∀ x ∈ m, agree x = true := by
    intro p m hm x hx
    by_cases hp : p = .E
    · simp only [exInBad2, if_pos hp, List.mem_append, List.mem_singleton] at hm
      rcases hm with (h | h) | h
      · exact ex_agree .E m (List.mem_of_mem_take h) x hx
      · rw [h] at hx; exact agree_ascii x (hbad x hx)
      · exact ex_agree .E m (List.mem_of_mem_drop h) x hx
    · simp only [exInBad2, if_neg hp] at hm
      exact ex_agree p m hm x hx
  exact main_playing_unparseable_raises exContract exDeal .S exW0 exInBad2 [] (.dict []) [] [] .none ex_init rfl hasc
    (by rw [mainPlayingUnparseableS_eq]; decide +kernel) (by decide)

end Bridge.Translated.MainB
