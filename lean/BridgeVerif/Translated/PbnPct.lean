import BridgeVerif.Translated.PbnSettings
import BridgeVerif.Translated.ConnectInfoA
import BridgeVerif.Lemmas.RegexMsgClientA
/-!
# `pctLineOk` holds for every ASCII line: the `%` hypothesis of the PBN parser theorems, discharged

`parse_stream` runs `re.match(r'% PBN (\d+)\.(\d+)', line)`, `int()` of its two groups, and `re.match(r'% EXPORT', line)`
on the lines that start with `%`; `pctLineOk line` (Translated/PbnParserLemmasF.lean) says that these do not raise.

* `pctExportOk_all` — `re.match(r'% EXPORT', l)` gives an answer for EVERY line (no hypothesis).
* `pctLineOk_ascii` — for every line of ASCII characters: the version pattern gives an answer, and when it matches its
  groups are two non-empty runs of ASCII digits, which the interpreter's `int()` (`parseInt?`) accepts.
* `pp_parse_all_ascii_closed`, `pp_parse_board_settings_ascii_closed`, `pp_pbn_import_round_trip_translated_ascii`
  (and `…_universal_ascii`): the closed theorems with "every character of every line is ASCII" instead of `hpct`.
* `pct_non_ascii_counterexample` — `pctLineOk` is FALSE for `% PBN ٢.١`: `\d` matches the Arabic-Indic digits (as in
  Python), Python's `int('٢')` is `2`, but the interpreter's `int()` (`parseInt?`, ASCII digits only) raises `ValueError`.
  So the ASCII hypothesis reflects a limit of the INTERPRETER's `int()`, not of the library's code.

The proofs use the denotational form of the engine on `simple` patterns (`den`, `pyMatch_abs`, the `Rel` framework of
Lemmas/RegexHandsA.lean, `rel_digits_last`, `rel_digits_mid`) and a case-sensitive literal run (`rel_lits_cs`, here).
-/
namespace Bridge.Translated
open Bridge Bridge.Py Bridge.Generated.PyCore Bridge.Re Bridge.RegexPbn Bridge.RegexHands Bridge.RegexConnect
  Bridge.RegexMsgClient

/-! ## a case-sensitive run of literals -/
def stripCS : List Char → List Char → Option (List Char)
  | [], r => some r
  | _ :: _, [] => none
  | c :: p, x :: xs => if c = x then stripCS p xs else none

theorem rel_lits_cs (s : List Char) (N j : Nat) (K : St → Re.Res St) (cont : List Char → Option (List (List Char)))
    (h : Rel s N j K cont) : ∀ p : List Char, Rel s N j (denLits false p K) (fun r => (stripCS p r).bind cont) := by
  intro p
  induction p with
  | nil =>
    intro pos rest caps hd hl
    simpa [denLits, stripCS] using h pos rest caps hd hl
  | cons c p ih =>
    intro pos rest caps hd hl
    cases rest with
    | nil => simp [denLits, stepChar, stripCS, absRes]
    | cons x xs =>
      have hdrop : s.drop (pos + 1) = xs := drop_succ_of_cons s pos x xs hd
      have hc : charEq false c x = decide (c = x) := by
        simp only [charEq, Bool.false_and, Bool.or_false]; rw [Bool.eq_iff_iff]; simp
      simp only [denLits, stepChar, stripCS, hc]
      by_cases he : c = x
      · simp only [he, decide_true, if_true]
        exact ih (pos + 1) xs caps hdrop hl
      · simp only [he, decide_false, Bool.false_eq_true, if_false]
        simp [absRes]

theorem rel_fin (s : List Char) (N : Nat) : Rel s N N (kfin 0 false false) (fun _ => some []) := by
  intro pos rest caps _ hl
  simp only [kfin, Bool.false_and, Bool.or_false, Bool.false_eq_true, if_false, absRes, Option.map, List.map_nil,
    List.append_nil]
  rw [List.take_of_length_le (by simp [texts]; omega)]

/-! ## `% EXPORT` -/
def reExport : Re := lits "% EXPOR".toList (.lit 'T')
theorem pct_parse_export : Re.parse PBN_EXPORT_PATTERN = some reExport := by decide +kernel

theorem pctExportOk_all (l : Str) : pctExportOk l = true := by
  have hd : ∀ st, den false reExport (kfin 0 false false) st
      = denLits false ['%', ' ', 'E', 'X', 'P', 'O', 'R', 'T'] (kfin 0 false false) st := by
    intro st
    rw [reExport, den_lits, String.toList_ofList]; rfl
  have hr := rel_lits_cs l 0 0 _ _ (rel_fin l 0) ['%', ' ', 'E', 'X', 'P', 'O', 'R', 'T'] 0 l [] rfl rfl
  have ha := pyMatch_abs PBN_EXPORT_PATTERN l reExport pct_parse_export (by decide +kernel)
  have hng : List.replicate reExport.ngroups (none : Option (Nat × Nat)) = [] := by decide +kernel
  rw [hng, hd, hr] at ha
  unfold pctExportOk
  cases hp : Re.pyMatch false PBN_EXPORT_PATTERN l with
  | none => rw [hp] at ha; cases ha
  | some x => rfl

/-! ## `% PBN (\d+)\.(\d+)` -/
def reVersion : Re := lits "% PBN ".toList (.seq (digG 1) (.seq (.lit '.') (digG 2)))
theorem pct_parse_version : Re.parse PBN_VERSION_PATTERN = some reVersion := by decide +kernel

theorem pct_digit_ascii : ∀ n : Fin 128, Re.isDigit (Char.ofNat n) = Bridge.isDigit (Char.ofNat n) := by decide +kernel

theorem pct_digit_agree (x : Char) (h : x.toNat < 128) : Re.isDigit x = Bridge.isDigit x := by
  have := pct_digit_ascii ⟨x.toNat, h⟩
  simpa [Char.ofNat_toNat] using this

/-- the scanner of the version line -/
def versionScan (r : Str) : Option (List (List Char)) :=
  (stripCS "% PBN ".toList r).bind (digitsThen fun r' => (stripCS ['.'] r').bind digitsLast)

theorem pct_takeWhile_all (p : Char → Bool) : ∀ l : List Char, (l.takeWhile p).all p = true := by
  intro l
  induction l with
  | nil => rfl
  | cons a l ih =>
    simp only [List.takeWhile]
    cases h : p a
    · rfl
    · simp [h, ih]

theorem pct_versionScan_some (r : Str) (gs : List (List Char)) (h : versionScan r = some gs) :
    ∃ d1 d2, gs = [d1, d2] ∧ d1 ≠ [] ∧ d1.all Bridge.isDigit = true ∧ d2 ≠ [] ∧ d2.all Bridge.isDigit = true := by
  unfold versionScan at h
  cases h1 : stripCS "% PBN ".toList r with
  | none => rw [h1] at h; cases h
  | some r1 =>
    rw [h1] at h
    simp only [Option.bind_some, digitsThen] at h
    split at h
    · cases h
    · rename_i hne1
      cases h2 : stripCS ['.'] (r1.drop (r1.takeWhile Bridge.isDigit).length) with
      | none => rw [h2] at h; cases h
      | some r2 =>
        rw [h2] at h
        simp only [Option.bind_some, digitsLast] at h
        split at h
        · cases h
        · rename_i hne2
          simp only [Option.map_some, Option.some.injEq] at h
          exact ⟨_, _, h.symm, hne1, pct_takeWhile_all _ _, hne2, pct_takeWhile_all _ _⟩

theorem pct_version_abs (l : Str) (hl : ∀ c ∈ l, c.toNat < 128) :
    (Re.pyMatch false PBN_VERSION_PATTERN l).map (Option.map (groupTexts l))
      = some ((versionScan l).map fun gs => gs.map some) := by
  have hs : ∀ x ∈ l, Re.isDigit x = Bridge.isDigit x := fun x hx => pct_digit_agree x (hl x hx)
  have hK : Rel l 2 1 (denLits false ['.'] (den false (digG 2) (kfin 0 false false)))
      (fun r => (stripCS ['.'] r).bind digitsLast) :=
    rel_lits_cs l 2 1 _ _ (rel_digits_last false l hs 1) ['.']
  have hcont : ∀ x xs, Bridge.isDigit x = true → (stripCS ['.'] (x :: xs)).bind digitsLast = none := by
    intro x xs hx
    have : ¬ '.' = x := by intro e; subst e; revert hx; decide
    simp [stripCS, this]
  have hM := rel_digits_mid false l hs 2 0 (by decide) _ _ hK hcont
  have hL := rel_lits_cs l 2 0 _ _ hM "% PBN ".toList 0 l (List.replicate 2 none) rfl rfl
  have hd : ∀ st, den false reVersion (kfin 0 false false) st
      = denLits false "% PBN ".toList
          (den false (digG 1) (denLits false ['.'] (den false (digG 2) (kfin 0 false false)))) st := by
    intro st
    rw [reVersion, den_lits]; rfl
  have ha := pyMatch_abs PBN_VERSION_PATTERN l reVersion pct_parse_version (by decide +kernel)
  have hng : List.replicate reVersion.ngroups (none : Option (Nat × Nat)) = List.replicate 2 none := by decide +kernel
  rw [hng, hd, hL] at ha
  rw [ha]
  simp [versionScan, texts]

theorem pctVersionOk_ascii (l : Str) (hl : ∀ c ∈ l, c.toNat < 128) : pctVersionOk l = true := by
  have ha := pct_version_abs l hl
  unfold pctVersionOk
  cases hp : Re.pyMatch false PBN_VERSION_PATTERN l with
  | none => rw [hp] at ha; cases ha
  | some mo =>
    cases mo with
    | none => rfl
    | some m =>
      rw [hp] at ha
      simp only [Option.map_some, Option.some.injEq] at ha
      cases hv : versionScan l with
      | none => rw [hv] at ha; cases ha
      | some gs =>
        rw [hv] at ha
        simp only [Option.map_some, Option.some.injEq] at ha
        obtain ⟨d1, d2, rfl, n1, a1, n2, a2⟩ := pct_versionScan_some l gs hv
        obtain ⟨sp, gr⟩ := m
        simp only [groupTexts, List.map_cons, List.map_nil] at ha
        match gr, ha with
        | [some be1, some be2], ha =>
          simp only [List.map_cons, List.map_nil, Option.map_some, List.cons.injEq, Option.some.injEq, and_true] at ha
          have e1 := ConnectInfo.parseInt_of_digits d1 n1 a1
          have e2 := ConnectInfo.parseInt_of_digits d2 n2 a2
          have hm : matchVal n__Match (Int.toNat n_texts) l ⟨sp, [some be1, some be2]⟩
              = .obj n__Match [(n_texts, .tuple [.str (Re.slice l sp.1 sp.2), .str (Re.slice l be1.1 be1.2),
                  .str (Re.slice l be2.1 be2.2)])] := rfl
          simp only [hm, ha.1, ha.2, e1, e2, Option.isSome_some, Bool.and_self]

theorem pctLineOk_ascii (l : Str) (hl : ∀ c ∈ l, c.toNat < 128) : pctLineOk l = true := by
  simp only [pctLineOk, pctVersionOk_ascii l hl, pctExportOk_all l, Bool.and_self]

/-! ## the closed theorems for ASCII files -/
theorem pp_parse_all_ascii_closed (lines : List Str) (hok : ∀ l ∈ lines, l ≠ [] ∧ l.length ≤ 478)
    (hascii : ∀ l ∈ lines, ∀ c ∈ l, c.toNat < 128) :
    ∃ self', P.runMethod n_PbnParser n_parse_all [encPbnParser {} [] [], .tuple (lines.map Val.str)]
      = .ok (.tuple ((parseStream lines).map encGame), self') :=
  pp_parse_all_wide_closed lines hok fun l hl _ => pctLineOk_ascii l (hascii l hl)

theorem pp_parse_board_settings_ascii_closed (lines : List Str) (hok : ∀ l ∈ lines, l ≠ [] ∧ l.length ≤ 466)
    (hascii : ∀ l ∈ lines, ∀ c ∈ l, c.toNat < 128) :
    match pbnBoardSettings? lines with
    | some es => ∃ es' self', SameSettings es' es ∧
        P.runMethod n_PbnParser n_parse_board_settings [encPbnParser {} [] [], .tuple (lines.map Val.str)]
        = .ok (.tuple (es'.map encSetting), self')
    | none => ∃ c, c ∈ psErrors ∧
        P.runMethod n_PbnParser n_parse_board_settings [encPbnParser {} [] [], .tuple (lines.map Val.str)]
        = .error (.exc c) :=
  pp_parse_board_settings_wide_closed lines hok fun l hl _ => pctLineOk_ascii l (hascii l hl)

theorem pp_pbn_import_round_trip_translated_ascii (f : FileL) (hf : f.Admissible) (bs : List SettingEntry)
    (hlen : f.games.length = bs.length)
    (hd : ∀ i (h₁ : i < f.games.length) (h₂ : i < bs.length), f.games[i].Describes bs[i])
    (hw : ∀ b ∈ bs, PartialDeal b.deal)
    (hsize : ∀ l ∈ f.lines, l.length ≤ 466) (hascii : ∀ l ∈ f.lines, ∀ c ∈ l, c.toNat < 128) :
    ∃ (es' : List SettingEntry) (self' : Val), P.runMethod n_PbnParser n_parse_board_settings
          [encPbnParser {} [] [], .tuple ((pyLines f.text).map Val.str)]
        = .ok (.tuple (es'.map encSetting), self') ∧ es'.length = bs.length ∧
      ∀ i (h₁ : i < es'.length) (h₂ : i < bs.length), SameBoard es'[i] bs[i] ∧ ∀ p, (es'[i].deal p).Nodup :=
  pp_pbn_import_round_trip_translated f hf bs hlen hd hw hsize fun l hl _ => pctLineOk_ascii l (hascii l hl)

theorem pp_pbn_import_round_trip_translated_universal_ascii (f : FileL) (hf : f.Admissible) (bs : List SettingEntry)
    (hlen : f.games.length = bs.length)
    (hd : ∀ i (h₁ : i < f.games.length) (h₂ : i < bs.length), f.games[i].Describes bs[i])
    (hw : ∀ b ∈ bs, PartialDeal b.deal)
    (hsize : ∀ l ∈ ({ f with eol := ['\n'] } : FileL).lines, l.length ≤ 466)
    (hascii : ∀ l ∈ ({ f with eol := ['\n'] } : FileL).lines, ∀ c ∈ l, c.toNat < 128) :
    ∃ (es' : List SettingEntry) (self' : Val), P.runMethod n_PbnParser n_parse_board_settings
          [encPbnParser {} [] [], .tuple ((pyLines (universalNewlines f.text)).map Val.str)]
        = .ok (.tuple (es'.map encSetting), self') ∧ es'.length = bs.length ∧
      ∀ i (h₁ : i < es'.length) (h₂ : i < bs.length), SameBoard es'[i] bs[i] ∧ ∀ p, (es'[i].deal p).Nodup :=
  pp_pbn_import_round_trip_translated_universal f hf bs hlen hd hw hsize
    fun l hl _ => pctLineOk_ascii l (hascii l hl)

/-! ## outside ASCII the hypothesis can fail: a limit of the interpreter's `int()` -/
/-- `% PBN ٢.١` (Arabic-Indic digits): the version pattern matches (`\d` is Unicode-aware, as in Python), and the
interpreter's `int()` refuses the groups, where Python's `int('٢')` is `2` -/
theorem pct_non_ascii_counterexample :
    pctLineOk "% PBN ٢.١\n".toList = false ∧
    (Re.pyMatch false PBN_VERSION_PATTERN "% PBN ٢.١\n".toList).map Option.isSome = some true ∧
    parseInt? "٢".toList = none := by
  decide +kernel

end Bridge.Translated
