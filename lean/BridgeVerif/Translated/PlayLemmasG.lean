import BridgeVerif.Translated.PlayLemmasF
/-! Translated playing phases = model: the two checks, `PlayingPhase.play_card_by_player`,
`PlayingPhaseWithHands` -/
namespace Bridge.Translated
open Bridge Bridge.Py Bridge.Generated.PyCore

/-! ## `_check_active_player`, `_check_has_card` -/
theorem check_active_call (f : Nat) (k : Id) (ex : List (Id × Val)) (c : Contract) (s : PState) (p : Seat) :
    callF (mkRec P (f+10)) m_PlayingPhase__check_active_player [ppObj k c s ex, encSeat p]
      = if p ≠ s.active then .error (.exc K.ValueError) else .ok (.none, ppObj k c s ex) := by
  rw [callF_def]
  simp only [m_PlayingPhase__check_active_player, bindParams, Option.map, ppObj, baseFields]
  by_cases h : p = s.active <;> ppsimp [h]

theorem check_has_call (f : Nat) (pv : Val) (hand : List Card) (card : Card) :
    callF (mkRec P (f+10)) m_PlayingPhase__check_has_card [pv, .tuple (hand.map encCard), encCard card]
      = if card ∉ hand then .error (.exc K.ValueError) else .ok (.none, pv) := by
  rw [callF_def]
  simp only [m_PlayingPhase__check_has_card, bindParams, Option.map]
  by_cases h : card ∈ hand <;> ppsimp [h, contains_encCard]

/-! ## `PlayingPhase.play_card_by_player` -/
theorem mth_pp_check_active : P.method? classDepth n_PlayingPhase n__check_active_player
    = some (n_PlayingPhase, m_PlayingPhase__check_active_player) := rfl
theorem mth_pp_check_has : P.method? classDepth n_PlayingPhase n__check_has_card
    = some (n_PlayingPhase, m_PlayingPhase__check_has_card) := rfl
theorem mth_pp_play_card : P.method? classDepth n_PlayingPhase n_play_card
    = some (n_PlayingPhase, m_PlayingPhase_play_card) := rfl

theorem play_by_call (f : Nat) (c : Contract) (s : PState) (card : Card) (p : Seat) (hwf : WF s) :
    callF (mkRec P (f+60)) m_PlayingPhase_play_card_by_player [ppObj n_PlayingPhase c s [], encCard card, encSeat p]
      = match s.playBy card p with
        | .error _ => .error (.exc K.ValueError)
        | .ok s' => .ok (.none, ppObj n_PlayingPhase c s' []) := by
  rw [callF_def]
  simp only [m_PlayingPhase_play_card_by_player, bindParams, Option.map]
  have h1 := check_active_call (f+48) n_PlayingPhase [] c s p
  have h2 := play_card_call (f+8) n_PlayingPhase ppclass_base [] c s card (fun _ => hwf)
  simp only [ppObj, baseFields, List.cons_append, List.nil_append] at h1 h2 ⊢
  by_cases h : p = s.active
  · simp only [h, ne_eq, not_true_eq_false, if_false] at h1
    ppsimp [mth_pp_check_active, mth_pp_play_card, h, h1, h2, PState.playBy]
  · simp only [ne_eq, h, not_false_eq_true, if_true] at h1
    ppsimp [mth_pp_check_active, mth_pp_play_card, h1, PState.playBy, h]

/-! ## `PlayingPhaseWithHands` -/
theorem update_hands' (h : Seat → List Card) (p : Seat) (l : List Card) :
    updateD (handsKvs h) (encSeat p) (.tuple (l.map encCard)) = handsKvs (fun q => if q = p then l else h q) :=
  update_hands h p l

theorem with_hands_play_call (f : Nat) (c : Contract) (w : WithHands) (card : Card) (p : Seat) (hwf : WF w.base) :
    callF (mkRec P (f+60)) m_PlayingPhaseWithHands_play_card_by_player [encWithHands c w, encCard card, encSeat p]
      = match w.play card p with
        | .error _ => .error (.exc K.ValueError)
        | .ok w' => .ok (.none, encWithHands c w') := by
  rw [callF_def]
  simp only [m_PlayingPhaseWithHands_play_card_by_player, bindParams, Option.map]
  obtain ⟨s, hands⟩ := w
  simp only at hwf
  have h1 := check_active_call (f+48) n_PlayingPhaseWithHands [(n_hands, .dict (handsKvs hands))] c s p
  have h2 := play_card_call (f+8) n_PlayingPhaseWithHands ppclass_withHands
    [(n_hands, .dict (handsKvs (fun q => if q = p then (hands p).erase card else hands q)))] c s card (fun _ => hwf)
  simp only [encWithHands, ppObj, baseFields, List.cons_append, List.nil_append, encCards] at h1 h2 ⊢
  by_cases h : p = s.active
  · subst h
    simp only [ne_eq, not_true_eq_false, if_false] at h1
    by_cases hm : card ∈ hands s.active
    · ppsimp [mth_pp_check_active, mth_pp_play_card, mth_pp_check_has, h1, lookup_hands, encCards, check_has_call, hm,
        removeFirst_encCard, update_hands', h2, WithHands.play]
    · ppsimp [mth_pp_check_active, mth_pp_play_card, mth_pp_check_has, h1, lookup_hands, encCards, check_has_call, hm,
        WithHands.play]
  · simp only [ne_eq, h, not_false_eq_true, if_true] at h1
    ppsimp [mth_pp_check_active, mth_pp_play_card, h1, WithHands.play, h]

theorem mth_pp_current_available : P.method? classDepth n_PlayingPhase n_current_available_cards
    = some (n_PlayingPhase, m_PlayingPhase_current_available_cards) := rfl
theorem mth_pp_init : P.method? classDepth n_PlayingPhase K.init = some (n_PlayingPhase, m_PlayingPhase___init__) := rfl

theorem with_hands_available_call (f : Nat) (c : Contract) (w : WithHands) (p : Seat) :
    callF (mkRec P (f+30)) m_PlayingPhaseWithHands_current_available_cards_in_hand [encWithHands c w, encSeat p]
      = .ok (encCards (w.base.currentAvailable (w.hands p)), encWithHands c w) := by
  rw [callF_def]
  simp only [m_PlayingPhaseWithHands_current_available_cards_in_hand, bindParams, Option.map]
  obtain ⟨s, hands⟩ := w
  have h1 := current_available_call (f+7) n_PlayingPhaseWithHands [(n_hands, .dict (handsKvs hands))] c s (hands p)
  simp only [encWithHands, ppObj, baseFields, List.cons_append, List.nil_append] at h1 ⊢
  ppsimp [mth_pp_current_available, lookup_hands, h1]

theorem with_hands_init_call (f : Nat) (c : Contract) (hands : Seat → List Card) :
    callF (mkRec P (f+50)) m_PlayingPhaseWithHands___init__
        [.obj n_PlayingPhaseWithHands [], encContract c, .dict (handsKvs hands)] =
      match c.finalBid, c.declarer with
      | none, _ => .error (.exc K.Exception)
      | some _, none => .error (.exc K.AssertionError)
      | some b, some d => .ok (.none, encWithHands c ⟨initState b d, hands⟩) := by
  rw [callF_def]
  simp only [m_PlayingPhaseWithHands___init__, bindParams, Option.map]
  have h := init_call (f+8) n_PlayingPhaseWithHands c
  cases hb : c.finalBid with
  | none =>
    simp only [hb] at h
    ppsimp [mth_pp_init, h]
  | some b =>
    cases hd : c.declarer with
    | none =>
      simp only [hb, hd] at h
      ppsimp [mth_pp_init, h]
    | some d =>
      simp only [hb, hd] at h
      ppsimp [mth_pp_init, h, ppObj, baseFields, encWithHands]

end Bridge.Translated
