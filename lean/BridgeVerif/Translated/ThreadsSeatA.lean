import BridgeVerif.Translated.ThreadsSeatALemmas
/-!
# The TRANSLATED seat thread (`SeatThread`, Generated/PyCoreThreads.lean) IS the reactive model of Model/SeatThread.lean

The MiniPy interpreter is executed SYMBOLICALLY on the generated bodies `m_SeatThread_*` / `m__World_*` of the whole
translated program `P`, on the symbolic thread object `encSeatThread p (encSeatWorld p q c out table tables) extra`
(helper lemmas: Translated/ThreadsSeatALemmas.lean).  Every statement holds for EVERY interpreter fuel above a stated
bound (`callFn P f …` with `bound ≤ f`).

* (1) `passesCheck` / `failsCheck` — the test `_check_message` performs (`checkPattern` = the `.replace` builtin).
* (2) `seat_check_message_translated` — pass / fail (`ERROR: Unexpected message received.`, `close`) / `Blocked`.
* (3) `seat_deal_translated` — `_deal` is `seatDealR`; each of the two barrier waits applies `advanceTables`.
* (4) `seat_bidding_translated` — the `while True` loop of `_bidding_phase` is `seatBiddingR` (loop invariant
  `st_bidding_loop`, by induction on the model's fuel; interpreter fuel bound `q.length + 66`), under `bidChecks`.
* `seat_convert_formal_name_translated` — `Player.convert_formal_name` is `seatOfFormal?`; and the small methods
  `_handle_error`, `receive_message_from_queue`, `send_message_to_queue`, `_sync_event`.
-/
namespace Bridge.Translated
open Bridge Bridge.Py Bridge.Generated.PyCore

/-! ## (1) the test `_check_message` performs -/

/-- `expected_message.replace(' ', '\\s+')` as the interpreter's `.replace` builtin computes it -/
def checkPattern (expected : Str) : Str := replaceAll [' '] ['\\', 's', '+'] (expected.length + 1) expected

/-- `re.fullmatch(pattern, received_message, re.IGNORECASE)` is a match object -/
def passesCheck (expected msg : Str) : Prop := ∃ m, Re.pyFullmatch true (checkPattern expected) msg = some (some m)

/-- `re.fullmatch(pattern, received_message, re.IGNORECASE)` is `None` -/
def failsCheck (expected msg : Str) : Prop := Re.pyFullmatch true (checkPattern expected) msg = some none

theorem st_check_blocked_call (f : Nat) (p : Seat) (q : List Str) (out : List Val) (table : Val)
    (tables : List Val) (extra : List (Id × Val)) (expected : Val) :
    callF (mkRec P (f+40)) m_SeatThread__check_message
        [.obj n_SeatThread ((n__w, encSeatWorld p q [] out table tables) :: (n_player, encSeat p) :: extra), expected]
      = .error (.exc n_Blocked) := by
  rw [callF_def]
  simp only [m_SeatThread__check_message, bindParams, Option.map]
  ppsimp [pyworld]

/-! ## (3) `_deal` -/

theorem st_formal_name (f : Nat) (p : Seat) :
    getAttrF (mkRec P (f+12)) P (encSeat p) n_formal_name = .ok (.str p.formal) :=
  SeatB.sb_formal f p

theorem st_mth_deal : P.method? classDepth n_SeatThread n__deal = some (n_SeatThread, m_SeatThread__deal) := rfl

theorem st_deal_call (f : Nat) (p : Seat) (header cards : Str) (q : List Str) (m1 m2 : Str) (c : List Str)
    (out : List Val) (table : Val) (tables : List Val) (extra : List (Id × Val))
    (h1 : passesCheck (p.formal ++ " ready for deal".toList) m1)
    (h2 : passesCheck (p.formal ++ " ready for cards".toList) m2) :
    callF (mkRec P (f+70)) m_SeatThread__deal
        [.obj n_SeatThread ((n__w, encSeatWorld p (header :: cards :: q) (m1 :: m2 :: c) out table tables)
          :: (n_player, encSeat p) :: extra)]
      = .ok (.bool true, .obj n_SeatThread ((n__w, encSeatWorld p q c
          (out ++ [.tuple [vstr "recv"], .tuple [vstr "sync"], .tuple [vstr "get", vstr "m2t", encSeat p],
                   .tuple [vstr "send", .str header],
                   .tuple [vstr "recv"], .tuple [vstr "sync"], .tuple [vstr "get", vstr "m2t", encSeat p],
                   .tuple [vstr "send", .str cards]])
          (advanceTables (advanceTables (table, tables))).1 (advanceTables (advanceTables (table, tables))).2)
          :: (n_player, encSeat p) :: extra)) := by
  have hc1 := fun f q c out table tables rest => SeatB.sb_check_pass f p q c m1 _ out table tables rest h1
  have hc2 := fun f q c out table tables rest => SeatB.sb_check_pass f p q c m2 _ out table tables rest h2
  simp only [String.reduceToList] at hc1 hc2
  rw [callF_def]
  simp only [m_SeatThread__deal, bindParams, Option.map]
  ppsimp [pyworld, st_formal_name, strOfF, List.flatten_cons, List.flatten_nil, List.append_nil, st_mth_check, hc1, hc2,
    st_mth_sync_event, st_sync_event_call, st_mth_recv_q, SeatB.sbu_recv_q, List.append_assoc]
  rfl

/-- from "fuel `f + K` for every `f`" to "every fuel above `K`" -/
theorem st_callFn_of_callF {K : Nat} {fd : FuncDef} {args : List Val} {x : R (Val × Val)}
    (h : ∀ f, callF (mkRec P (f+K)) fd args = x) (f : Nat) (hf : K + 1 ≤ f) : callFn P f fd args = x := callFn_of_callF h f hf

/-- (2) `_check_message` on a world whose connection stream is `msg :: c` / is empty -/
theorem seat_check_message_translated (p : Seat) (q : List Str) (msg : Str) (c : List Str) (out : List Val) (table : Val)
    (tables : List Val) (extra : List (Id × Val)) (expected : Str) :
    (passesCheck expected msg → ∀ f, 41 ≤ f →
      callFn P f m_SeatThread__check_message
          [encSeatThread p (encSeatWorld p q (msg :: c) out table tables) extra, .str expected]
        = .ok (.bool true, encSeatThread p (encSeatWorld p q c (out ++ [.tuple [vstr "recv"]]) table tables) extra)) ∧
    (failsCheck expected msg → ∀ f, 41 ≤ f →
      callFn P f m_SeatThread__check_message
          [encSeatThread p (encSeatWorld p q (msg :: c) out table tables) extra, .str expected]
        = .ok (.bool false, encSeatThread p (encSeatWorld p q c
            (out ++ [.tuple [vstr "recv"], .tuple [vstr "send", vstr "ERROR: Unexpected message received."],
                     .tuple [vstr "close", .none]]) table tables) extra)) ∧
    (∀ f, 41 ≤ f →
      callFn P f m_SeatThread__check_message [encSeatThread p (encSeatWorld p q [] out table tables) extra, .str expected]
        = .error (.exc n_Blocked)) :=
  ⟨fun h => st_callFn_of_callF fun f => SeatB.sb_check_pass (f+26) p q c msg expected out table tables _ h,
   fun h => st_callFn_of_callF fun f => SeatB.sb_check_fail (f+26) p q c msg expected out table tables _ h,
   st_callFn_of_callF fun f => st_check_blocked_call f p q out table tables extra (.str expected)⟩

/-- non-vacuity of (2): letter case and the length of white-space runs are ignored; another text fails -/
example : passesCheck "North ready for deal".toList "NORTH  ready for\tdeal".toList :=
  ⟨{ span := (0, 21), groups := [] }, by decide +kernel⟩
example : failsCheck "North ready for deal".toList "North ready for cards".toList := by
  unfold failsCheck; decide +kernel
example (f : Nat) (hf : 41 ≤ f) :
    callFn P f m_SeatThread__check_message
        [encSeatThread .N (encSeatWorld .N ["q1".toList] ["NORTH  ready for\tdeal".toList, "next".toList]
          [.tuple [vstr "sync"]] (.dict []) []) [], .str "North ready for deal".toList]
      = .ok (.bool true, encSeatThread .N (encSeatWorld .N ["q1".toList] ["next".toList]
          [.tuple [vstr "sync"], .tuple [vstr "recv"]] (.dict []) []) []) :=
  (seat_check_message_translated .N _ _ _ _ _ _ [] _).1 ⟨{ span := (0, 21), groups := [] }, by decide +kernel⟩ f hf
example (f : Nat) (hf : 41 ≤ f) :
    callFn P f m_SeatThread__check_message
        [encSeatThread .N (encSeatWorld .N ["q1".toList] ["North ready for cards".toList, "next".toList]
          [.tuple [vstr "sync"]] (.dict []) []) [], .str "North ready for deal".toList]
      = .ok (.bool false, encSeatThread .N (encSeatWorld .N ["q1".toList] ["next".toList]
          [.tuple [vstr "sync"], .tuple [vstr "recv"],
           .tuple [vstr "send", vstr "ERROR: Unexpected message received."], .tuple [vstr "close", .none]]
          (.dict []) []) []) :=
  (seat_check_message_translated .N _ _ _ _ _ _ [] _).2.1 (by unfold failsCheck; decide +kernel) f hf

/-- the two client messages `_deal` consumes pass their checks -/
def dealChecks (p : Seat) (c : List Str) : Prop :=
  match c with
  | m1 :: m2 :: _ =>
    passesCheck (p.formal ++ " ready for deal".toList) m1 ∧ passesCheck (p.formal ++ " ready for cards".toList) m2
  | _ => True

/-- (3) `_deal` is `seatDealR` -/
theorem seat_deal_translated (p : Seat) (q c q' c' : List Str) (acts : SeatActs) (out : List Val) (table : Val)
    (tables : List Val) (extra : List (Id × Val))
    (h : seatDealR p ⟨q, c⟩ = some (acts, ⟨q', c'⟩)) (hck : dealChecks p c) :
    ∃ ops, encSeatActs p acts = some ops ∧ ∀ f, 71 ≤ f →
      callFn P f m_SeatThread__deal [encSeatThread p (encSeatWorld p q c out table tables) extra]
        = .ok (.bool true, encSeatThread p (encSeatWorld p q' c' (out ++ ops)
            (advanceTables (advanceTables (table, tables))).1 (advanceTables (advanceTables (table, tables))).2) extra) := by
  match c, q, hck, h with
  | m1 :: m2 :: c0, header :: cards :: q0, hck, h =>
    simp only [seatDealR, SeatIn.getC, SeatIn.getQ, Option.bind_eq_bind, Option.bind_some, Option.pure_def,
      Option.some.injEq, Prod.mk.injEq, SeatIn.mk.injEq] at h
    obtain ⟨rfl, rfl, rfl⟩ := h
    refine ⟨[.tuple [vstr "recv"], .tuple [vstr "sync"], .tuple [vstr "get", vstr "m2t", encSeat p],
                   .tuple [vstr "send", .str header],
                   .tuple [vstr "recv"], .tuple [vstr "sync"], .tuple [vstr "get", vstr "m2t", encSeat p],
                   .tuple [vstr "send", .str cards]], ?_, ?_⟩
    · simp [encSeatActs, encSeatAct, sync]
    · exact st_callFn_of_callF fun f => st_deal_call f p header cards q0 m1 m2 c0 out table tables extra hck.1 hck.2
  | [], _, _, h => simp [seatDealR, SeatIn.getC] at h
  | [_], [], _, h => simp [seatDealR, SeatIn.getC, SeatIn.getQ] at h
  | [_], _ :: _, _, h => simp [seatDealR, SeatIn.getC, SeatIn.getQ] at h
  | _ :: _ :: _, [], _, h => simp [seatDealR, SeatIn.getC, SeatIn.getQ] at h
  | _ :: _ :: _, [_], _, h => simp [seatDealR, SeatIn.getC, SeatIn.getQ] at h

/-- non-vacuity of (3): a deal with one later table snapshot (taken by the first barrier) -/
example (f : Nat) (hf : 71 ≤ f) :
    callFn P f m_SeatThread__deal
        [encSeatThread .S (encSeatWorld .S
          ["Board number 1. Dealer North. Neither vulnerable.".toList, "South's cards : S A K. H -. D -. C -.".toList,
           "North".toList]
          ["South ready for deal".toList, "south  READY for cards".toList, "x".toList]
          [] (.dict []) [.dict [(encSeat .N, vstr "a")]]) [(K.name, vstr "Thread-South")]]
      = .ok (.bool true, encSeatThread .S (encSeatWorld .S ["North".toList] ["x".toList]
          [.tuple [vstr "recv"], .tuple [vstr "sync"], .tuple [vstr "get", vstr "m2t", encSeat .S],
           .tuple [vstr "send", vstr "Board number 1. Dealer North. Neither vulnerable."],
           .tuple [vstr "recv"], .tuple [vstr "sync"], .tuple [vstr "get", vstr "m2t", encSeat .S],
           .tuple [vstr "send", vstr "South's cards : S A K. H -. D -. C -."]]
          (.dict [(encSeat .N, vstr "a")]) []) [(K.name, vstr "Thread-South")]) := by
  obtain ⟨ops, hops, h⟩ := seat_deal_translated .S
    ["Board number 1. Dealer North. Neither vulnerable.".toList, "South's cards : S A K. H -. D -. C -.".toList,
      "North".toList] ["South ready for deal".toList, "south  READY for cards".toList, "x".toList] _ _ _
    [] (.dict []) [.dict [(encSeat .N, vstr "a")]] [(K.name, vstr "Thread-South")] rfl
    ⟨⟨{ span := (0, 20), groups := [] }, by decide +kernel⟩, ⟨{ span := (0, 22), groups := [] }, by decide +kernel⟩⟩
  simp [encSeatActs, encSeatAct, sync] at hops
  subst hops
  -- literals as character lists on both sides, so that the two texts are compared syntactically
  simp only [vstr, String.reduceToList] at h ⊢
  exact h f hf

/-! ## (4) `_bidding_phase` -/

/-- the body of the `while True` loop of the generated `_bidding_phase` -/
def bpBody : List Stmt := match m_SeatThread__bidding_phase.body.getD 0 .pass with
  | .while _ b => b
  | _ => []

theorem bp_body_def :
    m_SeatThread__bidding_phase.body = [.while (.const (.bool true)) bpBody, .ret (.const (.bool true))] := rfl

theorem st_mth_convert :
    P.method? classDepth n_Player n_convert_formal_name = some (n_Player, m_Player_convert_formal_name) :=
  SeatB.sb_mth_convert

theorem seatOfFormal_formal (a : Seat) : seatOfFormal? a.formal = some a := by cases a <;> rfl

/-- `Player.convert_formal_name` on the four names is `seatOfFormal?` -/
theorem st_convert_formal_call (f : Nat) (a : Seat) :
    callF (mkRec P (f+12)) m_Player_convert_formal_name [.cls n_Player, .str a.formal] = .ok (encSeat a, .cls n_Player) :=
  SeatB.sb_convert f _ a (seatOfFormal_formal a)

theorem seatOfFormal_eq {m : Str} {a : Seat} (h : seatOfFormal? m = some a) : m = a.formal := SeatB.seatOfFormal_eq h

theorem st_formal_ne_null (a : Seat) :
    (Val.str a.formal).beq (.str ['n', 'o', 't', 'h', 'i', 'n', 'g', ' ', 'h', 'a', 'p', 'p', 'e', 'n', 's']) = false := by
  cases a <;> with_unfolding_all rfl
theorem st_formal_ne_illegal (a : Seat) :
    (Val.str a.formal).beq (.str ['i', 'l', 'l', 'e', 'g', 'a', 'l', ' ', 'b', 'i', 'd']) = false := by
  cases a <;> with_unfolding_all rfl
theorem st_formal_ne_error (a : Seat) :
    (Val.str a.formal).beq (.str ['e', 'r', 'r', 'o', 'r', ' ', 'd', 'e', 't', 'e', 'c', 't', 'e', 'd']) = false := by
  cases a <;> with_unfolding_all rfl
theorem st_null_beq :
    (Val.str MSG_NULL).beq (.str ['n', 'o', 't', 'h', 'i', 'n', 'g', ' ', 'h', 'a', 'p', 'p', 'e', 'n', 's']) = true := by
  with_unfolding_all rfl

/-- one turn: `nothing happens` arrives -/
theorem st_turn_null (f : Nat) (p : Seat) (q c : List Str) (out : List Val) (table : Val) (tables : List Val)
    (extra : List (Id × Val)) (rest : Env) :
    ∃ rest', (mkRec P (f+40)).exec
        ((K.self, .obj n_SeatThread ((n__w, encSeatWorld p (MSG_NULL :: q) c out table tables)
          :: (n_player, encSeat p) :: extra)) :: rest) bpBody
      = .ok ((K.self, .obj n_SeatThread ((n__w, encSeatWorld p q c
          (out ++ [.tuple [vstr "get", vstr "m2t", encSeat p]]) table tables) :: (n_player, encSeat p) :: extra)) :: rest',
          .brk) := by
  refine ⟨?_, ?_⟩
  rotate_left
  · simp only [bpBody, m_SeatThread__bidding_phase, List.getD_cons_zero]
    ppsimp [pyworld, st_mth_recv_q, SeatB.sbu_recv_q, st_null_beq]
    rfl

/-- one turn: the seat's own name arrives — its client's bid goes to main -/
theorem st_turn_own (f : Nat) (p : Seat) (q : List Str) (bid : Str) (c : List Str) (out : List Val) (table : Val)
    (tables : List Val) (extra : List (Id × Val)) (rest : Env) :
    ∃ rest', (mkRec P (f+40)).exec
        ((K.self, .obj n_SeatThread ((n__w, encSeatWorld p (p.formal :: q) (bid :: c) out table tables)
          :: (n_player, encSeat p) :: extra)) :: rest) bpBody
      = .ok ((K.self, .obj n_SeatThread ((n__w, encSeatWorld p q c
          (out ++ [.tuple [vstr "get", vstr "m2t", encSeat p], .tuple [vstr "recv"],
                   .tuple [vstr "put", vstr "t2m", encSeat p, .str bid]]) table tables)
          :: (n_player, encSeat p) :: extra)) :: rest', .next) := by
  refine ⟨?_, ?_⟩
  rotate_left
  · simp only [bpBody, m_SeatThread__bidding_phase, List.getD_cons_zero]
    ppsimp [pyworld, st_mth_recv_q, SeatB.sbu_recv_q, st_formal_ne_null, st_formal_ne_illegal, st_formal_ne_error,
      st_mth_convert, st_convert_formal_call, st_mth_send_q, SeatB.sbu_send_q, List.append_assoc]
    rfl

/-- one turn: another seat's name arrives — "ready for <a>'s bid" from the client (passing its check), then the bid
main relays goes to the client -/
theorem st_turn_other (f : Nat) (p a : Seat) (hpa : p ≠ a) (relay : Str) (q : List Str) (x : Str) (c : List Str)
    (out : List Val) (table : Val) (tables : List Val) (extra : List (Id × Val)) (rest : Env)
    (hx : passesCheck (p.formal ++ " ready for ".toList ++ a.formal ++ "'s bid".toList) x) :
    ∃ rest', (mkRec P (f+60)).exec
        ((K.self, .obj n_SeatThread ((n__w, encSeatWorld p (a.formal :: relay :: q) (x :: c) out table tables)
          :: (n_player, encSeat p) :: extra)) :: rest) bpBody
      = .ok ((K.self, .obj n_SeatThread ((n__w, encSeatWorld p q c
          (out ++ [.tuple [vstr "get", vstr "m2t", encSeat p], .tuple [vstr "recv"],
                   .tuple [vstr "get", vstr "m2t", encSeat p], .tuple [vstr "send", .str relay]]) table tables)
          :: (n_player, encSeat p) :: extra)) :: rest', .next) := by
  have hc := fun f q c out table tables rest => SeatB.sb_check_pass f p q c x _ out table tables rest hx
  simp only [String.reduceToList, List.append_assoc, List.cons_append, List.nil_append] at hc
  refine ⟨?_, ?_⟩
  rotate_left
  · simp only [bpBody, m_SeatThread__bidding_phase, List.getD_cons_zero]
    ppsimp [pyworld, st_mth_recv_q, SeatB.sbu_recv_q, st_formal_ne_null, st_formal_ne_illegal, st_formal_ne_error,
      st_mth_convert, st_convert_formal_call, hpa, st_formal_name, strOfF, List.flatten_cons, List.flatten_nil,
      List.append_nil, st_mth_check, hc, List.append_assoc]
    rfl

/-- every "ready for <X>'s bid" message `seatBiddingR` consumes passes its check (walks the streams like `seatBiddingR`) -/
def bidChecks (p : Seat) : Nat → SeatIn → Prop
  | 0, _ => True
  | n + 1, i =>
    match i.getQ with
    | none => True
    | some (m, i) =>
      if m = MSG_NULL then True
      else match seatOfFormal? m with
        | none => True
        | some a =>
          if p = a then
            match i.getC with
            | none => True
            | some (_, i) => bidChecks p n i
          else
            match i.getC with
            | none => True
            | some (x, i) =>
              passesCheck (p.formal ++ " ready for ".toList ++ a.formal ++ "'s bid".toList) x ∧
              match i.getQ with
              | none => True
              | some (_, i) => bidChecks p n i



/-- THE LOOP INVARIANT of `_bidding_phase`: entered on the streams `q`, `c`, the loop ends on the streams `seatBiddingR`
leaves, having appended `seatBiddingR`'s actions to `out` -/
theorem st_bidding_loop (p : Seat) (extra : List (Id × Val)) (table : Val) (tables : List Val) :
    ∀ (n : Nat) (q c : List Str) (acts : SeatActs) (q' c' : List Str) (out : List Val) (rest : Env) (f : Nat),
      seatBiddingR p n ⟨q, c⟩ = some (acts, ⟨q', c'⟩) → bidChecks p n ⟨q, c⟩ → q.length + 62 ≤ f →
      ∃ ops rest', encSeatActs p acts = some ops ∧
        (mkRec P f).loop ((K.self, .obj n_SeatThread ((n__w, encSeatWorld p q c out table tables)
            :: (n_player, encSeat p) :: extra)) :: rest) (.const (.bool true)) bpBody
          = .ok ((K.self, .obj n_SeatThread ((n__w, encSeatWorld p q' c' (out ++ ops) table tables)
            :: (n_player, encSeat p) :: extra)) :: rest', .next) := by
  intro n
  induction n with
  | zero => intro q c acts q' c' out rest f h; simp [seatBiddingR] at h
  | succ n ih =>
    intro q c acts q' c' out rest f h hck hf
    obtain ⟨g, rfl⟩ : ∃ g, f = g + 62 := ⟨f - 62, by omega⟩
    cases q with
    | nil => simp [seatBiddingR, SeatIn.getQ] at h
    | cons m r =>
      simp only [List.length_cons] at hf
      by_cases hm : m = MSG_NULL
      · subst hm
        simp only [seatBiddingR, SeatIn.getQ, Option.bind_eq_bind, Option.bind_some, if_true, Option.pure_def,
          Option.some.injEq, Prod.mk.injEq, SeatIn.mk.injEq] at h
        obtain ⟨rfl, rfl, rfl⟩ := h
        obtain ⟨rest', hb⟩ := st_turn_null (g+21) p r c out table tables extra rest
        exact ⟨[.tuple [vstr "get", vstr "m2t", encSeat p]], rest', by simp [encSeatActs, encSeatAct],
          while_true_brk (g+60) _ _ _ hb⟩
      · simp only [seatBiddingR, SeatIn.getQ, Option.bind_eq_bind, Option.bind_some, hm, if_false] at h
        simp only [bidChecks, SeatIn.getQ, hm, if_false] at hck
        cases ha : seatOfFormal? m with
        | none => simp [ha] at h
        | some a =>
          have hma := seatOfFormal_eq ha
          subst hma
          simp only [ha, Option.bind_some] at h hck
          by_cases hpa : p = a
          · subst hpa
            simp only [if_true] at h hck
            cases c with
            | nil => simp [SeatIn.getC] at h
            | cons bid c1 =>
              simp only [SeatIn.getC, Option.bind_some] at h hck
              cases hr : seatBiddingR p n ⟨r, c1⟩ with
              | none => simp [hr] at h
              | some res =>
                obtain ⟨rest0, ⟨q0, c0⟩⟩ := res
                simp only [hr, Option.bind_some, Option.pure_def, Option.some.injEq, Prod.mk.injEq,
                  SeatIn.mk.injEq] at h
                obtain ⟨rfl, rfl, rfl⟩ := h
                obtain ⟨rest1, hb⟩ := st_turn_own (g+21) p r bid c1 out table tables extra rest
                obtain ⟨ops, rest', hops, hl⟩ := ih r c1 rest0 q0 c0
                  (out ++ [.tuple [vstr "get", vstr "m2t", encSeat p], .tuple [vstr "recv"],
                    .tuple [vstr "put", vstr "t2m", encSeat p, .str bid]]) rest1 (g+61) hr hck (by omega)
                refine ⟨[.tuple [vstr "get", vstr "m2t", encSeat p], .tuple [vstr "recv"],
                    .tuple [vstr "put", vstr "t2m", encSeat p, .str bid]] ++ ops, rest', ?_, ?_⟩
                · simp [encSeatActs, encSeatAct, hops]
                · rw [while_true_next (g+60) _ _ _ hb, hl, List.append_assoc]
          · simp only [hpa, if_false] at h hck
            cases c with
            | nil => simp [SeatIn.getC] at h
            | cons x c1 =>
              simp only [SeatIn.getC, Option.bind_some] at h hck
              cases r with
              | nil => simp at h
              | cons relay r1 =>
                simp only [Option.bind_some] at h hck
                cases hr : seatBiddingR p n ⟨r1, c1⟩ with
                | none => simp [hr] at h
                | some res =>
                  obtain ⟨rest0, ⟨q0, c0⟩⟩ := res
                  simp only [hr, Option.bind_some, Option.pure_def, Option.some.injEq, Prod.mk.injEq,
                    SeatIn.mk.injEq] at h
                  obtain ⟨rfl, rfl, rfl⟩ := h
                  obtain ⟨rest1, hb⟩ := st_turn_other (g+1) p a hpa relay r1 x c1 out table tables extra rest hck.1
                  simp only [List.length_cons] at hf
                  obtain ⟨ops, rest', hops, hl⟩ := ih r1 c1 rest0 q0 c0
                    (out ++ [.tuple [vstr "get", vstr "m2t", encSeat p], .tuple [vstr "recv"],
                      .tuple [vstr "get", vstr "m2t", encSeat p], .tuple [vstr "send", .str relay]]) rest1 (g+61) hr
                      hck.2 (by omega)
                  refine ⟨[.tuple [vstr "get", vstr "m2t", encSeat p], .tuple [vstr "recv"],
                      .tuple [vstr "get", vstr "m2t", encSeat p], .tuple [vstr "send", .str relay]] ++ ops, rest', ?_, ?_⟩
                  · simp [encSeatActs, encSeatAct, hops]
                  · rw [while_true_next (g+60) _ _ _ hb, hl, List.append_assoc]

theorem bp_params : m_SeatThread__bidding_phase.params = [K.self] := rfl
theorem bp_defaults : m_SeatThread__bidding_phase.defaults = [] := rfl

/-- (4) `_bidding_phase` is `seatBiddingR`: the `while True` loop returns `True` on the streams `seatBiddingR` leaves,
having performed `seatBiddingR`'s actions, for every interpreter fuel above a bound linear in the queue length -/
theorem seat_bidding_translated (p : Seat) (fuel : Nat) (q c q' c' : List Str) (acts : SeatActs) (out : List Val)
    (table : Val) (tables : List Val) (extra : List (Id × Val))
    (h : seatBiddingR p fuel ⟨q, c⟩ = some (acts, ⟨q', c'⟩)) (hck : bidChecks p fuel ⟨q, c⟩) :
    ∃ ops, encSeatActs p acts = some ops ∧ ∀ f, q.length + 66 ≤ f →
      callFn P f m_SeatThread__bidding_phase [encSeatThread p (encSeatWorld p q c out table tables) extra]
        = .ok (.bool true, encSeatThread p (encSeatWorld p q' c' (out ++ ops) table tables) extra) := by
  obtain ⟨ops, _, hops, _⟩ :=
    st_bidding_loop p extra table tables fuel q c acts q' c' out [] (q.length + 62) h hck (Nat.le_refl _)
  refine ⟨ops, hops, fun f hf => ?_⟩
  obtain ⟨g, rfl⟩ : ∃ g, f = g + 3 := ⟨f - 3, by omega⟩
  obtain ⟨ops2, rest', hops2, hl⟩ :=
    st_bidding_loop p extra table tables fuel q c acts q' c' out [] (g+1) h hck (by omega)
  have e : ops2 = ops := by rw [hops] at hops2; exact (Option.some.inj hops2).symm
  subst e
  rw [callFn, call_succ, callF_def]
  simp only [bp_body_def, bp_params, bp_defaults, st_thread_def, bindParams, Option.map]
  ppsimp [hl]

/-- non-vacuity of (4): North bids, then follows East's bid, then `nothing happens` ends the loop (the message after it
stays in the queue) -/
example (f : Nat) (hf : 5 + 66 ≤ f) :
    callFn P f m_SeatThread__bidding_phase
        [encSeatThread .N (encSeatWorld .N
          ["North".toList, "East".toList, "1C".toList, "nothing happens".toList, "passed out".toList]
          ["Pass".toList, "north ready for  East's bid".toList, "later".toList] [] (.dict []) []) []]
      = .ok (.bool true, encSeatThread .N (encSeatWorld .N ["passed out".toList] ["later".toList]
          [.tuple [vstr "get", vstr "m2t", encSeat .N], .tuple [vstr "recv"],
           .tuple [vstr "put", vstr "t2m", encSeat .N, vstr "Pass"],
           .tuple [vstr "get", vstr "m2t", encSeat .N], .tuple [vstr "recv"],
           .tuple [vstr "get", vstr "m2t", encSeat .N], .tuple [vstr "send", vstr "1C"],
           .tuple [vstr "get", vstr "m2t", encSeat .N]] (.dict []) []) []) := by
  have hck : bidChecks .N 7 ⟨["North".toList, "East".toList, "1C".toList, "nothing happens".toList,
      "passed out".toList], ["Pass".toList, "north ready for  East's bid".toList, "later".toList]⟩ := by
    show passesCheck _ _ ∧ True
    exact ⟨⟨{ span := (0, 27), groups := [] }, by decide +kernel⟩, trivial⟩
  obtain ⟨ops, hops, h⟩ := seat_bidding_translated .N 7 _ _ _ _ _ [] (.dict []) [] [] rfl hck
  simp [encSeatActs, encSeatAct] at hops
  subst hops
  exact h f hf

/-! ## the small methods, and `Player.convert_formal_name` -/

/-- `Player.convert_formal_name(m)` is `seatOfFormal? m` (evaluated on the four names; any other text has
`seatOfFormal? m = none`) -/
theorem seat_convert_formal_name_translated (m : Str) (a : Seat) (h : seatOfFormal? m = some a) (f : Nat) (hf : 13 ≤ f) :
    callFn P f m_Player_convert_formal_name [.cls n_Player, .str m] = .ok (encSeat a, .cls n_Player) := by
  rw [seatOfFormal_eq h]
  exact st_callFn_of_callF (fun f => st_convert_formal_call f a) f hf
example : callFn P 13 m_Player_convert_formal_name [.cls n_Player, .str "West".toList] = .ok (encSeat .W, .cls n_Player) :=
  seat_convert_formal_name_translated _ .W rfl 13 (Nat.le_refl _)

theorem seat_handle_error_translated (p : Seat) (q c : List Str) (out : List Val) (table : Val) (tables : List Val)
    (extra : List (Id × Val)) (a b : Val) (f : Nat) (hf : 21 ≤ f) :
    callFn P f m_SeatThread__handle_error [encSeatThread p (encSeatWorld p q c out table tables) extra, a, b]
      = .ok (.none, encSeatThread p (encSeatWorld p q c
          (out ++ [.tuple [vstr "send", a], .tuple [vstr "close", .none]]) table tables) extra) :=
  st_callFn_of_callF (fun f => SeatB.sbu_handle_error (f+10) p q c out table tables _ a b) f hf

theorem seat_receive_message_from_queue_translated (p : Seat) (q c : List Str) (out : List Val) (table : Val)
    (tables : List Val) (extra : List (Id × Val)) (f : Nat) (hf : 21 ≤ f) :
    callFn P f m_SeatThread_receive_message_from_queue [encSeatThread p (encSeatWorld p q c out table tables) extra]
      = match q with
        | msg :: q' => .ok (.str msg, encSeatThread p (encSeatWorld p q' c
            (out ++ [.tuple [vstr "get", vstr "m2t", encSeat p]]) table tables) extra)
        | [] => .error (.exc n_Blocked) := by
  cases q with
  | cons msg q' => exact st_callFn_of_callF (fun f => SeatB.sb_recv_q (f+8) p q' c msg out table tables extra) f hf
  | nil =>
    refine st_callFn_of_callF (K := 20) (fun f => ?_) f hf
    rw [callF_def]
    simp only [m_SeatThread_receive_message_from_queue, bindParams, Option.map, st_thread_def]
    ppsimp [pyworld]

theorem seat_send_message_to_queue_translated (p : Seat) (q c : List Str) (out : List Val) (table : Val)
    (tables : List Val) (extra : List (Id × Val)) (m : Val) (f : Nat) (hf : 21 ≤ f) :
    callFn P f m_SeatThread_send_message_to_queue [encSeatThread p (encSeatWorld p q c out table tables) extra, m]
      = .ok (.none, encSeatThread p (encSeatWorld p q c
          (out ++ [.tuple [vstr "put", vstr "t2m", encSeat p, m]]) table tables) extra) :=
  st_callFn_of_callF (fun f => SeatB.sb_send_q (f+10) _ out table tables false p extra m) f hf

theorem seat_sync_event_translated (p : Seat) (q c : List Str) (out : List Val) (table : Val)
    (tables : List Val) (extra : List (Id × Val)) (f : Nat) (hf : 31 ≤ f) :
    callFn P f m_SeatThread__sync_event [encSeatThread p (encSeatWorld p q c out table tables) extra]
      = .ok (.none, encSeatThread p (encSeatWorld p q c (out ++ [.tuple [vstr "sync"]])
          (advanceTables (table, tables)).1 (advanceTables (table, tables)).2) extra) :=
  st_callFn_of_callF (fun f => st_sync_event_call f p q c out table tables extra) f hf

example : callFn P 31 m_SeatThread__sync_event [encSeatThread .E (encSeatWorld .E [] [] [] .none [.int 1, .int 2]) []]
    = .ok (.none, encSeatThread .E (encSeatWorld .E [] [] [.tuple [vstr "sync"]] (.int 1) [.int 2]) []) :=
  seat_sync_event_translated .E [] [] [] .none [.int 1, .int 2] [] 31 (Nat.le_refl _)

end Bridge.Translated
