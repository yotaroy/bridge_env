import BridgeVerif.Translated.PbnWriterLemmasA
/-! Translated PBN writer = model: `write_tag_pair`, `write_header`, the constructor; `str(int)` of the interpreter is the
model's `intRepr` (for every integer); bounds on the lengths of the texts `write_board_result` writes -/
namespace Bridge.Translated
open Bridge Bridge.Py Bridge.Generated.PyCore

/-! ## `write_tag_pair` -/
theorem pw_mth_tag_pair :
    P.method? classDepth n_PbnWriter n_write_tag_pair = some (n_PbnWriter, m_PbnWriter_write_tag_pair) := rfl

theorem pw_isupper (c : Char) :
    ([c].any (fun c => decide ('A' ≤ c ∧ c ≤ 'Z')) && ![c].any (fun c => decide ('a' ≤ c ∧ c ≤ 'z'))) = isUpper c := by
  simp only [List.any_cons, List.any_nil, Bool.or_false, isUpper]
  by_cases h : 'A' ≤ c ∧ c ≤ 'Z'
  · have : ¬ ('a' ≤ c ∧ c ≤ 'z') := fun h' => absurd (Char.le_trans h'.1 h.2) (by decide)
    simp only [h, this, decide_true, decide_false, Bool.not_false, Bool.and_true, and_self]
  · simp only [h, decide_false, Bool.false_and]

theorem pw_isupper_builtin (r : Rec) (c : Char) : builtinF r P .isupper [.str [c]] = .ok (.bool (isUpper c)) := by
  rw [← pw_isupper]; rfl

theorem pw_index0 (r : Rec) (c : Char) (rest : Str) : indexF r P (.str (c :: rest)) (.int 0) = .ok (.str [c]) := rfl

theorem pw_tagLine_eq (tag content : Str) :
    [['['], tag, [' ', '"'], content, ['"', ']']].flatten = tagLine tag content := by
  simp only [List.flatten_cons, List.flatten_nil, List.append_nil, tagLine, List.cons_append, List.nil_append,
    List.append_assoc]

theorem pw_tagLine_len (tag content : Str) : (tagLine tag content).length = tag.length + content.length + 5 := by
  simp only [tagLine, List.length_cons, List.length_append, List.length_nil]; omega

theorem pw_writeLine_tagLine (tag content : Str) : writeLine? (tagLine tag content) = some (writeTagPair tag content) := by
  cases h : writeLine? (tagLine tag content) with
  | some cs => simp only [writeTagPair, h, Option.getD_some]
  | none =>
    exfalso
    have : (tagLine tag content).getLast? = some ']' := by
      simp only [tagLine]
      rw [show '[' :: tag ++ ' ' :: '"' :: content ++ ['"', ']'] = ('[' :: tag ++ ' ' :: '"' :: content ++ ['"']) ++ [']'] by
        simp only [List.cons_append, List.append_assoc, List.nil_append]]
      exact List.getLast?_concat ..
    simp only [writeLine?, this] at h
    cases h

/-- `write_tag_pair(tag, content)` for a tag that starts with an upper-case letter -/
theorem pw_tag_pair_call (k : Nat) (chunks : List Str) (c : Char) (rest content : Str) (hu : isUpper c = true)
    (hlen : rest.length + content.length + 6 ≤ 254 * k + 254) :
    callF (mkRec P (k + 25)) m_PbnWriter_write_tag_pair
        [.obj n_PbnWriter [(n_writer, encFile chunks)], .str (c :: rest), .str content]
      = .ok (.none, .obj n_PbnWriter [(n_writer, encFile (chunks ++ writeTagPair (c :: rest) content))]) := by
  rw [callF_def]
  have hw := pw_write_line_call k chunks (tagLine (c :: rest) content) _ (pw_writeLine_tagLine ..)
    (by rw [pw_tagLine_len, List.length_cons]; omega)
  simp only [m_PbnWriter_write_tag_pair, bindParams, Option.map]
  ppsimp [pw_index0, pw_isupper_builtin, hu, strOfF, pw_tagLine_eq, pw_mth_write_line, hw]

theorem pw_tag_pair_call_lower (f : Nat) (chunks : List Str) (c : Char) (rest content : Str) (hu : isUpper c = false) :
    callF (mkRec P (f + 10)) m_PbnWriter_write_tag_pair
        [.obj n_PbnWriter [(n_writer, encFile chunks)], .str (c :: rest), .str content]
      = .error (.exc K.AssertionError) := by
  rw [callF_def]
  simp only [m_PbnWriter_write_tag_pair, bindParams, Option.map]
  ppsimp [pw_index0, pw_isupper_builtin, hu]

theorem pw_tag_pair_call_empty (f : Nat) (chunks : List Str) (content : Str) :
    callF (mkRec P (f + 10)) m_PbnWriter_write_tag_pair
        [.obj n_PbnWriter [(n_writer, encFile chunks)], .str [], .str content]
      = .error (.exc K.IndexError) := by
  rw [callF_def]
  simp only [m_PbnWriter_write_tag_pair, bindParams, Option.map]
  ppsimp [pw_index_empty]

/-! ## `write_header`, `PbnWriter(file)` -/
theorem pw_mth_header : P.method? classDepth n_PbnWriter n_write_header = some (n_PbnWriter, m_PbnWriter_write_header) := rfl
theorem pw_version : lookup P.globals n__VERSION = some (.str ['2', '.', '1']) := rfl

theorem pw_header_call (f : Nat) (chunks : List Str) :
    callF (mkRec P (f + 30)) m_PbnWriter_write_header [.obj n_PbnWriter [(n_writer, encFile chunks)]]
      = .ok (.none, .obj n_PbnWriter [(n_writer, encFile (chunks ++ writeHeader))]) := by
  have h1 := fun ch => pw_write_line_call (f + 5) ch ['%', ' ', 'P', 'B', 'N', ' ', '2', '.', '1']
    [['%', ' ', 'P', 'B', 'N', ' ', '2', '.', '1', '\n']] (by decide) (Nat.le_add_left 9 _)
  have h2 := fun ch => pw_write_line_call (f + 5) ch ['%', ' ', 'E', 'X', 'P', 'O', 'R', 'T']
    [['%', ' ', 'E', 'X', 'P', 'O', 'R', 'T', '\n']] (by decide) (Nat.le_add_left 8 _)
  rw [callF_def, writeHeader, String.toList_ofList, String.toList_ofList]
  simp only [m_PbnWriter_write_header, bindParams, Option.map]
  ppsimp [pw_version, strOfF, pw_mth_write_line, h1, h2, List.flatten_cons, List.flatten_nil, List.append_nil,
    List.append_assoc]
theorem pw_mth_init : P.method? classDepth n_PbnWriter K.init = some (n_PbnWriter, m_PbnWriter___init__) := rfl
theorem pw_init_call (f : Nat) (v : Val) :
    callF (mkRec P (f + 8)) m_PbnWriter___init__ [.obj n_PbnWriter [], v] = .ok (.none, .obj n_PbnWriter [(n_writer, v)]) := by
  rw [callF_def]
  simp only [m_PbnWriter___init__, bindParams, Option.map]
  ppsimp []
theorem pw_construct (f : Nat) (chunks : List Str) :
    constructF (mkRec P (f + 9)) P n_PbnWriter [encFile chunks] = .ok (encPbnWriter chunks) := by
  have e : constructF (mkRec P (f + 9)) P n_PbnWriter [encFile chunks]
      = (callF (mkRec P (f + 8)) m_PbnWriter___init__ [.obj n_PbnWriter [], encFile chunks] >>= fun x => pure x.2) := rfl
  rw [e, pw_init_call]; rfl

/-! ## `str(n)` -/
theorem pw_digit0 : Char.ofNat ('0'.toNat + 0 % 10) = '0' := by decide

/-- the interpreter's digits (most significant first, `f` digits at most) are the model's -/
theorem pw_natDigits_eq (f : Nat) : ∀ (n g : Nat) (acc : List Char), n < 10 ^ f → n < g →
    _root_.Bridge.natDigits g n acc = Py.natDigits f n ++ acc := by
  induction f with
  | zero =>
    intro n g acc h hg
    have hn : n = 0 := by simp only [Nat.pow_zero] at h; omega
    subst hn
    cases g with
    | zero => omega
    | succ g => simp only [_root_.Bridge.natDigits, Py.natDigits, Nat.zero_lt_succ, if_true]; rfl
  | succ f ih =>
    intro n g acc h hg
    cases g with
    | zero => omega
    | succ g =>
      simp only [_root_.Bridge.natDigits, Py.natDigits]
      have h48 : '0'.toNat = 48 := by decide
      by_cases h10 : n < 10
      · simp only [h10, if_true, h48, Nat.mod_eq_of_lt h10, List.cons_append, List.nil_append]
      · simp only [h10, if_false]
        rw [ih (n / 10) g _ (by rw [Nat.pow_succ] at h; omega) (by omega), h48]
        simp only [List.append_assoc, List.cons_append, List.nil_append]

theorem pw_lt_ten_pow_succ (n : Nat) : n < 10 ^ (n + 1) :=
  Nat.lt_of_lt_of_le (Nat.lt_pow_self (by decide : 1 < 10)) (Nat.pow_le_pow_right (by decide) (Nat.le_succ n))

/-- the model's digits are the interpreter's, at any number `f` of digits that holds `n` -/
theorem pw_natRepr_eq_of_lt (f n : Nat) (h : n < 10 ^ f) : natRepr n = Py.natDigits f n := by
  rw [natRepr, pw_natDigits_eq f n (n + 1) [] h (by omega), List.append_nil]

theorem pw_natRepr_eq (n : Nat) : natRepr n = Py.natDigits (n + 1) n :=
  pw_natRepr_eq_of_lt (n + 1) n (pw_lt_ten_pow_succ n)

/-- `str(n)` in the interpreter is the model's `intRepr`, for every integer -/
theorem pw_intStr_eq (n : Int) : intStr n = intRepr n := by
  cases n with
  | ofNat m =>
    have : ¬ (Int.ofNat m < 0) := by simp
    have e : (Int.ofNat m).natAbs = m := rfl
    simp only [intStr, this, if_false, intRepr, e]
    rw [pw_natRepr_eq m]
  | negSucc m =>
    have : Int.negSucc m < 0 := Int.negSucc_lt_zero m
    have e : (Int.negSucc m).natAbs = m + 1 := rfl
    simp only [intStr, this, if_true, intRepr, e]
    rw [pw_natRepr_eq (m + 1)]

theorem natDigitsAux_eq (g n : Nat) (acc : List Char) : natDigitsAux g n acc = _root_.Bridge.natDigits g n acc := by
  induction g generalizing n acc with
  | zero => rfl
  | succ g ih => simp only [natDigitsAux, _root_.Bridge.natDigits, ih]

/-- `str(n)` in the interpreter is the model's `natStr` -/
theorem intStr_nat (n : Nat) : intStr (n : Int) = natStr n := by
  rw [pw_intStr_eq]
  show natRepr n = natStr n
  rw [natRepr, natStr, natDigitsAux_eq]

theorem pw_pyDigits_len (f n : Nat) : (Py.natDigits f n).length ≤ f + 1 := by
  induction f generalizing n with
  | zero => simp [Py.natDigits]
  | succ f ih =>
    simp only [Py.natDigits]
    split
    · simp
    · have := ih (n / 10); simp only [List.length_append, List.length_singleton]; omega

/-- a number below `10 ^ f` prints in `f + 2` characters at most (the sign, and `0` when `f = 0`) -/
theorem pw_intRepr_len (f : Nat) (n : Int) (h : n.natAbs < 10 ^ f) : (intRepr n).length ≤ f + 2 := by
  cases n with
  | ofNat m =>
    have e : (Int.ofNat m).natAbs = m := rfl
    rw [e] at h
    have := pw_pyDigits_len f m
    simp only [intRepr, pw_natRepr_eq_of_lt f m h]
    omega
  | negSucc m =>
    have e : (Int.negSucc m).natAbs = m + 1 := rfl
    rw [e] at h
    have := pw_pyDigits_len f (m + 1)
    simp only [intRepr, pw_natRepr_eq_of_lt f (m + 1) h, List.length_cons]
    omega

/-! ## lengths of the texts -/
theorem pw_natDigits_len (g : Nat) : ∀ (n : Nat) (acc : List Char),
    (_root_.Bridge.natDigits g n acc).length ≤ g + acc.length := by
  induction g with
  | zero => intro n acc; simp [_root_.Bridge.natDigits]
  | succ g ih =>
    intro n acc
    simp only [_root_.Bridge.natDigits]
    split
    · simp only [List.length_cons]; omega
    · have := ih (n / 10) (Char.ofNat ('0'.toNat + n % 10) :: acc); simp only [List.length_cons] at this; omega

theorem pw_natRepr_len (n : Nat) : (natRepr n).length ≤ n + 1 := by
  have := pw_natDigits_len (n + 1) n []; simpa [natRepr] using this

/-- a real date (`datetime.date`: year ≤ 9999) prints short -/
theorem pw_dateStr_len (y m d : Nat) (hy : y ≤ 9999) (hm : m ≤ 12) (hd : d ≤ 31) : (dateStr y m d).length ≤ 199000 := by
  have h1 := pw_natRepr_len y
  have h2 := pw_natRepr_len m
  have h3 := pw_natRepr_len d
  simp only [dateStr, pad2, List.length_append, List.length_singleton]
  split <;> split <;> (try simp only [List.length_cons]) <;> omega

theorem pw_seat_name_len (p : Seat) : p.name.length ≤ 199000 := by cases p <;> decide
theorem pw_vulPbn_len (v : Vul) : (vulPbn v).length ≤ 199000 := by cases v <;> decide
theorem pw_scoring_len (s : Scoring) : s.value.length ≤ 199000 := by cases s <;> decide
theorem pw_seatOpt_len (o : Option Seat) : (seatOptStr o).length ≤ 199000 := by
  cases o with
  | none => decide
  | some p => exact pw_seat_name_len p
theorem pw_callStr_len_all : ∀ c ∈ Call.all, (callStr c).length ≤ 10 := by decide
theorem pw_contractStr_len (c : Contract) : (contractStr c).length ≤ 199000 := by
  obtain ⟨fb, x, xx, v, d⟩ := c
  simp only [contractStr]
  cases fb with
  | none => show ("Passed_out".toList).length ≤ 199000; decide
  | some b =>
    show (callStr (.bid b) ++ if xx = true then ['X', 'X'] else if x = true then ['X'] else []).length ≤ 199000
    have := pw_callStr_len_all (.bid b) (call_mem_all _)
    simp only [List.length_append]
    split
    · simp only [List.length_cons, List.length_nil]; omega
    · split <;> simp only [List.length_cons, List.length_nil] <;> omega

theorem pw_handToPbn_len (hand : List Card) (s : Str) (h : handToPbn? hand = some s) : s.length ≤ 55 := by
  simp only [handToPbn?] at h
  split at h
  · cases h; decide
  · split at h
    · cases h
    · rename_i h13
      simp only [ne_eq, Decidable.not_not] at h13
      simp only [Option.some.injEq] at h
      subst h
      have hl : ∀ su : Suit, (((sortDesc hand).filter fun c => decide (c.suit = su)).map
          fun c => (rankChar? c.rank).getD '?').length ≤ 13 := by
        intro su
        rw [List.length_map, ← h13, ← (sortDesc_perm hand).length_eq]
        exact List.length_filter_le ..
      have hS := hl .S; have hH := hl .H; have hD := hl .D; have hC := hl .C
      simp only [pbnSuits, List.map_cons, List.map_nil, List.intercalate, List.intersperse, List.flatten_cons,
        List.flatten_nil, List.length_append, List.length_cons, List.length_nil] at hS hH hD hC ⊢
      omega

theorem pw_toPbn_len (h : Hands) (first : Seat) (t : Str) (ht : toPbn? h first = some t) : t.length ≤ 199000 := by
  simp only [toPbn?, seatsFrom, List.mapM_cons, List.mapM_nil] at ht
  cases e0 : handToPbn? (h first) with
  | none => simp [e0] at ht
  | some a =>
    cases e1 : handToPbn? (h first.left) with
    | none => simp [e0, e1] at ht
    | some b =>
      cases e2 : handToPbn? (h first.left.left) with
      | none => simp [e0, e1, e2] at ht
      | some c =>
        cases e3 : handToPbn? (h first.left.left.left) with
        | none => simp [e0, e1, e2, e3] at ht
        | some d =>
          simp [e0, e1, e2, e3] at ht
          subst ht
          have := pw_handToPbn_len _ _ e0; have := pw_handToPbn_len _ _ e1
          have := pw_handToPbn_len _ _ e2; have := pw_handToPbn_len _ _ e3
          have : first.name.length = 1 := by cases first <;> rfl
          simp only [List.length_append, List.length_cons]
          omega

end Bridge.Translated
