import BridgeVerif.Translated.ClientParsersA
/-!
# The TRANSLATED `Client.parse_board` IS `parseBoard?`

`m_Client_parse_board` (Generated/PyCoreNet.lean; `client.py`:
`parse_match_base(r'Board number (\d+)\. Dealer (.*)\. (.*) vulnerable\.', content)`, `int(group(1))`,
`Player.convert_formal_name(group(2))`, the vulnerability word of group 3) executed SYMBOLICALLY by the MiniPy interpreter
in the whole translated program `P`, its `re.match(…, re.IGNORECASE)` being the generic regular-expression engine
(`RegexMsgClient.match_board`).  For EVERY text whose characters are in the class `RegexMsgClient.agreeBoard` (every ASCII
text is), at EVERY fuel ≥ 31 — in particular for EVERY board number:

* `parseBoard? s = some (n, dealer, vul)` : the call returns `(n, Player dealer, Vul vul)` (the state returned is `.str s`);
* `parseBoard? s = none` : the call raises — `Exception` when the text does not match the pattern (from
  `parse_match_base`) or the vulnerability word is none of `Neither`, `N/S`, `E/W`, `Both`; `ValueError` (from
  `convert_formal_name`) when the dealer text is no seat name.  `int()` never raises here (group 1 is a non-empty run of
  ASCII digits).
-/
namespace Bridge.Translated.ClientParsers
open Bridge Bridge.Py Bridge.Generated.PyCore Bridge.Translated Bridge.RegexHands Bridge.RegexMsgClient
open Bridge.Translated.ConnectInfo (str_beq convert_formal_fail digitsVal decimal_of_digits parseInt_of_digits m_group_call3)

theorem board_pat_eq : (['B', 'o', 'a', 'r', 'd', ' ', 'n', 'u', 'm', 'b', 'e', 'r', ' ', '(', '\\', 'd', '+', ')', '\\', '.', ' ', 'D', 'e', 'a', 'l', 'e', 'r', ' ', '(', '.', '*', ')', '\\', '.', ' ', '(', '.', '*', ')', ' ', 'v', 'u', 'l', 'n', 'e', 'r', 'a', 'b', 'l', 'e', '\\', '.'] : List Char) = BOARD_PATTERN :=
  String.toList_ofList.symm

/-- what the translated method computes on the three texts -/
def boardResultOf (s : Str) : List Str → R (Val × Val)
  | [ds, gd, gv] =>
    match seatOfFormal? gd with
    | none => .error (.exc K.ValueError)
    | some d =>
      match vulOfWord? gv with
      | none => .error (.exc K.Exception)
      | some v => .ok (.tuple [.int (digitsVal ds), encSeat d, encVul v], .str s)
  | _ => .error (.exc K.Exception)

/-- what the translated method computes, in one statement -/
def boardResult (s : Str) : R (Val × Val) :=
  match boardFields? s with
  | none => .error (.exc K.Exception)
  | some fl => boardResultOf s fl

theorem vulOfWord_eq {w : Str} {v : Vul} (h : vulOfWord? w = some v) : w = convertVul v := by
  unfold vulOfWord? at h
  split at h
  · cases h; assumption
  · split at h
    · cases h; assumption
    · split at h
      · cases h; assumption
      · split at h
        · cases h; assumption
        · cases h

theorem board_exec_nomatch (f : Nat) (s : Str) (hs : ∀ x ∈ s, agreeBoard x = true) (h : boardFields? s = none) :
    callF (mkRec P (f+30)) m_Client_parse_board [.str s] = .error (.exc K.Exception) := by
  have hm := match_board s hs
  simp only [h, Option.map_none] at hm
  have hb := reMatch_none _ _ hm
  rw [callF_def]
  simp only [m_Client_parse_board]
  rw [board_pat_eq]
  ppsimp [mth_match_base, match_base_none _ _ _ hb]

theorem board_exec_badseat (f : Nat) (s : Str) (hs : ∀ x ∈ s, agreeBoard x = true) (ds gd gv : Str)
    (h : boardFields? s = some [ds, gd, gv]) (hd1 : ds ≠ []) (hd2 : ds.all Bridge.isDigit = true)
    (hp : seatOfFormal? gd = none) :
    callF (mkRec P (f+30)) m_Client_parse_board [.str s] = .error (.exc K.ValueError) := by
  have hm := match_board s hs
  simp only [h, Option.map_some] at hm
  obtain ⟨g0, hb⟩ := reMatch_some _ _ _ hm
  rw [callF_def]
  simp only [m_Client_parse_board]
  rw [board_pat_eq]
  ppsimp [mth_match_base, match_base_some _ _ _ _ hb, pp_mth_m_group, pp_m_group_call1, pp_m_group_call2, List.map_cons,
    List.map_nil, pp_int_str _ ds _ (parseInt_of_digits ds hd1 hd2), st_mth_convert, convert_formal_fail _ _ hp]

theorem board_exec_badvul (f : Nat) (s : Str) (hs : ∀ x ∈ s, agreeBoard x = true) (ds gd gv : Str)
    (h : boardFields? s = some [ds, gd, gv]) (hd1 : ds ≠ []) (hd2 : ds.all Bridge.isDigit = true)
    (d : Seat) (hp : seatOfFormal? gd = some d) (hv : vulOfWord? gv = none) :
    callF (mkRec P (f+30)) m_Client_parse_board [.str s] = .error (.exc K.Exception) := by
  have hm := match_board s hs
  simp only [h, Option.map_some] at hm
  obtain ⟨g0, hb⟩ := reMatch_some _ _ _ hm
  have hcv := seatOfFormal_eq hp
  unfold vulOfWord? at hv
  have h1 : gv ≠ "Neither".toList := fun e => by rw [if_pos e] at hv; cases hv
  rw [if_neg h1] at hv
  have h2 : gv ≠ "N/S".toList := fun e => by rw [if_pos e] at hv; cases hv
  rw [if_neg h2] at hv
  have h3 : gv ≠ "E/W".toList := fun e => by rw [if_pos e] at hv; cases hv
  rw [if_neg h3] at hv
  have h4 : gv ≠ "Both".toList := fun e => by rw [if_pos e] at hv; cases hv
  have b1 : (gv == ['N', 'e', 'i', 't', 'h', 'e', 'r']) = false := beq_eq_false_iff_ne.mpr h1
  have b2 : (gv == ['N', '/', 'S']) = false := beq_eq_false_iff_ne.mpr h2
  have b3 : (gv == ['E', '/', 'W']) = false := beq_eq_false_iff_ne.mpr h3
  have b4 : (gv == ['B', 'o', 't', 'h']) = false := beq_eq_false_iff_ne.mpr h4
  subst hcv
  rw [callF_def]
  simp only [m_Client_parse_board]
  rw [board_pat_eq]
  ppsimp [mth_match_base, match_base_some _ _ _ _ hb, pp_mth_m_group, pp_m_group_call1, pp_m_group_call2, m_group_call3,
    List.map_cons, List.map_nil, pp_int_str _ ds _ (parseInt_of_digits ds hd1 hd2), st_mth_convert, st_convert_formal_call,
    str_beq, b1, b2, b3, b4]

theorem board_exec_ok (f : Nat) (s : Str) (hs : ∀ x ∈ s, agreeBoard x = true) (ds gd gv : Str)
    (h : boardFields? s = some [ds, gd, gv]) (hd1 : ds ≠ []) (hd2 : ds.all Bridge.isDigit = true)
    (d : Seat) (hp : seatOfFormal? gd = some d) (v : Vul) (hv : vulOfWord? gv = some v) :
    callF (mkRec P (f+30)) m_Client_parse_board [.str s]
      = .ok (.tuple [.int (digitsVal ds), encSeat d, encVul v], .str s) := by
  have hm := match_board s hs
  simp only [h, Option.map_some] at hm
  obtain ⟨g0, hb⟩ := reMatch_some _ _ _ hm
  have hcv := seatOfFormal_eq hp
  have hvw := vulOfWord_eq hv
  subst hcv
  subst hvw
  rw [callF_def]
  simp only [m_Client_parse_board]
  rw [board_pat_eq]
  cases v <;>
  · ppsimp [mth_match_base, match_base_some _ _ _ _ hb, pp_mth_m_group, pp_m_group_call1, pp_m_group_call2, m_group_call3,
      List.map_cons, List.map_nil, pp_int_str _ ds _ (parseInt_of_digits ds hd1 hd2), st_mth_convert,
      st_convert_formal_call, str_beq, convertVul, String.reduceToList]
    rfl

/-- THE TRANSLATED METHOD, at every fuel ≥ 31, on every text in the class -/
theorem parse_board_translated (s : Str) (hs : ∀ x ∈ s, agreeBoard x = true) (g : Nat) (hg : 31 ≤ g) :
    callFn P g m_Client_parse_board [.str s] = boardResult s := by
  refine st_callFn_of_callF (K := 30) (fun f => ?_) g hg
  unfold boardResult
  cases h : boardFields? s with
  | none => exact board_exec_nomatch f s hs h
  | some fl =>
    obtain ⟨ds, gd, gv, rfl, hd1, hd2⟩ := boardFields_shape s fl h
    simp only [boardResultOf]
    cases hp : seatOfFormal? gd with
    | none => exact board_exec_badseat f s hs ds gd gv h hd1 hd2 hp
    | some d =>
      cases hv : vulOfWord? gv with
      | none => exact board_exec_badvul f s hs ds gd gv h hd1 hd2 d hp hv
      | some v => exact board_exec_ok f s hs ds gd gv h hd1 hd2 d hp v hv

/-- (B, success) the model reads the header as `(n, dealer, vul)`: so does the translated method, at every fuel ≥ 31 -/
theorem parse_board_ok (s : Str) (hs : ∀ x ∈ s, agreeBoard x = true) (n : Nat) (dealer : Seat) (vul : Vul)
    (h : parseBoard? s = some (n, dealer, vul)) (g : Nat) (hg : 31 ≤ g) :
    callFn P g m_Client_parse_board [.str s] = .ok (.tuple [.int n, encSeat dealer, encVul vul], .str s) := by
  rw [parse_board_translated s hs g hg]
  rw [parseBoard_eq_fields] at h
  unfold boardResult
  cases hf : boardFields? s with
  | none => rw [hf] at h; cases h
  | some fl =>
    obtain ⟨ds, gd, gv, rfl, hd1, hd2⟩ := boardFields_shape s fl hf
    rw [hf] at h
    simp only [Option.bind_some, decodeBoard, decimal_of_digits ds hd1 hd2] at h
    simp only [boardResultOf]
    cases hp : seatOfFormal? gd with
    | none => rw [hp] at h; cases h
    | some d =>
      cases hv : vulOfWord? gv with
      | none => rw [hp, hv] at h; cases h
      | some v =>
        rw [hp, hv] at h
        simp only [Option.some.injEq, Prod.mk.injEq] at h
        obtain ⟨rfl, rfl, rfl⟩ := h
        rfl

/-- (B, failure) the model refuses the header: the translated method raises `Exception` or `ValueError` -/
theorem parse_board_raises (s : Str) (hs : ∀ x ∈ s, agreeBoard x = true) (h : parseBoard? s = none) (g : Nat)
    (hg : 31 ≤ g) :
    callFn P g m_Client_parse_board [.str s] = .error (.exc K.Exception) ∨
    ((boardFields? s).isSome = true ∧ callFn P g m_Client_parse_board [.str s] = .error (.exc K.ValueError)) := by
  rw [parse_board_translated s hs g hg]
  rw [parseBoard_eq_fields] at h
  unfold boardResult
  cases hf : boardFields? s with
  | none => exact .inl rfl
  | some fl =>
    obtain ⟨ds, gd, gv, rfl, hd1, hd2⟩ := boardFields_shape s fl hf
    rw [hf] at h
    simp only [Option.bind_some, decodeBoard, decimal_of_digits ds hd1 hd2] at h
    simp only [boardResultOf]
    cases hp : seatOfFormal? gd with
    | none => exact .inr ⟨rfl, rfl⟩
    | some d =>
      cases hv : vulOfWord? gv with
      | none => exact .inl rfl
      | some v => rw [hp, hv] at h; cases h

/-- in the form the bundled-client capstone asks (`Returns` of Translated/ThreadsClientALemmas.lean, inside `dealParses`) -/
theorem parse_board_returns (s : Str) (hs : ∀ x ∈ s, agreeBoard x = true) (n : Nat) (dealer : Seat) (vul : Vul)
    (h : parseBoard? s = some (n, dealer, vul)) :
    ∀ f, 31 ≤ f → (callFn P f m_Client_parse_board [.str s]).map (·.1)
      = .ok (.tuple [.int n, encSeat dealer, encVul vul]) := by
  intro f hf
  rw [parse_board_ok s hs n dealer vul h f hf]
  rfl

/-- for ASCII texts -/
theorem parse_board_ok_ascii (s : Str) (hs : ∀ x ∈ s, x.toNat < 128) (n : Nat) (dealer : Seat) (vul : Vul)
    (h : parseBoard? s = some (n, dealer, vul)) (g : Nat) (hg : 31 ≤ g) :
    callFn P g m_Client_parse_board [.str s] = .ok (.tuple [.int n, encSeat dealer, encVul vul], .str s) :=
  parse_board_ok s (fun x hx => agreeBoard_ascii x (hs x hx)) n dealer vul h g hg

/-! ### non-vacuity -/
example : callFn P 31 m_Client_parse_board [.str "BOARD number 0123456789012345678901234567890. Dealer West. E/W vulnerable. Bye".toList]
    = .ok (.tuple [.int 123456789012345678901234567890, encSeat .W, encVul .ew],
        .str "BOARD number 0123456789012345678901234567890. Dealer West. E/W vulnerable. Bye".toList) :=
  by
  rw [show "BOARD number 0123456789012345678901234567890. Dealer West. E/W vulnerable. Bye".toList = _ from
    String.toList_ofList]
  exact parse_board_ok_ascii _ (by decide +kernel) _ .W .ew (by decide +kernel) 31 (Nat.le_refl _)

end Bridge.Translated.ClientParsers
