import BridgeVerif.Translated.ThreadsSeatDLemmasC
/-! (2) one trick and the thirteen tricks of the session model satisfy `trickChecks` / `tricksChecks` (following
`one_trick` / `tricks_play` of Lemmas/SeatThread.lean, with the trick number carried along) -/
namespace Bridge.Translated.SeatD
open Bridge Bridge.Py Bridge.Generated.PyCore
open Bridge.Translated.SeatB (cardMainR cardOpenR mainCheck openCheck trickChecks tricksChecks playingChecks
  readyCardText readyDummyText)

theorem playCard_mid_num (s : PState) (x : Card) (h : s.trick.length < 3) :
    (playCard s x).trickNum = s.trickNum := by
  rw [playCard_incomplete s x (by omega)]
theorem playCard_last_num (s : PState) (x : Card) (h : s.trick.length = 3) :
    (playCard s x).trickNum = s.trickNum + 1 := by
  rw [playCard_complete s x h]; simp

/-- the `ready` text of the session model's client while the card of `a` to trick `k` is awaited -/
abbrev rdyText (p d a : Seat) (k : Nat) : Text :=
  readyFor p ((if a = d.partner then "dummy".toList else a.formal) ++ "'s card to trick ".toList ++ natStr k)

theorem one_trick_checks (p d : Seat) (deal : Hands) (s : PState) (j k : Nat) (hk1 : 1 ≤ k) (hk13 : k ≤ 13)
    (hkj : k = 1 ↔ j = 0) (htn : s.trickNum = k)
    (ht : s.trick = []) (ha : s.active = s.leader) (x1 x2 x3 x4 : Card × Text) (rest : List (Card × Text)) :
    ∃ (s4 : PState) (Q C : List Text),
      (cardPhases d deal s j (x1 :: x2 :: x3 :: x4 :: rest)).flatMap (qOf p) =
        s.leader.formal :: Q ++ (cardPhases d deal s4 (j + 4) rest).flatMap (qOf p) ∧
      (cardPhases d deal s j (x1 :: x2 :: x3 :: x4 :: rest)).flatMap (cOf p) =
        C ++ (cardPhases d deal s4 (j + 4) rest).flatMap (cOf p) ∧
      (∀ q' c', ∃ S, seatTrickR p d (decide (k = 1)) 0 s.leader { q := Q ++ q', c := C ++ c' }
        = some (S, { q := q', c := c' })) ∧
      (∀ q' c', trickChecks p d k 4 0 s.leader { q := Q ++ q', c := C ++ c' }) ∧
      s4.trick = [] ∧ s4.active = s4.leader ∧ s4.trickNum = k + 1 := by
  obtain ⟨c1, t1⟩ := x1
  obtain ⟨c2, t2⟩ := x2
  obtain ⟨c3, t3⟩ := x3
  obtain ⟨c4, t4⟩ := x4
  obtain ⟨e1t, e1a, e1l⟩ := playCard_mid s c1 (by simp [ht])
  obtain ⟨e2t, e2a, e2l⟩ := playCard_mid (playCard s c1) c2 (by simp [e1t, ht])
  obtain ⟨e3t, e3a, e3l⟩ := playCard_mid (playCard (playCard s c1) c2) c3 (by simp [e2t, e1t, ht])
  obtain ⟨e4t, e4a⟩ := playCard_last (playCard (playCard (playCard s c1) c2) c3) c4 (by simp [e3t, e2t, e1t, ht])
  have e1n := playCard_mid_num s c1 (by simp [ht])
  have e2n := playCard_mid_num (playCard s c1) c2 (by simp [e1t, ht])
  have e3n := playCard_mid_num (playCard (playCard s c1) c2) c3 (by simp [e2t, e1t, ht])
  have e4n := playCard_last_num (playCard (playCard (playCard s c1) c2) c3) c4 (by simp [e3t, e2t, e1t, ht])
  rw [e3n, e2n, e1n, htn] at e4n
  rw [e2n, e1n, htn] at e3n
  rw [e1n, htn] at e2n
  rw [htn] at e1n
  refine ⟨playCard (playCard (playCard (playCard s c1) c2) c3) c4, ?_⟩
  simp only [cardPhases, List.flatMap_cons, qOf_card, cOf_card, e1t, e2t, e3t, ht, e1a, e2a, e3a,
    e1l, e2l, e3l, ha, e1n, e2n, e3n, htn]
  have hj : j + 1 + 1 + 1 + 1 = j + 4 := rfl
  simp only [hj, decide_true, if_true, List.nil_append, List.cons_append, List.cons_ne_nil, decide_false,
    Bool.false_eq_true, if_false]
  generalize cardsMsg "Dummy".toList (deal d.partner) = dc
  have hd := ready_dummy_passes p
  generalize readyFor p "dummy".toList = rdd at hd ⊢
  have h1 := ready_card_passes p d s.leader k hk1 hk13
  have h2 := ready_card_passes p d s.leader.left k hk1 hk13
  have h3 := ready_card_passes p d s.leader.left.left k hk1 hk13
  have h4 := ready_card_passes p d s.leader.left.left.left k hk1 hk13
  generalize hr1 : rdyText p d s.leader k = r1 at h1
  generalize hr2 : rdyText p d s.leader.left k = r2 at h2
  generalize hr3 : rdyText p d s.leader.left.left k = r3 at h3
  generalize hr4 : rdyText p d s.leader.left.left.left k = r4 at h4
  simp only [rdyText] at hr1 hr2 hr3 hr4
  rw [hr1] at h1
  rw [hr2] at h2
  rw [hr3] at h3
  rw [hr4] at h4
  simp only [hr1, hr2, hr3, hr4]
  refine ⟨cardQ p d s.leader (decide (j = 0)) t1 dc ++ (cardQ p d s.leader.left (decide (j + 1 = 0)) t2 dc ++
      (cardQ p d s.leader.left.left (decide (j + 1 + 1 = 0)) t3 dc ++
        cardQ p d s.leader.left.left.left (decide (j + 1 + 1 + 1 = 0)) t4 dc)),
    cardC p d s.leader (decide (j = 0)) t1 r1 rdd ++ (cardC p d s.leader.left (decide (j + 1 = 0)) t2 r2 rdd ++
      (cardC p d s.leader.left.left (decide (j + 1 + 1 = 0)) t3 r3 rdd ++
        cardC p d s.leader.left.left.left (decide (j + 1 + 1 + 1 = 0)) t4 r4 rdd)),
    ?_, ?_, ?_, ?_, e4t, e4a, e4n⟩
  · simp only [List.append_assoc]
  · simp only [List.append_assoc]
  · intro q' c'
    simp only [List.append_assoc]
    rw [seatTrickR_step p d s.leader (decide (k = 1)) 0 (by omega) true (decide (j = 0)) (by simp) (by simp [hkj])]
    simp only [Nat.zero_add]
    rw [seatTrickR_step p d s.leader.left (decide (k = 1)) 1 (by omega) false (decide (j + 1 = 0)) (by simp) (by simp)]
    simp only [Nat.reduceAdd]
    rw [seatTrickR_step p d s.leader.left.left (decide (k = 1)) 2 (by omega) false (decide (j + 1 + 1 = 0)) (by simp)
      (by simp)]
    simp only [Nat.reduceAdd]
    rw [seatTrickR_step p d s.leader.left.left.left (decide (k = 1)) 3 (by omega) false (decide (j + 1 + 1 + 1 = 0))
      (by simp) (by simp)]
    simp only [Nat.reduceAdd]
    rw [seatTrickR.eq_1]
    simp only [Option.map_some, List.append_nil]
    exact ⟨_, rfl⟩
  · intro q' c'
    simp only [List.append_assoc]
    refine trickChecks_step p d _ k 3 0 _ (by simp [hkj]) _ _ _ _ _ _ h1 hd ?_
    refine trickChecks_step p d _ k 2 1 _ (by simp) _ _ _ _ _ _ h2 hd ?_
    refine trickChecks_step p d _ k 1 2 _ (by simp) _ _ _ _ _ _ h3 hd ?_
    refine trickChecks_step p d _ k 0 3 _ (by simp) _ _ _ _ _ _ h4 hd ?_
    trivial

/-! ## the tricks of a board -/
theorem tricks_checks (p d : Seat) (deal : Hands) (q' c' : List Text) :
    ∀ (n : Nat) (cards : List (Card × Text)) (s : PState) (k : Nat), cards.length = 4 * n →
      s.trick = [] → s.active = s.leader → s.trickNum = k + 1 → k + n ≤ 13 →
      tricksChecks p d n (k + 1)
          { q := (cardPhases d deal s (4 * k) cards).flatMap (qOf p) ++ q',
            c := (cardPhases d deal s (4 * k) cards).flatMap (cOf p) ++ c' } := by
  intro n
  induction n with
  | zero => intro cards s k _ _ _ _ _; trivial
  | succ n ih =>
    intro cards s k hl ht ha htn hkn
    match cards, hl with
    | x1 :: x2 :: x3 :: x4 :: rest, hl =>
      obtain ⟨s4, Q, C, hq, hc, hrun, hchk, ht4, ha4, hn4⟩ :=
        one_trick_checks p d deal s (4 * k) (k + 1) (by omega) (by omega) (by omega) htn ht ha x1 x2 x3 x4 rest
      have ih := ih rest s4 (k + 1) (by simp at hl; omega) ht4 ha4 hn4 (by omega)
      rw [show 4 * (k + 1) = 4 * k + 4 from by omega] at ih
      rw [hq, hc]
      intro ln i1 leader hg hsf
      simp only [List.cons_append, List.append_assoc, getQ_cons, Option.some.injEq, Prod.mk.injEq] at hg
      obtain ⟨rfl, rfl⟩ := hg
      rw [seatOfFormal_formal] at hsf
      cases hsf
      refine ⟨hchk _ _, fun t i2 htr => ?_⟩
      obtain ⟨S, hS⟩ := hrun ((cardPhases d deal s4 (4 * k + 4) rest).flatMap (qOf p) ++ q')
        ((cardPhases d deal s4 (4 * k + 4) rest).flatMap (cOf p) ++ c')
      rw [hS] at htr
      simp only [Option.some.injEq, Prod.mk.injEq] at htr
      obtain ⟨_, rfl⟩ := htr
      exact ih

/-! ## the play of a board -/
theorem play_checks (p : Seat) (b : BoardSetting) (d : Decisions) (hp : BoardPlayable b d)
    (hpo : (boardContractOf b d).isPassedOut = false) (q' c' : List Text) :
    playingChecks p { q := (playPhases b d).flatMap (qOf p) ++ q', c := (playPhases b d).flatMap (cOf p) ++ c' } := by
  cases hcc : contractOfCalls b (d.calls.map (·.1)) with
  | none => simp [boardContractOf, hcc, Contract.isPassedOut] at hpo
  | some c =>
    have hc : boardContractOf b d = c := by simp [boardContractOf, hcc]
    rw [hc] at hpo
    obtain ⟨decl, hdecl⟩ := contractOfCalls_declarer b _ c hcc hpo
    have hlen := hp c hcc hpo
    obtain ⟨bid, hbid⟩ : ∃ bid, c.finalBid = some bid := by
      cases hf : c.finalBid with
      | none => simp [Contract.isPassedOut, hf] at hpo
      | some bid => exact ⟨bid, rfl⟩
    let s0 : PState :=
        { trump := bidDenom bid, declarer := decl, dummy := decl.partner, leader := decl.left,
          active := decl.left, trick := [], trickNum := 1, history := [], used := [], takenNS := 0,
          takenEW := 0 }
    have hplay : playPhases b d = Phase.playStart decl.formal :: cardPhases decl b.deal s0 (4 * 0) d.cards := by
      simp [playPhases, hc, PState.init, hbid, hdecl, s0]
    rw [hplay]
    have ht := tricks_checks p decl b.deal q' c' 13 d.cards s0 0 hlen rfl rfl rfl (by omega)
    intro dn i1 declarer hg hsf
    simp only [List.flatMap_cons, qOf_playStart, cOf_playStart, List.cons_append, List.nil_append, getQ_cons,
      Option.some.injEq, Prod.mk.injEq] at hg
    obtain ⟨rfl, rfl⟩ := hg
    rw [seatOfFormal_formal] at hsf
    cases hsf
    exact ht

end Bridge.Translated.SeatD
