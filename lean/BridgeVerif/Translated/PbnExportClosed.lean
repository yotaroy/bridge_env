import BridgeVerif.Translated.PbnExport
/-!
# The PBN export round trip inside the translated code, under `PbnResult.WF` ALONE  (C18)

`Translated/PbnExport.lean` takes `∀ r ∈ rs, r.WF` (the hypothesis of `C18.export_round_trip`) and `∀ r ∈ rs, PbnWF r` (the
hypothesis of the translated writer).  The second follows from the first (`pbnWF_of_WF`):
* `PbnWF.deal` (ranks 2..14 in a 13-card hand): `WF.deal : PartialDeal` makes every card valid;
* the nine length bounds (`≤ 199000`, the writer's fuel): `WF.fits` bounds every tag pair to one 255-character line, so
  every written value — the six free texts, the date, the decimal text of the board number, and the decimal text of
  the tricks (written when the board was played: `WF.tricks`) — has fewer than 255 characters.
So `pe_export_round_trip_wf`, `pe_export_round_trip_wf_no_header`, `pe_export_as_settings_wf` have `hwf` as their only
hypothesis.
-/
namespace Bridge.Translated
open Bridge Bridge.Py Bridge.Generated.PyCore

/-- a value written on one line has fewer than 255 characters -/
theorem pe_value_short (r : PbnResult) (h : r.WF) (tags : List (Str × Str)) (ht : resultTags? r = some tags)
    (tc : Str × Str) (hm : tc ∈ tags) : tc.2.length ≤ 199000 := by
  have := h.fits tags ht tc hm
  simp only [tagLine, List.length_cons, List.length_append, List.length_nil, MAX_LINE_CHARS] at this
  omega

theorem pbnWF_of_WF (r : PbnResult) (h : r.WF) : PbnWF r := by
  obtain ⟨tags, ht⟩ := resultTags_some r h
  have key : ∀ tc : Str × Str, tc ∈ tags → tc.2.length ≤ 199000 := pe_value_short r h tags ht
  rw [resultTags_values r tags ht] at key
  simp only [List.forall_mem_cons] at key
  obtain ⟨hev, hsi, hda, hbo, hwe, hno, hea, hso, -, -, -, -, -, -, hre, -⟩ := key
  refine
    { deal := fun p _ c hc => ⟨(hands_ok_card (h.deal.ok p c hc)).1, (hands_ok_card (h.deal.ok p c hc)).2.1⟩
      board := hbo, tricks := ?_, event := hev, site := hsi, date := hda, west := hwe, north := hno, east := hea,
      south := hso }
  intro n hn
  have hpo : r.contract.isPassedOut = false := by
    cases hp : r.contract.isPassedOut with
    | false => rfl
    | true => have := h.tricks.1 hp; rw [hn] at this; cases this
  simpa only [hn, hpo, Bool.false_eq_true, if_false] using hre
theorem pe_export_round_trip_wf (rs : List PbnResult) (hwf : ∀ r ∈ rs, r.WF) :
    ∃ (tagss : List (List (Str × Str))) (chunks : List Str) (self' : Val),
      rs.mapM resultTags? = some tagss ∧
      runPbnDocument [] rs = .ok (encPbnWriter chunks) ∧
      P.runMethod n_PbnParser n_parse_all [encPbnParser {} [] [], .tuple ((pyLines chunks.flatten).map Val.str)]
        = .ok (.tuple (tagss.map encGame), self') :=
  pe_export_round_trip_translated rs hwf fun r hr => pbnWF_of_WF r (hwf r hr)

theorem pe_export_round_trip_wf_no_header (rs : List PbnResult) (hwf : ∀ r ∈ rs, r.WF) :
    ∃ (tagss : List (List (Str × Str))) (chunks : List Str) (self' : Val),
      rs.mapM resultTags? = some tagss ∧
      rs.foldlM (fun w r => selfAfter n_PbnWriter n_write_board_result (w :: resultArgs r)) (encPbnWriter [])
        = .ok (encPbnWriter chunks) ∧
      P.runMethod n_PbnParser n_parse_all [encPbnParser {} [] [], .tuple ((pyLines chunks.flatten).map Val.str)]
        = .ok (.tuple (tagss.map encGame), self') :=
  pe_export_round_trip_translated_no_header rs hwf fun r hr => pbnWF_of_WF r (hwf r hr)

theorem pe_export_as_settings_wf (rs : List PbnResult) (hwf : ∀ r ∈ rs, r.WF) :
    ∃ (chunks : List Str) (es' : List SettingEntry) (self' : Val),
      runPbnDocument [] rs = .ok (encPbnWriter chunks) ∧
      P.runMethod n_PbnParser n_parse_board_settings
          [encPbnParser {} [] [], .tuple ((pyLines chunks.flatten).map Val.str)]
        = .ok (.tuple (es'.map encSetting), self') ∧
      es'.length = rs.length ∧
      ∀ i (h₁ : i < es'.length) (h₂ : i < rs.length),
        SameBoard es'[i] ⟨intRepr rs[i].boardNum, rs[i].dealer, rs[i].deal, rs[i].contract.vul, none⟩ ∧
        ∀ p, (es'[i].deal p).Nodup :=
  pe_export_as_settings_translated rs hwf fun r hr => pbnWF_of_WF r (hwf r hr)

end Bridge.Translated
