import BridgeVerif.Translated.PbnSettingsLemmasA
/-! Translated `PbnParser.parse_board_settings` = model: one game of the loop (`settingOfGame?`), success and failures -/
namespace Bridge.Translated
open Bridge Bridge.Py Bridge.Generated.PyCore Bridge.RegexPbn Bridge.RegexHands Bridge.Translated.HandsPbn

/-- the record read equals the model's up to the hands: the same members seat by seat, listed without repetition -/
def SameSetting (e' e : SettingEntry) : Prop :=
  e'.boardId = e.boardId ∧ e'.dealer = e.dealer ∧ e'.vul = e.vul ∧ e'.dda = e.dda ∧ SameHands e'.deal e.deal ∧
    ∀ p, (e'.deal p).Nodup

/-- the exception classes `parse_board_settings` can raise on a game: `KeyError` (a missing tag, `Player[name]` or
`Vul[name]` on an unknown name), `Exception` (`Hands.convert_pbn`) -/
def psErrors : List Id := [K.KeyError, K.Exception]

def psbBody : List Stmt := match m_PbnParser_parse_board_settings.body.getD 1 .pass with
  | .ite _ [_, .for _ _ b] _ => b
  | _ => []

theorem ps_toList_deal : "Deal".toList = ['D', 'e', 'a', 'l'] := String.toList_ofList
theorem ps_toList_dealer : "Dealer".toList = ['D', 'e', 'a', 'l', 'e', 'r'] := String.toList_ofList
theorem ps_toList_vul : "Vulnerable".toList = ['V', 'u', 'l', 'n', 'e', 'r', 'a', 'b', 'l', 'e'] := String.toList_ofList
theorem ps_toList_board : "Board".toList = ['B', 'o', 'a', 'r', 'd'] := String.toList_ofList

theorem ps_cls_Player : P.cls? n_Player = some (clsOf n_Player) := rfl

/-- one game -/
theorem ps_step (hh : HandsRegexFacts) (g0 : Nat) (sv fv iv : Val) (acc : List Val) (tail : Env) (g : Game) :
    match settingOfGame? g with
    | some e => ∃ e' tail', SameSetting e' e ∧
        execF (mkRec P (g0 + 57)) P
          ((K.self, sv) :: (n_fp, fv) :: (n_outputs, .tuple acc) :: (n__it1, iv) :: update tail n_x (encGame g)) psbBody
        = .ok ((K.self, sv) :: (n_fp, fv) :: (n_outputs, .tuple (acc ++ [encSetting e'])) :: (n__it1, iv) :: tail', .next)
    | none => ∃ c, c ∈ psErrors ∧
        execF (mkRec P (g0 + 57)) P
          ((K.self, sv) :: (n_fp, fv) :: (n_outputs, .tuple acc) :: (n__it1, iv) :: update tail n_x (encGame g)) psbBody
        = .error (.exc c) := by
  have l1 := ps_lookupD_game ['D', 'e', 'a', 'l'] g
  have l2 := ps_lookupD_game ['D', 'e', 'a', 'l', 'e', 'r'] g
  have l3 := ps_lookupD_game ['V', 'u', 'l', 'n', 'e', 'r', 'a', 'b', 'l', 'e'] g
  have l4 := ps_lookupD_game ['B', 'o', 'a', 'r', 'd'] g
  simp only [settingOfGame?, ps_toList_deal, ps_toList_dealer, ps_toList_vul, ps_toList_board, psbBody,
    m_PbnParser_parse_board_settings, List.getD_cons_succ, List.getD_cons_zero, encGame, bind, pure]
  cases h1 : gameGet? g ['D', 'e', 'a', 'l'] with
  | none =>
    simp only [Option.bind_none]
    rw [h1] at l1
    refine ⟨K.KeyError, by decide, ?_⟩
    ppsimp [l1, hp_mth_convert_pbn]
  | some ds =>
  simp only [Option.bind_some]
  rw [h1] at l1
  have hc := HandsPbn.hp_convert_pbn_call hh (g0 + 5) (.cls n_Hands) ds
  cases h1' : convertPbn? ds with
  | none =>
    simp only [Option.bind_none]
    rw [h1'] at hc
    have hc' : callF (mkRec P (g0 + 55)) m_Hands_convert_pbn [.cls n_Hands, .str ds] = .error (.exc K.Exception) := hc
    refine ⟨K.Exception, by decide, ?_⟩
    ppsimp [l1, hp_mth_convert_pbn, hc']
  | some deal =>
  simp only [Option.bind_some]
  rw [h1'] at hc
  obtain ⟨h', hnd, hsame, hc⟩ := hc
  have hc' : callF (mkRec P (g0 + 55)) m_Hands_convert_pbn [.cls n_Hands, .str ds] = .ok (encHands h', .cls n_Hands) := hc
  cases h2 : gameGet? g ['D', 'e', 'a', 'l', 'e', 'r'] with
  | none =>
    simp only [Option.bind_none]
    rw [h2] at l2
    refine ⟨K.KeyError, by decide, ?_⟩
    ppsimp [l1, hp_mth_convert_pbn, hc', l2, ps_cls_Player]
  | some dn =>
  simp only [Option.bind_some]
  rw [h2] at l2
  cases h2' : seatOfName? dn with
  | none =>
    simp only [Option.bind_none]
    refine ⟨K.KeyError, by decide, ?_⟩
    ppsimp [l1, hp_mth_convert_pbn, hc', l2, ps_cls_Player, ps_member_seat_none _ h2']
  | some dealer =>
  simp only [Option.bind_some]
  cases h3 : gameGet? g ['V', 'u', 'l', 'n', 'e', 'r', 'a', 'b', 'l', 'e'] with
  | none =>
    simp only [Option.bind_none]
    rw [h3] at l3
    refine ⟨K.KeyError, by decide, ?_⟩
    ppsimp [l1, hp_mth_convert_pbn, hc', l2, ps_cls_Player, jp_member_seat _ _ h2', l3, jp_mth_str_to_vul]
  | some vs =>
  simp only [Option.bind_some]
  rw [h3] at l3
  cases h3' : strToVul? vs with
  | none =>
    simp only [Option.bind_none]
    refine ⟨K.KeyError, by decide, ?_⟩
    ppsimp [l1, hp_mth_convert_pbn, hc', l2, ps_cls_Player, jp_member_seat _ _ h2', l3, jp_mth_str_to_vul,
      ps_str_to_vul_call_none _ _ h3']
  | some vul =>
  simp only [Option.bind_some]
  cases h4 : gameGet? g ['B', 'o', 'a', 'r', 'd'] with
  | none =>
    simp only [Option.bind_none]
    rw [h4] at l4
    refine ⟨K.KeyError, by decide, ?_⟩
    ppsimp [l1, hp_mth_convert_pbn, hc', l2, ps_cls_Player, jp_member_seat _ _ h2', l3, jp_mth_str_to_vul,
      jp_str_to_vul_call _ _ _ h3', l4]
  | some id =>
    simp only [Option.bind_some]
    rw [h4] at l4
    refine ⟨{ boardId := id, dealer := dealer, deal := h', vul := vul, dda := none }, ?_⟩
    refine Exists.imp (fun t ht => ⟨⟨rfl, rfl, rfl, rfl, hsame, hnd⟩, ht⟩) ?_
    ppsimp [l1, hp_mth_convert_pbn, hc', l2, ps_cls_Player, jp_member_seat _ _ h2', l3, jp_mth_str_to_vul,
      jp_str_to_vul_call _ _ _ h3', l4, jp_construct_setting]
    exact ⟨_, rfl⟩

end Bridge.Translated
