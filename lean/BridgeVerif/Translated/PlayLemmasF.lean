import BridgeVerif.Translated.PlayLemmasE
import BridgeVerif.Translated.PlayLemmasD
/-! Translated playing phases = model: `play_card` (on an instance of `PlayingPhase` or of a subclass) -/
namespace Bridge.Translated
open Bridge Bridge.Py Bridge.Generated.PyCore

/-- `k` is `PlayingPhase` or a subclass that inherits the two private helpers `play_card` calls on `self` -/
def PPClass (k : Id) : Prop :=
  P.method? classDepth k n__record = some (n_PlayingPhase, m_PlayingPhase__record) ∧
  P.method? classDepth k n__set_next_leader = some (n_PlayingPhase, m_PlayingPhase__set_next_leader)

theorem ppclass_base : PPClass n_PlayingPhase := ⟨rfl, rfl⟩
theorem ppclass_withHands : PPClass n_PlayingPhaseWithHands := ⟨rfl, rfl⟩
theorem ppclass_observed : PPClass n_ObservedPlayingPhase := ⟨rfl, rfl⟩

theorem mem_reverse_dec (c : Card) (l : List Card) : decide (c ∈ l.reverse) = decide (c ∈ l) := by
  simp only [List.mem_reverse]

theorem add_used (card : Card) (used : List Card) :
    (if containsVal (used.reverse.map encCard) (encCard card) = true then used.reverse.map encCard
      else (used.reverse ++ [card]).map encCard) = (setAdd card used).reverse.map encCard := by
  rw [contains_encCard, mem_reverse_dec]
  by_cases hm : card ∈ used <;>
    simp only [hm, decide_true, decide_false, if_true, if_false, Bool.false_eq_true, setAdd, List.reverse_cons,
      List.map_append, List.map_cons, List.map_nil]
theorem map_snoc (l : List Card) (c : Card) : l.map encCard ++ [encCard c] = (l ++ [c]).map encCard := by
  simp only [List.map_append, List.map_cons, List.map_nil]

theorem cast_succ_rev (n : Nat) : (n : Int) + 1 = ((n + 1 : Nat) : Int) := by omega
theorem play_card_call (f : Nat) (k : Id) (hk : PPClass k) (ex : List (Id × Val)) (c : Contract) (s : PState)
    (card : Card) (hwf : s.trick.length = 3 → WF s) :
    callF (mkRec P (f+50)) m_PlayingPhase_play_card [ppObj k c s ex, encCard card]
      = .ok (.none, ppObj k c (playCard s card) ex) := by
  rw [callF_def]
  simp only [m_PlayingPhase_play_card, bindParams, Option.map, ppObj, baseFields]
  obtain ⟨trump, declarer, dummy, leader, active, trick, trickNum, history, used, takenNS, takenEW⟩ := s
  obtain ⟨hk1, hk2⟩ := hk
  simp only [WF] at hwf
  simp only at hwf ⊢
  by_cases hlen : trick.length = 3
  · have hwf := hwf hlen
    have e4 : ((trick.length + 1 : Nat) : Int) = 4 := by omega
    have hp : playCard ⟨trump, declarer, dummy, leader, active, trick, trickNum, history, used, takenNS, takenEW⟩ card
        = addTaken ⟨trump, declarer, dummy, leader.rot (highestIdx trump (trick ++ [card])).toNat,
            leader.rot (highestIdx trump (trick ++ [card])).toNat, [], trickNum + 1,
            ⟨leader, trick ++ [card]⟩ :: history, setAdd card used, takenNS, takenEW⟩
            (leader.rot (highestIdx trump (trick ++ [card])).toNat).side := by
      have : (trick ++ [card]).length = 4 := by simp only [List.length_append, List.length_cons, List.length_nil]; omega
      simp only [playCard, this, if_true]
    rw [hp]
    have h1 := record_self_call (f+27) k ex c
      ⟨trump, declarer, dummy, leader, active, trick ++ [card], trickNum, history, setAdd card used, takenNS, takenEW⟩ hwf
    have h2 := set_next_leader_call (f+7) k ex c
      ⟨trump, declarer, dummy, leader, active, trick ++ [card], trickNum, ⟨leader, trick ++ [card]⟩ :: history,
        setAdd card used, takenNS, takenEW⟩
      (by simp only [List.length_append, List.length_cons, List.length_nil]; omega)
    simp only [ppObj, baseFields, encCards, List.cons_append, List.nil_append] at h1 h2
    generalize leader.rot (highestIdx trump (trick ++ [card])).toNat = ldr at h2 ⊢
    ppsimp [encCards, add_used, map_snoc, len_tuple, List.length_map, List.length_append, beq_int, Nat.zero_add,
      beq_iff_eq, e4, hk1, hk2, h1, h2, getAttr_pair, lookup_taken, update_taken, builtin_tuple_nil,
      List.map_nil]
    cases ldr.side <;> simp only [addTaken, cast_succ_rev, update_taken, List.map_nil]
  · have e4 : ¬ ((trick.length + 1 : Nat) : Int) = 4 := by omega
    have hp : playCard ⟨trump, declarer, dummy, leader, active, trick, trickNum, history, used, takenNS, takenEW⟩ card
        = ⟨trump, declarer, dummy, leader, active.left, trick ++ [card], trickNum, history, setAdd card used, takenNS,
            takenEW⟩ := by
      have : ¬ (trick ++ [card]).length = 4 := by simp only [List.length_append, List.length_cons, List.length_nil]; omega
      simp only [playCard, this, if_false]
    rw [hp]
    ppsimp [encCards, add_used, map_snoc, len_tuple, List.length_map, List.length_append, beq_int, Nat.zero_add,
      beq_iff_eq, e4, getAttr_next]

/-- the fourth card of a trick whose number is not the next one of the history: `PlayingHistory.record` raises -/
theorem play_card_call_bad (f : Nat) (k : Id) (hk : PPClass k) (ex : List (Id × Val)) (c : Contract) (s : PState)
    (card : Card) (hlen : s.trick.length = 3) (hwf : ¬ WF s) :
    callF (mkRec P (f+50)) m_PlayingPhase_play_card [ppObj k c s ex, encCard card] = .error (.exc K.ValueError) := by
  rw [callF_def]
  simp only [m_PlayingPhase_play_card, bindParams, Option.map, ppObj, baseFields]
  obtain ⟨trump, declarer, dummy, leader, active, trick, trickNum, history, used, takenNS, takenEW⟩ := s
  obtain ⟨hk1, hk2⟩ := hk
  simp only at hlen
  have e4 : ((trick.length + 1 : Nat) : Int) = 4 := by omega
  have h1 := record_self_call_bad (f+27) k ex c
    ⟨trump, declarer, dummy, leader, active, trick ++ [card], trickNum, history, setAdd card used, takenNS, takenEW⟩ hwf
  simp only [ppObj, baseFields, encCards, List.cons_append, List.nil_append] at h1
  ppsimp [encCards, add_used, map_snoc, len_tuple, List.length_map, List.length_append, beq_int, Nat.zero_add,
    beq_iff_eq, e4, hk1, hk2, h1]

end Bridge.Translated
