import BridgeVerif.Translated.Score
import BridgeVerif.Translated.ContractMethods
/-!
# `calc_score(contract, taken_tricks)` AS TRANSLATED is the duplicate scoring law from declarer's side  (C07)

`calc_score` is the public entry of `bridge_env/score.py`: it reads `final_bid`, `x`, `xx` of the `Contract`, asks
`contract.is_vul()` (which asks `declarer.is_vul(vul)`, i.e. `declarer.pair.is_vul(vul)`) and hands all that to
`calc_bid_score`.  The theorems are about `Generated/PyCoreBase.lean` (re-written from the source on every run), executed by
the MiniPy interpreter:

* the two small methods `Contract.is_passed_out` and `Contract.is_vul` are evaluated on their whole (finite) domain of
  vulnerabilities and declarers, for EVERY sufficiently large fuel (`ContractMethods.lean`);
* the body of `calc_score` is executed SYMBOLICALLY, statement by statement, at an arbitrary fuel `f + 120`;
* the nested call of `calc_bid_score` is rewritten with `calc_bid_score_extend` (Score.lean: every fuel from 80 on, every
  program that extends the base program).
-/
namespace Bridge.Translated
open Bridge Bridge.Py Bridge.Generated.PyCore

/-! what the names resolve to in the translated program -/
theorem calc_bid_score_func : findFunc PB.funcs n_calc_bid_score = some f_calc_bid_score := rfl
theorem calc_score_func : findFunc PB.funcs n_calc_score = some f_calc_score := rfl

/-! ## the body of `calc_score`, executed symbolically at fuel `f + 120`, in a program `Q` that extends `PB` -/
variable {Q : Program}

/-- a passed-out contract: the first statement returns 0 (neither `is_vul` nor `calc_bid_score` is reached) -/
theorem calc_score_call_passed_out (hQ : PB.Ext Q) (x xx : Bool) (v : Vul) (od : Option Seat) (a : Val) (f : Nat) :
    (mkRec Q (f + 120)).call f_calc_score [encContract ⟨none, x, xx, v, od⟩, a]
      = .ok (.int 0, encContract ⟨none, x, xx, v, od⟩) := by
  rw [cs_call]
  cmsimp [f_calc_score, passed_out_meth hQ (f + 117) (by omega)]

/-- a contract with a final bid, when `contract.is_vul()` returns `vul`: the result is `calc_bid_score`'s, which is the law -/
theorem calc_score_call_ok (hQ : PB.Ext Q) (b : Fin 35) (x xx : Bool) (v : Vul) (od : Option Seat) (t : Nat) (ht : t ≤ 13)
    (f : Nat) (vul : Bool) (s : Val)
    (hv : (mkRec Q (f + 116)).call m_Contract_is_vul [encContract ⟨some b, x, xx, v, od⟩] = .ok (.bool vul, s)) :
    (mkRec Q (f + 120)).call f_calc_score [encContract ⟨some b, x, xx, v, od⟩, .int t]
      = .ok (.int (dupScore (bidLevel b) (bidDenom b) (status x xx) vul t), encContract ⟨some b, x, xx, v, od⟩) := by
  obtain ⟨s', hc⟩ := calc_bid_score_extend hQ b x xx vul t ht (f + 117) (by omega)
  unfold callFn at hc
  rw [cs_call]
  cmsimp [f_calc_score, passed_out_meth hQ (f + 117) (by omega), hQ.method is_vul_method, hQ.func calc_bid_score_func, hv, hc]

/-- a contract with a final bid, when `contract.is_vul()` raises: the exception propagates out of `calc_score` -/
theorem calc_score_call_raises (hQ : PB.Ext Q) (b : Fin 35) (x xx : Bool) (v : Vul) (od : Option Seat) (a : Val) (f : Nat)
    (e : Err) (hv : (mkRec Q (f + 116)).call m_Contract_is_vul [encContract ⟨some b, x, xx, v, od⟩] = .error e) :
    (mkRec Q (f + 120)).call f_calc_score [encContract ⟨some b, x, xx, v, od⟩, a] = .error e := by
  rw [cs_call]
  cmsimp [f_calc_score, passed_out_meth hQ (f + 117) (by omega), hQ.method is_vul_method, hQ.func calc_bid_score_func, hv]

/-! ## the translated program, run as the harness runs it (`fn` = `PB.runFn`, fuel `topFuel`) -/

theorem fn_calc_score (args : List Val) :
    fn n_calc_score args = ((mkRec PB (880 + 120)).call f_calc_score args).map (·.1) := rfl

/-- THE TRANSLATED public entry `calc_score(contract, taken_tricks)` is the duplicate scoring law from declarer's side,
for EVERY contract with a declarer and 0..13 tricks -/
theorem calc_score_translated_is_law (b : Fin 35) (x xx : Bool) (v : Vul) (d : Seat) (t : Nat) (ht : t ≤ 13) :
    (fn n_calc_score [encContract ⟨some b, x, xx, v, some d⟩, .int t]).int?
      = some (dupScore (bidLevel b) (bidDenom b) (status x xx) (sideVulnerable v d) t) := by
  rw [fn_calc_score, calc_score_call_ok (.refl PB) b x xx v (some d) t ht 880 _ _ (is_vul_call_some (.refl PB) _ (by omega) _ x xx v d)]
  rfl

/-- a passed-out contract scores 0 whatever else it carries -/
theorem calc_score_translated_passed_out (x xx : Bool) (v : Vul) (d : Option Seat) (t : Nat) :
    (fn n_calc_score [encContract ⟨none, x, xx, v, d⟩, .int t]).int? = some 0 := by
  rw [fn_calc_score, calc_score_call_passed_out (.refl PB)]
  rfl

/-- without a declarer the score is defined exactly when the vulnerability does not depend on the side -/
theorem calc_score_translated_no_declarer (b : Fin 35) (x xx : Bool) (v : Vul) (t : Nat) (ht : t ≤ 13) :
    match v with
    | .none => (fn n_calc_score [encContract ⟨some b, x, xx, v, none⟩, .int t]).int?
        = some (dupScore (bidLevel b) (bidDenom b) (status x xx) false t)
    | .both => (fn n_calc_score [encContract ⟨some b, x, xx, v, none⟩, .int t]).int?
        = some (dupScore (bidLevel b) (bidDenom b) (status x xx) true t)
    | _ => (fn n_calc_score [encContract ⟨some b, x, xx, v, none⟩, .int t]).exc? = some K.ValueError := by
  have hv := fun v => is_vul_call_none PB (880 + 116) (by omega) (some b) x xx v
  cases v
  · show R.int? _ = _
    rw [fn_calc_score, calc_score_call_ok (.refl PB) b x xx .none none t ht 880 _ _ (hv .none)]; rfl
  · show R.exc? _ = _
    rw [fn_calc_score, calc_score_call_raises (.refl PB) b x xx .ns none _ 880 _ (hv .ns)]; rfl
  · show R.exc? _ = _
    rw [fn_calc_score, calc_score_call_raises (.refl PB) b x xx .ew none _ 880 _ (hv .ew)]; rfl
  · show R.int? _ = _
    rw [fn_calc_score, calc_score_call_ok (.refl PB) b x xx .both none t ht 880 _ _ (hv .both)]; rfl

/-- only declarer's side's vulnerability matters to the translated `calc_score` -/
theorem calc_score_translated_declarer_side_only (b : Fin 35) (x xx : Bool) (v v' : Vul) (d : Seat) (t : Nat) (ht : t ≤ 13)
    (h : sideVulnerable v d = sideVulnerable v' d) :
    (fn n_calc_score [encContract ⟨some b, x, xx, v, some d⟩, .int t]).int?
      = (fn n_calc_score [encContract ⟨some b, x, xx, v', some d⟩, .int t]).int? := by
  rw [calc_score_translated_is_law b x xx v d t ht, calc_score_translated_is_law b x xx v' d t ht, h]

/-! sanity: 4♠ by South, N-S vulnerable, 10 tricks = 620; the same by East = 420; N-S vulnerable without declarer raises -/
example : (fn n_calc_score [encContract ⟨some ⟨18, by omega⟩, false, false, .ns, some .S⟩, .int 10]).int? = some 620 := by
  decide +kernel
example : (fn n_calc_score [encContract ⟨some ⟨18, by omega⟩, false, false, .ns, some .E⟩, .int 10]).int? = some 420 := by
  decide +kernel
example : (fn n_calc_score [encContract ⟨some ⟨18, by omega⟩, false, false, .ns, none⟩, .int 10]).exc? = some K.ValueError := by
  decide +kernel

end Bridge.Translated
