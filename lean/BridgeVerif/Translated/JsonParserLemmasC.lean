import BridgeVerif.Translated.JsonParserLemmasA
/-! Translated JSON parser (parser.py) = model: what `json.loads` builds (`jsonToVal`) read back through the model's `Json.get?`; sets of cards
(the interpreter keeps FIRST occurrences, the model's `dedup` LAST ones: `dedupFirst`, `pyHands`, `HandsInOrder`); `hands_parser` -/
namespace Bridge.Translated
open Bridge Bridge.Py Bridge.Generated.PyCore

/-! ## `json.loads` values -/
theorem jp_lookupD_members (l : List (List Char × Json)) (k : List Char) :
    lookupD (membersToKvs l) (.str k) = ((Json.obj l).get? k).map jsonToVal := by
  induction l with
  | nil => rfl
  | cons a l ih =>
    obtain ⟨k', v⟩ := a
    simp only [membersToKvs, lookupD, beq_str, Json.get?, List.find?_cons] at ih ⊢
    cases hk : (k' == k)
    · simp only [Bool.false_eq_true, if_false]; exact ih
    · rfl

theorem jp_get_obj (j : Json) (k : List Char) (v : Json) (h : j.get? k = some v) : ∃ l, j = .obj l := by
  cases j <;> first | exact ⟨_, rfl⟩ | cases h

theorem jp_mapM_cons_some {α β} (g : α → Option β) (a : α) (l : List α) (r : List β) (h : (a :: l).mapM g = some r) :
    ∃ b r', g a = some b ∧ l.mapM g = some r' ∧ r = b :: r' := by
  rw [List.mapM_cons] at h
  cases ha : g a with
  | none => rw [ha] at h; cases h
  | some b =>
    cases hl : l.mapM g with
    | none => rw [ha, hl] at h; cases h
    | some r' => rw [ha, hl] at h; cases h; exact ⟨b, r', rfl, rfl, rfl⟩

theorem jp_jsonsToVals_strs (l : List Json) (ss : List (List Char)) (h : l.mapM Json.str? = some ss) :
    jsonsToVals l = ss.map .str := by
  induction l generalizing ss with
  | nil => simp at h; subst h; rfl
  | cons a l ih =>
    obtain ⟨s, ss', ha, hl, rfl⟩ := jp_mapM_cons_some _ _ _ _ h
    cases a <;> cases ha
    simp only [jsonsToVals, jsonToVal, List.map_cons, ih ss' hl]

/-! ## sets of cards -/
/-- building a Python `set` from a sequence as the interpreter does: first occurrences, in order -/
def dedupFirst (l : List Card) : List Card := l.foldl (fun acc c => if c ∈ acc then acc else acc ++ [c]) []

theorem jp_set_fold (cs acc : List Card) :
    (cs.map encCard).foldl (fun acc x => if containsVal acc x then acc else acc ++ [x]) (acc.map encCard)
      = (cs.foldl (fun acc c => if c ∈ acc then acc else acc ++ [c]) acc).map encCard := by
  induction cs generalizing acc with
  | nil => rfl
  | cons c cs ih =>
    simp only [List.map_cons, List.foldl_cons, contains_encCard]
    by_cases h : c ∈ acc
    · simp only [h, decide_true, if_true]; exact ih acc
    · simp only [h, decide_false, Bool.false_eq_true, if_false, map_snoc]; exact ih _

theorem jp_set_cards (r : Rec) (cs : List Card) :
    builtinF r P .set [.tuple (cs.map encCard)] = .ok (.tuple ((dedupFirst cs).map encCard)) := by
  have := jp_set_fold cs []
  simp only [List.map_nil] at this
  simp only [builtinF, iterItems, this, dedupFirst]; rfl

theorem jp_fold_mem (cs : List Card) : ∀ (acc : List Card) (c : Card),
    c ∈ cs.foldl (fun acc c => if c ∈ acc then acc else acc ++ [c]) acc ↔ c ∈ acc ∨ c ∈ cs := by
  induction cs with
  | nil => intro acc c; simp
  | cons d cs ih =>
    intro acc c
    simp only [List.foldl_cons, ih, List.mem_cons]
    by_cases h : d ∈ acc
    · simp only [h, if_true]
      constructor
      · rintro (h1 | h1); exact Or.inl h1; exact Or.inr (Or.inr h1)
      · rintro (h1 | rfl | h1); exact Or.inl h1; exact Or.inl h; exact Or.inr h1
    · simp only [h, if_false, List.mem_append, List.mem_singleton]
      constructor
      · rintro ((h1 | h1) | h1); exact Or.inl h1; exact Or.inr (Or.inl h1); exact Or.inr (Or.inr h1)
      · rintro (h1 | h1 | h1); exact Or.inl (Or.inl h1); exact Or.inl (Or.inr h1); exact Or.inr h1

theorem jp_fold_nodup (cs : List Card) : ∀ (acc : List Card), acc.Nodup →
    (cs.foldl (fun acc c => if c ∈ acc then acc else acc ++ [c]) acc).Nodup := by
  induction cs with
  | nil => intro acc h; exact h
  | cons d cs ih =>
    intro acc hn
    simp only [List.foldl_cons]
    by_cases h : d ∈ acc
    · simp only [h, if_true]; exact ih acc hn
    · simp only [h, if_false]
      apply ih
      rw [List.nodup_append]
      refine ⟨hn, by simp, ?_⟩
      intro a ha b hb
      simp only [List.mem_singleton] at hb
      subst hb; intro e; subst e; exact h ha

theorem jp_mem_dedupFirst (l : List Card) (c : Card) : c ∈ dedupFirst l ↔ c ∈ l := by
  simp [dedupFirst, jp_fold_mem]
theorem jp_nodup_dedupFirst (l : List Card) : (dedupFirst l).Nodup := jp_fold_nodup l [] List.nodup_nil

theorem jp_mem_dedup (l : List Card) (c : Card) : c ∈ dedup l ↔ c ∈ l := by
  induction l with
  | nil => simp [dedup]
  | cons a l ih =>
    have e : dedup (a :: l) = if a ∈ dedup l then dedup l else a :: dedup l := rfl
    rw [e]
    by_cases h : a ∈ dedup l
    · simp only [h, if_true, List.mem_cons, ih]
      constructor
      · exact Or.inr
      · rintro (rfl | h1); exact ih.1 h; exact h1
    · simp only [h, if_false, List.mem_cons, ih]
theorem jp_nodup_dedup (l : List Card) : (dedup l).Nodup := by
  induction l with
  | nil => simp [dedup]
  | cons a l ih =>
    have e : dedup (a :: l) = if a ∈ dedup l then dedup l else a :: dedup l := rfl
    rw [e]
    by_cases h : a ∈ dedup l
    · simp only [h, if_true]; exact ih
    · simp only [h, if_false]; exact List.nodup_cons.2 ⟨h, ih⟩

/-- the two orders hold the same set -/
theorem jp_dedupFirst_perm (l : List Card) : (dedupFirst l).Perm (dedup l) :=
  (List.perm_ext_iff_of_nodup (jp_nodup_dedupFirst l) (jp_nodup_dedup l)).2 fun c => by
    rw [jp_mem_dedupFirst, jp_mem_dedup]

theorem jp_fold_of_nodup (cs : List Card) : ∀ (acc : List Card), (acc ++ cs).Nodup →
    cs.foldl (fun acc c => if c ∈ acc then acc else acc ++ [c]) acc = acc ++ cs := by
  induction cs with
  | nil => intro acc _; simp
  | cons d cs ih =>
    intro acc hn
    have hd : d ∉ acc := by
      intro h
      rw [List.nodup_append] at hn
      exact hn.2.2 d h d (List.mem_cons_self ..) rfl
    simp only [List.foldl_cons, hd, if_false]
    rw [ih (acc ++ [d]) (by simpa using hn)]
    simp

/-- no repeated card: both orders are the list itself -/
theorem jp_dedupFirst_of_nodup (l : List Card) (hn : l.Nodup) : dedupFirst l = l := by
  have := jp_fold_of_nodup l [] (by simpa using hn)
  simpa [dedupFirst] using this

/-! ## `hands_parser` -/
/-- the cards listed under one seat, in document order, before the set is built (`[]` when the list is unreadable) -/
def rawCards (j : Json) : List Card :=
  match j with
  | .arr l => ((l.mapM Json.str?).bind fun ss => ss.mapM strToCard?).getD []
  | _ => []

/-- the four hands as the interpreter holds them: each set in first-occurrence order -/
def pyHands (j : Json) : Hands := fun p => dedupFirst (rawCards ((j.get? p.name).getD .null))

theorem jp_hand_cases (j : Json) (cs : List Card) (h : handOfJsonVal? j = some cs) :
    ∃ ss : List (List Char), iterItems P (jsonToVal j) = some (ss.map .str) ∧ ss.mapM strToCard? = some (rawCards j) ∧
      cs = dedup (rawCards j) := by
  cases j with
  | arr l =>
    simp only [handOfJsonVal?] at h
    cases hl : l.mapM Json.str? with
    | none => rw [hl] at h; cases h
    | some ss =>
      rw [hl] at h
      simp only [Option.bind_some, handOfJson?] at h
      cases hr : ss.mapM strToCard? with
      | none => rw [hr] at h; cases h
      | some raw =>
        rw [hr] at h; cases h
        refine ⟨ss, ?_, ?_, ?_⟩
        · simp only [jsonToVal, jp_jsonsToVals_strs l ss hl, iterItems]
        · simp only [rawCards, hl, Option.bind_some, hr, Option.getD_some]
        · simp only [rawCards, hl, Option.bind_some, hr, Option.getD_some]
  | str s =>
    simp only [handOfJsonVal?, handOfJson?] at h
    cases s with
    | nil => cases h; exact ⟨[], rfl, rfl, rfl⟩
    | cons a s =>
      simp only [List.map_cons, List.mapM_cons] at h
      have : strToCard? [a] = none := rfl
      rw [this] at h; cases h
  | null => cases h
  | bool _ => cases h
  | int _ => cases h
  | obj _ => cases h

/-- `[Card.str_to_card(x) for x in …]` over a list of strings the model reads -/
theorem jp_comp_cards (f : Nat) (env : Env) (x : Id) (ss : List (List Char)) : ∀ (raw : List Card),
    ss.mapM strToCard? = some raw →
    compF (mkRec P (f+17)) env x none (.static n_Card n_str_to_card [.const (.cls n_Card), .var x]) (ss.map .str)
      = .ok (raw.map encCard) := by
  induction ss with
  | nil => intro raw h; simp at h; subst h; rfl
  | cons s ss ih =>
    intro raw h
    obtain ⟨c, raw', hs, hr, rfl⟩ := jp_mapM_cons_some _ _ _ _ h
    simp only [List.map_cons, compF, ih raw' hr]
    ppsimp [jp_mth_str_to_card, jp_str_to_card_call _ _ _ hs]

theorem jp_find_hands_parser : findFunc P.funcs n_hands_parser = some f_hands_parser := rfl

theorem jp_handsOfJson_cases (j : Json) (h : Hands) (hm : handsOfJson? j = some h) :
    ∃ l jn je js jw, j = .obj l ∧
      (Json.obj l).get? ['N'] = some jn ∧ (Json.obj l).get? ['E'] = some je ∧
      (Json.obj l).get? ['S'] = some js ∧ (Json.obj l).get? ['W'] = some jw ∧
      handOfJsonVal? jn = some (h .N) ∧ handOfJsonVal? je = some (h .E) ∧
      handOfJsonVal? js = some (h .S) ∧ handOfJsonVal? jw = some (h .W) := by
  unfold handsOfJson? at hm
  obtain ⟨n, h1, hm⟩ := Option.bind_eq_some_iff.1 hm
  obtain ⟨e, h2, hm⟩ := Option.bind_eq_some_iff.1 hm
  obtain ⟨s, h3, hm⟩ := Option.bind_eq_some_iff.1 hm
  obtain ⟨w, h4, hm⟩ := Option.bind_eq_some_iff.1 hm
  cases hm
  obtain ⟨jn, hn, g1⟩ := Option.bind_eq_some_iff.1 h1
  obtain ⟨je, he, g2⟩ := Option.bind_eq_some_iff.1 h2
  obtain ⟨js, hs, g3⟩ := Option.bind_eq_some_iff.1 h3
  obtain ⟨jw, hw, g4⟩ := Option.bind_eq_some_iff.1 h4
  obtain ⟨l, rfl⟩ := jp_get_obj _ _ _ hn
  exact ⟨l, jn, je, js, jw, rfl, hn, he, hs, hw, g1, g2, g3, g4⟩

theorem jp_hands_parser_call (f : Nat) (j : Json) (h : Hands) (hm : handsOfJson? j = some h) :
    callF (mkRec P (f+24)) f_hands_parser [jsonToVal j] = .ok (encHands (pyHands j), jsonToVal j) := by
  obtain ⟨l, jn, je, js, jw, rfl, hn, he, hs, hw, h1, h2, h3, h4⟩ := jp_handsOfJson_cases j h hm
  obtain ⟨sn, in_, rn, -⟩ := jp_hand_cases _ _ h1
  obtain ⟨se, ie, re, -⟩ := jp_hand_cases _ _ h2
  obtain ⟨ss, is_, rs, -⟩ := jp_hand_cases _ _ h3
  obtain ⟨sw, iw, rw_, -⟩ := jp_hand_cases _ _ h4
  rw [callF_def]
  simp only [f_hands_parser, bindParams, Option.map, jsonToVal]
  ppsimp [jp_lookupD_members, hn, he, hs, hw, in_, ie, is_, iw, jp_comp_cards _ _ _ _ _ rn, jp_comp_cards _ _ _ _ _ re,
    jp_comp_cards _ _ _ _ _ rs, jp_comp_cards _ _ _ _ _ rw_, jp_set_cards, hd_construct_hands]
  simp only [encHands, pyHands, Seat.name, hn, he, hs, hw, Option.getD_some]

/-- the model's hand of a seat: the `dedup` of the cards listed -/
theorem jp_hands_raw (j : Json) (h : Hands) (hm : handsOfJson? j = some h) (p : Seat) :
    h p = dedup (rawCards ((j.get? p.name).getD .null)) := by
  obtain ⟨l, jn, je, js, jw, rfl, hn, he, hs, hw, h1, h2, h3, h4⟩ := jp_handsOfJson_cases j h hm
  obtain ⟨_, -, -, en⟩ := jp_hand_cases _ _ h1
  obtain ⟨_, -, -, ee⟩ := jp_hand_cases _ _ h2
  obtain ⟨_, -, -, es⟩ := jp_hand_cases _ _ h3
  obtain ⟨_, -, -, ew⟩ := jp_hand_cases _ _ h4
  cases p <;> simp only [Seat.name, hn, he, hs, hw, Option.getD_some, en, ee, es, ew]

/-- the model's hands hold the same four sets (`dedup` keeps the LAST occurrence of a repeated card, the interpreter's
set the FIRST) -/
theorem jp_pyHands_same (j : Json) (h : Hands) (hm : handsOfJson? j = some h) : SameHands (pyHands j) h := fun p => by
  rw [jp_hands_raw j h hm p]; exact jp_dedupFirst_perm _

/-- the document lists the cards of every hand in an order on which the two set constructions agree (in particular:
no card twice in a hand, `jp_handsInOrder_of_nodup`) -/
def HandsInOrder (j : Json) : Prop :=
  ∀ p : Seat, dedupFirst (rawCards ((j.get? p.name).getD .null)) = dedup (rawCards ((j.get? p.name).getD .null))

theorem jp_handsInOrder_of_nodup (j : Json) (hn : ∀ p : Seat, (rawCards ((j.get? p.name).getD .null)).Nodup) :
    HandsInOrder j := fun p => by
  rw [jp_dedupFirst_of_nodup _ (hn p), dedup_of_nodup _ (hn p)]

theorem jp_pyHands_eq (j : Json) (h : Hands) (hm : handsOfJson? j = some h) (ho : HandsInOrder j) : pyHands j = h :=
  funext fun p => by rw [jp_hands_raw j h hm p]; exact ho p

/-- and the hypothesis is necessary: if the interpreter's hands are the model's, the orders agree -/
theorem jp_handsInOrder_of_eq (j : Json) (h : Hands) (hm : handsOfJson? j = some h) (he : pyHands j = h) : HandsInOrder j :=
  fun p => by rw [← jp_hands_raw j h hm p, ← he]; rfl

end Bridge.Translated
