import BridgeVerif.Translated.HandParsersD
import BridgeVerif.Translated.ThreadsClientA
import BridgeVerif.Props.C19
/-!
# The `dealParses` obligation of the bundled-client capstone, discharged for EVERY hand

`dealParses` (Translated/ThreadsClientA.lean) asks, about the hand message `_deal` receives, that the TRANSLATED
`Client.parse_cards` / `Client.parse_hand` return what the model's `parseCards?` / `parseHand?` return.  With
Translated/HandParsers*.lean (translated = model on every text of the classes `agreeCards` / `agreeHand`) and the model
round trip of Lemmas/MsgHand.lean (`C19.hand_msg_round_trip`), this holds for the message `cardsMsg name hand` of EVERY hand
`HandOK hand` (no card twice, every card on the deck; any number of cards) and every name the client passes — no kernel
evaluation of instances:

* `hand_message_translated` : `parse_cards(cardsMsg name hand, name)` returns `handToStr hand`; `parse_hand` of that returns
  `(encCards l, hand_list)` with `l` = what the model's `parseHand?` reads = the hand sorted by suit and rank (`l.Perm hand`);
* `dealParses_of_hand` : hence `dealParses N p ⟨header :: cardsMsg p.formal hand :: …⟩ (encCards l) hb` for every `N ≥ 18`,
  given only the `parse_board` half (Translated/MsgParsers… / kernel evaluation for the header).
-/
namespace Bridge.Translated.ClientHands
open Bridge Bridge.Py Bridge.Generated.PyCore Bridge.Translated Bridge.RegexMsgHand
open Bridge.Translated.HandParsers Bridge.Translated.ClientA Bridge.Translated.HandsPbn

/-! ## the characters of a hand message -/
def msgChars : List Char := fieldChars ++ "SHDC. ".toList

theorem handToStr_chars (hand : List Card) : ∀ x ∈ handToStr hand, x ∈ msgChars := by
  intro x hx
  unfold handToStr at hx
  simp only [List.mem_append, List.mem_singleton] at hx
  have hf : ∀ su, x ∈ suitField hand su → x ∈ msgChars :=
    fun su h => List.mem_append_left _ (suitField_chars hand su x h)
  rcases hx with (((((((hx | hx) | hx) | hx) | hx) | hx) | hx) | hx) | rfl
  · clear hf; revert x; decide
  · exact hf _ hx
  · clear hf; revert x; decide
  · exact hf _ hx
  · clear hf; revert x; decide
  · exact hf _ hx
  · clear hf; revert x; decide
  · exact hf _ hx
  · decide

theorem msgChars_agree : ∀ x ∈ msgChars, agreeCards x = true ∧ agreeHand x = true := by decide +kernel
theorem nameChars_agree : ∀ name ∈ cardNames, ∀ x ∈ name ++ "'s cards : ".toList, agreeCards x = true := by
  decide +kernel

theorem cardsMsg_agree (name : List Char) (hn : name ∈ cardNames) (hand : List Card) :
    ∀ x ∈ cardsMsg name hand, agreeCards x = true := by
  intro x hx
  unfold cardsMsg at hx
  rw [List.mem_append] at hx
  rcases hx with hx | hx
  · exact nameChars_agree name hn x hx
  · exact (msgChars_agree x (handToStr_chars hand x hx)).1

/-! ## the raw cards of `handToStr hand` -/
/-- the hand as `handToStr` words it: by suit (S, H, D, C), ranks descending -/
def wording (hand : List Card) : List Card :=
  ((suitField.sortDescI hand).filter fun c => decide (c.suit = .S)) ++
  ((suitField.sortDescI hand).filter fun c => decide (c.suit = .H)) ++
  ((suitField.sortDescI hand).filter fun c => decide (c.suit = .D)) ++
  ((suitField.sortDescI hand).filter fun c => decide (c.suit = .C))

theorem handGroups_eq_K (content : List Char) :
    handGroups? content = match stripPrefixCI "S ".toList content with
      | none => none
      | some r0 => dotStar r0 handK1 := rfl

theorem wording_perm (hand : List Card) (hok : HandOK hand) : (wording hand).Perm hand ∧ (wording hand).Nodup := by
  obtain ⟨hn, hc⟩ := hok
  have hsort := sortDescI_perm hand
  have hmem : ∀ c ∈ suitField.sortDescI hand, c ∈ hand := fun c h => hsort.mem_iff.1 h
  have hperm := (msg_suit_partition (suitField.sortDescI hand) (fun c h => hc c (hmem c h))).trans hsort
  have hp : (wording hand).Perm hand := by simpa only [wording, List.append_assoc] using hperm
  exact ⟨hp, hp.nodup_iff.2 hn⟩

theorem rawCards_handToStr (hand : List Card) (hok : HandOK hand) :
    rawCards? (handToStr hand) = some (wording hand) := by
  obtain ⟨hn, hc⟩ := hok
  have hsort := sortDescI_perm hand
  have hmem : ∀ c ∈ suitField.sortDescI hand, c ∈ hand := fun c h => hsort.mem_iff.1 h
  have hg := hand_groups _ _ _ _ (suitField_chars hand .S) (suitField_chars hand .H)
    (suitField_chars hand .D) (suitField_chars hand .C)
  unfold rawCards?
  rw [handGroups_eq_K]
  unfold handToStr
  simp only [List.append_assoc, strip_self, hg, cardsOfGroup_suitField hand hc _ hmem, wording]

/-! ## the hand message through the translated parsers -/
/-- for EVERY hand and each of the five names: the translated `parse_cards` reads `handToStr hand` out of the message,
the translated `parse_hand` reads out of that the set of the hand's cards — literally the encoding of what the model's
`parseHand?` returns (`wording hand`, a permutation of the hand) — at every fuel ≥ 18 -/
theorem hand_message_translated (name : List Char) (hn : name ∈ cardNames) (hand : List Card) (hok : HandOK hand) :
    parseCards? (cardsMsg name hand) name = some (handToStr hand) ∧
    parseHand? (handToStr hand) = some (wording hand) ∧ (wording hand).Perm hand ∧
    (∀ f, 18 ≤ f → callFn P f m_Client_parse_cards [.str (cardsMsg name hand), .str name]
      = .ok (.str (handToStr hand), .str (cardsMsg name hand))) ∧
    (∀ f, 18 ≤ f → callFn P f m_Client_parse_hand [.str (handToStr hand)]
      = .ok (.tuple [encCards (wording hand), .tuple (setBits (wording hand) zeros52)], .str (handToStr hand))) := by
  have h1 := parseCards_ok name hand
  obtain ⟨hperm, hnd⟩ := wording_perm hand hok
  have h2 := parse_hand_translated_nodup (handToStr hand)
    (fun x hx => (msgChars_agree x (handToStr_chars hand x hx)).2) (wording hand) (rawCards_handToStr hand hok) hnd
  refine ⟨h1, h2.1, hperm, fun f hf => ?_, h2.2⟩
  have := parse_cards_translated name hn (cardsMsg name hand) (cardsMsg_agree name hn hand) f (by omega)
  rw [h1] at this
  exact this

/-- the `dealParses` obligation for an arbitrary deal: whatever the header, the hand-message half holds for every hand;
`hs` is the encoding of the hand the model's client reads (`wording hand`) -/
theorem dealParses_of_hand (N : Nat) (hN : 18 ≤ N) (p : Seat) (header : List Char) (hand : List Card) (hok : HandOK hand)
    (rest : List (List Char)) (calls : List Call) (cards : List Card)
    (hboard : ∀ k dealer vul, parseBoard? header = some (k, dealer, vul) →
      Returns N m_Client_parse_board [.str header] (.tuple [.int k, encSeat dealer, encVul vul])) :
    dealParses N p ⟨header :: cardsMsg p.formal hand :: rest, calls, cards⟩ (encCards (wording hand))
      (.tuple (setBits (wording hand) zeros52)) := by
  obtain ⟨h1, _, _, h4, h5⟩ := hand_message_translated p.formal (formal_mem_cardNames p) hand hok
  unfold dealParses
  refine ⟨hboard, fun t ht => ?_⟩
  rw [h1] at ht
  cases ht
  refine ⟨fun f hf => ?_, fun _ f hf => ?_⟩
  · rw [h4 f (by omega)]; rfl
  · rw [h5 f (by omega)]; rfl

end Bridge.Translated.ClientHands
