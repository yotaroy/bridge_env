import BridgeVerif.Translated.PlayLemmasC
/-! Translated playing phases = model: the helpers of `play_card` — `PlayingHistory.record`, `_record`,
`_set_next_leader` (with its `for _ in range(highest_idx)` loop) -/
namespace Bridge.Translated
open Bridge Bridge.Py Bridge.Generated.PyCore

/-- the well-formedness `play_card` needs: the trick being played is the next one of the history
(`PlayingHistory.record` raises `ValueError` otherwise) -/
def WF (s : PState) : Prop := s.history.length + 1 = s.trickNum

theorem wf_init (c : Contract) (s : PState) (h : PState.init c = some s) : WF s := by
  unfold PState.init at h
  split at h
  · cases h; rfl
  · cases h

theorem wf_playCard (s : PState) (card : Card) (h : WF s) : WF (playCard s card) := by
  unfold WF at *
  unfold playCard
  simp only
  split
  · unfold addTaken
    split <;> simp only [List.length_cons] <;> omega
  · exact h

/-! ## `PlayingHistory.record` -/
theorem mth_record : P.method? classDepth n_PlayingHistory n_record = some (n_PlayingHistory, m_PlayingHistory_record) := rfl
theorem meth_encHistory (r : Rec) (c : Contract) (h : List Trick) (m : Id) (args : List Val) :
    methF r P (encHistory c h) m args = callMethod r P n_PlayingHistory m (encHistory c h :: args) (.exc K.AttributeError) :=
  rfl

theorem record_call (f : Nat) (c : Contract) (h : List Trick) (tn : Nat) (t : Trick) (hwf : h.length + 1 = tn) :
    callF (mkRec P (f+10)) m_PlayingHistory_record [encHistory c h, .int tn, encTrick t]
      = .ok (.none, encHistory c (t :: h)) := by
  rw [callF_def]
  simp only [m_PlayingHistory_record, bindParams, Option.map, encHistory]
  have e : ((h.reverse.map encTrick).length : Int) = (tn : Int) - 1 := by
    simp only [List.length_map, List.length_reverse]; omega
  ppsimp [len_tuple, beq_int, e, List.reverse_cons, List.map_append, List.map_cons, List.map_nil, beq_self_eq_true,
    Bool.true_eq_false]

theorem record_call' (f : Nat) (c : Contract) (h : List Trick) (tn : Nat) (l : Seat) (cs : List Card)
    (hwf : h.length + 1 = tn) :
    callF (mkRec P (f+10)) m_PlayingHistory_record
        [encHistory c h, .int tn, .obj n_TrickHistory [(n_leader, encSeat l), (n_cards, .tuple (cs.map encCard))]]
      = .ok (.none, encHistory c (⟨l, cs⟩ :: h)) := record_call f c h tn ⟨l, cs⟩ hwf

theorem record_call_bad (f : Nat) (c : Contract) (h : List Trick) (tn : Nat) (l : Seat) (cs : List Card)
    (hwf : ¬ h.length + 1 = tn) :
    callF (mkRec P (f+10)) m_PlayingHistory_record
        [encHistory c h, .int tn, .obj n_TrickHistory [(n_leader, encSeat l), (n_cards, .tuple (cs.map encCard))]]
      = .error (.exc K.ValueError) := by
  rw [callF_def]
  simp only [m_PlayingHistory_record, bindParams, Option.map, encHistory]
  have e : ¬ ((h.reverse.map encTrick).length : Int) = (tn : Int) - 1 := by
    simp only [List.length_map, List.length_reverse]; omega
  ppsimp [len_tuple, beq_int, beq_eq_false_iff_ne, ne_eq, e]

/-! ## `_record` -/
theorem construct_trick (r : Rec) (l cs : Val) :
    constructF r P n_TrickHistory [l, cs] = .ok (.obj n_TrickHistory [(n_leader, l), (n_cards, cs)]) := rfl
theorem builtin_tuple_tuple (r : Rec) (xs : List Val) : builtinF r P .tuple [.tuple xs] = .ok (.tuple xs) := rfl

theorem record_self_call (f : Nat) (k : Id) (ex : List (Id × Val)) (c : Contract) (s : PState) (hwf : WF s) :
    callF (mkRec P (f+20)) m_PlayingPhase__record [ppObj k c s ex]
      = .ok (.none, ppObj k c { s with history := ⟨s.leader, s.trick⟩ :: s.history } ex) := by
  rw [callF_def]
  simp only [m_PlayingPhase__record, bindParams, Option.map, ppObj, baseFields]
  ppsimp [encCards, construct_trick, builtin_tuple_tuple, meth_encHistory, mth_record, record_call' _ _ _ _ _ _ hwf]

theorem record_self_call_bad (f : Nat) (k : Id) (ex : List (Id × Val)) (c : Contract) (s : PState) (hwf : ¬ WF s) :
    callF (mkRec P (f+20)) m_PlayingPhase__record [ppObj k c s ex] = .error (.exc K.ValueError) := by
  rw [callF_def]
  simp only [m_PlayingPhase__record, bindParams, Option.map, ppObj, baseFields]
  ppsimp [encCards, construct_trick, builtin_tuple_tuple, meth_encHistory, mth_record, record_call_bad _ _ _ _ _ _ hwf]

/-! ## `_set_next_leader` -/
def snlBody : List Stmt := match m_PlayingPhase__set_next_leader.body.getD 3 .pass with
  | .for _ _ b => b
  | _ => []

/-- `for _ in items: self.leader = self.leader.next_player` -/
theorem leader_loop (f : Nat) (k : Id) (ex : List (Id × Val)) (c : Contract) :
    ∀ (items : List Val) (s : PState) (tail : Env),
      forF (mkRec P (f+20)) [n__] snlBody ((K.self, ppObj k c s ex) :: tail) items
        = .ok ((K.self, ppObj k c { s with leader := s.leader.rot items.length } ex)
                 :: items.foldl (fun t it => update t n__ it) tail, .next) := by
  intro items
  induction items with
  | nil => intro s tail; rfl
  | cons it items ih =>
    intro s tail
    simp only [forF, snlBody, m_PlayingPhase__set_next_leader, List.getD_cons_succ, List.getD_cons_zero, ppObj, baseFields]
    ppsimp [getAttr_next]
    have := ih { s with leader := s.leader.left } (update tail n__ it)
    simp only [snlBody, m_PlayingPhase__set_next_leader, List.getD_cons_succ, List.getD_cons_zero, ppObj, baseFields,
      List.cons_append, List.nil_append] at this
    rw [this]
    simp only [rot_succ']

theorem calc_highest_call' (f : Nat) (su : Suit) (cs : List Card) :
    callF (mkRec P (f+12)) m_PlayingPhase_calc_highest [encSuit su, .tuple (cs.map encCard)]
      = .ok (.int (calcHighest su cs), encSuit su) := calc_highest_call f su cs
theorem builtin_range (r : Rec) (n : Int) :
    builtinF r P .range [.int n] = .ok (.tuple ((List.range n.toNat).map fun i => .int (Int.ofNat i))) := rfl
theorem index_cards_zero (r : Rec) (c0 : Card) (rest : List Card) :
    indexF r P (.tuple ((c0 :: rest).map encCard)) (.int 0) = .ok (encCard c0) := by
  simp only [index_tuple, Py.asInt_int, List.length_map, List.length_cons, normIndex_zero_succ, List.map_cons,
    List.getD_cons_zero]

theorem set_next_leader_call (f : Nat) (k : Id) (ex : List (Id × Val)) (c : Contract) (s : PState)
    (h4 : s.trick.length = 4) :
    callF (mkRec P (f+40)) m_PlayingPhase__set_next_leader [ppObj k c s ex]
      = .ok (.none, ppObj k c { s with leader := s.leader.rot (highestIdx s.trump s.trick).toNat } ex) := by
  rw [callF_def]
  simp only [m_PlayingPhase__set_next_leader, bindParams, Option.map, ppObj, baseFields]
  obtain ⟨trump, declarer, dummy, leader, active, trick, trickNum, history, used, takenNS, takenEW⟩ := s
  simp only at h4 ⊢
  match trick, h4 with
  | c0 :: rest, h4 =>
    have e4 : ((rest.length + 1 : Nat) : Int) = 4 := by simp only [List.length_cons] at h4; rw [h4]; rfl
    have hl := fun n : Int => leader_loop (f+19) k ex c
      (List.map (fun i => Val.int (Int.ofNat i)) (List.range n.toNat))
      ⟨trump, declarer, dummy, leader, active, c0 :: rest, trickNum, history, used, takenNS, takenEW⟩
      [(n_highest_idx, Val.int n)]
    simp only [snlBody, m_PlayingPhase__set_next_leader, List.getD_cons_succ, List.getD_cons_zero, ppObj, baseFields,
      List.cons_append, List.nil_append, encCards, List.length_map, List.length_range] at hl
    by_cases hneg : calcHighest trump (c0 :: rest) < 0 <;>
    ppsimp [encCards, len_tuple, List.length_map, e4, beq_int, beq_self_eq_true, Bool.true_eq_false, mth_calc_highest,
      calc_highest_call', hneg, index_cards_zero, builtin_range, iterItems_tuple, hl, highestIdx]

end Bridge.Translated
