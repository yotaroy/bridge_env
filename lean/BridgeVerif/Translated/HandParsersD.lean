import BridgeVerif.Translated.HandParsersC
/-! Translated `Client.parse_hand` (client.py) = model, part D: the method at any sufficient fuel.

`parse_hand_translated`: for EVERY text whose characters are in the class `RegexMsgHand.agreeHand` (every ASCII text) on
which the model's `parseHand?` reads a hand, at every fuel ≥ 18 the generated `Client.parse_hand(content)` returns the pair
`(hand_set, tuple(hand_list))` where `hand_set` holds exactly the model's cards — the same cards as `parseHand?`, without
duplicates, in FIRST-occurrence order (a MiniPy set is a tuple in insertion order; the model's `dedupC` keeps the LAST
occurrences: a permutation) — and `hand_list` has slot `int(card)` set for each of them.  When the text names no card twice
(every `cardsMsg`), `hand_set` is literally `encCards` of the model's hand (`parse_hand_translated_nodup`).

NOT stated here: the converse (model `none` ⇒ the method raises).  It fails on a token with an explicit plus sign
(`int('+5') = 5` is a rank for Python and for the interpreter's `parseInt?`; the model's `decimal?` refuses it). -/
namespace Bridge.Translated.HandParsers
open Bridge Bridge.Py Bridge.Generated.PyCore Bridge.Translated Bridge.RegexHands Bridge.RegexMsgHand
open Bridge.Translated.HandsPbn

theorem hq_mth_parse_hand : P.method? classDepth n_Client n_parse_hand = some (n_Client, m_Client_parse_hand) := rfl

theorem hq_builtin_zip (r : Rec) (xs ys : List Val) :
    builtinF r P .zip [.tuple xs, .tuple ys] = .ok (.tuple ((xs.zip ys).map fun (x, y) => .tuple [x, y])) := rfl


theorem hq_zeros_len : zeros52.length = 52 := by simp [zeros52]
theorem hq_pat : HANDMSG_PATTERN = ['S', ' ', '(', '.', '*', ')', '\\', '.', ' ', 'H', ' ', '(', '.', '*', ')', '\\', '.', ' ', 'D', ' ', '(', '.', '*', ')', '\\', '.', ' ', 'C', ' ', '(', '.', '*', ')', '\\', '.', '\\', 's', '?'] :=
  String.toList_ofList

theorem hq_parse_hand_call (f : Nat) (content : List Char) (hs : ∀ x ∈ content, agreeHand x = true)
    (g1 g2 g3 g4 : List Char) (hg : handGroups? content = some [g1, g2, g3, g4]) (a b c d : List Card)
    (ha : cardsOfGroup? g1 .S = some a) (hb : cardsOfGroup? g2 .H = some b) (hc : cardsOfGroup? g3 .D = some c)
    (hd : cardsOfGroup? g4 .C = some d) :
    callF (mkRec P (f+17)) m_Client_parse_hand [.str content]
      = .ok (.tuple [.tuple ((dedupFirst (a ++ b ++ c ++ d)).map encCard), .tuple (setBits (a ++ b ++ c ++ d) zeros52)],
          .str content) := by
  have hfact := match_handmsg content hs
  rw [hg, Option.map_some] at hfact
  obtain ⟨g0, hpm⟩ := hq_pmb_some HANDMSG_PATTERN content [g1, g2, g3, g4] hfact
  simp only [hq_pat, List.map_cons, List.map_nil] at hpm
  obtain ⟨t, e⟩ := hq_outer f (.str content) (.str HANDMSG_PATTERN)
    (.obj n__Match [(n_texts, .tuple [.str g0, .str g1, .str g2, .str g3, .str g4])])
    [(g1, .S, a), (g2, .H, b), (g3, .D, c), (g4, .C, d)]
    (by simp only [List.forall_mem_cons, ha, hb, hc, hd, List.not_mem_nil, false_imp_iff, implies_true, and_self])
    [] zeros52 [] hq_zeros_len
  simp only [phOuter, m_Client_parse_hand, List.getD_cons_succ, List.getD_cons_zero, hq_pat, List.map_cons, List.map_nil,
    List.flatMap_cons, List.flatMap_nil, List.append_nil] at e
  rw [callF_def]
  simp only [m_Client_parse_hand, bindParams, Option.map]
  ppsimp [hq_mth_pmb, hpm, hd_zeros, builtin_set_nil, hq_mth_groups, hq_groups_call, iterItems_tuple, compF,
    hq_builtin_split, hq_builtin_zip, List.map_cons, List.map_nil, hp_enum_S, hp_enum_H, hp_enum_D, hp_enum_C, e,
    builtin_tuple_tuple]
  simp only [dedupFirst, List.append_assoc]

/-- the cards of a hand text in text order, before the set is built: the four groups of the skeleton converted -/
def rawCards? (content : List Char) : Option (List Card) :=
  match handGroups? content with
  | some [g1, g2, g3, g4] =>
    (match cardsOfGroup? g1 .S, cardsOfGroup? g2 .H, cardsOfGroup? g3 .D, cardsOfGroup? g4 .C with
     | some a, some b, some c, some d => some (a ++ b ++ c ++ d)
     | _, _, _, _ => none)
  | _ => none

/-- the model's `parseHand?` is the set (last occurrences) of the raw cards -/
theorem parseHand_eq_raw (content : List Char) : parseHand? content = (rawCards? content).map dedupC := by
  rw [parseHand_eq_groups]
  unfold rawCards?
  split
  · rename_i g1 g2 g3 g4 hg
    simp only [hg]
    split
    · rename_i a b c d ha hb hc hd
      simp only [ha, hb, hc, hd, Option.map_some]
    · rename_i hno
      split
      · rename_i a b c d ha hb hc hd
        exact (hno a b c d ha hb hc hd).elim
      · rfl
  · rename_i hno
    split
    · rename_i g1 g2 g3 g4 hg
      exact (hno g1 g2 g3 g4 hg).elim
    · rfl

theorem hq_rawCards_some (content : List Char) (raw : List Card) (h : rawCards? content = some raw) :
    ∃ g1 g2 g3 g4 a b c d, handGroups? content = some [g1, g2, g3, g4] ∧ cardsOfGroup? g1 .S = some a ∧
      cardsOfGroup? g2 .H = some b ∧ cardsOfGroup? g3 .D = some c ∧ cardsOfGroup? g4 .C = some d ∧
      raw = a ++ b ++ c ++ d := by
  unfold rawCards? at h
  split at h
  · rename_i g1 g2 g3 g4 hg
    split at h
    · rename_i a b c d ha hb hc hd
      cases h
      exact ⟨g1, g2, g3, g4, a, b, c, d, hg, ha, hb, hc, hd, rfl⟩
    · cases h
  · cases h

/-- TRANSLATED `parse_hand` = MODEL (texts the model reads): for every text whose characters are in the class `agreeHand`
on which the model reads the cards `raw` (`parseHand? content = some (dedupC raw)`, `parseHand_eq_raw`), at every fuel ≥ 18
the generated `Client.parse_hand(content)` returns `(hand_set, tuple(hand_list))` with `hand_set` = `raw` without
duplicates in first-occurrence order, `hand_list` = 52 zeros with slot `int(card)` set for every card of `raw` -/
theorem parse_hand_translated (content : List Char) (hs : ∀ x ∈ content, agreeHand x = true) (raw : List Card)
    (h : rawCards? content = some raw) :
    ∀ f, 18 ≤ f → callFn P f m_Client_parse_hand [.str content]
      = .ok (.tuple [encCards (dedupFirst raw), .tuple (setBits raw zeros52)], .str content) := by
  obtain ⟨g1, g2, g3, g4, a, b, c, d, hg, ha, hb, hc, hd, rfl⟩ := hq_rawCards_some content raw h
  intro f hf
  obtain ⟨g, rfl⟩ : ∃ g, f = (g + 17) + 1 := ⟨f - 18, by omega⟩
  rw [callFn_eq_callF]
  exact hq_parse_hand_call g content hs g1 g2 g3 g4 hg a b c d ha hb hc hd

/-- … stated on the model's `parseHand?`: `hand_set` holds the model's cards — no duplicates, a permutation of the
model's hand -/
theorem parse_hand_translated_perm (content : List Char) (hs : ∀ x ∈ content, agreeHand x = true) (hand : List Card)
    (h : parseHand? content = some hand) :
    ∃ l hb, l.Nodup ∧ l.Perm hand ∧ ∀ f, 18 ≤ f → callFn P f m_Client_parse_hand [.str content]
      = .ok (.tuple [encCards l, hb], .str content) := by
  rw [parseHand_eq_raw] at h
  cases hr : rawCards? content with
  | none => rw [hr] at h; cases h
  | some raw =>
    rw [hr] at h
    simp only [Option.map_some, Option.some.injEq] at h
    subst h
    exact ⟨dedupFirst raw, _, jp_nodup_dedupFirst raw, jp_dedupFirst_perm raw, parse_hand_translated content hs raw hr⟩

theorem hq_dedupFirst_nodup (raw : List Card) (h : raw.Nodup) : dedupFirst raw = raw := by
  have := jp_fold_of_nodup raw [] (by simpa using h)
  simpa [dedupFirst] using this

theorem hq_dedupC_nodup (raw : List Card) (h : raw.Nodup) : dedupC raw = raw := by
  induction raw with
  | nil => rfl
  | cons x r ih =>
    have e : dedupC (x :: r) = if x ∈ dedupC r then dedupC r else x :: dedupC r := rfl
    rw [List.nodup_cons] at h
    rw [e, ih h.2, if_neg h.1]

/-- … when the text names no card twice (every `cardsMsg` of a hand), model and translated code return the SAME list:
`hand_set` is literally `encCards` of the model's hand — the form `dealParses` asks for -/
theorem parse_hand_translated_nodup (content : List Char) (hs : ∀ x ∈ content, agreeHand x = true) (raw : List Card)
    (h : rawCards? content = some raw) (hn : raw.Nodup) :
    parseHand? content = some raw ∧ ∀ f, 18 ≤ f → callFn P f m_Client_parse_hand [.str content]
      = .ok (.tuple [encCards raw, .tuple (setBits raw zeros52)], .str content) := by
  refine ⟨by rw [parseHand_eq_raw, h, Option.map_some, hq_dedupC_nodup raw hn], ?_⟩
  have := parse_hand_translated content hs raw h
  rwa [hq_dedupFirst_nodup raw hn] at this

/-- … in particular for every ASCII text -/
theorem parse_hand_translated_ascii (content : List Char) (hs : ∀ x ∈ content, x.toNat < 128) (raw : List Card)
    (h : rawCards? content = some raw) :
    ∀ f, 18 ≤ f → callFn P f m_Client_parse_hand [.str content]
      = .ok (.tuple [encCards (dedupFirst raw), .tuple (setBits raw zeros52)], .str content) :=
  parse_hand_translated content (fun x hx => agreeHand_ascii x (hs x hx)) raw h

end Bridge.Translated.HandParsers
