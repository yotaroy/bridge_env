import BridgeVerif.Translated.ThreadsSeatBConnect
import BridgeVerif.Translated.ThreadsSeatBPlay
/-!
# The TRANSLATED seat thread (class `SeatThread` of Generated/PyCoreThreads.lean, from `PlayerThread`):
`_check_message`, `_connect` (admission), `_playing_phase`

Statements are about the generated `FuncDef`s (`m_SeatThread__check_message`, `m_SeatThread__connect`,
`m_SeatThread__playing_phase`) run by the MiniPy interpreter in the whole translated program `P`, for EVERY fuel from a
stated bound on; the thread object and its world are the encodings of Translated/ThreadsEnc.lean.

* `seat_check_message_translated` — `_check_message(expected)` on connection stream `msg :: c`: `passesCheck` ⇒ `True`,
  one `recv`; `failsCheck` ⇒ `False`, `recv`, `send "ERROR: Unexpected message received."`, `close`.  (`passesCheck` /
  `failsCheck`, Translated/ThreadsSeatBWorld.lean, are the test the method performs, stated with the interpreter's
  `.replace` builtin and `Re.pyFullmatch`; the regular-expression engine is not reasoned about.)
* `seat_connect_translated` — `_connect()` against `Bridge.admitReq` / `Bridge.replyText`: by cases on the verdict.
  Hypothesis: the translated `parse_connection_info` returns `(team, seat, version)` on the request text.
* `seat_connect_not_ready_translated` — the remaining paths of `_connect` (seated, but a `ready` message fails).
* `seat_connect_matches_connectR` — the same, phrased with `Admission.connectR`'s operations for the rejected verdicts.
* `seat_trick_translated` — one turn of `for trick_num in range(1, 14)` (the leader's name, then the four cards) is
  `seatTrickR … 0 leader`.
* `seat_playing_translated` — `_playing_phase()` is `seatPlayingR`, under `playingChecks` (every `ready` message consumed
  passes `_check_message`; Translated/ThreadsSeatBPlayModel.lean).
-/
namespace Bridge.Translated.SeatB
open Bridge Bridge.Py Bridge.Generated.PyCore

/-! ## (1) `_check_message` -/

/-- `_check_message(expected)` when the connection delivers `msg` next -/
theorem seat_check_message_translated (f : Nat) (hf : 15 ≤ f) (p : Seat) (q c : List Str) (msg expected : Str)
    (out : List Val) (table : Val) (tables : List Val) (rest : List (Id × Val)) :
    (passesCheck expected msg →
      callFn P f m_SeatThread__check_message
          [.obj n_SeatThread ((n__w, encSeatWorld p q (msg :: c) out table tables) :: rest), .str expected]
        = .ok (.bool true,
            .obj n_SeatThread ((n__w, encSeatWorld p q c (out ++ [.tuple [vstr "recv"]]) table tables) :: rest))) ∧
    (failsCheck expected msg →
      callFn P f m_SeatThread__check_message
          [.obj n_SeatThread ((n__w, encSeatWorld p q (msg :: c) out table tables) :: rest), .str expected]
        = .ok (.bool false,
            .obj n_SeatThread ((n__w, encSeatWorld p q c (out ++ [.tuple [vstr "recv"],
              .tuple [vstr "send", vstr "ERROR: Unexpected message received."], .tuple [vstr "close", .none]])
              table tables) :: rest))) := by
  obtain ⟨k, rfl⟩ : ∃ k, f = k + 15 := ⟨f - 15, by omega⟩
  exact ⟨fun h => sb_check_pass k p q c msg expected out table tables rest h,
    fun h => sb_check_fail k p q c msg expected out table tables rest h⟩

/-- a decidable form of `passesCheck` (for closed examples) -/
theorem passesCheck_of_isSome {expected msg : Str}
    (h : ((Re.pyFullmatch true (checkPattern expected) msg).bind id).isSome = true) : passesCheck expected msg := by
  unfold passesCheck
  cases hx : Re.pyFullmatch true (checkPattern expected) msg with
  | none => rw [hx] at h; cases h
  | some o => cases o with
    | none => rw [hx] at h; cases h
    | some m => exact ⟨m, rfl⟩

/-- non-vacuity: a conforming `ready` message in another letter case and with other white space passes … -/
example : passesCheck "North ready for teams".toList "north  READY for\tteams".toList :=
  passesCheck_of_isSome (by decide +kernel)
/-- … another seat's message fails -/
example : failsCheck "North ready for teams".toList "South ready for teams".toList := by
  unfold failsCheck; decide +kernel

/-- the theorem on a concrete thread: the message is consumed, `recv` recorded, `True` returned -/
example :
    callFn P 15 m_SeatThread__check_message
        [encSeatThread .N (encSeatWorld .N ["East".toList] ["north  READY for\tteams".toList, "x".toList]
          [.tuple [vstr "sync"]] (.dict []) []) [], .str "North ready for teams".toList]
      = .ok (.bool true, encSeatThread .N (encSeatWorld .N ["East".toList] ["x".toList]
          [.tuple [vstr "sync"], .tuple [vstr "recv"]] (.dict []) []) []) :=
  (seat_check_message_translated 15 (Nat.le_refl _) .N _ _ _ _ _ _ _ _).1 (passesCheck_of_isSome (by decide +kernel))

/-- … and the failing case: the error is sent, the connection closed, `False` returned -/
example :
    callFn P 15 m_SeatThread__check_message
        [encSeatThread .N (encSeatWorld .N [] ["South ready for teams".toList] [] (.dict []) []) [],
          .str "North ready for teams".toList]
      = .ok (.bool false, encSeatThread .N (encSeatWorld .N [] []
          [.tuple [vstr "recv"], .tuple [vstr "send", vstr "ERROR: Unexpected message received."],
           .tuple [vstr "close", .none]] (.dict []) []) []) :=
  (seat_check_message_translated 15 (Nat.le_refl _) .N _ _ _ _ _ _ _ _).2 (by unfold failsCheck; decide +kernel)

/-! ## (2) `_connect` -/

/-- the four outcomes of `admitReq`, with what decides them -/
theorem admitReq_cases (t : Table) (r : Request) :
    (r.version ≠ 18 ∧ admitReq t r = (t, .badVersion)) ∨
    (r.version = 18 ∧ ∃ x, t r.seat = some x ∧ admitReq t r = (t, .seatTaken)) ∨
    (r.version = 18 ∧ t r.seat = none ∧ ∃ pt, t r.seat.partner = some pt ∧ pt ≠ r.team ∧
      admitReq t r = (t, .teamMismatch)) ∨
    (r.version = 18 ∧ t r.seat = none ∧ (∀ pt, t r.seat.partner = some pt → pt = r.team) ∧
      admitReq t r = (t.set r.seat r.team, .seated)) := by
  by_cases hv : r.version = 18
  · cases hs : t r.seat with
    | some x => exact Or.inr (Or.inl ⟨hv, x, rfl, by simp [admitReq, PROTOCOL_VERSION, hv, hs]⟩)
    | none =>
      cases hp : t r.seat.partner with
      | none =>
        exact Or.inr (Or.inr (Or.inr ⟨hv, rfl, (fun pt h => by cases h), by simp [admitReq, PROTOCOL_VERSION, hv, hs, hp]⟩))
      | some pt =>
        by_cases hne : pt = r.team
        · exact Or.inr (Or.inr (Or.inr ⟨hv, rfl, (fun pt' h => by cases h; exact hne),
            by simp [admitReq, PROTOCOL_VERSION, hv, hs, hp, hne]⟩))
        · exact Or.inr (Or.inr (Or.inl ⟨hv, rfl, pt, rfl, hne, by simp [admitReq, PROTOCOL_VERSION, hv, hs, hp, hne]⟩))
  · exact Or.inl ⟨hv, by simp [admitReq, PROTOCOL_VERSION, hv]⟩

/-- the seat thread before admission: only `self._w` is set -/
def encSeatThread0 (w : Val) : Val := .obj n_SeatThread [(n__w, w)]

/-- the operations of a rejecting `_connect`: `recv`, the reply, `close`, `event_set` -/
def rejectOps (reply : Str) : List Val :=
  [.tuple [vstr "recv"], .tuple [vstr "send", .str reply], .tuple [vstr "close", .none], .tuple [vstr "event_set", .none]]

/-- the operations of an accepting `_connect` (both `ready` messages pass): the table entry, the reply, `ready for teams`,
the verdict, the seating barrier, the `Teams` message (from the table after the barrier), `ready to start` -/
def seatedOps (seat : Seat) (team reply teams : Str) : List Val :=
  [.tuple [vstr "recv"], .tuple [vstr "table", encSeat seat, .str team], .tuple [vstr "send", .str reply],
   .tuple [vstr "recv"], .tuple [vstr "event_set", .none], .tuple [vstr "sync"], .tuple [vstr "send", .str teams],
   .tuple [vstr "recv"]]

/-- `_connect()` IS `admitReq` + `replyText`.  `t` is the seat table (`encTable t` in the world), `tables` its later
snapshots (`w_advance` at the barrier takes the head, if any); the queue key `p0` and the queue content are arbitrary.
Hypothesis `hparse`: the translated `parse_connection_info` on the request text returns `(team, seat, version)` at every
fuel from `N` on (its regular expression is not reasoned about here). -/
theorem seat_connect_translated (N f : Nat) (hf : N + 25 ≤ f) (p0 : Seat) (q c : List Str) (req : Str) (out : List Val)
    (t : Table) (tables : List Table) (team : Str) (seat : Seat) (version : Nat) (s' : Val)
    (hparse : ∀ g, N ≤ g → callFn P g m_PlayerThread_parse_connection_info [.str req]
      = .ok (.tuple [.str team, encSeat seat, .int version], s')) :
    let r : Request := ⟨team, seat, version⟩
    -- a verdict other than `seated`: `False`, the table unchanged, the reply is `replyText`
    (∀ v, (admitReq t r).2 = v → v ≠ .seated →
      (admitReq t r).1 = t ∧
      callFn P f m_SeatThread__connect
          [encSeatThread0 (encSeatWorld p0 q (req :: c) out (encTable t) (tables.map encTable))]
        = .ok (.bool false, encSeatThread seat
            (encSeatWorld p0 q c (out ++ rejectOps (replyText r t v)) (encTable t) (tables.map encTable)) [])) ∧
    -- `seated`, and both `ready` messages pass: `True`, the seat written, `player` and `name` set
    ((admitReq t r).2 = .seated → ∀ (ready start : Str) (c' : List Str), c = ready :: start :: c' →
      passesCheck (seat.formal ++ " ready for teams".toList) ready →
      passesCheck (seat.formal ++ " ready to start".toList) start →
      (admitReq t r).1 = t.set seat team ∧
      callFn P f m_SeatThread__connect
          [encSeatThread0 (encSeatWorld p0 q (req :: c) out (encTable t) (tables.map encTable))]
        = .ok (.bool true, encSeatThread seat
            (encSeatWorld p0 q c' (out ++ seatedOps seat team (replyText r t .seated)
                (teamsMsg (optText ((tables.headD (admitReq t r).1) .N)) (optText ((tables.headD (admitReq t r).1) .E))))
              (encTable (tables.headD (admitReq t r).1)) (tables.tail.map encTable))
            [(K.name, .str (threadName seat team))])) := by
  intro r
  obtain ⟨M, rfl⟩ : ∃ M, f = M + 25 := ⟨f - 25, by omega⟩
  have hM : N ≤ M + 22 := by omega
  have hp : callF (mkRec P (M+21)) m_PlayerThread_parse_connection_info [.str req]
      = .ok (.tuple [.str team, encSeat seat, .int version], s') := hparse (M + 22) hM
  rcases admitReq_cases t r with ⟨hv, he⟩ | ⟨hv, x, hx, he⟩ | ⟨hv, hs, pt, hpt, hne, he⟩ | ⟨hv, hs, hpt, he⟩
  · refine ⟨fun v h1 _ => ?_, fun h => by rw [he] at h; cases h⟩
    rw [he] at h1 ⊢
    subst h1
    exact ⟨rfl, sb_connect_badVersion M p0 q c req out t _ team seat version s' hp hv⟩
  · have hv' : version = 18 := hv
    subst hv'
    refine ⟨fun v h1 _ => ?_, fun h => by rw [he] at h; cases h⟩
    rw [he] at h1 ⊢
    subst h1
    exact ⟨rfl, sb_connect_seatTaken M p0 q c req out t _ team seat s' x hp hx⟩
  · have hv' : version = 18 := hv
    subst hv'
    refine ⟨fun v h1 _ => ?_, fun h => by rw [he] at h; cases h⟩
    rw [he] at h1 ⊢
    subst h1
    exact ⟨rfl, sb_connect_teamMismatch M p0 q c req out t _ team seat s' pt hp hs hpt hne⟩
  · have hv' : version = 18 := hv
    subst hv'
    refine ⟨fun v h1 h2 => by rw [he] at h1; exact absurd h1.symm h2, fun _ ready start c' hc hr hst => ?_⟩
    subst hc
    rw [he]
    exact ⟨rfl, sb_connect_seated M p0 q c' req ready start out t tables team seat s' hp hs hpt hr hst⟩

/-- `_connect()` when the verdict is `seated` but a `ready` message does NOT pass (beyond the specification; these are the
remaining paths of the method).  (a) `ready for teams` fails: error, `close`, the verdict is signalled, `False` — the seat
stays written, as in `Admission.connectR`.  (b) `ready to start` fails (after the barrier): error, `close`, `False`. -/
theorem seat_connect_not_ready_translated (N f : Nat) (hf : N + 25 ≤ f) (p0 : Seat) (q c : List Str) (req ready : Str)
    (out : List Val) (t : Table) (tables : List Table) (team : Str) (seat : Seat) (version : Nat) (s' : Val)
    (hparse : ∀ g, N ≤ g → callFn P g m_PlayerThread_parse_connection_info [.str req]
      = .ok (.tuple [.str team, encSeat seat, .int version], s'))
    (hv : (admitReq t ⟨team, seat, version⟩).2 = .seated) :
    let r : Request := ⟨team, seat, version⟩
    (failsCheck (seat.formal ++ " ready for teams".toList) ready →
      callFn P f m_SeatThread__connect
          [encSeatThread0 (encSeatWorld p0 q (req :: ready :: c) out (encTable t) (tables.map encTable))]
        = .ok (.bool false, encSeatThread seat (encSeatWorld p0 q c (out ++ [.tuple [vstr "recv"],
            .tuple [vstr "table", encSeat seat, .str team], .tuple [vstr "send", .str (replyText r t .seated)],
            .tuple [vstr "recv"], .tuple [vstr "send", vstr "ERROR: Unexpected message received."],
            .tuple [vstr "close", .none], .tuple [vstr "event_set", .none]])
            (encTable (admitReq t r).1) (tables.map encTable)) [])) ∧
    (passesCheck (seat.formal ++ " ready for teams".toList) ready → ∀ (start : Str) (c' : List Str), c = start :: c' →
      failsCheck (seat.formal ++ " ready to start".toList) start →
      callFn P f m_SeatThread__connect
          [encSeatThread0 (encSeatWorld p0 q (req :: ready :: c) out (encTable t) (tables.map encTable))]
        = .ok (.bool false, encSeatThread seat (encSeatWorld p0 q c' (out ++ [.tuple [vstr "recv"],
            .tuple [vstr "table", encSeat seat, .str team], .tuple [vstr "send", .str (replyText r t .seated)],
            .tuple [vstr "recv"], .tuple [vstr "event_set", .none], .tuple [vstr "sync"],
            .tuple [vstr "send", .str (teamsMsg (optText ((tables.headD (admitReq t r).1) .N))
              (optText ((tables.headD (admitReq t r).1) .E)))],
            .tuple [vstr "recv"], .tuple [vstr "send", vstr "ERROR: Unexpected message received."],
            .tuple [vstr "close", .none]])
            (encTable (tables.headD (admitReq t r).1)) (tables.tail.map encTable)) [])) := by
  intro r
  obtain ⟨M, rfl⟩ : ∃ M, f = M + 25 := ⟨f - 25, by omega⟩
  have hp : callF (mkRec P (M+21)) m_PlayerThread_parse_connection_info [.str req]
      = .ok (.tuple [.str team, encSeat seat, .int version], s') := hparse (M + 22) (by omega)
  rcases admitReq_cases t r with ⟨_, he⟩ | ⟨_, x, _, he⟩ | ⟨_, _, pt, _, _, he⟩ | ⟨hv', hs, hpt, he⟩
  · rw [he] at hv; cases hv
  · rw [he] at hv; cases hv
  · rw [he] at hv; cases hv
  · have hv'' : version = 18 := hv'
    subst hv''
    rw [he]
    refine ⟨fun hr => sb_connect_seated_notReady M p0 q c req ready out t _ team seat s' hp hs hpt hr,
      fun hr start c' hc hst => ?_⟩
    subst hc
    exact sb_connect_seated_notStart M p0 q c' req ready start out t tables team seat s' hp hs hpt hr hst

/-- an operation of `Admission.connectR` as the world records it -/
def encAdmOp : Admission.Op → Val
  | .recv => .tuple [vstr "recv"]
  | .send t => .tuple [vstr "send", .str t]
  | .close => .tuple [vstr "close", .none]
  | .signal => .tuple [vstr "event_set", .none]

/-- the rejecting `_connect` performs exactly the operations of `Admission.connectR` — when the MODEL's parser
`parseConnect?` reads the request as the translated one does (hypothesis `hmodel`; the two parsers are not compared here) -/
theorem seat_connect_matches_connectR (N f : Nat) (hf : N + 25 ≤ f) (p0 : Seat) (q c : List Str) (req readyText : Str)
    (out : List Val) (t : Table) (tables : List Table) (team : Str) (seat : Seat) (version : Nat) (s' : Val)
    (hparse : ∀ g, N ≤ g → callFn P g m_PlayerThread_parse_connection_info [.str req]
      = .ok (.tuple [.str team, encSeat seat, .int version], s'))
    (hmodel : parseConnect? req = some (team, seat, version))
    (hv : (admitReq t ⟨team, seat, version⟩).2 ≠ .seated) :
    ∃ ops, Admission.connectR t req readyText = some (ops, t, false) ∧
      callFn P f m_SeatThread__connect
          [encSeatThread0 (encSeatWorld p0 q (req :: c) out (encTable t) (tables.map encTable))]
        = .ok (.bool false, encSeatThread seat
            (encSeatWorld p0 q c (out ++ ops.map encAdmOp) (encTable t) (tables.map encTable)) []) := by
  have h := (seat_connect_translated N f hf p0 q c req out t tables team seat version s' hparse).1 _ rfl hv
  refine ⟨.recv :: Admission.reject (replyText ⟨team, seat, version⟩ t (admitReq t ⟨team, seat, version⟩).2), ?_, h.2⟩
  unfold Admission.connectR
  rw [hmodel]
  have e : admitReq t ⟨team, seat, version⟩ = (t, (admitReq t ⟨team, seat, version⟩).2) := Prod.ext h.1 rfl
  generalize (admitReq t ⟨team, seat, version⟩).2 = v at hv e
  dsimp only
  rw [e]
  cases v with
  | seated => exact absurd rfl hv
  | badVersion => rfl
  | seatTaken => rfl
  | teamMismatch => rfl

/-! ### non-vacuity of (2): a closed instance -/

/-- an executable test for "the parser returned `(team, seat, version)`" -/
def isParse (x : R (Val × Val)) (team : Str) (seat : Seat) (version : Nat) : Bool :=
  match x with
  | .ok (.tuple [.str a, .enum c v, .int n], _) => a == team && c == n_Player && v == (seat.value : Int) && n == (version : Int)
  | _ => false

theorem isParse_sound {x : R (Val × Val)} {team : Str} {seat : Seat} {version : Nat}
    (h : isParse x team seat version = true) :
    ∃ s', x = .ok (.tuple [.str team, encSeat seat, .int version], s') := by
  unfold isParse at h
  split at h
  · rename_i a c v n s'
    simp only [Bool.and_eq_true, beq_iff_eq] at h
    obtain ⟨⟨⟨rfl, rfl⟩, rfl⟩, rfl⟩ := h
    exact ⟨s', rfl⟩
  · cases h

/-- the hypothesis `hparse` of `seat_connect_translated` from ONE run of the translated parser -/
theorem parse_all_fuels {N : Nat} {req team : Str} {seat : Seat} {version : Nat}
    (h : isParse (callFn P N m_PlayerThread_parse_connection_info [.str req]) team seat version = true) :
    ∃ s', ∀ g, N ≤ g → callFn P g m_PlayerThread_parse_connection_info [.str req]
      = .ok (.tuple [.str team, encSeat seat, .int version], s') := by
  obtain ⟨s', hs⟩ := isParse_sound h
  exact ⟨s', fun g hg => callFn_fuel_mono P hg _ _ _ hs (by simp)⟩

def exReq : Str := "Connecting \"Alpha\" as north using protocol version 18".toList
def exReqOld : Str := "Connecting \"Alpha\" as north using protocol version 17".toList
/-- South is seated for team Alpha, East for team Beta -/
def exTable : Table := fun p => match p with | .S => some "Alpha".toList | .E => some "Beta".toList | _ => none
/-- the table when all four are seated -/
def exFull : Table := fun p => match p with | .N | .S => some "Alpha".toList | _ => some "Beta".toList

theorem exReq_parses : ∃ s', ∀ g, 40 ≤ g → callFn P g m_PlayerThread_parse_connection_info [.str exReq]
    = .ok (.tuple [.str "Alpha".toList, encSeat .N, .int (18 : Nat)], s') :=
  parse_all_fuels (by decide +kernel)
theorem exReqOld_parses : ∃ s', ∀ g, 40 ≤ g → callFn P g m_PlayerThread_parse_connection_info [.str exReqOld]
    = .ok (.tuple [.str "Alpha".toList, encSeat .N, .int (17 : Nat)], s') :=
  parse_all_fuels (by decide +kernel)

theorem exReply_seated : replyText ⟨"Alpha".toList, .N, 18⟩ exTable .seated = "North Alpha seated".toList := by
  decide +kernel
theorem exReply_bad : replyText ⟨"Alpha".toList, .N, 17⟩ exTable .badVersion
    = "ERROR: Protocol version is not 18 but 17.".toList := by decide +kernel
theorem exThreadName : threadName .N "Alpha".toList = "Thread-North-(Alpha)".toList := by decide +kernel

/-- North joins South's team: seated; the thread ends with `player`, `name` set, the table is the snapshot after the
barrier, and the client is told the teams -/
example : ∀ f, 65 ≤ f →
    callFn P f m_SeatThread__connect
        [encSeatThread0 (encSeatWorld .N [] [exReq, "north ready for teams".toList, "NORTH  ready to start".toList] []
          (encTable exTable) ([exFull].map encTable))]
      = .ok (.bool true, encSeatThread .N
          (encSeatWorld .N [] [] ([] ++ seatedOps .N "Alpha".toList "North Alpha seated".toList
              "Teams : N/S : \"Alpha\" E/W : \"Beta\"".toList)
            (encTable exFull) []) [(K.name, .str "Thread-North-(Alpha)".toList)]) := by
  obtain ⟨s', hp⟩ := exReq_parses
  intro f hf
  have h := (seat_connect_translated 40 f hf .N [] ["north ready for teams".toList, "NORTH  ready to start".toList]
    exReq [] exTable [exFull] _ .N 18 s' hp).2 (by decide +kernel)
    "north ready for teams".toList "NORTH  ready to start".toList [] rfl
    (passesCheck_of_isSome (by decide +kernel)) (passesCheck_of_isSome (by decide +kernel))
  have e1 : (admitReq exTable ⟨"Alpha".toList, .N, 18⟩).1 = exTable.set .N "Alpha".toList := h.1
  have e2 : [exFull].headD (admitReq exTable ⟨"Alpha".toList, .N, 18⟩).1 = exFull := rfl
  have e4 : teamsMsg (optText (exFull .N)) (optText (exFull .E)) = "Teams : N/S : \"Alpha\" E/W : \"Beta\"".toList := by
    decide +kernel
  have h2 := h.2
  rw [e2, exReply_seated, e4, exThreadName] at h2
  exact h2

/-- an old protocol version: rejected with `replyText … badVersion`, the table untouched -/
example : ∀ f, 65 ≤ f →
    callFn P f m_SeatThread__connect
        [encSeatThread0 (encSeatWorld .N [] [exReqOld] [] (encTable exTable) ([exFull].map encTable))]
      = .ok (.bool false, encSeatThread .N
          (encSeatWorld .N [] [] ([] ++ rejectOps "ERROR: Protocol version is not 18 but 17.".toList)
            (encTable exTable) ([exFull].map encTable)) []) := by
  obtain ⟨s', hp⟩ := exReqOld_parses
  intro f hf
  have h := ((seat_connect_translated 40 f hf .N [] [] exReqOld [] exTable [exFull] _ .N 17 s' hp).1 .badVersion
    (by decide +kernel) (by decide)).2
  rw [exReply_bad] at h
  exact h

/-- the same rejection, as `Admission.connectR` performs it (the model's parser reads the request alike) -/
example : ∀ f, 65 ≤ f → ∃ ops, Admission.connectR exTable exReqOld [] = some (ops, exTable, false) ∧
    callFn P f m_SeatThread__connect
        [encSeatThread0 (encSeatWorld .N [] [exReqOld] [] (encTable exTable) ([exFull].map encTable))]
      = .ok (.bool false, encSeatThread .N
          (encSeatWorld .N [] [] ([] ++ ops.map encAdmOp) (encTable exTable) ([exFull].map encTable)) []) := by
  obtain ⟨s', hp⟩ := exReqOld_parses
  intro f hf
  exact seat_connect_matches_connectR 40 f hf .N [] [] exReqOld [] [] exTable [exFull] _ .N 17 s' hp
    (by decide +kernel) (by decide +kernel)

/-- seated, but the client answers something else than `North ready for teams`: error, close, verdict, `False`; the seat
stays written -/
example : ∀ f, 65 ≤ f →
    callFn P f m_SeatThread__connect
        [encSeatThread0 (encSeatWorld .N [] [exReq, "hello".toList] [] (encTable exTable) ([exFull].map encTable))]
      = .ok (.bool false, encSeatThread .N (encSeatWorld .N [] [] ([] ++ [.tuple [vstr "recv"],
          .tuple [vstr "table", encSeat .N, .str "Alpha".toList],
          .tuple [vstr "send", .str (replyText ⟨"Alpha".toList, .N, 18⟩ exTable .seated)],
          .tuple [vstr "recv"], .tuple [vstr "send", vstr "ERROR: Unexpected message received."],
          .tuple [vstr "close", .none], .tuple [vstr "event_set", .none]])
          (encTable (admitReq exTable ⟨"Alpha".toList, .N, 18⟩).1) ([exFull].map encTable)) []) := by
  obtain ⟨s', hp⟩ := exReq_parses
  intro f hf
  exact (seat_connect_not_ready_translated 40 f hf .N [] [] exReq "hello".toList [] exTable [exFull] _ .N 18 s' hp
    (by decide +kernel)).1 (by unfold failsCheck; decide +kernel)

/-! ## (3) `_playing_phase` -/

/-- ONE TURN of the outer loop `for trick_num in range(1, 14)` (its body `ppOuterBody`, cut out of the generated
`m_SeatThread__playing_phase`) in an environment that holds the thread, `declarer`, `dummy` and `trick_num = k`:
the leader's name is taken from the queue, then the inner loop `for i in range(4)` performs `seatTrickR p declarer
(k = 1) 0 leader` — under the hypothesis that the `ready` messages it consumes pass `_check_message` (`trickChecks`) -/
theorem seat_trick_translated (f : Nat) (hf : 26 ≤ f) (p declarer leader : Seat) (k : Nat) (env : Env)
    (i i1 i2 : SeatIn) (ln : Str) (t : SeatActs) (out : List Val) (table : Val) (tables : List Val)
    (extra : List (Id × Val))
    (hself : lookup env K.self = some (encSeatThread p (encSeatWorld p i.q i.c out table tables) extra))
    (hdecl : lookup env n_declarer = some (encSeat declarer))
    (hdummy : lookup env n_dummy = some (encSeat declarer.partner))
    (hk : lookup env n_trick_num = some (.int k))
    (hq : i.getQ = some (ln, i1)) (hl : seatOfFormal? ln = some leader)
    (ht : seatTrickR p declarer (decide (k = 1)) 0 leader i1 = some (t, i2))
    (hc : trickChecks p declarer k 4 0 leader i1) :
    ∃ env' ops, exec P f env ppOuterBody = .ok (env', .next) ∧
      encSeatActs p ([.recv (.m2t p)] ++ t) = some ops ∧
      lookup env' K.self = some (encSeatThread p (encSeatWorld p i2.q i2.c (out ++ ops) table tables) extra) ∧
      lookup env' n_declarer = some (encSeat declarer) ∧ lookup env' n_dummy = some (encSeat declarer.partner) := by
  obtain ⟨g, rfl⟩ : ∃ g, f = g + 26 := ⟨f - 26, by omega⟩
  obtain ⟨env', ops, h1, h2, h3⟩ :=
    sb_trick_turn g p declarer leader k env i i1 i2 ln t out table tables extra ⟨hself, hdecl, hdummy⟩ hk hq hl ht hc
  exact ⟨env', ops, h1, h2, h3.hself, h3.hdecl, h3.hdummy⟩

/-- `_playing_phase()` IS `seatPlayingR`: on queue stream `q` and connection stream `c`, if the reactive model performs
`acts` and leaves `q'`, `c'`, and every `ready` message consumed passes `_check_message` (`playingChecks`), the method
returns `True`, leaves the streams `q'`, `c'`, and has appended the rendering of `acts` to `out` -/
theorem seat_playing_translated (f : Nat) (hf : 28 ≤ f) (p : Seat) (q c q' c' : List Str) (acts : SeatActs)
    (out : List Val) (table : Val) (tables : List Val) (extra : List (Id × Val))
    (hm : seatPlayingR p ⟨q, c⟩ = some (acts, ⟨q', c'⟩)) (hc : playingChecks p ⟨q, c⟩) :
    ∃ ops, encSeatActs p acts = some ops ∧
      callFn P f m_SeatThread__playing_phase [encSeatThread p (encSeatWorld p q c out table tables) extra]
        = .ok (.bool true, encSeatThread p (encSeatWorld p q' c' (out ++ ops) table tables) extra) := by
  obtain ⟨g, rfl⟩ : ∃ g, f = g + 28 := ⟨f - 28, by omega⟩
  exact sb_playing_call g p ⟨q, c⟩ ⟨q', c'⟩ acts out table tables extra hm hc

/-- non-vacuity of `seat_trick_translated`: trick 2 of East's contract seen by North's thread, South leading — two
relays (South's card, dummy's card), North's own card, a relay: 1 + 3 + 3 + 2 + 3 = 12 operations -/
def exTrickEnv : Env :=
  [(K.self, encSeatThread .N (encSeatWorld .N
      ["South".toList, "South plays CK".toList, "West plays CQ".toList, "East plays CA".toList]
      ["North ready for South's card to trick 2".toList, "North ready for dummy's card to trick 2".toList,
       "North plays SA".toList, "North ready for East's card to trick 2".toList] [] .none []) []),
   (n_declarer, encSeat .E), (n_dummy, encSeat .W), (n_trick_num, .int (2 : Nat))]

example : ∃ env' ops, exec P 26 exTrickEnv ppOuterBody = .ok (env', .next) ∧
    lookup env' K.self = some (encSeatThread .N (encSeatWorld .N [] [] ([] ++ ops) .none []) []) ∧ ops.length = 12 := by
  have h1 : ∃ t, seatTrickR .N .E (decide (2 = 1)) 0 .S
      ⟨["South plays CK".toList, "West plays CQ".toList, "East plays CA".toList],
       ["North ready for South's card to trick 2".toList, "North ready for dummy's card to trick 2".toList,
        "North plays SA".toList, "North ready for East's card to trick 2".toList]⟩ = some (t, ⟨[], []⟩) ∧
      (encSeatActs .N ([.recv (.m2t .N)] ++ t)).map List.length = some 12 := by
    have h : (match seatTrickR .N .E (decide (2 = 1)) 0 .S
        ⟨["South plays CK".toList, "West plays CQ".toList, "East plays CA".toList],
         ["North ready for South's card to trick 2".toList, "North ready for dummy's card to trick 2".toList,
          "North plays SA".toList, "North ready for East's card to trick 2".toList]⟩ with
        | some (t, ⟨[], []⟩) => (encSeatActs .N ([.recv (.m2t .N)] ++ t)).map List.length == some 12
        | _ => false) = true := by decide +kernel
    revert h
    cases seatTrickR .N .E (decide (2 = 1)) 0 .S _ with
    | none => intro h; cases h
    | some x =>
      obtain ⟨t, ⟨q', c'⟩⟩ := x
      intro h
      cases q' <;> cases c' <;> first | cases h | exact ⟨t, rfl, by simpa using h⟩
  obtain ⟨t, ht, hl⟩ := h1
  obtain ⟨env', ops, hx, ho, hs, _, _⟩ := seat_trick_translated 26 (Nat.le_refl _) .N .E .S 2 exTrickEnv
    ⟨["South".toList, "South plays CK".toList, "West plays CQ".toList, "East plays CA".toList],
     ["North ready for South's card to trick 2".toList, "North ready for dummy's card to trick 2".toList,
      "North plays SA".toList, "North ready for East's card to trick 2".toList]⟩ _ ⟨[], []⟩ "South".toList t [] .none [] []
    rfl rfl rfl rfl rfl (by decide +kernel) ht (trickChecksB_sound _ _ _ _ _ _ _ (by decide +kernel))
  refine ⟨env', ops, hx, hs, ?_⟩
  rw [ho] at hl
  simpa using hl

/-! ### non-vacuity of (3): a whole play of thirteen tricks, North defending against East's contract -/

/-- North's queue: the declarer's name; per trick the leader's name (North leads every trick), dummy's hand after the
first card of the first trick, the three other cards -/
def exQ : List Text :=
  "East".toList :: (List.range 13).flatMap fun j =>
    "North".toList :: ((if j = 0 then ["Dummy's cards : S A. H -. D -. C -.".toList] else []) ++
      ["East plays CA".toList, "South plays CK".toList, "West plays CQ".toList])
/-- what North's client sends: its card, `ready for dummy` in the first trick, then the three `ready` messages (West is
dummy) — one of them in another letter case and with two spaces -/
def exC : List Text :=
  (List.range 13).flatMap fun j =>
    ["North plays SA".toList] ++ (if j = 0 then ["North ready for dummy".toList] else []) ++
      ["North ready for East's card to trick ".toList ++ natStr (j + 1),
       "north  READY for South's card to trick ".toList ++ natStr (j + 1),
       "North ready for dummy's card to trick ".toList ++ natStr (j + 1)]

/-- the hypotheses of `seat_playing_translated` hold for these streams (the model runs to the end; every `ready` message
passes the translated check), so the translated `_playing_phase` returns `True`, consumes both streams and records
1 + 13 + 13·(3 + 3·3) + 3 = 173 operations -/
example : ∀ f, 28 ≤ f → ∃ ops,
    callFn P f m_SeatThread__playing_phase [encSeatThread .N (encSeatWorld .N exQ exC [] .none []) []]
      = .ok (.bool true, encSeatThread .N (encSeatWorld .N [] [] ([] ++ ops) .none []) []) ∧ ops.length = 173 := by
  intro f hf
  have h1 : ∃ acts, seatPlayingR .N ⟨exQ, exC⟩ = some (acts, ⟨[], []⟩) ∧
      (encSeatActs .N acts).map List.length = some 173 := by
    have h : (match seatPlayingR .N ⟨exQ, exC⟩ with
        | some (acts, ⟨[], []⟩) => (encSeatActs .N acts).map List.length == some 173
        | _ => false) = true := by decide +kernel
    cases hs : seatPlayingR .N ⟨exQ, exC⟩ with
    | none => rw [hs] at h; cases h
    | some x =>
      obtain ⟨acts, ⟨q', c'⟩⟩ := x
      rw [hs] at h
      cases q' <;> cases c' <;> first | cases h | exact ⟨acts, rfl, by simpa using h⟩
  obtain ⟨acts, hm, hl⟩ := h1
  obtain ⟨ops, ho, hx⟩ := seat_playing_translated f hf .N exQ exC [] [] acts [] .none [] [] hm
    (playingChecksB_sound (by decide +kernel))
  refine ⟨ops, hx, ?_⟩
  rw [ho] at hl
  simpa using hl

end Bridge.Translated.SeatB
