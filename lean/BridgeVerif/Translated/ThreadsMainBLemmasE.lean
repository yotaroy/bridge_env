import BridgeVerif.Translated.ThreadsMainBLemmasD
/-! Translated `MainThread.playing_phase`: a concrete play of thirteen tricks (1NT by South; North holds the spades, East the
hearts, South the diamonds, West the clubs; West leads clubs and takes every trick), checked by kernel evaluation — the data
of the non-vacuity examples of Translated/ThreadsMainB.lean -/
set_option linter.unusedSimpArgs false
namespace Bridge.Translated.MainB
open Bridge Bridge.Py Bridge.Generated.PyCore

/-- `tricksOpsS` over `mainTrickS` (which the kernel can evaluate) -/
def tricksOpsS' (encRec : BoardRecord → Val) (decl : Seat) (dm : Text) : Nat → Nat → WithHands → MainIn → Option (List Val)
  | 0, _, _, _ => some []
  | n + 1, k, w, i =>
    match mainTrickS decl dm (k = 1) 4 0 w i with
    | none => none
    | some (t, w', i') =>
      match encMainActs encRec t, tricksOpsS' encRec decl dm n (k + 1) w' i' with
      | some tops, some rest => some (opSleep :: opsPutAll w.base.leader.formal ++ tops ++ rest)
      | _, _ => none

theorem tricksOpsS_eq (encRec : BoardRecord → Val) (decl : Seat) (dm : Text) : ∀ (n k : Nat) (w : WithHands) (i : MainIn),
    tricksOpsS encRec decl dm n k w i = tricksOpsS' encRec decl dm n k w i := by
  intro n
  induction n with
  | zero => intro k w i; rfl
  | succ n ih =>
    intro k w i
    rw [tricksOpsS, tricksOpsS', mainTrickS_eq decl dm _ 4 0 w i rfl]
    cases mainTrickS decl dm (k = 1) 4 0 w i with
    | none => rfl
    | some x =>
      obtain ⟨t, w', i'⟩ := x
      simp only
      rw [ih]
      cases encMainActs encRec t <;> cases tricksOpsS' encRec decl dm n (k + 1) w' i' <;> rfl

def exContract : Contract := { finalBid := some ⟨4, by decide⟩, declarer := some .S }
def suitHand (s : Suit) : List Card := [14, 13, 12, 11, 10, 9, 8, 7, 6, 5, 4, 3, 2].map fun r => ⟨r, s⟩
def exDeal : Seat → List Card
  | .N => suitHand .S | .E => suitHand .H | .S => suitHand .D | .W => suitHand .C
def exW0 : WithHands := ⟨initState ⟨4, by decide⟩ .S, exDeal⟩
/-- the four queues `t2m`: West's and East's cards, South's queue carries dummy's (North's) cards too; a message that is
never consumed waits in North's queue -/
def exIn : MainIn
  | .N => ["later".toList]
  | .E => ["East plays HA".toList, "East plays HK".toList, "East plays HQ".toList, "East plays HJ".toList, "East plays HT".toList, "East plays H9".toList, "East plays H8".toList, "East plays H7".toList, "East plays H6".toList, "East plays H5".toList, "East plays H4".toList, "East plays H3".toList, "East plays H2".toList]
  | .S => ["North plays SA".toList, "SOUTH plays aD".toList, "North plays SK".toList, "South plays DK".toList, "North plays SQ".toList, "South plays DQ".toList, "North plays SJ".toList, "South plays DJ".toList, "North plays ST".toList, "South plays DT".toList, "North plays S9".toList, "South plays D9".toList, "North plays S8".toList, "South plays D8".toList, "North plays S7".toList, "South plays D7".toList, "North plays S6".toList, "South plays D6".toList, "North plays S5".toList, "South plays D5".toList, "North plays S4".toList, "South plays D4".toList, "North plays S3".toList, "South plays D3".toList, "North plays S2".toList, "South plays D2".toList]
  | .W => ["west plays ac".toList, "West plays CK".toList, "West plays CQ".toList, "West plays CJ".toList, "West plays CT".toList, "West plays C9".toList, "West plays C8".toList, "West plays C7".toList, "West plays C6".toList, "West plays C5".toList, "West plays C4".toList, "West plays C3".toList, "West plays C2".toList]
def exDm : Text := cardsMsg "Dummy".toList (exDeal .N)
def exEncRec : BoardRecord → Val := fun _ => .none

theorem ex_init : WithHands.init exContract exDeal = some exW0 := rfl

/-- the queued messages are ASCII texts without U+001C..U+001F -/
theorem ex_ascii : ∀ p ∈ Seat.all, ∀ m ∈ exIn p, ∀ x ∈ m, x.toNat < 128 ∧ ¬ (0x1C ≤ x.toNat ∧ x.toNat ≤ 0x1F) := by
  intro p _
  -- a string literal is dear to decode in the kernel: its characters by `String.toList_ofList` first
  cases p <;> simp only [exIn] <;> (repeat rw [String.toList_ofList]) <;> decide +kernel

/-- on every queued message the translated `parse_card` (regular expression, `Card.__post_init__`) agrees with the model's
`parseCard?`, for all four seats -/
theorem ex_agree : ∀ p, ∀ m ∈ exIn p, ∀ x ∈ m, RegexMsgBid.agree x = true :=
  fun p m hm x hx => RegexMsgBid.agree_ascii x (ex_ascii p (seat_mem_all p) m hm x hx).1

theorem ex_allParse : AllParse exIn := allParse_of_agree exIn ex_agree

/-- what the model computes on the example -/
def exCheck : Bool :=
  match mainPlayingS .S exDm exW0 exIn, tricksOpsS' exEncRec .S exDm 13 1 exW0 exIn with
  | some (acts, w, i'), some opsT =>
    i' .N == ["later".toList] && i' .E == [] && i' .S == [] && i' .W == [] &&
    declTricks .S w == 0 && w.base.takenEW == 13 && w.base.history.length == 13 &&
    acts.length == 267 && opsT.length == 276 && (stripSleep opsT).length == 263
  | _, _ => false

theorem ex_check : exCheck = true := by decide +kernel


/-- what the model computes for the first trick of the example -/
def exCheckTrick : Bool :=
  match mainTrickS .S exDm (decide (1 = 1)) 4 0 exW0 exIn with
  | some (t, w', i') =>
    (match encMainActs exEncRec t with | some tops => tops.length == 19 | none => false) &&
    w'.base.trickNum == 2 && w'.base.leader == .W && w'.base.takenEW == 1 && (i' .W).length == 12 &&
    (i' .S).length == 24
  | none => false

theorem ex_check_trick : exCheckTrick = true := by decide +kernel

/-- an environment as `playing_phase` has it when the first card of the first trick is due -/
def exEnv : Env :=
  [(K.self, encMainThread (encMainWorld exIn [] (.dict []) [] []) .none), (n_contract, encContract exContract),
   (n_cards, .dict (handsKvs exDeal)), (n_playing_env, encWithHands exContract exW0), (n_trick_num, .int 1),
   (n_i, .int 0)]

end Bridge.Translated.MainB
