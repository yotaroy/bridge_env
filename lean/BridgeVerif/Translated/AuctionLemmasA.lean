import BridgeVerif.Translated.Enc
import BridgeVerif.Translated.EncBeq
import BridgeVerif.Model.Auction
import BridgeVerif.Lemmas.MiniPyExec
/-! Translated `BiddingPhase` = model: definitions, interpreter unfolding lemmas, atomic evaluation lemmas -/
namespace Bridge.Translated
open Bridge Bridge.Py Bridge.Generated.PyCore

/-! ## encoding of the model state -/

def callOfIdx (k : Nat) : Call :=
  if h : k < 35 then .bid ⟨k, h⟩ else if k = 35 then .pass else if k = 36 then .dbl else .rdbl

/-- the 38-slot vector -/
def availList (a : Call → Bool) : List Val :=
  (List.range 38).map fun k => .int (if a (callOfIdx k) then 1 else 0)

def perSeatKvs (ps : Seat → List Call) : List (Val × Val) :=
  [(encSeat .N, .tuple ((ps .N).reverse.map encCall)), (encSeat .E, .tuple ((ps .E).reverse.map encCall)),
   (encSeat .S, .tuple ((ps .S).reverse.map encCall)), (encSeat .W, .tuple ((ps .W).reverse.map encCall))]

def declRow (r : Suit → Option Seat) : List (Val × Val) :=
  [(encSuit .C, encOpt encSeat (r .C)), (encSuit .D, encOpt encSeat (r .D)), (encSuit .H, encOpt encSeat (r .H)),
   (encSuit .S, encOpt encSeat (r .S)), (encSuit .NT, encOpt encSeat (r .NT))]

def declKvs (dc : Side → Suit → Option Seat) : List (Val × Val) :=
  [(encSide .NS, .dict (declRow (dc .NS))), (encSide .EW, .dict (declRow (dc .EW)))]

/-- the `BiddingPhase` instance as the interpreter holds it (fields in the order `__init__` assigns them) -/
def encState (s : AState) : Val :=
  .obj n_BiddingPhase
    [(n___dealer, encSeat s.dealer), (n___vul, encVul s.vul), (n___active_player, encOpt encSeat s.active),
     (n___last_bidder, encOpt encSeat s.lastBidder), (n___last_bid, encOpt encBid s.lastBid),
     (n___called_x, .bool s.calledX), (n___called_xx, .bool s.calledXX),
     (n___bid_history, .tuple (s.history.reverse.map encCall)),
     (n___players_bid_history, .dict (perSeatKvs s.perSeat)),
     (n___declarer_check, .dict (declKvs s.declCheck)),
     (n___available_bid, .tuple (availList s.avail))]

def encRes : Res → Val
  | .illegal => .enum n_BiddingPhaseState (-1)
  | .ongoing => .enum n_BiddingPhaseState 1
  | .finished => .enum n_BiddingPhaseState 2

/-- the environment of `take_bid` -/
def envOf (s : AState) (c : Call) : Env := [(K.self, encState s), (n_bid, encCall c)]

/-! ## atomic evaluation lemmas (arbitrary sufficiently large fuel) -/

theorem getAttr_Bid_idx (f : Nat) (v : Int) : getAttrF (mkRec P (f+5)) P (.enum n_Bid v) n_idx = .ok (.int (v - 1)) := rfl

theorem getAttr_idx (f : Nat) (c : Call) : getAttrF (mkRec P (f+5)) P (encCall c) n_idx = .ok (.int c.idx) := by
  rw [encCall, getAttr_Bid_idx, Call.value]; congr 2; omega

theorem getAttr_next (f : Nat) (p : Seat) :
    getAttrF (mkRec P (f+12)) P (encSeat p) n_next_player = .ok (encSeat p.left) := by
  cases p <;> rfl
theorem getAttr_pair (f : Nat) (p : Seat) : getAttrF (mkRec P (f+12)) P (encSeat p) n_pair = .ok (encSide p.side) := by
  cases p <;> rfl

theorem encCall_bid (i : Fin 35) : encCall (.bid i) = encBid i := rfl

end Bridge.Translated
