import BridgeVerif.Translated.PbnParserWide
import BridgeVerif.Translated.HandsPbnClosed
/-! Translated `PbnParser.parse_board_settings` = model: the tag look-ups, the three conversions (with their failures) -/
namespace Bridge.Translated
open Bridge Bridge.Py Bridge.Generated.PyCore Bridge.RegexPbn Bridge.RegexHands Bridge.Translated.HandsPbn

/-- `x[name]` on a game -/
theorem ps_lookupD_game (k : Str) : ∀ g : Game,
    lookupD (g.map fun kv => (Val.str kv.1, Val.str kv.2)) (.str k) = (gameGet? g k).map Val.str := by
  intro g
  induction g with
  | nil => rfl
  | cons a g ih =>
    simp only [List.map_cons, lookupD, beq_str, gameGet?, List.find?_cons]
    cases h : (a.1 == k)
    · simpa [gameGet?] using ih
    · simp

/-! ## `Player[name]` on an unknown name -/
theorem ps_member_seat_none (s : Str) (h : seatOfName? s = none) : memberValue? (clsOf n_Player) s = none := by
  have hm : (clsOf n_Player).members = [(['N'], 1), (['E'], 2), (['S'], 3), (['W'], 4)] := rfl
  have h1 : s ≠ ['N'] := by intro e; subst e; cases h
  have h2 : s ≠ ['E'] := by intro e; subst e; cases h
  have h3 : s ≠ ['S'] := by intro e; subst e; cases h
  have h4 : s ≠ ['W'] := by intro e; subst e; cases h
  simp only [memberValue?, hm, List.find?_cons, List.find?_nil]
  have e1 : (['N'] == s) = false := by simpa using fun e : ['N'] = s => h1 e.symm
  have e2 : (['E'] == s) = false := by simpa using fun e : ['E'] = s => h2 e.symm
  have e3 : (['S'] == s) = false := by simpa using fun e : ['S'] = s => h3 e.symm
  have e4 : (['W'] == s) = false := by simpa using fun e : ['W'] = s => h4 e.symm
  simp only [e1, e2, e3, e4, Option.map]

/-! ## `Vul.str_to_vul` on a text it does not know: `Vul[name]` raises `KeyError` -/
theorem ps_strToVul_none (s : Str) (h : strToVul? s = none) :
    s ≠ ['N', 'o', 'n', 'e'] ∧ s ≠ ['L', 'o', 'v', 'e'] ∧ s ≠ ['-'] ∧ s ≠ ['B', 'o', 't', 'h'] ∧ s ≠ ['A', 'l', 'l'] ∧
    s ≠ ['N', 'S'] ∧ s ≠ ['E', 'W'] ∧ s ≠ ['N', 'O', 'N', 'E'] ∧ s ≠ ['B', 'O', 'T', 'H'] := by
  refine ⟨?_, ?_, ?_, ?_, ?_, ?_, ?_, ?_, ?_⟩ <;> (intro e; subst e; revert h; decide)

theorem ps_str_to_vul_call_none (f : Nat) (s : Str) (h : strToVul? s = none) :
    callF (mkRec P (f+10)) m_Vul_str_to_vul [.cls n_Vul, .str s] = .error (.exc K.KeyError) := by
  obtain ⟨h1, h2, h3, h4, h5, h6, h7, h8, h9⟩ := ps_strToVul_none s h
  have hm : (clsOf n_Vul).members = [(['N', 'O', 'N', 'E'], 1), (['N', 'S'], 2), (['E', 'W'], 3), (['B', 'O', 'T', 'H'], 4)] := rfl
  have e6 : (['N', 'S'] == s) = false := by simpa using fun e : ['N', 'S'] = s => h6 e.symm
  have e7 : (['E', 'W'] == s) = false := by simpa using fun e : ['E', 'W'] = s => h7 e.symm
  have e8 : (['N', 'O', 'N', 'E'] == s) = false := by simpa using fun e : ['N', 'O', 'N', 'E'] = s => h8 e.symm
  have e9 : (['B', 'O', 'T', 'H'] == s) = false := by simpa using fun e : ['B', 'O', 'T', 'H'] = s => h9 e.symm
  have hmv : memberValue? (clsOf n_Vul) s = none := by
    simp only [memberValue?, hm, List.find?_cons, List.find?_nil, e6, e7, e8, e9, Option.map]
  rw [callF_def]
  simp only [m_Vul_str_to_vul, bindParams, Option.map]
  ppsimp [containsVal, List.any, beq_str_decide, Bool.or_false, Bool.or_true, Bool.true_or, Bool.false_or, bne, jp_cls_Vul,
    h1, h2, h3, h4, h5, Ne.symm h1, Ne.symm h2, Ne.symm h3, Ne.symm h4, Ne.symm h5, hmv, decide_false, decide_true]

end Bridge.Translated
