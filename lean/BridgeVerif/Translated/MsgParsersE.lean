import BridgeVerif.Translated.MsgParsersD
/-! Translated `MessageInterface.parse_card` (socket_interface.py), the REFUSING direction: for every text of the class
`RegexMsgBid.agree` (every ASCII text), every seat and every fuel ≥ 20, if the model's `parseCard?` refuses the text then the
generated `parse_card` raises — `Exception` (the pattern does not match), `IndexError` (fewer than two characters after
`plays `), `ValueError` (no rank character; rank 0 or 1) or `KeyError` (no suit letter). -/
namespace Bridge.Translated.MsgParsers
open Bridge Bridge.Py Bridge.Generated.PyCore Bridge.Translated Bridge.RegexHands Bridge.RegexMsgBid
open Bridge.Translated.HandsPbn

/-- the classes `parse_card` raises -/
def cardErrs : List Id := [K.Exception, K.IndexError, K.ValueError, K.KeyError]

/-- `parse_card` REFUSES WHAT THE MODEL REFUSES: every text of the class `agree`, every seat, every fuel ≥ 20 -/
theorem parse_card_refuses (content : List Char) (hs : ∀ x ∈ content, agree x = true) (p : Seat)
    (h : parseCard? content p = none) :
    ∀ f, 20 ≤ f → ∃ c ∈ cardErrs,
      callFn P f m_MessageInterface_parse_card [.str content, encSeat p] = .error (.exc c) := by
  intro f hf
  obtain ⟨g, rfl⟩ : ∃ g, f = g + 20 := ⟨f - 20, by omega⟩
  have := mp_parse_card_all g content hs p _ rfl
  rw [h] at this
  exact this

theorem parse_card_refuses_ascii (content : List Char) (hs : ∀ x ∈ content, x.toNat < 128) (p : Seat)
    (h : parseCard? content p = none) :
    ∀ f, 20 ≤ f → ∃ c ∈ cardErrs,
      callFn P f m_MessageInterface_parse_card [.str content, encSeat p] = .error (.exc c) :=
  parse_card_refuses content (fun x hx => agree_ascii x (hs x hx)) p h

end Bridge.Translated.MsgParsers
