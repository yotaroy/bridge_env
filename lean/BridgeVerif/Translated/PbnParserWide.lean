import BridgeVerif.Translated.PbnParserClosed
/-!
# pbn_handler/parser.py AS TRANSLATED = the model, for lines of up to 478 characters  (C17)

`Translated/PbnParser.lean` bounds a line by 239 characters (four levels of fuel per character for the recursion of
`extract_content`).  PBN 2.1 allows 255 characters per line, and the library's own writer emits lines of up to 255
characters including the line feed.  Here the finer measure `s.length + (1 inside a comment)` is used: every recursive
call of `extract_content` lowers it by at least TWO —
* leaving a comment (`'}' in string`): the `}` is dropped and the comment flag falls;
* the `; ` branch with a tag pair around the `;`: the remainder starts at `tag_pair.end() > x ≥ 1`, i.e. at least 2 further;
* the `{ ` branch: `y ≥ 1`, and the two characters of the marker are dropped (≥ 3 characters for the rising flag) —
so `f + 4 * n + 16` levels serve every string with `s.length + flag < 2 * n` (`pp_extract_call`): two levels per
character.  With `topFuel = 1000`:

* `pp_extract_content_wide` — `s.length ≤ 488`;
* `pp_parse_stream_wide` — every line `≤ 480` characters; `pp_parse_all_wide` — every line `≤ 478` characters;
  `…_from` variants from any parser state; `…_no_pct` variants for files without `%` lines;
* `pp_parse_stream_wide_empty_line`, `pp_parse_all_wide_empty_line` — the guard: when an EMPTY line follows good lines,
  `line[0]` raises `IndexError` (a file object never yields an empty line; the lines after it are arbitrary);
* `…_closed` versions with `pbnRegexFacts` / `sub_matches_nonempty` (Lemmas/RegexPbn.lean) plugged in.

Hypotheses: as in `Translated/PbnParser.lean` (`PbnRegexFacts`, `PbnSubNonempty`, non-empty lines, `pctLineOk` for the
lines that start with `%`), with the wider length bound — still only a limit of the interpreter's fuel.  The number of
lines is unbounded.
-/
namespace Bridge.Translated
open Bridge Bridge.Py Bridge.Generated.PyCore Bridge.RegexPbn

theorem pp_extract_content_wide (hf : PbnRegexFacts) (st : PbnSt) (cl cb : List Str) (s : Str)
    (hlen : s.length ≤ 488) :
    ∃ cl' cb', P.runMethod n_PbnParser n_extract_content [encPbnParser st cl cb, .str s]
      = .ok (.none, encPbnParser (extractContent (s.length + 1) st s) cl' cb') := by
  rw [pp_runMethod_eq _ _ _ _ _ pp_mth_extract]
  have hb : st.inComment.toNat ≤ 1 := Bool.toNat_le _
  exact pp_extract_call hf 245 3 (s.length + 1) st cl cb s (by omega) (Nat.lt_succ_self _)

/-! ## `parse_stream` -/
theorem pp_parse_stream_wide_from (hf : PbnRegexFacts) (hne : PbnSubNonempty) (lines : List Str)
    (hok : ∀ l ∈ lines, l ≠ [] ∧ l.length ≤ 480) (hpct : ∀ l ∈ lines, l.head? = some '%' → pctLineOk l = true)
    (st : PbnSt) (cl cb : List Str) :
    ∃ st' cl' cb', P.runMethod n_PbnParser n_parse_stream [encPbnParser st cl cb, .tuple (lines.map Val.str)]
      = .ok (.tuple ((streamFrom st lines).map encGame), encPbnParser st' cl' cb') := by
  rw [pp_runMethod_eq _ _ _ _ _ pp_mth_stream]
  exact pp_stream_call hf hne 2 241 lines (pp_linesOk 241 480 (by decide) lines hok hpct) st cl cb

theorem pp_parse_stream_wide (hf : PbnRegexFacts) (hne : PbnSubNonempty) (lines : List Str)
    (hok : ∀ l ∈ lines, l ≠ [] ∧ l.length ≤ 480) (hpct : ∀ l ∈ lines, l.head? = some '%' → pctLineOk l = true) :
    ∃ self', P.runMethod n_PbnParser n_parse_stream [encPbnParser {} [] [], .tuple (lines.map Val.str)]
      = .ok (.tuple ((parseStream lines).map encGame), self') := by
  obtain ⟨st', cl', cb', h⟩ := pp_parse_stream_wide_from hf hne lines hok hpct {} [] []
  exact ⟨_, h⟩

theorem pp_parse_stream_wide_empty_line (hf : PbnRegexFacts) (hne : PbnSubNonempty) (pre post : List Str)
    (hok : ∀ l ∈ pre, l ≠ [] ∧ l.length ≤ 480) (hpct : ∀ l ∈ pre, l.head? = some '%' → pctLineOk l = true)
    (st : PbnSt) (cl cb : List Str) :
    P.runMethod n_PbnParser n_parse_stream [encPbnParser st cl cb, .tuple ((pre ++ [] :: post).map Val.str)]
      = .error (.exc K.IndexError) := by
  rw [pp_runMethod_eq _ _ _ _ _ pp_mth_stream]
  exact pp_stream_call_empty hf hne 2 241 pre post (pp_linesOk 241 480 (by decide) pre hok hpct) st cl cb

/-! ## `parse_all` -/
theorem pp_parse_all_wide_from (hf : PbnRegexFacts) (hne : PbnSubNonempty) (lines : List Str)
    (hok : ∀ l ∈ lines, l ≠ [] ∧ l.length ≤ 478) (hpct : ∀ l ∈ lines, l.head? = some '%' → pctLineOk l = true)
    (st : PbnSt) (cl cb : List Str) :
    ∃ st' cl' cb', P.runMethod n_PbnParser n_parse_all [encPbnParser st cl cb, .tuple (lines.map Val.str)]
      = .ok (.tuple ((streamFrom st lines).map encGame), encPbnParser st' cl' cb') := by
  rw [pp_runMethod_eq _ _ _ _ _ pp_mth_all]
  exact pp_all_call hf hne 3 240 lines (pp_linesOk 240 478 (by decide) lines hok hpct) st cl cb

/-- THE TRANSLATED `PbnParser().parse_all(lines)` returns the model's games: lines of up to 478 characters -/
theorem pp_parse_all_wide (hf : PbnRegexFacts) (hne : PbnSubNonempty) (lines : List Str)
    (hok : ∀ l ∈ lines, l ≠ [] ∧ l.length ≤ 478) (hpct : ∀ l ∈ lines, l.head? = some '%' → pctLineOk l = true) :
    ∃ self', P.runMethod n_PbnParser n_parse_all [encPbnParser {} [] [], .tuple (lines.map Val.str)]
      = .ok (.tuple ((parseStream lines).map encGame), self') := by
  obtain ⟨st', cl', cb', h⟩ := pp_parse_all_wide_from hf hne lines hok hpct {} [] []
  exact ⟨_, h⟩

theorem pp_parse_all_wide_no_pct (hf : PbnRegexFacts) (hne : PbnSubNonempty) (lines : List Str)
    (hok : ∀ l ∈ lines, l ≠ [] ∧ l.length ≤ 478) (hno : ∀ l ∈ lines, l.head? ≠ some '%') :
    ∃ self', P.runMethod n_PbnParser n_parse_all [encPbnParser {} [] [], .tuple (lines.map Val.str)]
      = .ok (.tuple ((parseStream lines).map encGame), self') :=
  pp_parse_all_wide hf hne lines hok fun l hl h => absurd h (hno l hl)

theorem pp_parse_all_wide_empty_line (hf : PbnRegexFacts) (hne : PbnSubNonempty) (pre post : List Str)
    (hok : ∀ l ∈ pre, l ≠ [] ∧ l.length ≤ 478) (hpct : ∀ l ∈ pre, l.head? = some '%' → pctLineOk l = true)
    (st : PbnSt) (cl cb : List Str) :
    P.runMethod n_PbnParser n_parse_all [encPbnParser st cl cb, .tuple ((pre ++ [] :: post).map Val.str)]
      = .error (.exc K.IndexError) := by
  rw [pp_runMethod_eq _ _ _ _ _ pp_mth_all]
  exact pp_all_call_empty hf hne 3 240 pre post (pp_linesOk 240 478 (by decide) pre hok hpct) st cl cb

/-! ## with the regular-expression facts of Lemmas/RegexPbn.lean -/
theorem pp_extract_content_wide_closed (st : PbnSt) (cl cb : List Str) (s : Str) (hlen : s.length ≤ 488) :
    ∃ cl' cb', P.runMethod n_PbnParser n_extract_content [encPbnParser st cl cb, .str s]
      = .ok (.none, encPbnParser (extractContent (s.length + 1) st s) cl' cb') :=
  pp_extract_content_wide pbnRegexFacts st cl cb s hlen

theorem pp_parse_stream_wide_closed (lines : List Str)
    (hok : ∀ l ∈ lines, l ≠ [] ∧ l.length ≤ 480) (hpct : ∀ l ∈ lines, l.head? = some '%' → pctLineOk l = true) :
    ∃ self', P.runMethod n_PbnParser n_parse_stream [encPbnParser {} [] [], .tuple (lines.map Val.str)]
      = .ok (.tuple ((parseStream lines).map encGame), self') :=
  pp_parse_stream_wide pbnRegexFacts pbnSubNonempty lines hok hpct

theorem pp_parse_all_wide_closed (lines : List Str)
    (hok : ∀ l ∈ lines, l ≠ [] ∧ l.length ≤ 478) (hpct : ∀ l ∈ lines, l.head? = some '%' → pctLineOk l = true) :
    ∃ self', P.runMethod n_PbnParser n_parse_all [encPbnParser {} [] [], .tuple (lines.map Val.str)]
      = .ok (.tuple ((parseStream lines).map encGame), self') :=
  pp_parse_all_wide pbnRegexFacts pbnSubNonempty lines hok hpct

theorem pp_parse_all_wide_closed_no_pct (lines : List Str)
    (hok : ∀ l ∈ lines, l ≠ [] ∧ l.length ≤ 478) (hno : ∀ l ∈ lines, l.head? ≠ some '%') :
    ∃ self', P.runMethod n_PbnParser n_parse_all [encPbnParser {} [] [], .tuple (lines.map Val.str)]
      = .ok (.tuple ((parseStream lines).map encGame), self') :=
  pp_parse_all_wide_no_pct pbnRegexFacts pbnSubNonempty lines hok hno

theorem pp_parse_all_wide_empty_line_closed (pre post : List Str)
    (hok : ∀ l ∈ pre, l ≠ [] ∧ l.length ≤ 478) (hpct : ∀ l ∈ pre, l.head? = some '%' → pctLineOk l = true)
    (st : PbnSt) (cl cb : List Str) :
    P.runMethod n_PbnParser n_parse_all [encPbnParser st cl cb, .tuple ((pre ++ [] :: post).map Val.str)]
      = .error (.exc K.IndexError) :=
  pp_parse_all_wide_empty_line pbnRegexFacts pbnSubNonempty pre post hok hpct st cl cb

end Bridge.Translated
