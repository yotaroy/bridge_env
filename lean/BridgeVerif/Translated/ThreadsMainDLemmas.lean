import BridgeVerif.Translated.ThreadsMainC
import BridgeVerif.Lemmas.MainThread
/-! Capstone of the main thread, (3), the parse hypotheses: the streams of a session consist of the decisions' texts, so
they are `Good` (Translated/ThreadsMainCLemmasParse.lean) when these are plain ASCII -/
namespace Bridge.Translated.MainD
open Bridge Bridge.Py Bridge.Generated.PyCore
open Bridge.Translated.MainA Bridge.Translated.MainB Bridge.Translated.MainC

theorem t2m_callPhases (p dealer : Seat) (m : Text) : ∀ (l : List (Call × Text)) (j : Nat),
    m ∈ (callPhases dealer j l).flatMap (t2mOf p) → m ∈ l.map (·.2) := by
  intro l
  induction l with
  | nil => intro j h; simp [callPhases] at h
  | cons x r ih =>
    intro j h
    obtain ⟨c, text⟩ := x
    simp only [callPhases, List.flatMap_cons, List.mem_append, t2mOf_call] at h
    rcases h with h | h
    · split at h
      · simp only [List.mem_singleton] at h; subst h; simp
      · cases h
    · exact List.mem_cons_of_mem _ (ih (j + 1) h)

theorem t2m_cardPhases (p d : Seat) (deal : Hands) (m : Text) : ∀ (l : List (Card × Text)) (s : PState) (j : Nat),
    m ∈ (cardPhases d deal s j l).flatMap (t2mOf p) → m ∈ l.map (·.2) := by
  intro l
  induction l with
  | nil => intro s j h; simp [cardPhases] at h
  | cons x r ih =>
    intro s j h
    obtain ⟨c, text⟩ := x
    simp only [cardPhases, List.flatMap_cons, List.mem_append, t2mOf_card] at h
    rcases h with h | h
    · split at h
      · simp only [List.mem_singleton] at h; subst h; simp
      · cases h
    · exact List.mem_cons_of_mem _ (ih _ (j + 1) h)

theorem t2m_boardPhases (sc : Scenario) (k : Nat) (last : Bool) (b : BoardSetting) (d : Decisions) (p : Seat) (m : Text)
    (h : m ∈ (boardPhases sc k last b d).flatMap (t2mOf p)) :
    m ∈ d.calls.map (·.2) ∨ m ∈ d.cards.map (·.2) := by
  unfold boardPhases at h
  simp only [List.flatMap_append, List.flatMap_cons, List.flatMap_nil, List.mem_append, t2mOf_deal, t2mOf_auctionEnd,
    List.append_nil, List.not_mem_nil, false_or] at h
  rcases h with (h | h) | h
  · exact Or.inl (t2m_callPhases p _ m _ _ h)
  · split at h
    · simp only [List.flatMap_cons, t2mOf_playStart, List.nil_append] at h
      exact Or.inr (t2m_cardPhases p _ _ m _ _ _ h)
    · simp at h
  · cases last <;> simp at h

theorem t2m_boardsPhases (sc : Scenario) (p : Seat) (m : Text) : ∀ (boards : List (BoardSetting × Decisions)) (k : Nat),
    m ∈ (boardsPhases sc k boards).flatMap (t2mOf p) →
    ∃ bd ∈ boards, m ∈ bd.2.calls.map (·.2) ∨ m ∈ bd.2.cards.map (·.2) := by
  intro boards
  induction boards with
  | nil => intro k h; simp [boardsPhases] at h
  | cons x r ih =>
    intro k h
    obtain ⟨b, d⟩ := x
    cases r with
    | nil =>
      simp only [boardsPhases] at h
      exact ⟨(b, d), List.mem_cons_self, t2m_boardPhases sc k true b d p m h⟩
    | cons y r' =>
      rw [boardsPhases] at h
      · rw [List.flatMap_append, List.mem_append] at h
        rcases h with h | h
        · exact ⟨(b, d), List.mem_cons_self, t2m_boardPhases sc k false b d p m h⟩
        · obtain ⟨bd, hbd, hm⟩ := ih (k + 1) h
          exact ⟨bd, List.mem_cons_of_mem _ hbd, hm⟩
      · simp

/-- the streams of a session feed the boards -/
theorem session_feeds (sc : Scenario) :
    Feeds (fun p => sendsOn (Chan.t2m p) (sessionProg sc (.seat p))) (boardsPhases sc 1 sc.boards) (fun _ => []) := by
  intro p
  show sendsOn (Chan.t2m p) (sessionProg sc (.seat p)) = _
  unfold sessionProg sessionPhases
  rw [sendsOn_progOfPhases, List.flatMap_cons]
  show t2mOf p _ ++ List.flatMap (t2mOf p) _ = _
  simp

/-- every message a seat thread forwards to main in a session is the text of a call or of a card of some board -/
theorem session_stream_mem (sc : Scenario) (p : Seat) (m : Text)
    (h : m ∈ sendsOn (Chan.t2m p) (sessionProg sc (.seat p))) :
    ∃ bd ∈ sc.boards, m ∈ bd.2.calls.map (·.2) ∨ m ∈ bd.2.cards.map (·.2) := by
  have hf := session_feeds sc p
  simp only [List.append_nil] at hf
  rw [hf] at h
  exact t2m_boardsPhases sc p m sc.boards 1 h

end Bridge.Translated.MainD

namespace Bridge.Translated.MainE
open Bridge Bridge.Py Bridge.Generated.PyCore
open Bridge.Translated.MainD

/-- every text the players send is plain ASCII -/
def AsciiTexts (sc : Scenario) : Prop :=
  ∀ bd ∈ sc.boards, (∀ x ∈ bd.2.calls, PlainAscii x.2) ∧ (∀ x ∈ bd.2.cards, PlainAscii x.2)

theorem session_streams_ascii (sc : Scenario) (hp : AsciiTexts sc) :
    ∀ p, ∀ m ∈ sendsOn (Chan.t2m p) (sessionProg sc (.seat p)), PlainAscii m := by
  intro p m hm
  obtain ⟨bd, hbd, h | h⟩ := session_stream_mem sc p m hm
  · obtain ⟨x, hx, rfl⟩ := List.mem_map.1 h
    exact (hp bd hbd).1 x hx
  · obtain ⟨x, hx, rfl⟩ := List.mem_map.1 h
    exact (hp bd hbd).2 x hx

end Bridge.Translated.MainE
