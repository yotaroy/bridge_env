import BridgeVerif.Translated.ThreadsSeatD
import BridgeVerif.Translated.ConnectInfo
import BridgeVerif.Props.C19
import BridgeVerif.Lemmas.RegexConnectB
/-!
# The capstone of the seat thread WITHOUT the hypothesis `hparse`

`SeatD.translated_seat_thread_is_session_program_of_ready` assumes that the translated
`PlayerThread.parse_connection_info` reads the request text as `(team, p, 18)`.  Here that hypothesis is PROVED for the
requests the protocol prescribes — `connectMsg team seat v` (Model/Msg.lean; with `v = 18` the text the translated
client's `_connect` sends, `ct_connectMsg_18`), `seat` any letter-case variant of the seat's name, `team` any name
without `"`, line feed, carriage return (`NameOK`, the hypothesis of `C19.connect_round_trip`) whose characters are in the
class `RegexConnect.agree` (every ASCII character is; see Lemmas/RegexConnect.lean) — by composing

* `C19.connect_round_trip` (the model's parser reads the model's builder back),
* `ConnectInfo.parse_connection_info_ok` (the translated method = the model's parser, through the regex engine).
-/
namespace Bridge.Translated.SeatE
open Bridge Bridge.Py Bridge.Generated.PyCore Bridge.RegexConnect
open Bridge.Translated.SeatB (encSeatThread0 encTable threadName optText)
open Bridge.Translated.SeatC (seatingOps advBoards)

theorem agree_of_digit (c : Char) (h : Bridge.isDigit c = true) : agree c = true := by
  apply agree_ascii
  simp only [Bridge.isDigit, decide_eq_true_eq, Char.le_def, UInt32.le_iff_toNat_le] at h
  have : c.toNat = c.val.toNat := rfl
  have h2 := h.2
  have e : ('9' : Char).val.toNat = 57 := rfl
  omega

theorem agree_lit (s : Str) (h : s.all (fun c => decide (c.toNat < 128)) = true) : ∀ x ∈ s, agree x = true :=
  fun x hx => agree_ascii x (of_decide_eq_true (List.all_eq_true.mp h x hx))

/-- every character of a protocol request is in the class when those of the team and seat texts are -/
theorem connectMsg_agree (team seat : Str) (v : Nat) (ht : ∀ x ∈ team, agree x = true) (hs : ∀ x ∈ seat, agree x = true) :
    ∀ x ∈ connectMsg team seat v, agree x = true := by
  intro x hx
  unfold connectMsg at hx
  simp only [List.mem_append] at hx
  rcases hx with (((((hx | hx) | hx) | hx) | hx) | hx)
  · exact agree_lit _ (by decide +kernel) x hx
  · exact ht x hx
  · exact agree_lit _ (by decide +kernel) x hx
  · exact hs x hx
  · exact agree_lit _ (by decide +kernel) x hx
  · exact agree_of_digit x (natStr_digits v x hx)

theorem formal_agree (p : Seat) : ∀ x ∈ p.formal, agree x = true :=
  agree_lit _ (by cases p <;> decide +kernel)

/-- THE HYPOTHESIS `hparse`, PROVED: the translated `parse_connection_info` reads a protocol request (seat name in any
letter case, any protocol version) as `(team, p, v)`, at every fuel ≥ 31 -/
theorem connect_request_parses_variant (team : Str) (ht : NameOK team) (hta : ∀ x ∈ team, agree x = true) (p : Seat)
    (seat : Str) (hs : CaseVariant seat p.formal) (hsa : ∀ x ∈ seat, agree x = true) (v : Nat) :
    ∀ g, 31 ≤ g → callFn P g m_PlayerThread_parse_connection_info [.str (connectMsg team seat v)]
      = .ok (.tuple [.str team, encSeat p, .int v], .str (connectMsg team seat v)) :=
  fun g hg => ConnectInfo.parse_connection_info_ok _ (connectMsg_agree team seat v hta hsa) team p v
    (C19.connect_round_trip team ht p seat hs v) g hg

/-- … for the request `Connecting "<team>" as <Seat> using protocol version 18` -/
theorem connect_request_parses (team : Str) (ht : NameOK team) (hta : ∀ x ∈ team, agree x = true) (p : Seat) :
    ∀ g, 31 ≤ g → callFn P g m_PlayerThread_parse_connection_info [.str (connectMsg team p.formal 18)]
      = .ok (.tuple [.str team, encSeat p, .int 18], .str (connectMsg team p.formal 18)) :=
  connect_request_parses_variant team ht hta p p.formal (show CaseVariant p.formal p.formal from rfl) (formal_agree p) 18

/-- … in particular for an ASCII team name -/
theorem connect_request_parses_ascii (team : Str) (ht : NameOK team) (hta : ∀ x ∈ team, x.toNat < 128) (p : Seat) :
    ∀ g, 31 ≤ g → callFn P g m_PlayerThread_parse_connection_info [.str (connectMsg team p.formal 18)]
      = .ok (.tuple [.str team, encSeat p, .int 18], .str (connectMsg team p.formal 18)) :=
  connect_request_parses team ht (fun x hx => agree_ascii x (hta x hx)) p

/-- … for a team name of ANY characters but `"`, LF, CR and the non-ASCII Unicode decimal digits
(`RegexConnect.agree_of_not_digit`: the class `agree` holds of every other character) -/
theorem connect_request_parses_nodigit (team : Str) (ht : NameOK team)
    (hta : ∀ x ∈ team, x.toNat < 128 ∨ Re.isDigit x = false) (p : Seat) :
    ∀ g, 31 ≤ g → callFn P g m_PlayerThread_parse_connection_info [.str (connectMsg team p.formal 18)]
      = .ok (.tuple [.str team, encSeat p, .int 18], .str (connectMsg team p.formal 18)) :=
  connect_request_parses team ht (fun x hx => by
    rcases hta x hx with h | h
    · exact agree_ascii x h
    · exact agree_of_not_digit x h) p

/-- THE CAPSTONE, WITHOUT `hparse`.  A playable scenario `sc` with at least one board, a seat `p`; the connection
delivers the protocol request `Connecting "<team>" as <seat> using protocol version 18` (`seat` = the seat's name in any
letter case; `team` without `"`, LF, CR and with characters in the class `agree`, e.g. ASCII), then `ready` (any text
passing the check against `<p> ready for teams`), then EXACTLY what the session model's client of `p` sends; the queue
delivers EXACTLY what the session model's main thread sends to `p`; `admitReq` seats the request on `t`; the table after the
seating barrier has `sc.nsName` at North and `sc.ewName` at East.  Then the generated `SeatThread.run` returns `None`, has
consumed both streams entirely, and the world has recorded, after the five admission operations, EXACTLY the rendering of
the session program `sessionProg sc (.seat p)`. -/
theorem translated_seat_thread_is_session_program_protocol (sc : Scenario) (h : sc.boards ≠ [])
    (hw : ScenarioPlayable sc) (p : Seat) (f : Nat) (seat ready : Str) (out : List Val) (t : Table)
    (tables : List Table) (team : Str)
    (ht : NameOK team) (hta : ∀ x ∈ team, agree x = true)
    (hs : CaseVariant seat p.formal) (hsa : ∀ x ∈ seat, agree x = true)
    (hf : 31 + (sendsOn (Chan.m2t p) (sessionProg sc .main)).length + 113 ≤ f)
    (hv : (admitReq t ⟨team, p, 18⟩).2 = .seated)
    (hr : SeatB.passesCheck (p.formal ++ " ready for teams".toList) ready)
    (hN : optText ((tables.headD (admitReq t ⟨team, p, 18⟩).1) .N) = sc.nsName)
    (hE : optText ((tables.headD (admitReq t ⟨team, p, 18⟩).1) .E) = sc.ewName) :
    ∃ ops, encSeatActs p (sessionProg sc (.seat p)) = some ops ∧
      callFn P f m_SeatThread_run
          [encSeatThread0 (encSeatWorld p (sendsOn (Chan.m2t p) (sessionProg sc .main))
            (connectMsg team seat 18 :: ready :: sendsOn (Chan.c2s p) (sessionProg sc (.client p))) out (encTable t)
            (tables.map encTable))]
        = .ok (.none, encSeatThread p (encSeatWorld p [] []
            (out ++ seatingOps p team (replyText ⟨team, p, 18⟩ t .seated) ++ ops)
            (advBoards sc.boards.length
              (encTable (tables.headD (admitReq t ⟨team, p, 18⟩).1), tables.tail.map encTable)).1
            (advBoards sc.boards.length
              (encTable (tables.headD (admitReq t ⟨team, p, 18⟩).1), tables.tail.map encTable)).2)
            [(K.name, .str (threadName p team))]) :=
  SeatD.translated_seat_thread_is_session_program_of_ready sc h hw p 31 f (connectMsg team seat 18) ready out t tables team
    (.str (connectMsg team seat 18)) hf (connect_request_parses_variant team ht hta p seat hs hsa 18) hv hr hN hE

/-- the capstone for an ASCII team name, the seat named as the protocol writes it, and the conforming admission text
`<p> ready for teams` -/
theorem translated_seat_thread_is_session_program_ascii (sc : Scenario) (h : sc.boards ≠ [])
    (hw : ScenarioPlayable sc) (p : Seat) (f : Nat) (out : List Val) (t : Table) (tables : List Table) (team : Str)
    (ht : NameOK team) (hta : ∀ x ∈ team, x.toNat < 128)
    (hf : 31 + (sendsOn (Chan.m2t p) (sessionProg sc .main)).length + 113 ≤ f)
    (hv : (admitReq t ⟨team, p, 18⟩).2 = .seated)
    (hN : optText ((tables.headD (admitReq t ⟨team, p, 18⟩).1) .N) = sc.nsName)
    (hE : optText ((tables.headD (admitReq t ⟨team, p, 18⟩).1) .E) = sc.ewName) :
    ∃ ops, encSeatActs p (sessionProg sc (.seat p)) = some ops ∧
      callFn P f m_SeatThread_run
          [encSeatThread0 (encSeatWorld p (sendsOn (Chan.m2t p) (sessionProg sc .main))
            (connectMsg team p.formal 18 :: (p.formal ++ " ready for teams".toList) ::
              sendsOn (Chan.c2s p) (sessionProg sc (.client p))) out (encTable t) (tables.map encTable))]
        = .ok (.none, encSeatThread p (encSeatWorld p [] []
            (out ++ seatingOps p team (replyText ⟨team, p, 18⟩ t .seated) ++ ops)
            (advBoards sc.boards.length
              (encTable (tables.headD (admitReq t ⟨team, p, 18⟩).1), tables.tail.map encTable)).1
            (advBoards sc.boards.length
              (encTable (tables.headD (admitReq t ⟨team, p, 18⟩).1), tables.tail.map encTable)).2)
            [(K.name, .str (threadName p team))]) :=
  translated_seat_thread_is_session_program_protocol sc h hw p f p.formal _ out t tables team ht
    (fun x hx => agree_ascii x (hta x hx)) (show CaseVariant p.formal p.formal from rfl) (formal_agree p) hf hv (SeatD.ready_teams_passes p) hN hE

/-! ## non-vacuity: team Alpha, North, on the one-board scenario of Translated/ThreadsSeatD.lean -/

theorem alpha_ok : NameOK "Alpha".toList := by unfold NameOK; decide +kernel
theorem alpha_ascii : ∀ x ∈ "Alpha".toList, x.toNat < 128 := by decide +kernel

/-- the hypothesis `hparse` of the capstone, for North of team Alpha -/
example : ∀ g, 31 ≤ g → callFn P g m_PlayerThread_parse_connection_info
      [.str "Connecting \"Alpha\" as North using protocol version 18".toList]
    = .ok (.tuple [.str "Alpha".toList, encSeat .N, .int 18],
        .str "Connecting \"Alpha\" as North using protocol version 18".toList) := by
  have e : connectMsg "Alpha".toList Seat.N.formal 18 = "Connecting \"Alpha\" as North using protocol version 18".toList := by
    decide +kernel
  rw [← e]
  exact connect_request_parses_ascii _ alpha_ok alpha_ascii .N

/-- a team name outside ASCII -/
example : ∀ g, 31 ≤ g → callFn P g m_PlayerThread_parse_connection_info
      [.str (connectMsg "Équipe Ålpha ſK".toList Seat.W.formal 18)]
    = .ok (.tuple [.str "Équipe Ålpha ſK".toList, encSeat .W, .int 18],
        .str (connectMsg "Équipe Ålpha ſK".toList Seat.W.formal 18)) :=
  connect_request_parses_nodigit _ (by unfold NameOK; decide +kernel) (by decide +kernel) .W

/-- North connects with the protocol's request to the table where South (Alpha) and East (Beta) sit: the translated
`run()` performs the five admission operations and then exactly the session program of `Tid.seat .N` -/
example : ∀ f, 31 + (sendsOn (Chan.m2t .N) (sessionProg SeatD.exSc .main)).length + 113 ≤ f →
    ∃ ops, encSeatActs .N (sessionProg SeatD.exSc (.seat .N)) = some ops ∧
      callFn P f m_SeatThread_run
          [encSeatThread0 (encSeatWorld .N (sendsOn (Chan.m2t .N) (sessionProg SeatD.exSc .main))
            (connectMsg "Alpha".toList Seat.N.formal 18 :: (Seat.N.formal ++ " ready for teams".toList) ::
              sendsOn (Chan.c2s .N) (sessionProg SeatD.exSc (.client .N)))
            [] (encTable SeatB.exTable) ([SeatB.exFull].map encTable))]
        = .ok (.none, encSeatThread .N (encSeatWorld .N [] []
            ([] ++ seatingOps .N "Alpha".toList (replyText ⟨"Alpha".toList, .N, 18⟩ SeatB.exTable .seated) ++ ops)
            (advBoards SeatD.exSc.boards.length
              (encTable ([SeatB.exFull].headD (admitReq SeatB.exTable ⟨"Alpha".toList, .N, 18⟩).1),
              [SeatB.exFull].tail.map encTable)).1
            (advBoards SeatD.exSc.boards.length
              (encTable ([SeatB.exFull].headD (admitReq SeatB.exTable ⟨"Alpha".toList, .N, 18⟩).1),
              [SeatB.exFull].tail.map encTable)).2)
            [(K.name, .str (threadName .N "Alpha".toList))]) := by
  intro f hf
  exact translated_seat_thread_is_session_program_ascii SeatD.exSc SeatD.exSc_boards SeatD.exSc_playable .N f []
    SeatB.exTable [SeatB.exFull] "Alpha".toList alpha_ok alpha_ascii hf (by decide +kernel) rfl rfl

end Bridge.Translated.SeatE
