import BridgeVerif.Translated.HandsLemmasA
/-! Translated `Hands` (hands.py) = model: `Card.__post_init__`, `Card.int_to_card`, `Hands.__init__`, and
`convert_binary` (one turn of `for i in range(52)` by cases on the owner of the slot, the loop by induction) -/
namespace Bridge.Translated
open Bridge Bridge.Py Bridge.Generated.PyCore

theorem hd_fmod13 (i : Nat) : Int.fmod (i : Int) 13 = ((i % 13 : Nat) : Int) := by
  rw [Int.fmod_eq_emod_of_nonneg _ (by decide)]; omega
theorem hd_fdiv13 (i : Nat) : Int.fdiv (i : Int) 13 = ((i / 13 : Nat) : Int) := by
  rw [Int.fdiv_eq_ediv_of_nonneg _ (by decide)]; omega


/-- `Card.__post_init__` accepts a valid card -/
theorem hd_post_init_call (f : Nat) (c : Card) (h : c.ok = true) :
    callF (mkRec P (f+8)) m_Card___post_init__ [encCard c] = .ok (.none, encCard c) := by
  rw [callF_def]
  simp only [m_Card___post_init__, bindParams, Option.map, encCard]
  simp only [Card.ok, Bool.and_eq_true, decide_eq_true_eq] at h
  have h1 : ¬ ((c.rank : Int) < 2) := by omega
  have h2 : ¬ (14 < (c.rank : Int)) := by omega
  ppsimp [h1, h2, beq_encSuit_NT, h.2]

theorem hd_construct_card (f : Nat) (c : Card) (h : c.ok = true) :
    constructF (mkRec P (f+9)) P n_Card [.int c.rank, encSuit c.suit] = .ok (encCard c) := by
  have e : constructF (mkRec P (f+9)) P n_Card [.int c.rank, encSuit c.suit]
      = (callF (mkRec P (f+8)) m_Card___post_init__ [encCard c] >>= fun x => pure x.2) := rfl
  rw [e, hd_post_init_call f c h]; rfl

theorem hd_construct_suit (r : Rec) (s : Suit) : constructF r P n_Suit [.int s.value] = .ok (encSuit s) := by
  cases s <;> rfl

theorem hd_int_to_card_call (f : Nat) (i : Nat) (c : Card) (hc : Card.ofIdx? i = some c) :
    callF (mkRec P (f+20)) m_Card_int_to_card [.cls n_Card, .int i] = .ok (encCard c, .cls n_Card) := by
  obtain ⟨hok, hidx⟩ := ofIdx_some hc
  have hv : 1 ≤ c.suit.value ∧ c.suit.value ≤ 4 := by
    have := hok; simp only [Card.ok, Bool.and_eq_true, decide_eq_true_eq] at this
    cases hs : c.suit <;> simp_all [Suit.value]
  have hr : 2 ≤ c.rank ∧ c.rank ≤ 14 := by
    have := hok; simp only [Card.ok, Bool.and_eq_true, decide_eq_true_eq] at this; exact this.1
  simp only [Card.idx] at hidx
  have e1 : ((i % 13 : Nat) : Int) + 2 = (c.rank : Int) := by omega
  have e2 : ((i / 13 : Nat) : Int) + 1 = (c.suit.value : Int) := by omega
  have h1 : ¬ ((i : Int) < 0) := by omega
  have h2 : ¬ (51 < (i : Int)) := by omega
  rw [callF_def]
  simp only [m_Card_int_to_card, bindParams, Option.map]
  ppsimp [h1, h2, hd_fmod13, hd_fdiv13, e1, e2, hd_construct_suit, hd_construct_card _ _ hok]

theorem hd_int_to_card_call' (f : Nat) (i : Nat) (c : Card) (hc : Card.ofIdx? i = some c) :
    callF (mkRec P (f+20)) m_Card_int_to_card [.cls n_Card, .int (Int.ofNat i)] = .ok (encCard c, .cls n_Card) :=
  hd_int_to_card_call f i c hc

/-! ## `convert_binary` -/
def cbBody : List Stmt := match m_Hands_convert_binary.body.getD 4 .pass with
  | .for _ _ b => b
  | _ => []

/-- the argument of `convert_binary`: a dictionary seat ↦ 52-slot vector -/
def bitsKvs (b : Seat → List Nat) : List (Val × Val) :=
  [(encSeat .N, encBits (b .N)), (encSeat .E, encBits (b .E)), (encSeat .S, encBits (b .S)), (encSeat .W, encBits (b .W))]

theorem hd_lookup_bits (b : Seat → List Nat) (p : Seat) : lookupD (bitsKvs b) (encSeat p) = some (encBits (b p)) := by
  cases p <;> simp [lookupD, bitsKvs, encSeat, Val.beq, Seat.value]
theorem hd_index_bits (r : Rec) (l : List Nat) (i : Nat) (h : i < l.length) :
    indexF r P (encBits l) (.int (Int.ofNat i)) = .ok (.int (Int.ofNat (l.getD i 0))) := by
  show indexF r P (encBits l) (.int (i : Int)) = _
  simp only [encBits, index_tuple, Py.asInt_int, List.length_map, hd_normIndex_nat _ _ h]
  congr 1
  simp [List.getD_eq_getElem?_getD, h]

theorem hd_beq_one (x : Nat) : (Val.int (Int.ofNat x)).beq (.int 1) = decide (x = 1) := by
  rw [beq_int, Bool.eq_iff_iff]; simp only [beq_iff_eq, decide_eq_true_eq]
  constructor
  · intro h; have : (x : Int) = 1 := h; omega
  · intro h; subst h; rfl

/-- the owner of slot `i`: the first of N, E, S, W whose vector has a 1 there (`convertBinary`) -/
def owner (b : Seat → List Nat) (i : Nat) : Option Seat :=
  if (b .N).getD i 0 = 1 then some .N else if (b .E).getD i 0 = 1 then some .E
  else if (b .S).getD i 0 = 1 then some .S else if (b .W).getD i 0 = 1 then some .W else none

theorem hd_convertBinary_eq (b : Seat → List Nat) (p : Seat) :
    convertBinary b p = (List.range 52).filterMap fun i => if owner b i = some p then Card.ofIdx? i else none := rfl

/-- the environment of the loop of `convert_binary` -/
def cbEnv (cv : Val) (b : Seat → List Nat) (A : Seat → List Card) (tail : Env) : Env :=
  (n_cls, cv) :: (n_binary_hands, .dict (bitsKvs b)) :: (n_north, .tuple ((A .N).map encCard))
    :: (n_east, .tuple ((A .E).map encCard)) :: (n_south, .tuple ((A .S).map encCard))
    :: (n_west, .tuple ((A .W).map encCard)) :: tail

theorem hd_mth_int_to_card : P.method? classDepth n_Card n_int_to_card = some (n_Card, m_Card_int_to_card) := rfl

theorem hands_cb_body (f : Nat) (cv : Val) (b : Seat → List Nat) (hb : ∀ p, 52 ≤ (b p).length)
    (A : Seat → List Card) (j : Nat) (c : Card) (hc : Card.ofIdx? j = some c) (hnew : ∀ p, c ∉ A p)
    (tail : Env) (hl : lookup tail n_i = some (.int (Int.ofNat j))) :
    execF (mkRec P (f+30)) P (cbEnv cv b A tail) cbBody
      = .ok (cbEnv cv b (fun q => if owner b j = some q then A q ++ [c] else A q) tail, .next) := by
  have hj : j < 52 := by
    unfold Card.ofIdx? at hc; split at hc
    · cases hc
    · omega
  have hi := fun r p => hd_index_bits r (b p) j (Nat.lt_of_lt_of_le hj (hb p))
  simp only [cbBody, m_Hands_convert_binary, List.getD_cons_succ, List.getD_cons_zero, cbEnv]
  by_cases h1 : (b .N).getD j 0 = 1
  · ppsimp [hl, hd_enum_N, hd_lookup_bits, hi, hd_beq_one, h1, hd_mth_int_to_card, hd_int_to_card_call' _ _ _ hc,
      contains_encCard, hnew, owner, map_snoc]
  · by_cases h2 : (b .E).getD j 0 = 1
    · ppsimp [hl, hd_enum_N, hd_enum_E, hd_lookup_bits, hi, hd_beq_one, h1, h2, hd_mth_int_to_card,
        hd_int_to_card_call' _ _ _ hc, contains_encCard, hnew, owner, map_snoc]
    · by_cases h3 : (b .S).getD j 0 = 1
      · ppsimp [hl, hd_enum_N, hd_enum_E, hd_enum_S, hd_lookup_bits, hi, hd_beq_one, h1, h2, h3, hd_mth_int_to_card,
          hd_int_to_card_call' _ _ _ hc, contains_encCard, hnew, owner, map_snoc]
      · by_cases h4 : (b .W).getD j 0 = 1
        · ppsimp [hl, hd_enum_N, hd_enum_E, hd_enum_S, hd_enum_W, hd_lookup_bits, hi, hd_beq_one, h1, h2, h3, h4,
            hd_mth_int_to_card, hd_int_to_card_call' _ _ _ hc, contains_encCard, hnew, owner, map_snoc]
        · ppsimp [hl, hd_enum_N, hd_enum_E, hd_enum_S, hd_enum_W, hd_lookup_bits, hi, hd_beq_one, h1, h2, h3, h4, owner]

/-- the cards collected for seat `p` from the slots `is` -/
def cbAcc (b : Seat → List Nat) (is : List Nat) (p : Seat) : List Card :=
  is.filterMap fun i => if owner b i = some p then Card.ofIdx? i else none

theorem hd_cbAcc_snoc (b : Seat → List Nat) (done : List Nat) (j : Nat) (c : Card) (hc : Card.ofIdx? j = some c) :
    (fun q => if owner b j = some q then cbAcc b done q ++ [c] else cbAcc b done q) = cbAcc b (done ++ [j]) := by
  funext q
  simp only [cbAcc, List.filterMap_append, List.filterMap_cons, List.filterMap_nil]
  by_cases h : owner b j = some q
  · simp only [h, if_true, hc]
  · simp only [h, if_false, List.append_nil]

theorem hd_cbAcc_idx (b : Seat → List Nat) (is : List Nat) (p : Seat) (c : Card) (h : c ∈ cbAcc b is p) : c.idx ∈ is := by
  simp only [cbAcc, List.mem_filterMap] at h
  obtain ⟨i, hi, hc⟩ := h
  split at hc
  · rw [(ofIdx_some hc).2]; exact hi
  · cases hc

theorem hd_cbEnv_update (cv : Val) (b : Seat → List Nat) (A : Seat → List Card) (tail : Env) (v : Val) :
    update (cbEnv cv b A tail) n_i v = cbEnv cv b A (update tail n_i v) := by
  simp +decide only [cbEnv, update, ↓reduceIte]

theorem hands_cb_loop (f : Nat) (cv : Val) (b : Seat → List Nat) (hb : ∀ p, 52 ≤ (b p).length) :
    ∀ (js done : List Nat) (tail : Env), (∀ j ∈ js, j < 52) → (done ++ js).Nodup →
      ∃ tail', forF (mkRec P (f+31)) [n_i] cbBody (cbEnv cv b (cbAcc b done) tail) (js.map fun i => .int (Int.ofNat i))
        = .ok (cbEnv cv b (cbAcc b (done ++ js)) tail', .next) := by
  intro js
  induction js with
  | nil => intro done tail _ _; exact ⟨tail, by simp only [List.map_nil, forF, List.append_nil]; rfl⟩
  | cons j js ih =>
    intro done tail hlt hnd
    have hj : j < 52 := hlt j (List.mem_cons_self ..)
    obtain ⟨c, hc, _, hci⟩ := ofIdx_facts ⟨j, hj⟩
    simp only at hc hci
    have hnew : ∀ p, c ∉ cbAcc b done p := by
      intro p hm
      have h1 := hd_cbAcc_idx b done p c hm
      rw [hci] at h1
      have := List.nodup_append.1 hnd
      exact this.2.2 j h1 j (List.mem_cons_self ..) rfl
    have hbody := hands_cb_body f cv b hb (cbAcc b done) j c hc hnew (update tail n_i (.int (Int.ofNat j)))
      (lookup_update_same _ _ _)
    obtain ⟨tail', ht⟩ := ih (done ++ [j]) (update tail n_i (.int (Int.ofNat j)))
      (fun k hk => hlt k (List.mem_cons_of_mem _ hk)) (by simpa using hnd)
    refine ⟨tail', ?_⟩
    simp only [List.map_cons, forF, bind_ok, pure_eq, hd_cbEnv_update, exec_succ, hbody, hd_cbAcc_snoc b done j c hc]
    rw [ht]; simp only [List.append_assoc, List.cons_append, List.nil_append]

theorem hd_mth_hands_init : P.method? classDepth n_Hands K.init = some (n_Hands, m_Hands___init__) := rfl

theorem hd_hands_init_call (f : Nat) (a b c d : Val) :
    callF (mkRec P (f+8)) m_Hands___init__ [.obj n_Hands [], a, b, c, d]
      = .ok (.none, .obj n_Hands [(n_north, a), (n_east, b), (n_south, c), (n_west, d)]) := by
  rw [callF_def]
  simp only [m_Hands___init__, bindParams, Option.map]
  ppsimp []

theorem hd_construct_hands (f : Nat) (a b c d : Val) :
    constructF (mkRec P (f+9)) P n_Hands [a, b, c, d]
      = .ok (.obj n_Hands [(n_north, a), (n_east, b), (n_south, c), (n_west, d)]) := by
  have e : constructF (mkRec P (f+9)) P n_Hands [a, b, c, d]
      = (callF (mkRec P (f+8)) m_Hands___init__ [.obj n_Hands [], a, b, c, d] >>= fun x => pure x.2) := rfl
  rw [e, hd_hands_init_call]; rfl

theorem hd_toNat52 : Int.toNat 52 = 52 := rfl

theorem hands_convert_binary_call (f : Nat) (cv : Val) (b : Seat → List Nat) (hb : ∀ p, 52 ≤ (b p).length) :
    callF (mkRec P (f+40)) m_Hands_convert_binary [cv, .dict (bitsKvs b)] = .ok (encHands (convertBinary b), cv) := by
  rw [callF_def]
  simp only [m_Hands_convert_binary, bindParams, Option.map]
  obtain ⟨tail', ht⟩ := hands_cb_loop (f+8) cv b hb (List.range 52) [] []
    (fun j hj => List.mem_range.1 hj) (by simpa using List.nodup_range)
  simp only [cbBody, m_Hands_convert_binary, List.getD_cons_succ, List.getD_cons_zero, cbEnv, cbAcc,
    List.filterMap_nil, List.map_nil, List.nil_append] at ht
  ppsimp [builtin_set_nil, builtin_range, iterItems_tuple, hd_toNat52]
  rw [ht]
  ppsimp [hd_construct_hands, encHands, hd_convertBinary_eq]
end Bridge.Translated
