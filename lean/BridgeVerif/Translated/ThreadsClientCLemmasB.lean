import BridgeVerif.Translated.ThreadsClientCLemmas
/-! Translated `ClientThread.run`: the body of the generated `while True` loop (`crBody`) cut into a front part (the test
on `message`, `_deal`, `bidding_phase`, `playing_phase` unless passed out) and a back part (the next message, the
"End of session" test, `board_num += 1`), both executed symbolically with the phases as rewrite rules -/
namespace Bridge.Translated.ClientC
open Bridge Bridge.Py Bridge.Generated.PyCore Bridge.Translated Bridge.Translated.ClientA Bridge.Translated.ClientB

/-- the `while True:` statement of the generated `run` -/
def crLoop : Stmt := m_ClientThread_run.body.getD 3 .pass

/-- the body of the `while True` board loop of the generated `run` -/
def crBody : List Stmt := match crLoop with
  | .while _ b => b
  | _ => []

theorem crLoop_eq : crLoop = .while (.const (.bool true)) crBody := rfl

/-- the statements of the body up to and including `if not contract.is_passed_out(): …` -/
def crFront : List Stmt := crBody.take 4
/-- the next message, the "End of session" test, `board_num += 1` -/
def crBack : List Stmt := crBody.drop 4

theorem crBody_eq : crBody = crFront ++ crBack := rfl

theorem cr_lower (r : Rec) (s : List Char) : builtinF r P .lower [.str s] = .ok (.str (s.map lowerC)) := rfl

theorem lowerA_eq_lowerC : lowerA = lowerC := rfl

theorem cr_lowerS_start : lowerS MSG_START = ['s', 't', 'a', 'r', 't', ' ', 'o', 'f', ' ', 'b', 'o', 'a', 'r', 'd'] := by
  decide

/-- the "start of board" test of the loop, from the model's -/
theorem cr_start_beq (m : Str) (h : lowerS m = lowerS MSG_START) :
    (Val.str (m.map lowerC)).beq (.str ['s', 't', 'a', 'r', 't', ' ', 'o', 'f', ' ', 'b', 'o', 'a', 'r', 'd']) = true := by
  rw [ct_beq_str, ← lowerA_eq_lowerC, ← cr_lowerS_start, ← h]
  simp [lowerS]

theorem cr_MSG_END : MSG_END = ['E', 'n', 'd', ' ', 'o', 'f', ' ', 's', 'e', 's', 's', 'i', 'o', 'n'] := by decide

theorem cr_end_beq_true :
    (Val.str MSG_END).beq (.str ['E', 'n', 'd', ' ', 'o', 'f', ' ', 's', 'e', 's', 's', 'i', 'o', 'n']) = true := by
  rw [ct_beq_str, cr_MSG_END]
  exact beq_self_eq_true _

theorem cr_end_beq_false (m : Str) (h : m ≠ MSG_END) :
    (Val.str m).beq (.str ['E', 'n', 'd', ' ', 'o', 'f', ' ', 's', 'e', 's', 's', 'i', 'o', 'n']) = false := by
  rw [ct_beq_str, beq_eq_false_iff_ne, ← cr_MSG_END]
  exact h

theorem cr_mth_playing_phase :
    P.method? classDepth n_ClientThread n_playing_phase = some (n_ClientThread, m_ClientThread_playing_phase) := rfl

/-- the front part: `playing_phase(contract)` runs unless the auction was passed out -/
theorem cr_front (g : Nat) (p : Seat) (m : Str) (hm : lowerS m = lowerS MSG_START) (k : Int)
    (s s1 s2 s3 : List Str) (bids bids1 bids2 plays plays3 out out1 out2 out3 : List Val) (team : Str) (opp : Val)
    (extra extra1 : List (Id × Val)) (c : Contract) (rest : Env)
    (hd : ∀ j, callF (mkRec P (g+j)) m_ClientThread__deal
        [encClientThread p (encClientWorld s bids plays out) team opp extra]
      = .ok (.none, encClientThread p (encClientWorld s1 bids1 plays out1) team opp extra1))
    (hb : ∀ j, callF (mkRec P (g+j)) m_ClientThread_bidding_phase
        [encClientThread p (encClientWorld s1 bids1 plays out1) team opp extra1]
      = .ok (encContract c, encClientThread p (encClientWorld s2 bids2 plays out2) team opp extra1))
    (hsame : c.finalBid.isNone = true → s3 = s2 ∧ plays3 = plays ∧ out3 = out2)
    (hp : c.finalBid.isNone = false → ∀ j, callF (mkRec P (g+j)) m_ClientThread_playing_phase
        [encClientThread p (encClientWorld s2 bids2 plays out2) team opp extra1, encContract c]
      = .ok (.none, encClientThread p (encClientWorld s3 bids2 plays3 out3) team opp extra1)) :
    ∃ rest', execF (mkRec P (g+30)) P
        ((K.self, encClientThread p (encClientWorld s bids plays out) team opp extra) :: (n_message, .str m) ::
          (n_board_num, .int k) :: rest) crFront
      = .ok ((K.self, encClientThread p (encClientWorld s3 bids2 plays3 out3) team opp extra1) :: (n_message, .str m) ::
          (n_board_num, .int k) :: rest', .next) := by
  have hs := cr_start_beq m hm
  cases hpo : c.finalBid.isNone with
  | true =>
    obtain ⟨rfl, rfl, rfl⟩ := hsame hpo
    simp only [ct_thread_def] at hd hb ⊢
    refine ⟨?_, ?_⟩
    rotate_left
    · simp only [crFront, crBody, crLoop, m_ClientThread_run, List.getD_cons_zero, List.getD_cons_succ,
        List.take_succ_cons, List.take_zero]
      ppsimp [pyworld, cr_lower, hs, ct_mth_deal, hd, ct_mth_bidding_phase, hb, meth_encContract, mth_is_passed_out,
        is_passed_out_call, hpo, truthy]
      rfl
  | false =>
    have hp := hp hpo
    simp only [ct_thread_def] at hd hb hp ⊢
    refine ⟨?_, ?_⟩
    rotate_left
    · simp only [crFront, crBody, crLoop, m_ClientThread_run, List.getD_cons_zero, List.getD_cons_succ,
        List.take_succ_cons, List.take_zero]
      ppsimp [pyworld, cr_lower, hs, ct_mth_deal, hd, ct_mth_bidding_phase, hb, meth_encContract, mth_is_passed_out,
        is_passed_out_call, hpo, truthy, cr_mth_playing_phase, hp]
      rfl

/-- the back part: `End of session` — `break` -/
theorem cr_back_end (g : Nat) (p : Seat) (m : Str) (k : Int) (s : List Str) (bids plays out : List Val) (team : Str)
    (opp : Val) (extra : List (Id × Val)) (rest : Env) :
    execF (mkRec P (g+30)) P
        ((K.self, encClientThread p (encClientWorld (MSG_END :: s) bids plays out) team opp extra) ::
          (n_message, .str m) :: (n_board_num, .int k) :: rest) crBack
      = .ok ((K.self, encClientThread p (encClientWorld s bids plays (out ++ [.tuple [vstr "recv"]])) team opp extra) ::
          (n_message, .str MSG_END) :: (n_board_num, .int k) :: rest, .brk) := by
  simp only [ct_thread_def]
  simp only [crBack, crBody, crLoop, m_ClientThread_run, List.getD_cons_zero, List.getD_cons_succ, List.drop_succ_cons,
    List.drop_zero]
  ppsimp [pyworld, cr_end_beq_true]

/-- the back part: any other message — `board_num += 1`, the loop goes on -/
theorem cr_back_next (g : Nat) (p : Seat) (m m' : Str) (hne : m' ≠ MSG_END) (k : Int) (s : List Str)
    (bids plays out : List Val) (team : Str) (opp : Val) (extra : List (Id × Val)) (rest : Env) :
    execF (mkRec P (g+30)) P
        ((K.self, encClientThread p (encClientWorld (m' :: s) bids plays out) team opp extra) ::
          (n_message, .str m) :: (n_board_num, .int k) :: rest) crBack
      = .ok ((K.self, encClientThread p (encClientWorld s bids plays (out ++ [.tuple [vstr "recv"]])) team opp extra) ::
          (n_message, .str m') :: (n_board_num, .int (k + 1)) :: rest, .next) := by
  simp only [ct_thread_def]
  have hf := cr_end_beq_false m' hne
  simp only [crBack, crBody, crLoop, m_ClientThread_run, List.getD_cons_zero, List.getD_cons_succ, List.drop_succ_cons,
    List.drop_zero]
  ppsimp [pyworld, hf]

end Bridge.Translated.ClientC
