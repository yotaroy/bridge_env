import BridgeVerif.Translated.ConnectInfoA
/-!
# The TRANSLATED `PlayerThread.parse_connection_info` IS `parseConnect?`

`m_PlayerThread_parse_connection_info` (Generated/PyCoreNet.lean; `server.py`: `re.match(r'Connecting "(.*)" as (.*) using
protocol version (\d+)', content, re.IGNORECASE)`, `Player.convert_formal_name(group(2).capitalize())`, `int(group(3))`)
executed SYMBOLICALLY by the MiniPy interpreter in the whole translated program `P`, its `re.match` being the generic
regular-expression engine (`RegexConnect.match_connect`).  For EVERY request text whose characters are in the class
`RegexConnect.agree` (every ASCII text is), at EVERY fuel ≥ 31:

* `parseConnect? req = some (team, p, v)` : the call returns `(team, Player p, v)`, the state returned is `.str req`;
* `parseConnect? req = none` : the call raises — `Exception` when the text does not match the pattern, `ValueError`
  (from `convert_formal_name`) when it matches but the seat text is no seat name; `int()` never raises here (group 3
  is a non-empty run of ASCII digits).
-/
namespace Bridge.Translated.ConnectInfo
open Bridge Bridge.Py Bridge.Generated.PyCore Bridge.RegexConnect Bridge.Translated

theorem str_beq (a b : Str) : (Val.str a).beq (.str b) = (a == b) := beq_str a b

/-- `Player.convert_formal_name` on a text that is none of the four names raises `ValueError` -/
theorem convert_formal_fail (f : Nat) (m : Str) (h : seatOfFormal? m = none) :
    callF (mkRec P (f+12)) m_Player_convert_formal_name [.cls n_Player, .str m] = .error (.exc K.ValueError) := by
  unfold seatOfFormal? at h
  have h1 : m ≠ "North".toList := fun e => by rw [if_pos e] at h; cases h
  rw [if_neg h1] at h
  have h2 : m ≠ "East".toList := fun e => by rw [if_pos e] at h; cases h
  rw [if_neg h2] at h
  have h3 : m ≠ "South".toList := fun e => by rw [if_pos e] at h; cases h
  rw [if_neg h3] at h
  have h4 : m ≠ "West".toList := fun e => by rw [if_pos e] at h; cases h
  have b1 : (m == ['N', 'o', 'r', 't', 'h']) = false := beq_eq_false_iff_ne.mpr h1
  have b2 : (m == ['E', 'a', 's', 't']) = false := beq_eq_false_iff_ne.mpr h2
  have b3 : (m == ['S', 'o', 'u', 't', 'h']) = false := beq_eq_false_iff_ne.mpr h3
  have b4 : (m == ['W', 'e', 's', 't']) = false := beq_eq_false_iff_ne.mpr h4
  rw [callF_def]
  simp only [m_Player_convert_formal_name]
  ppsimp [str_beq, b1, b2, b3, b4]

theorem m_group_call3 (f : Nat) (g0 g1 g2 g3 : Val) (gs : List Val) :
    callF (mkRec P (f+6)) m__Match_group [.obj n__Match [(n_texts, .tuple (g0 :: g1 :: g2 :: g3 :: gs))], .int 3]
      = .ok (g3, .obj n__Match [(n_texts, .tuple (g0 :: g1 :: g2 :: g3 :: gs))]) := rfl

/-- no match: `raise Exception` -/
theorem exec_nomatch (f : Nat) (req : Str) (hreq : ∀ x ∈ req, agree x = true) (h : connectTriple? req = none) :
    callF (mkRec P (f+30)) m_PlayerThread_parse_connection_info [.str req] = .error (.exc K.Exception) := by
  have hb := reMatch_connect req hreq
  rw [h, show CONNECT_PATTERN = _ from String.toList_ofList] at hb
  rw [callF_def]
  simp only [m_PlayerThread_parse_connection_info]
  ppsimp [hb, pp_truthy_none]

/-- a match: what becomes of the seat text (capitalized) decides -/
theorem exec_match (f : Nat) (req : Str) (hreq : ∀ x ∈ req, agree x = true) (team seat ds : Str)
    (h : connectTriple? req = some (team, seat, ds)) :
    callF (mkRec P (f+30)) m_PlayerThread_parse_connection_info [.str req] =
      match seatOfFormal? (capitalizeA seat) with
      | none => .error (.exc K.ValueError)
      | some p => .ok (.tuple [.str team, encSeat p, .int (digitsVal ds)], .str req) := by
  have hb := reMatch_connect req hreq
  rw [h, show CONNECT_PATTERN = _ from String.toList_ofList] at hb
  obtain ⟨g0, hb⟩ := hb
  obtain ⟨hd1, hd2⟩ := triple_digits req team seat ds h
  rw [callF_def]
  simp only [m_PlayerThread_parse_connection_info]
  ppsimp [hb, pp_truthy_obj, pp_mth_m_group, pp_m_group_call1, pp_m_group_call2, m_group_call3, capitalize_builtin,
    st_mth_convert, pp_int_str _ ds _ (parseInt_of_digits ds hd1 hd2)]
  cases hp : seatOfFormal? (capitalizeA seat) with
  | none => ppsimp [convert_formal_fail _ _ hp]
  | some p =>
    ppsimp [seatOfFormal_eq hp, st_convert_formal_call, pp_mth_m_group, m_group_call3,
      pp_int_str _ ds _ (parseInt_of_digits ds hd1 hd2)]

/-- what the translated method computes, in one statement -/
def connectResult (req : Str) : R (Val × Val) :=
  match connectTriple? req with
  | none => .error (.exc K.Exception)
  | some (team, seat, ds) =>
    match seatOfFormal? (capitalizeA seat) with
    | none => .error (.exc K.ValueError)
    | some p => .ok (.tuple [.str team, encSeat p, .int (digitsVal ds)], .str req)

/-- THE TRANSLATED METHOD, at every fuel ≥ 31, on every request text in the class -/
theorem parse_connection_info_translated (req : Str) (hreq : ∀ x ∈ req, agree x = true) (g : Nat) (hg : 31 ≤ g) :
    callFn P g m_PlayerThread_parse_connection_info [.str req] = connectResult req := by
  refine st_callFn_of_callF (K := 30) (fun f => ?_) g hg
  unfold connectResult
  cases h : connectTriple? req with
  | none => exact exec_nomatch f req hreq h
  | some x =>
    obtain ⟨team, seat, ds⟩ := x
    exact exec_match f req hreq team seat ds h

/-- `parseConnect?` in terms of the scanner's triple -/
theorem parseConnect_some_iff (req team : Str) (p : Seat) (v : Nat) (h : parseConnect? req = some (team, p, v)) :
    ∃ seat ds, connectTriple? req = some (team, seat, ds) ∧ seatOfFormal? (capitalizeA seat) = some p ∧
      digitsVal ds = v := by
  rw [parseConnect_eq_triple] at h
  cases ht : connectTriple? req with
  | none => rw [ht] at h; cases h
  | some x =>
    obtain ⟨team', seat, ds⟩ := x
    rw [ht] at h
    obtain ⟨hd1, hd2⟩ := triple_digits req team' seat ds ht
    simp only [Option.bind_some, decimal_of_digits ds hd1 hd2] at h
    cases hp : seatOfFormal? (capitalizeA seat) with
    | none => rw [hp] at h; cases h
    | some p' =>
      rw [hp] at h
      simp only [Option.some.injEq, Prod.mk.injEq] at h
      obtain ⟨rfl, rfl, rfl⟩ := h
      exact ⟨seat, ds, rfl, hp, rfl⟩

/-- (B, success) the model reads the request as `(team, p, v)`: so does the translated method, at every fuel ≥ 31 -/
theorem parse_connection_info_ok (req : Str) (hreq : ∀ x ∈ req, agree x = true) (team : Str) (p : Seat) (v : Nat)
    (h : parseConnect? req = some (team, p, v)) (g : Nat) (hg : 31 ≤ g) :
    callFn P g m_PlayerThread_parse_connection_info [.str req]
      = .ok (.tuple [.str team, encSeat p, .int v], .str req) := by
  obtain ⟨seat, ds, ht, hp, rfl⟩ := parseConnect_some_iff req team p v h
  rw [parse_connection_info_translated req hreq g hg]
  unfold connectResult
  rw [ht]
  simp only [hp]

/-- (B, failure) the model refuses the request: the translated method raises — `Exception` (no match) or `ValueError`
(`convert_formal_name` on an unknown seat name) -/
theorem parse_connection_info_raises (req : Str) (hreq : ∀ x ∈ req, agree x = true)
    (h : parseConnect? req = none) (g : Nat) (hg : 31 ≤ g) :
    (connectTriple? req = none ∧
      callFn P g m_PlayerThread_parse_connection_info [.str req] = .error (.exc K.Exception)) ∨
    ((connectTriple? req).isSome = true ∧
      callFn P g m_PlayerThread_parse_connection_info [.str req] = .error (.exc K.ValueError)) := by
  rw [parse_connection_info_translated req hreq g hg]
  unfold connectResult
  rw [parseConnect_eq_triple] at h
  cases ht : connectTriple? req with
  | none => exact .inl ⟨rfl, rfl⟩
  | some x =>
    obtain ⟨team, seat, ds⟩ := x
    rw [ht] at h
    obtain ⟨hd1, hd2⟩ := triple_digits req team seat ds ht
    simp only [Option.bind_some, decimal_of_digits ds hd1 hd2] at h
    cases hp : seatOfFormal? (capitalizeA seat) with
    | none => exact .inr ⟨rfl, by simp only [hp]⟩
    | some p => rw [hp] at h; cases h

/-- for ASCII request texts -/
theorem parse_connection_info_ok_ascii (req : Str) (hreq : ∀ x ∈ req, x.toNat < 128) (team : Str) (p : Seat) (v : Nat)
    (h : parseConnect? req = some (team, p, v)) (g : Nat) (hg : 31 ≤ g) :
    callFn P g m_PlayerThread_parse_connection_info [.str req]
      = .ok (.tuple [.str team, encSeat p, .int v], .str req) :=
  parse_connection_info_ok req (fun x hx => agree_ascii x (hreq x hx)) team p v h g hg

/-! ### non-vacuity -/
example : callFn P 31 m_PlayerThread_parse_connection_info [.str "CONNECTING \"Team \"A\"\" as wEsT using PROTOCOL version 018 x".toList]
    = .ok (.tuple [.str "Team \"A\"".toList, encSeat .W, .int 18],
        .str "CONNECTING \"Team \"A\"\" as wEsT using PROTOCOL version 018 x".toList) := by
  rw [show "CONNECTING \"Team \"A\"\" as wEsT using PROTOCOL version 018 x".toList = _ from String.toList_ofList,
    show "Team \"A\"".toList = _ from String.toList_ofList]
  exact parse_connection_info_ok_ascii _ (by decide +kernel) _ .W 18 (by decide +kernel) 31 (Nat.le_refl _)
example : callFn P 31 m_PlayerThread_parse_connection_info [.str "Connecting \"A\" as Nord using protocol version 18".toList]
    = .error (.exc K.ValueError) := by
  rw [show "Connecting \"A\" as Nord using protocol version 18".toList = _ from String.toList_ofList]
  refine (parse_connection_info_raises _ ?_ ?_ 31 (Nat.le_refl _)).elim (fun h => absurd h.1 ?_) (fun h => h.2)
  · exact fun x hx => agree_ascii x (by revert x; decide +kernel)
  · decide +kernel
  · decide +kernel

end Bridge.Translated.ConnectInfo
