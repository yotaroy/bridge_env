import BridgeVerif.Translated.JsonWriterLemmasB
/-! Translated JSON writers = model: dictionaries with pairwise distinct keys, `play_history.history`, the
comprehension over the tricks, the double-dummy table comprehension -/
namespace Bridge.Translated
open Bridge Bridge.Py Bridge.Generated.PyCore

/-! ## dictionaries built from pairwise distinct keys -/
theorem jw_updateD_fresh (acc : List (Val × Val)) (k v : Val) (h : ∀ a ∈ acc, a.1.beq k = false) :
    updateD acc k v = acc ++ [(k, v)] := by
  induction acc with
  | nil => rfl
  | cons a r ih =>
    obtain ⟨ak, av⟩ := a
    have h1 : ak.beq k = false := h (ak, av) (List.mem_cons_self ..)
    simp only [updateD, h1, Bool.false_eq_true, if_false, List.cons_append,
      ih fun b hb => h b (List.mem_cons_of_mem _ hb)]

theorem jw_foldl_updateD (l : List (Val × Val)) : ∀ (acc : List (Val × Val)),
    (∀ a ∈ acc, ∀ b ∈ l, a.1.beq b.1 = false) → l.Pairwise (fun a b => a.1.beq b.1 = false) →
    l.foldl (fun acc x => updateD acc x.1 x.2) acc = acc ++ l := by
  induction l with
  | nil => intro acc _ _; simp
  | cons x l ih =>
    intro acc h1 h2
    have h2' := List.pairwise_cons.1 h2
    simp only [List.foldl_cons]
    rw [jw_updateD_fresh acc x.1 x.2 fun a ha => h1 a ha x (List.mem_cons_self ..)]
    rw [ih _ ?_ h2'.2]
    · simp
    · intro a ha b hb
      rcases List.mem_append.1 ha with ha | ha
      · exact h1 a ha b (List.mem_cons_of_mem _ hb)
      · simp only [List.mem_singleton] at ha
        subst ha
        exact h2'.1 b hb

theorem jw_seat_name_inj (a b : Seat) (h : a.name = b.name) : a = b := by
  cases a <;> cases b <;> first | rfl | (exact absurd h (by decide))
theorem jw_suit_name_inj (a b : Suit) (h : a.name = b.name) : a = b := by
  cases a <;> cases b <;> first | rfl | (exact absurd h (by decide))

/-- a dictionary comprehension whose keys are the names of pairwise distinct members keeps every item, in order -/
theorem jw_foldl_updateD_names {α β} (name : α → Str) (hinj : ∀ a b, name a = name b → a = b) (val : β → Val)
    (l : List (α × β)) (hn : (l.map (·.1)).Nodup) :
    (l.map fun x => (Val.str (name x.1), val x.2)).foldl (fun acc x => updateD acc x.1 x.2) []
      = l.map fun x => (Val.str (name x.1), val x.2) := by
  rw [jw_foldl_updateD _ [] (fun a ha => by cases ha)]
  · rfl
  · rw [List.pairwise_map]
    have hp : l.Pairwise fun a b => a.1 ≠ b.1 := by
      have := hn
      rwa [List.Nodup, List.pairwise_map] at this
    refine hp.imp ?_
    intro a b hab
    simp only [beq_str, beq_eq_false_iff_ne, ne_eq]
    exact fun h => hab (hinj _ _ h)

/-! ## `play_history.history` and the comprehension over the tricks -/
theorem jw_mth_history : P.method? classDepth n_PlayingHistory n_history = some (n_PlayingHistory, m_PlayingHistory_history) := rfl

theorem jw_history_call (f : Nat) (c : Contract) (ts : List Trick) :
    callF (mkRec P (f+8)) m_PlayingHistory_history [encPlayingHistory c ts]
      = .ok (.tuple (ts.map encTrick), encPlayingHistory c ts) := by
  rw [callF_def]
  simp only [m_PlayingHistory_history, bindParams, Option.map, encPlayingHistory]
  ppsimp [builtin_tuple_tuple]

theorem jw_history_attr (f : Nat) (c : Contract) (ts : List Trick) :
    getAttrF (mkRec P (f+9)) P (encPlayingHistory c ts) n_history = .ok (.tuple (ts.map encTrick)) := by
  have e : getAttrF (mkRec P (f+9)) P (encPlayingHistory c ts) n_history
      = (callF (mkRec P (f+8)) m_PlayingHistory_history [encPlayingHistory c ts] >>= fun x => .ok x.1) := rfl
  rw [e, jw_history_call]; rfl

/-- the expression `[{…} for trick_history in play_history.history] if play_history is not None else None` -/
def jwPlayExpr : Expr :=
  match m_JsonLogWriter_write.body.getD 1 .pass with
  | .assign _ (.dictOf kvs) => (kvs.getD 8 default).2
  | _ => default

/-- the expression `{'leader': str(trick_history.leader), 'cards': [str(card) for card in trick_history.cards]}` -/
def jwTrickExpr : Expr :=
  match jwPlayExpr with
  | .ifexp _ (.comp _ _ _ b) _ => b
  | _ => default

theorem jw_comp_tricks (f : Nat) (env : Env) (ts : List Trick)
    (hts : ∀ t ∈ ts, ∀ c ∈ t.cards, 2 ≤ c.rank ∧ c.rank ≤ 14) :
    compF (mkRec P (f+20)) env n_trick_history none jwTrickExpr (ts.map encTrick) = .ok (ts.map trickVal) := by
  induction ts with
  | nil => rfl
  | cons t ts ih =>
    have ht := hts t (List.mem_cons_self ..)
    simp only [List.map_cons, compF, ih fun d hd => hts d (List.mem_cons_of_mem _ hd)]
    simp only [jwTrickExpr, jwPlayExpr, m_JsonLogWriter_write, List.getD_cons_succ, List.getD_cons_zero, encTrick]
    ppsimp [jw_str_seat, iterItems_tuple, jw_comp_str_cards _ _ _ ht, List.map_cons, List.map_nil, updateD, beq_str]
    rfl

def playVal : Option (List Trick) → Val
  | none => .none
  | some ts => .tuple (ts.map trickVal)

theorem jw_beq_history_none (c : Contract) (ts : List Trick) : (encPlayingHistory c ts).beq .none = false := by
  simp only [encPlayingHistory, Val.beq]

theorem jw_eval_play (f : Nat) (env : Env) (c : Contract) (play : Option (List Trick))
    (hl : lookup env n_play_history = some (encOpt (encPlayingHistory c) play))
    (hp : ∀ ts, play = some ts → ∀ t ∈ ts, ∀ c ∈ t.cards, 2 ≤ c.rank ∧ c.rank ≤ 14) :
    evalF (mkRec P (f+30)) P env jwPlayExpr = .ok (playVal play) := by
  have hct := fun ts h f env => jw_comp_tricks f env ts h
  simp only [jwTrickExpr, jwPlayExpr, m_JsonLogWriter_write, List.getD_cons_succ, List.getD_cons_zero] at hct ⊢
  cases play with
  | none => ppsimp [hl, beq_none_none, playVal]
  | some ts => ppsimp [hl, jw_beq_history_none, jw_history_attr, iterItems_tuple, hct ts (hp ts rfl), playVal]

/-! ## the double-dummy table -/
theorem jw_items_row (r : Rec) (row : List (Suit × Int)) :
    builtinF r P .items [jwEncDdaRow row] = .ok (.tuple (row.map fun sv => .tuple [encSuit sv.1, .int sv.2])) := by
  simp only [jwEncDdaRow, builtinF, List.map_map]; rfl
theorem jw_items_dda (r : Rec) (d : Dda) :
    builtinF r P .items [jwEncDda d] = .ok (.tuple (d.map fun pr => .tuple [encSeat pr.1, jwEncDdaRow pr.2])) := by
  simp only [jwEncDda, builtinF, List.map_map]; rfl

theorem jw_bind2 (env : Env) (x y : Id) (a b : Val) :
    bindTargets env [x, y] (.tuple [a, b]) = .ok (update (update env x a) y b) := rfl

theorem jw_dda_row_comp (f : Nat) (env : Env) (row : List (Suit × Int)) :
    dictCompTF (mkRec P (f+10)) env [n_s, n_v] (.builtin .str [(.var n_s)]) (.var n_v)
        (row.map fun sv => .tuple [encSuit sv.1, .int sv.2])
      = .ok (row.map fun sv => (.str sv.1.name, .int sv.2)) := by
  induction row with
  | nil => rfl
  | cons a row ih =>
    simp only [List.map_cons, dictCompTF, jw_bind2, ih]
    ppsimp [jw_str_suit]

/-- the expression `{str(p): {str(s): v for s, v in r.items()} for p, r in dda.items()}` -/
def jwDdaExpr : Expr :=
  match m_JsonLogWriter_write.body.getD 2 .pass with
  | .ite _ [.assign _ e] _ => e
  | _ => default

theorem jw_dda_comp (f : Nat) (env : Env) (d : Dda) (hrows : ∀ pr ∈ d, (pr.2.map (·.1)).Nodup) :
    dictCompTF (mkRec P (f+20)) env [n_p, n_r] (.builtin .str [(.var n_p)])
        (.dictCompT [n_s, n_v] (.builtin .items [(.var n_r)]) (.builtin .str [(.var n_s)]) (.var n_v))
        (d.map fun pr => .tuple [encSeat pr.1, jwEncDdaRow pr.2])
      = .ok (d.map fun pr => (.str pr.1.name, ddaRowVal pr.2)) := by
  induction d with
  | nil => rfl
  | cons a d ih =>
    have ha := hrows a (List.mem_cons_self ..)
    simp only [List.map_cons, dictCompTF, jw_bind2, ih fun pr hpr => hrows pr (List.mem_cons_of_mem _ hpr)]
    ppsimp [jw_str_seat, jw_items_row, iterItems_tuple, jw_dda_row_comp,
      jw_foldl_updateD_names Suit.name jw_suit_name_inj Val.int a.2 ha, ddaRowVal]

theorem jw_eval_dda (f : Nat) (env : Env) (d : Dda) (hl : lookup env n_dda = some (jwEncDda d))
    (hseats : (d.map (·.1)).Nodup) (hrows : ∀ pr ∈ d, (pr.2.map (·.1)).Nodup) :
    evalF (mkRec P (f+24)) P env jwDdaExpr = .ok (ddaVal d) := by
  simp only [jwDdaExpr, m_JsonLogWriter_write, List.getD_cons_succ, List.getD_cons_zero]
  ppsimp [hl, jw_items_dda, iterItems_tuple, jw_dda_comp _ _ d hrows,
    jw_foldl_updateD_names Seat.name jw_seat_name_inj ddaRowVal d hseats, ddaVal]
end Bridge.Translated
