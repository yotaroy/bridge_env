import BridgeVerif.Translated.ThreadsMainBLemmas
import BridgeVerif.Lemmas.MiniPyFuel
/-! Translated `MainThread.playing_phase`: the model stepped, the hypotheses about `parse_card`, one card, the four cards
of a trick, one trick, thirteen tricks, the whole method at fuel `f + 79` -/
set_option linter.unusedSimpArgs false
namespace Bridge.Translated.MainB
open Bridge Bridge.Py Bridge.Generated.PyCore

/-! ## the model, stepped -/

/-- the model's `played` -/
def playedM (decl : Seat) (w : WithHands) : Seat := if w.base.active = decl.partner then decl else w.base.active

theorem mainTrickR_four (decl : Seat) (dm : Text) (first : Bool) (w : WithHands) (i : MainIn) :
    mainTrickR decl dm first 4 w i = some ([], w, i) := by
  rw [mainTrickR]

theorem mainTrickR_unfold (decl : Seat) (dm : Text) (first : Bool) (idx : Nat) (w : WithHands) (i : MainIn) (h : idx < 4) :
    mainTrickR decl dm first idx w i =
      match MainIn.get i (playedM decl w) with
      | none => none
      | some (message, i1) =>
        match parseCard? message w.base.active with
        | none => none
        | some card =>
          match w.play card w.base.active with
          | .error _ => none
          | .ok w1 =>
            match mainTrickR decl dm first (idx + 1) w1 i1 with
            | none => none
            | some (rest, wf, i2) =>
              some ([.recv (.t2m (playedM decl w))] ++ putAllBut (playedM decl w) message ++
                (if first ∧ idx = 0 then putAllBut decl.partner dm else []) ++ rest, wf, i2) := by
  rw [mainTrickR]
  · rw [if_neg (by omega)]
    simp only [Option.bind_eq_bind, Option.pure_def]
    change ((MainIn.get i (playedM decl w)).bind _) = _
    cases MainIn.get i (playedM decl w) with
    | none => rfl
    | some mi =>
      obtain ⟨message, i1⟩ := mi
      simp only [Option.bind_some]
      cases parseCard? message w.base.active with
      | none => rfl
      | some card =>
        simp only [Option.bind_some]
        cases w.play card w.base.active with
        | error e => rfl
        | ok w1 =>
          simp only
          cases mainTrickR decl dm first (idx + 1) w1 i1 with
          | none => rfl
          | some res => rfl
  · omega

theorem mainTrickR_inv {decl : Seat} {dm : Text} {first : Bool} {idx : Nat} {w wf : WithHands} {i i_f : MainIn}
    {acts : MainActs} (h : idx < 4) (hr : mainTrickR decl dm first idx w i = some (acts, wf, i_f)) :
    ∃ message i1 card w1 rest, MainIn.get i (playedM decl w) = some (message, i1) ∧
      parseCard? message w.base.active = some card ∧ w.play card w.base.active = .ok w1 ∧
      mainTrickR decl dm first (idx+1) w1 i1 = some (rest, wf, i_f) ∧
      acts = [.recv (.t2m (playedM decl w))] ++ putAllBut (playedM decl w) message ++
        (if first ∧ idx = 0 then putAllBut decl.partner dm else []) ++ rest := by
  rw [mainTrickR_unfold _ _ _ _ _ _ h] at hr
  split at hr
  · cases hr
  · rename_i message i1 hg
    split at hr
    · cases hr
    · rename_i card hp
      split at hr
      · cases hr
      · rename_i w1 hpl
        split at hr
        · cases hr
        · rename_i rest wf' i2 hrr
          simp only [Option.some.injEq, Prod.mk.injEq] at hr
          obtain ⟨rfl, rfl, rfl⟩ := hr
          exact ⟨message, i1, card, w1, rest, hg, hp, hpl, hrr, rfl⟩

/-! ## the hypotheses about `parse_card`, walking the streams like the model -/

/-- the translated `MessageInterface.parse_card(message, active)` returns `card` (at every fuel from 20 on) -/
def ParsesTo (message : Str) (active : Seat) (card : Card) : Prop :=
  ∀ f, 20 ≤ f → callFn P f m_MessageInterface_parse_card [.str message, encSeat active] = .ok (encCard card, .str message)

/-- one sufficient fuel is enough (`mkRec_mono`) -/
theorem parsesTo_of_one {message : Str} {active : Seat} {card : Card} (f0 : Nat) (h0 : f0 ≤ 20)
    (h : callFn P f0 m_MessageInterface_parse_card [.str message, encSeat active] = .ok (encCard card, .str message)) :
    ParsesTo message active card := fun f hf =>
  callFn_fuel_mono P (Nat.le_trans h0 hf) _ _ _ h (by intro e; cases e)

/-- every message the remaining `n` cards of a trick consume is parsed by the translated `parse_card` as by the model's
`parseCard?` (walks the streams like `mainTrickR`) -/
def TrickParses (decl : Seat) : Nat → WithHands → MainIn → Prop
  | 0, _, _ => True
  | n + 1, w, i =>
    match MainIn.get i (playedM decl w) with
    | none => True
    | some (message, i1) =>
      match parseCard? message w.base.active with
      | none => True
      | some card =>
        ParsesTo message w.base.active card ∧
        match w.play card w.base.active with
        | .error _ => True
        | .ok w1 => TrickParses decl n w1 i1

/-- … of `n` tricks from trick number `k` on (walks the streams like `mainPlayingR.tricks`) -/
def PlayParses (decl : Seat) (dm : Text) : Nat → Nat → WithHands → MainIn → Prop
  | 0, _, _, _ => True
  | n + 1, k, w, i =>
    TrickParses decl 4 w i ∧
    match mainTrickR decl dm (k = 1) 0 w i with
    | none => True
    | some (_, w', i') => PlayParses decl dm n (k + 1) w' i'

/-! ## rendering of the model's actions -/

theorem encMainActs_putAll (encRec : BoardRecord → Val) (m : Text) :
    encMainActs encRec (putAll m) = some (opsPutAll m) := rfl

theorem encMainActs_putAllBut (encRec : BoardRecord → Val) (x : Seat) (m : Text) :
    encMainActs encRec (putAllBut x m) = some (opsPutAllBut x m) := by
  cases x <;> rfl


/-! ## the invariant, and sequencing -/

/-- what `playing_phase` relies on: the trick history is in step with the trick number, and the object's `declarer` /
`dummy` are the model's -/
def MInv (decl : Seat) (w : WithHands) : Prop := WF w.base ∧ w.base.declarer = decl ∧ w.base.dummy = decl.partner

theorem playCard_declarer (s : PState) (c : Card) : (playCard s c).declarer = s.declarer ∧ (playCard s c).dummy = s.dummy := by
  unfold playCard
  simp only
  split
  · unfold addTaken; split <;> exact ⟨rfl, rfl⟩
  · exact ⟨rfl, rfl⟩

theorem wh_play_dummy {w w' : WithHands} {card : Card} {p : Seat} (hp : w.play card p = .ok w') :
    w'.base.declarer = w.base.declarer ∧ w'.base.dummy = w.base.dummy := by
  unfold WithHands.play at hp
  split at hp
  · cases hp
  · split at hp
    · cases hp
    · cases hp
      exact playCard_declarer _ _

theorem minv_play {decl : Seat} {w w' : WithHands} {card : Card} {p : Seat} (h : MInv decl w)
    (hp : w.play card p = .ok w') : MInv decl w' := by
  refine ⟨wf_with_hands_play w w' card p h.1 hp, ?_, ?_⟩
  · rw [(wh_play_dummy hp).1, h.2.1]
  · rw [(wh_play_dummy hp).2, h.2.2]

theorem playedBy_eq {decl : Seat} {w : WithHands} (h : MInv decl w) : playedBy w = playedM decl w := by
  simp only [playedBy, playedM, h.2.1, h.2.2]

/-! ## one card -/

/-- the world operations of one card: the `get`, the relay to the three others, and after the opening lead dummy's cards -/
def cardOps (w : WithHands) (msg : Str) (first : Prop) [Decidable first] (dm : Str) : List Val :=
  opGet (playedBy w) :: opsPutAllBut (playedBy w) msg ++ (if first then opsPutAllBut w.base.dummy dm else [])

/-- the variables one card may write -/
def cardVars : List Id := [K.self, n_playing_env, n_played_player, n_message, n_card, n_player, n_dummy_hand_message]

theorem mb_card (f : Nat) (env : Env) (i i' : Seat → List Str) (out : List Val) (table : Val) (tables : List Val)
    (more : List (Val × Val)) (bs : Val) (c : Contract) (w w' : WithHands) (card : Card) (msg : Str) (tk ix : Int)
    (deal : Seat → List Card)
    (hself : lookup env K.self = some (encMainThread (encMainWorld i out table tables more) bs))
    (hpe : lookup env n_playing_env = some (encWithHands c w))
    (htk : lookup env n_trick_num = some (.int tk)) (hix : lookup env n_i = some (.int ix))
    (hcards : lookup env n_cards = some (.dict (handsKvs deal)))
    (hwf : WF w.base)
    (hget : MainIn.get i (playedBy w) = some (msg, i'))
    (hparse : ParsesTo msg w.base.active card)
    (hplay : w.play card w.base.active = .ok w')
    (hok : ∀ c ∈ deal w.base.dummy, 2 ≤ c.rank ∧ c.rank ≤ 14) :
    ∃ env', execF (mkRec P (f+70)) P env mbCardBody = .ok (env', .next) ∧
      lookup env' K.self = some (encMainThread (encMainWorld i'
        (out ++ cardOps w msg (tk = 1 ∧ ix = 0) (cardsMsg "Dummy".toList (deal w.base.dummy))) table tables more) bs) ∧
      lookup env' n_playing_env = some (encWithHands c w') ∧
      Frame cardVars env env' := by
  have hdum : w'.base.dummy = w.base.dummy := (wh_play_dummy hplay).2
  obtain ⟨e1, h1, hs1, hp1, hx1, hm1, hf1⟩ := mb_card_head f env i i' out table tables more bs c w w' card msg hself hpe hwf
    hget (fun g => hparse (g+21) (by omega)) hplay
  obtain ⟨e2, h2, hs2, hf2⟩ := mb_loop_relay (f+40) e1 i' (out ++ [opGet (playedBy w)]) table tables more bs _ _ hs1 hx1 hm1
  have h2' : execStmtF (mkRec P (f+70)) P e1 mbRelayLoop = .ok (e2, .next) := h2
  have hp2 : lookup e2 n_playing_env = some (encWithHands c w') := by rw [hf2 _ (by decide), hp1]
  have htk2 : lookup e2 n_trick_num = some (.int tk) := by rw [hf2 _ (by decide), hf1 _ (by decide), htk]
  have hix2 : lookup e2 n_i = some (.int ix) := by rw [hf2 _ (by decide), hf1 _ (by decide), hix]
  have hc2 : lookup e2 n_cards = some (.dict (handsKvs deal)) := by rw [hf2 _ (by decide), hf1 _ (by decide), hcards]
  have hf12 : Frame cardVars env e2 :=
    (hf1.mono (by decide)).trans (hf2.mono (by decide))
  by_cases hfirst : tk = 1 ∧ ix = 0
  · obtain ⟨rfl, rfl⟩ := hfirst
    obtain ⟨e3, h3, hs3, hf3⟩ := mb_dummy_ite_first f e2 i' _ table tables more bs c w' deal hs2 hp2 htk2 hix2 hc2
      (by rw [hdum]; exact hok)
    refine ⟨e3, ?_, ?_, ?_, hf12.trans (hf3.mono (by decide))⟩
    · rw [mbCardBody_eq, execF_append_next _ h1, execF_cons_next _ h2', execF_cons_next _ h3]; rfl
    · rw [hs3, hdum]; simp [cardOps, List.append_assoc]
    · rw [hf3 _ (by decide), hp2]
  · have h3 := mb_dummy_ite_later f e2 tk ix hfirst htk2 hix2
    refine ⟨e2, ?_, ?_, hp2, hf12⟩
    · rw [mbCardBody_eq, execF_append_next _ h1, execF_cons_next _ h2', execF_cons_next _ h3]; rfl
    · rw [hs2]; simp [cardOps, hfirst, List.append_assoc]

/-! ## the four cards of a trick -/

def mbCardLoop : Stmt := mbTrickBody.getD 3 .pass
theorem mbCardLoop_eq : mbCardLoop = .for [n_i] (.builtin .range [.const (.int 4)]) mbCardBody := rfl

/-- the items `k, k+1, …` (`n` of them) of a `range` -/
def natItems (k n : Nat) : List Val := (List.range' k n).map fun j => .int (Int.ofNat j)

theorem natItems_succ (k n : Nat) : natItems k (n + 1) = .int (Int.ofNat k) :: natItems (k + 1) n := by
  simp only [natItems, List.range'_succ, List.map_cons]


theorem encMainActs_card (encRec : BoardRecord → Val) (x : Seat) (msg : Text) (b : Prop) [Decidable b] (d : Seat)
    (dm : Text) :
    encMainActs encRec ([.recv (.t2m x)] ++ putAllBut x msg ++ (if b then putAllBut d dm else []))
      = some (opGet x :: opsPutAllBut x msg ++ (if b then opsPutAllBut d dm else [])) := by
  have h1 : encMainActs encRec [.recv (.t2m x)] = some [opGet x] := rfl
  have h2 := MainA.encMainActs_append encRec _ _ _ _ h1 (encMainActs_putAllBut encRec x msg)
  by_cases hb : b
  · simp only [hb, if_true]
    exact MainA.encMainActs_append encRec _ _ _ _ h2 (encMainActs_putAllBut encRec d dm)
  · simp only [hb, if_false, List.append_nil]
    exact h2

theorem cardOps_eq {decl : Seat} {w : WithHands} (hinv : MInv decl w) (k idx : Nat) (dm msg : Str) :
    cardOps w msg (Int.ofNat k = 1 ∧ Int.ofNat idx = 0) dm
      = opGet (playedM decl w) :: opsPutAllBut (playedM decl w) msg ++
          (if (decide (k = 1) = true ∧ idx = 0) then opsPutAllBut decl.partner dm else []) := by
  have c1 : ((k : Int) = 1 ∧ (idx : Int) = 0) ↔ (decide (k = 1) = true ∧ idx = 0) := by
    simp only [decide_eq_true_eq]; omega
  unfold cardOps
  rw [playedBy_eq hinv, hinv.2.2]
  simp only [Int.ofNat_eq_natCast]
  by_cases hc : decide (k = 1) = true ∧ idx = 0
  · rw [if_pos hc, if_pos (c1.2 hc)]
  · rw [if_neg hc, if_neg (fun h => hc (c1.1 h))]

/-- the variables the four cards may write -/
def loopVars : List Id := n_i :: cardVars

theorem mb_cards_loop (encRec : BoardRecord → Val) (f : Nat) (decl : Seat) (c : Contract) (deal : Seat → List Card)
    (table : Val) (tables : List Val) (more : List (Val × Val)) (bs : Val) (k : Nat)
    (hok : ∀ c ∈ deal decl.partner, 2 ≤ c.rank ∧ c.rank ≤ 14) :
    ∀ (n idx : Nat), idx + n = 4 → ∀ (env : Env) (w : WithHands) (i : MainIn) (out : List Val) (acts : MainActs)
      (wf : WithHands) (i_f : MainIn),
      lookup env K.self = some (encMainThread (encMainWorld i out table tables more) bs) →
      lookup env n_playing_env = some (encWithHands c w) →
      lookup env n_trick_num = some (.int (Int.ofNat k)) →
      lookup env n_cards = some (.dict (handsKvs deal)) →
      MInv decl w →
      mainTrickR decl (cardsMsg "Dummy".toList (deal decl.partner)) (k = 1) idx w i = some (acts, wf, i_f) →
      TrickParses decl n w i →
      ∃ env' ops, forF (mkRec P (f+71)) [n_i] mbCardBody env (natItems idx n) = .ok (env', .next) ∧
        encMainActs encRec acts = some ops ∧
        lookup env' K.self = some (encMainThread (encMainWorld i_f (out ++ ops) table tables more) bs) ∧
        lookup env' n_playing_env = some (encWithHands c wf) ∧
        MInv decl wf ∧ Frame loopVars env env' := by
  intro n
  induction n with
  | zero =>
    intro idx hidx env w i out acts wf i_f hself hpe htk hcards hinv hr _
    have : idx = 4 := by omega
    subst this
    rw [mainTrickR_four] at hr
    simp only [Option.some.injEq, Prod.mk.injEq] at hr
    obtain ⟨rfl, rfl, rfl⟩ := hr
    exact ⟨env, [], rfl, rfl, by rw [hself, List.append_nil], hpe, hinv, Frame.refl _ _⟩
  | succ n ih =>
    intro idx hidx env w i out acts wf i_f hself hpe htk hcards hinv hr htp
    obtain ⟨message, i1, card, w1, rest, hget, hparse, hplay, hrest, rfl⟩ := mainTrickR_inv (by omega) hr
    simp only [TrickParses, hget, hparse, hplay] at htp
    obtain ⟨hpt, htp1⟩ := htp
    have hpb := playedBy_eq hinv
    have hne : ∀ y, n_i ≠ y → lookup (update env n_i (.int (Int.ofNat idx))) y = lookup env y :=
      fun y hy => lookup_update_ne _ _ _ _ hy
    obtain ⟨e1, h1, hs1, hp1, hf1⟩ := mb_card f (update env n_i (.int (Int.ofNat idx))) i i1 out table tables more bs c w w1
      card message (Int.ofNat k) (Int.ofNat idx) deal (by rw [hne _ (by decide), hself]) (by rw [hne _ (by decide), hpe])
      (by rw [hne _ (by decide), htk]) (lookup_update_same _ _ _) (by rw [hne _ (by decide), hcards]) hinv.1
      (by rw [hpb]; exact hget) hpt hplay (by rw [hinv.2.2]; exact hok)
    have hinv1 := minv_play hinv hplay
    obtain ⟨e2, ops, h2, hops, hs2, hp2, hinv2, hf2⟩ := ih (idx + 1) (by omega) e1 w1 i1 _ rest wf i_f hs1 hp1
      (by rw [hf1 _ (by decide), hne _ (by decide), htk]) (by rw [hf1 _ (by decide), hne _ (by decide), hcards])
      hinv1 hrest htp1
    refine ⟨e2, cardOps w message (Int.ofNat k = 1 ∧ Int.ofNat idx = 0) (cardsMsg "Dummy".toList (deal w.base.dummy)) ++ ops,
      ?_, ?_, ?_, hp2, hinv2, ?_⟩
    · rw [natItems_succ, forF_cons_next _ _ _ _ e1 _ _ h1, h2]
    · refine MainA.encMainActs_append encRec _ _ _ _ ?_ hops
      rw [cardOps_eq hinv, hinv.2.2]
      exact encMainActs_card encRec _ _ _ _ _
    · rw [hs2, List.append_assoc]
    · have hf0 : Frame loopVars env (update env n_i (.int (Int.ofNat idx))) :=
        Frame.update (Frame.refl _ _) _ _ (by decide)
      exact (hf0.trans (hf1.mono (by decide))).trans hf2

/-! ## one trick -/

def mbTrickHead : List Stmt := mbTrickBody.take 2
theorem mbTrickBody_eq : mbTrickBody = mbTrickHead ++ [mbLeaderLoop, mbCardLoop] := rfl

theorem mb_cardLoop_stmt (f : Nat) (env : Env) :
    execStmtF (mkRec P (f+2)) P env mbCardLoop = forF (mkRec P (f+2)) [n_i] mbCardBody env (natItems 0 4) := rfl

theorem mb_trick_head (f : Nat) (env : Env) (i : Seat → List Str) (out : List Val) (table : Val) (tables : List Val)
    (more : List (Val × Val)) (bs : Val) (c : Contract) (w : WithHands)
    (hself : lookup env K.self = some (encMainThread (encMainWorld i out table tables more) bs))
    (hpe : lookup env n_playing_env = some (encWithHands c w)) :
    ∃ env', execF (mkRec P (f+30)) P env mbTrickHead = .ok (env', .next) ∧
      lookup env' K.self = some (encMainThread (encMainWorld i (out ++ [opSleep]) table tables more) bs) ∧
      lookup env' n_leader = some (encSeat w.base.leader) ∧
      Frame [K.self, n_leader] env env' := by
  simp only [encMainThread] at hself ⊢
  refine ⟨?_, ?_, ?_, ?_, ?_⟩
  rotate_left
  · simp only [mbTrickHead, mbTrickBody, m_MainThread_playing_phase, List.getD_cons_zero, List.getD_cons_succ, List.take]
    ppsimp [pyworld, forF, hself, hpe]
    try rfl
  · lk_tac
  · lk_tac
  · frame_tac

/-- the variables one trick may write -/
def trickVars : List Id := n_leader :: loopVars

theorem mb_trick (encRec : BoardRecord → Val) (f : Nat) (decl : Seat) (c : Contract) (deal : Seat → List Card)
    (table : Val) (tables : List Val) (more : List (Val × Val)) (bs : Val) (k : Nat)
    (hok : ∀ c ∈ deal decl.partner, 2 ≤ c.rank ∧ c.rank ≤ 14)
    (env : Env) (w : WithHands) (i : MainIn) (out : List Val) (t : MainActs) (w' : WithHands) (i' : MainIn)
    (hself : lookup env K.self = some (encMainThread (encMainWorld i out table tables more) bs))
    (hpe : lookup env n_playing_env = some (encWithHands c w))
    (htk : lookup env n_trick_num = some (.int (Int.ofNat k)))
    (hcards : lookup env n_cards = some (.dict (handsKvs deal)))
    (hinv : MInv decl w)
    (hr : mainTrickR decl (cardsMsg "Dummy".toList (deal decl.partner)) (k = 1) 0 w i = some (t, w', i'))
    (htp : TrickParses decl 4 w i) :
    ∃ env' tops, execF (mkRec P (f+72)) P env mbTrickBody = .ok (env', .next) ∧
      encMainActs encRec t = some tops ∧
      lookup env' K.self = some (encMainThread (encMainWorld i'
        (out ++ (opSleep :: opsPutAll w.base.leader.formal ++ tops)) table tables more) bs) ∧
      lookup env' n_playing_env = some (encWithHands c w') ∧
      MInv decl w' ∧ Frame trickVars env env' := by
  obtain ⟨e1, h1, hs1, hl1, hf1⟩ := mb_trick_head (f+42) env i out table tables more bs c w hself hpe
  have h1' : execF (mkRec P (f+72)) P env mbTrickHead = .ok (e1, .next) := h1
  obtain ⟨e2, h2, hs2, hf2⟩ := mb_loop_leader (f+42) e1 i _ table tables more bs _ hs1 hl1
  have h2' : execStmtF (mkRec P (f+72)) P e1 mbLeaderLoop = .ok (e2, .next) := h2
  obtain ⟨e3, tops, h3, hops, hs3, hp3, hinv3, hf3⟩ := mb_cards_loop encRec (f+1) decl c deal table tables more bs k hok
    4 0 rfl e2 w i _ t w' i' hs2 (by rw [hf2 _ (by decide), hf1 _ (by decide), hpe])
    (by rw [hf2 _ (by decide), hf1 _ (by decide), htk]) (by rw [hf2 _ (by decide), hf1 _ (by decide), hcards]) hinv hr htp
  have h3' : execStmtF (mkRec P (f+72)) P e2 mbCardLoop = .ok (e3, .next) := by
    rw [mb_cardLoop_stmt (f+70) e2]; exact h3
  refine ⟨e3, tops, ?_, hops, ?_, hp3, hinv3, ?_⟩
  · rw [mbTrickBody_eq, execF_append_next _ h1', execF_cons_next _ h2', execF_cons_next _ h3']; rfl
  · rw [hs3]; simp only [List.append_assoc, List.cons_append, List.nil_append]
  · exact ((hf1.mono (by decide)).trans (hf2.mono (by decide))).trans (hf3.mono (by decide))

/-! ## thirteen tricks -/

def mbTricksLoop : Stmt := m_MainThread_playing_phase.body.getD 2 .pass

theorem mb_tricksLoop_stmt (f : Nat) (env : Env) :
    execStmtF (mkRec P (f+2)) P env mbTricksLoop
      = forF (mkRec P (f+2)) [n_trick_num] mbTrickBody env (natItems 1 13) := rfl

/-- THE EXPECTED OPERATIONS of `n` tricks from trick number `k` on: per trick the `sleep` of `time.sleep(1)`, the leader's
name to the four seats, then the rendering of the model's actions for the four cards -/
def tricksOpsS (encRec : BoardRecord → Val) (decl : Seat) (dm : Text) : Nat → Nat → WithHands → MainIn → Option (List Val)
  | 0, _, _, _ => some []
  | n + 1, k, w, i =>
    match mainTrickR decl dm (k = 1) 0 w i with
    | none => none
    | some (t, w', i') =>
      match encMainActs encRec t, tricksOpsS encRec decl dm n (k + 1) w' i' with
      | some tops, some rest => some (opSleep :: opsPutAll w.base.leader.formal ++ tops ++ rest)
      | _, _ => none

/-- … of the whole `playing_phase`: declarer's name to the four seats, then the thirteen tricks -/
def playingOpsS (encRec : BoardRecord → Val) (decl : Seat) (dm : Text) (w0 : WithHands) (i : MainIn) : Option (List Val) :=
  (tricksOpsS encRec decl dm 13 1 w0 i).map (opsPutAll decl.formal ++ ·)

/-- remove the `sleep` operations -/
def stripSleep (ops : List Val) : List Val := ops.filter fun v => !v.beq opSleep

theorem stripSleep_append (a b : List Val) : stripSleep (a ++ b) = stripSleep a ++ stripSleep b :=
  List.filter_append ..

theorem stripSleep_sleep (l : List Val) : stripSleep (opSleep :: l) = stripSleep l := by
  have : opSleep.beq opSleep = true := by simp [opSleep, vstr, Val.beq, beqL]
  simp only [stripSleep, List.filter_cons, this, Bool.not_true, Bool.false_eq_true, if_false]

theorem encMainAct_no_sleep (encRec : BoardRecord → Val) (a : SAct Text LogOp) (x : List Val)
    (h : encMainAct encRec a = some x) : stripSleep x = x := by
  cases a with
  | send ch m =>
    cases ch <;> simp only [encMainAct, Option.some.injEq, reduceCtorEq] at h
    subst h
    simp [stripSleep, opSleep, vstr, Val.beq, beqL]
  | recv ch =>
    cases ch <;> simp only [encMainAct, Option.some.injEq, reduceCtorEq] at h
    subst h
    simp [stripSleep, opSleep, vstr, Val.beq, beqL]
  | emit o =>
    cases o <;> simp only [encMainAct, Option.some.injEq] at h <;> subst h <;>
      simp [stripSleep, opSleep, vstr, Val.beq, beqL]
  | arrive =>
    simp only [encMainAct, Option.some.injEq] at h; subst h
    simp [stripSleep, opSleep, vstr, Val.beq, beqL]
  | depart =>
    simp only [encMainAct, Option.some.injEq] at h; subst h; rfl

theorem encMainActs_no_sleep (encRec : BoardRecord → Val) (acts : List (SAct Text LogOp)) (ops : List Val)
    (h : encMainActs encRec acts = some ops) : stripSleep ops = ops := by
  induction acts generalizing ops with
  | nil => simp only [encMainActs, Option.some.injEq] at h; subst h; rfl
  | cons a r ih =>
    obtain ⟨vx, vr, hx, hr, rfl⟩ := MainA.encMainActs_cons_some h
    rw [stripSleep_append, encMainAct_no_sleep encRec a vx hx, ih vr hr]

theorem tricks_succ (decl : Seat) (dm : Text) (n k : Nat) (w : WithHands) (i : MainIn) :
    mainPlayingR.tricks decl dm (n + 1) k w i =
      match mainTrickR decl dm (k = 1) 0 w i with
      | none => none
      | some (t, w', i') =>
        match mainPlayingR.tricks decl dm n (k + 1) w' i' with
        | none => none
        | some (rest, wf, i_f) => some (putAll w.base.leader.formal ++ t ++ rest, wf, i_f) := by
  rw [mainPlayingR.tricks]
  cases mainTrickR decl dm (k = 1) 0 w i with
  | none => rfl
  | some x =>
    obtain ⟨t, w', i'⟩ := x
    simp only [Option.bind_eq_bind, Option.bind_some, Option.pure_def]
    cases mainPlayingR.tricks decl dm n (k + 1) w' i' with
    | none => rfl
    | some y => rfl

theorem mb_tricks_loop (encRec : BoardRecord → Val) (f : Nat) (decl : Seat) (c : Contract) (deal : Seat → List Card)
    (table : Val) (tables : List Val) (more : List (Val × Val)) (bs : Val)
    (hok : ∀ c ∈ deal decl.partner, 2 ≤ c.rank ∧ c.rank ≤ 14) :
    ∀ (n k : Nat) (env : Env) (w : WithHands) (i : MainIn) (out : List Val) (ts : MainActs)
      (wf : WithHands) (i_f : MainIn),
      lookup env K.self = some (encMainThread (encMainWorld i out table tables more) bs) →
      lookup env n_playing_env = some (encWithHands c w) →
      lookup env n_cards = some (.dict (handsKvs deal)) →
      MInv decl w →
      mainPlayingR.tricks decl (cardsMsg "Dummy".toList (deal decl.partner)) n k w i = some (ts, wf, i_f) →
      PlayParses decl (cardsMsg "Dummy".toList (deal decl.partner)) n k w i →
      ∃ env' opsS, forF (mkRec P (f+73)) [n_trick_num] mbTrickBody env (natItems k n) = .ok (env', .next) ∧
        tricksOpsS encRec decl (cardsMsg "Dummy".toList (deal decl.partner)) n k w i = some opsS ∧
        encMainActs encRec ts = some (stripSleep opsS) ∧
        lookup env' K.self = some (encMainThread (encMainWorld i_f (out ++ opsS) table tables more) bs) ∧
        lookup env' n_playing_env = some (encWithHands c wf) ∧
        Frame (n_trick_num :: trickVars) env env' := by
  intro n
  induction n with
  | zero =>
    intro k env w i out ts wf i_f hself hpe hcards hinv hr _
    simp only [mainPlayingR.tricks, Option.some.injEq, Prod.mk.injEq] at hr
    obtain ⟨rfl, rfl, rfl⟩ := hr
    exact ⟨env, [], rfl, rfl, rfl, by rw [hself, List.append_nil], hpe, Frame.refl _ _⟩
  | succ n ih =>
    intro k env w i out ts wf i_f hself hpe hcards hinv hr hpp
    rw [tricks_succ] at hr
    simp only [PlayParses] at hpp
    obtain ⟨htp, hpp1⟩ := hpp
    cases ht : mainTrickR decl (cardsMsg "Dummy".toList (deal decl.partner)) (k = 1) 0 w i with
    | none => rw [ht] at hr; cases hr
    | some x =>
      obtain ⟨t, w1, i1⟩ := x
      rw [ht] at hr hpp1
      simp only at hr hpp1
      cases hrs : mainPlayingR.tricks decl (cardsMsg "Dummy".toList (deal decl.partner)) n (k + 1) w1 i1 with
      | none => rw [hrs] at hr; cases hr
      | some y =>
        obtain ⟨rest, wf', i_f'⟩ := y
        rw [hrs] at hr
        simp only [Option.some.injEq, Prod.mk.injEq] at hr
        obtain ⟨rfl, rfl, rfl⟩ := hr
        have hne : ∀ y, n_trick_num ≠ y → lookup (update env n_trick_num (.int (Int.ofNat k))) y = lookup env y :=
          fun y hy => lookup_update_ne _ _ _ _ hy
        obtain ⟨e1, tops, h1, htops, hs1, hp1, hinv1, hf1⟩ := mb_trick encRec f decl c deal table tables more bs k hok
          (update env n_trick_num (.int (Int.ofNat k))) w i out t w1 i1 (by rw [hne _ (by decide), hself])
          (by rw [hne _ (by decide), hpe]) (lookup_update_same _ _ _) (by rw [hne _ (by decide), hcards]) hinv ht htp
        obtain ⟨e2, opsR, h2, hopsR, hstrip, hs2, hp2, hf2⟩ := ih (k + 1) e1 w1 i1 _ rest wf' i_f' hs1 hp1
          (by rw [hf1 _ (by decide), hne _ (by decide), hcards]) hinv1 hrs hpp1
        refine ⟨e2, opSleep :: opsPutAll w.base.leader.formal ++ tops ++ opsR, ?_, ?_, ?_, ?_, hp2, ?_⟩
        · rw [natItems_succ, forF_cons_next _ _ _ _ e1 _ _ h1, h2]
        · simp only [tricksOpsS, ht, htops, hopsR]
        · have hl := encMainActs_putAll encRec w.base.leader.formal
          have h12 := MainA.encMainActs_append encRec _ _ _ _ (MainA.encMainActs_append encRec _ _ _ _ hl htops) hstrip
          rw [h12]
          have e : opSleep :: opsPutAll w.base.leader.formal ++ tops ++ opsR
              = opSleep :: (opsPutAll w.base.leader.formal ++ tops ++ opsR) := rfl
          rw [e, stripSleep_sleep, stripSleep_append, stripSleep_append, encMainActs_no_sleep encRec _ _ hl,
            encMainActs_no_sleep encRec _ _ htops]
        · rw [hs2]; simp only [List.append_assoc, List.cons_append, List.nil_append]
        · have hf0 : Frame (n_trick_num :: trickVars) env (update env n_trick_num (.int (Int.ofNat k))) :=
            Frame.update (Frame.refl _ _) _ _ (by decide)
          exact (hf0.trans (hf1.mono (by decide))).trans hf2

/-! ## the whole method -/

def mbNew : Stmt := m_MainThread_playing_phase.body.getD 0 .pass
def mbTail : List Stmt := m_MainThread_playing_phase.body.drop 3
theorem mbBody_eq : m_MainThread_playing_phase.body = mbNew :: mbDeclLoop :: mbTricksLoop :: mbTail := rfl

theorem mb_new (f : Nat) (env : Env) (c : Contract) (deal : Seat → List Card) (w0 : WithHands)
    (hc : lookup env n_contract = some (encContract c))
    (hcards : lookup env n_cards = some (.dict (handsKvs deal)))
    (hw0 : WithHands.init c deal = some w0) :
    execStmtF (mkRec P (f+60)) P env mbNew = .ok (update env n_playing_env (encWithHands c w0), .next) := by
  have hi := with_hands_init_call (f+8) c deal
  rw [show f + 8 + 50 = f + 58 from rfl] at hi
  simp only [WithHands.init, init_eq] at hw0
  cases hb : c.finalBid with
  | none => rw [hb] at hw0; cases hw0
  | some b =>
    cases hd : c.declarer with
    | none => rw [hb, hd] at hw0; cases hw0
    | some d =>
      rw [hb, hd] at hw0 hi
      simp only [Option.map_some, Option.some.injEq] at hw0 hi
      subst hw0
      simp only [mbNew, m_MainThread_playing_phase, List.getD_cons_zero]
      ppsimp [pyworld, forF, hc, hcards, mb_construct_wh, hi]

theorem minv_init (c : Contract) (deal : Seat → List Card) (w0 : WithHands) (decl : Seat)
    (hw0 : WithHands.init c deal = some w0) (hdecl : c.declarer = some decl) : MInv decl w0 := by
  refine ⟨wf_with_hands_init c deal w0 hw0, ?_, ?_⟩
  all_goals
    simp only [WithHands.init, init_eq, hdecl] at hw0
    cases hb : c.finalBid with
    | none => rw [hb] at hw0; cases hw0
    | some b =>
      rw [hb] at hw0
      simp only [Option.map_some, Option.some.injEq] at hw0
      subst hw0
      rfl

/-- the tricks of declarer's side, as `recordFrom` counts them -/
def declTricks (decl : Seat) (w : WithHands) : Nat :=
  match decl.side with | .NS => w.base.takenNS | .EW => w.base.takenEW

theorem mb_tail (f : Nat) (env : Env) (c : Contract) (w : WithHands) (decl : Seat)
    (hc : lookup env n_contract = some (encContract c))
    (hpe : lookup env n_playing_env = some (encWithHands c w))
    (hdecl : c.declarer = some decl) :
    execF (mkRec P (f+30)) P env mbTail
      = .ok (env, .ret (.tuple [encHistory c w.base.history, .int (declTricks decl w)])) := by
  simp only [mbTail, m_MainThread_playing_phase, List.drop]
  ppsimp [pyworld, forF, hc, hpe, getAttr_contract_declarer, hdecl, beq_encSeat_none, getAttr_pair, lookup_taken, declTricks]
  cases decl.side <;> rfl

theorem mainPlayingR_eq (decl : Seat) (dm : Text) (w0 : WithHands) (i : MainIn) :
    mainPlayingR decl dm w0 i =
      match mainPlayingR.tricks decl dm 13 1 w0 i with
      | none => none
      | some (ts, w, i') => some (putAll decl.formal ++ ts, w, i') := by
  rw [mainPlayingR]
  cases mainPlayingR.tricks decl dm 13 1 w0 i with
  | none => rfl
  | some x => rfl

theorem mb_playing_call (encRec : BoardRecord → Val) (f : Nat) (contract : Contract) (deal : Seat → List Card)
    (decl : Seat) (w0 w : WithHands) (i i' : MainIn) (acts : MainActs) (out : List Val) (table : Val)
    (tables : List Val) (more : List (Val × Val)) (bs : Val)
    (hw0 : WithHands.init contract deal = some w0)
    (hdecl : contract.declarer = some decl)
    (hr : mainPlayingR decl (cardsMsg "Dummy".toList (deal decl.partner)) w0 i = some (acts, w, i'))
    (hpp : PlayParses decl (cardsMsg "Dummy".toList (deal decl.partner)) 13 1 w0 i)
    (hok : ∀ c ∈ deal decl.partner, 2 ≤ c.rank ∧ c.rank ≤ 14) :
    ∃ opsS, playingOpsS encRec decl (cardsMsg "Dummy".toList (deal decl.partner)) w0 i = some opsS ∧
      encMainActs encRec acts = some (stripSleep opsS) ∧
      callF (mkRec P (f+79)) m_MainThread_playing_phase
          [encMainThread (encMainWorld i out table tables more) bs, encContract contract, .dict (handsKvs deal)]
        = .ok (.tuple [encHistory contract w.base.history, .int (declTricks decl w)],
               encMainThread (encMainWorld i' (out ++ opsS) table tables more) bs) := by
  rw [mainPlayingR_eq] at hr
  cases hts : mainPlayingR.tricks decl (cardsMsg "Dummy".toList (deal decl.partner)) 13 1 w0 i with
  | none => rw [hts] at hr; cases hr
  | some x =>
    obtain ⟨ts, wf, i_f⟩ := x
    rw [hts] at hr
    simp only [Option.some.injEq, Prod.mk.injEq] at hr
    obtain ⟨rfl, rfl, rfl⟩ := hr
    let env0 : Env := [(K.self, encMainThread (encMainWorld i out table tables more) bs), (n_contract, encContract contract),
      (n_cards, .dict (handsKvs deal))]
    have h0 := mb_new (f+18) env0 contract deal w0 rfl rfl hw0
    have h0' : execStmtF (mkRec P (f+78)) P env0 mbNew = .ok (update env0 n_playing_env (encWithHands contract w0), .next) := h0
    have hinv0 := minv_init contract deal w0 decl hw0 hdecl
    obtain ⟨e1, h1, hs1, hf1⟩ := mb_loop_decl (f+48) (update env0 n_playing_env (encWithHands contract w0)) i out table
      tables more bs contract w0 rfl rfl
    have h1' : execStmtF (mkRec P (f+78)) P (update env0 n_playing_env (encWithHands contract w0)) mbDeclLoop
        = .ok (e1, .next) := h1
    rw [hinv0.2.1] at hs1
    obtain ⟨e2, opsT, h2, hopsT, hstrip, hs2, hp2, hf2⟩ := mb_tricks_loop encRec (f+5) decl contract deal table tables more bs
      hok 13 1 e1 w0 i _ ts wf i_f hs1 (by rw [hf1 _ (by decide)]; rfl) (by rw [hf1 _ (by decide)]; rfl) hinv0 hts hpp
    have h2' : execStmtF (mkRec P (f+78)) P e1 mbTricksLoop = .ok (e2, .next) := by
      rw [mb_tricksLoop_stmt (f+76) e1]; exact h2
    have hc2 : lookup e2 n_contract = some (encContract contract) := by
      rw [hf2 _ (by decide), hf1 _ (by decide)]; rfl
    have h3 := mb_tail (f+48) e2 contract wf decl hc2 hp2 hdecl
    have h3' : execF (mkRec P (f+78)) P e2 mbTail
        = .ok (e2, .ret (.tuple [encHistory contract wf.base.history, .int (declTricks decl wf)])) := h3
    refine ⟨opsPutAll decl.formal ++ opsT, ?_, ?_, ?_⟩
    · simp only [playingOpsS, hopsT, Option.map_some]
    · have hl := encMainActs_putAll encRec decl.formal
      rw [MainA.encMainActs_append encRec _ _ _ _ hl hstrip, stripSleep_append, encMainActs_no_sleep encRec _ _ hl]
    · rw [callF_def]
      have hb : (mkRec P (f+79)).exec env0 m_MainThread_playing_phase.body
          = .ok (e2, .ret (.tuple [encHistory contract wf.base.history, .int (declTricks decl wf)])) := by
        rw [exec_succ, mbBody_eq, execF_cons_next _ h0', execF_cons_next _ h1', execF_cons_next _ h2', h3']
      have hparams : bindParams m_MainThread_playing_phase.params m_MainThread_playing_phase.defaults
          [encMainThread (encMainWorld i out table tables more) bs, encContract contract, .dict (handsKvs deal)]
          = some env0 := rfl
      rw [hparams]
      simp only [hb, bind_ok]
      have hp : m_MainThread_playing_phase.params = [K.self, n_contract, n_cards] := rfl
      rw [hp]
      simp only [hs2, Option.getD_some, List.append_assoc]

end Bridge.Translated.MainB
