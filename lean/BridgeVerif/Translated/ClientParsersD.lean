import BridgeVerif.Translated.ClientParsersA
/-!
# The TRANSLATED `Client.parse_team_names` IS `parseTeamNames?`

`m_Client_parse_team_names` (Generated/PyCoreNet.lean; `client.py`:
`parse_match_base(r'Teams : N/S : "(.*)".? E/W : "(.*)"', content)`, then `(group(1), group(2))`) executed SYMBOLICALLY
by the MiniPy interpreter in the whole translated program `P`, its `re.match(…, re.IGNORECASE)` being the generic
regular-expression engine (`RegexMsgClient.match_teams`).  For EVERY text whose characters are in the class
`RegexMsgClient.agreeTeams` (every ASCII text is; so is any text whose non-ASCII characters do not case-fold onto a letter
of the pattern — the team names are otherwise arbitrary: quotes, `E/W : "` inside a name, …), at EVERY fuel ≥ 31:

* `parseTeamNames? s = some (ns, ew)` : the call returns `(ns, ew)` (the state returned is `.str s`);
* `parseTeamNames? s = none` : the call raises `Exception` (from `parse_match_base`).
-/
namespace Bridge.Translated.ClientParsers
open Bridge Bridge.Py Bridge.Generated.PyCore Bridge.Translated Bridge.RegexHands Bridge.RegexMsgClient

theorem teams_pat_eq : (['T', 'e', 'a', 'm', 's', ' ', ':', ' ', 'N', '/', 'S', ' ', ':', ' ', '"', '(', '.', '*', ')', '"', '.', '?', ' ', 'E', '/', 'W', ' ', ':', ' ', '"', '(', '.', '*', ')', '"'] : List Char) = TEAMS_PATTERN :=
  String.toList_ofList.symm

/-- what the translated method computes, in one statement -/
def teamsResult (s : Str) : R (Val × Val) :=
  match parseTeamNames? s with
  | none => .error (.exc K.Exception)
  | some (ns, ew) => .ok (.tuple [.str ns, .str ew], .str s)

theorem teams_exec_nomatch (f : Nat) (s : Str) (hs : ∀ x ∈ s, agreeTeams x = true) (h : parseTeamNames? s = none) :
    callF (mkRec P (f+30)) m_Client_parse_team_names [.str s] = .error (.exc K.Exception) := by
  have hm := match_teams s hs
  simp only [teamFields?, h, Option.map_none] at hm
  have hb := reMatch_none _ _ hm
  rw [callF_def]
  simp only [m_Client_parse_team_names]
  rw [teams_pat_eq]
  ppsimp [mth_match_base, match_base_none _ _ _ hb]

theorem teams_exec_match (f : Nat) (s : Str) (hs : ∀ x ∈ s, agreeTeams x = true) (ns ew : Str)
    (h : parseTeamNames? s = some (ns, ew)) :
    callF (mkRec P (f+30)) m_Client_parse_team_names [.str s] = .ok (.tuple [.str ns, .str ew], .str s) := by
  have hm := match_teams s hs
  simp only [teamFields?, h, Option.map_some] at hm
  obtain ⟨g0, hb⟩ := reMatch_some _ _ _ hm
  rw [callF_def]
  simp only [m_Client_parse_team_names]
  rw [teams_pat_eq]
  ppsimp [mth_match_base, match_base_some _ _ _ _ hb, pp_mth_m_group, pp_m_group_call1, pp_m_group_call2, List.map_cons,
    List.map_nil, iterItems_tuple]

/-- THE TRANSLATED METHOD, at every fuel ≥ 31, on every text in the class -/
theorem parse_team_names_translated (s : Str) (hs : ∀ x ∈ s, agreeTeams x = true) (g : Nat) (hg : 31 ≤ g) :
    callFn P g m_Client_parse_team_names [.str s] = teamsResult s := by
  refine st_callFn_of_callF (K := 30) (fun f => ?_) g hg
  unfold teamsResult
  cases h : parseTeamNames? s with
  | none => exact teams_exec_nomatch f s hs h
  | some x => obtain ⟨ns, ew⟩ := x; exact teams_exec_match f s hs ns ew h

/-- (B, success) -/
theorem parse_team_names_ok (s : Str) (hs : ∀ x ∈ s, agreeTeams x = true) (ns ew : Str)
    (h : parseTeamNames? s = some (ns, ew)) (g : Nat) (hg : 31 ≤ g) :
    callFn P g m_Client_parse_team_names [.str s] = .ok (.tuple [.str ns, .str ew], .str s) := by
  rw [parse_team_names_translated s hs g hg, teamsResult, h]

/-- (B, failure) -/
theorem parse_team_names_raises (s : Str) (hs : ∀ x ∈ s, agreeTeams x = true) (h : parseTeamNames? s = none) (g : Nat)
    (hg : 31 ≤ g) : callFn P g m_Client_parse_team_names [.str s] = .error (.exc K.Exception) := by
  rw [parse_team_names_translated s hs g hg, teamsResult, h]

/-- in the form the bundled-client capstone asks (`Returns` of Translated/ThreadsClientALemmas.lean, inside
`connectParses`) -/
theorem parse_team_names_returns (s : Str) (hs : ∀ x ∈ s, agreeTeams x = true) (ns ew : Str)
    (h : parseTeamNames? s = some (ns, ew)) :
    ∀ f, 31 ≤ f → (callFn P f m_Client_parse_team_names [.str s]).map (·.1) = .ok (.tuple [.str ns, .str ew]) := by
  intro f hf
  rw [parse_team_names_ok s hs ns ew h f hf]
  rfl

/-- for ASCII texts -/
theorem parse_team_names_ok_ascii (s : Str) (hs : ∀ x ∈ s, x.toNat < 128) (ns ew : Str)
    (h : parseTeamNames? s = some (ns, ew)) (g : Nat) (hg : 31 ≤ g) :
    callFn P g m_Client_parse_team_names [.str s] = .ok (.tuple [.str ns, .str ew], .str s) :=
  parse_team_names_ok s (fun x hx => agreeTeams_ascii x (hs x hx)) ns ew h g hg

/-! ### non-vacuity -/
example : callFn P 31 m_Client_parse_team_names [.str "TEAMS : n/s : \"A \"1\"\"; E/W : \"x\" e/w : \"B\" tail".toList]
    = .ok (.tuple [.str "A \"1\"\"; E/W : \"x".toList, .str "B".toList],
        .str "TEAMS : n/s : \"A \"1\"\"; E/W : \"x\" e/w : \"B\" tail".toList) :=
  by
  rw [show "TEAMS : n/s : \"A \"1\"\"; E/W : \"x\" e/w : \"B\" tail".toList = _ from String.toList_ofList]
  exact parse_team_names_ok_ascii _ (by decide +kernel) _ _ (by decide +kernel) 31 (Nat.le_refl _)
example : callFn P 31 m_Client_parse_team_names [.str "Teams : N/S : \"A\"xy E/W : \"B\"".toList]
    = .error (.exc K.Exception) :=
  parse_team_names_raises _ (fun x hx => agreeTeams_ascii x (by revert x; decide +kernel)) (by decide +kernel) 31
    (Nat.le_refl _)

end Bridge.Translated.ClientParsers
