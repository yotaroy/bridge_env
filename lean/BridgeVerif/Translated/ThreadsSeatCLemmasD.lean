import BridgeVerif.Translated.ThreadsSeatCLemmasC
/-! `boardsChecks` as an executable test (sound), the number of boards, so that closed instances can be decided -/
namespace Bridge.Translated.SeatC
open Bridge Bridge.Py Bridge.Generated.PyCore
open Bridge.Translated.SeatB (playingChecks playingChecksB playingChecksB_sound passesB passesB_sound)

theorem passesB_sound' {e m : Str} (h : passesB e m = true) : Bridge.Translated.passesCheck e m := passesB_sound h

def dealChecksB (p : Seat) (c : List Str) : Bool :=
  match c with
  | m1 :: m2 :: _ =>
    passesB (p.formal ++ " ready for deal".toList) m1 && passesB (p.formal ++ " ready for cards".toList) m2
  | _ => true

theorem dealChecksB_sound {p : Seat} {c : List Str} (h : dealChecksB p c = true) : dealChecks p c := by
  match c, h with
  | [], _ => trivial
  | [_], _ => trivial
  | m1 :: m2 :: r, h =>
    unfold dealChecksB at h
    rw [Bool.and_eq_true] at h
    exact ⟨passesB_sound' h.1, passesB_sound' h.2⟩

def bidChecksB (p : Seat) : Nat → SeatIn → Bool
  | 0, _ => true
  | n + 1, i =>
    match i.getQ with
    | none => true
    | some (m, i) =>
      if m = MSG_NULL then true
      else match seatOfFormal? m with
        | none => true
        | some a =>
          if p = a then
            match i.getC with
            | none => true
            | some (_, i) => bidChecksB p n i
          else
            match i.getC with
            | none => true
            | some (x, i) =>
              passesB (p.formal ++ " ready for ".toList ++ a.formal ++ "'s bid".toList) x &&
              match i.getQ with
              | none => true
              | some (_, i) => bidChecksB p n i

theorem bidChecksB_sound (p : Seat) : ∀ (n : Nat) (i : SeatIn), bidChecksB p n i = true → bidChecks p n i := by
  intro n
  induction n with
  | zero => intros; trivial
  | succ n ih =>
    intro i h
    unfold bidChecksB at h
    unfold bidChecks
    cases hq : i.getQ with
    | none => trivial
    | some mi =>
      obtain ⟨m, i1⟩ := mi
      rw [hq] at h
      dsimp only at h ⊢
      by_cases hm : m = MSG_NULL
      · rw [if_pos hm]; trivial
      · rw [if_neg hm] at h ⊢
        cases ha : seatOfFormal? m with
        | none => trivial
        | some a =>
          rw [ha] at h
          dsimp only at h ⊢
          by_cases hpa : p = a
          · rw [if_pos hpa] at h ⊢
            cases hc : i1.getC with
            | none => trivial
            | some xi =>
              obtain ⟨x, i2⟩ := xi
              rw [hc] at h
              exact ih _ h
          · rw [if_neg hpa] at h ⊢
            cases hc : i1.getC with
            | none => trivial
            | some xi =>
              obtain ⟨x, i2⟩ := xi
              rw [hc] at h
              dsimp only at h ⊢
              rw [Bool.and_eq_true] at h
              refine ⟨passesB_sound' h.1, ?_⟩
              cases hq2 : i2.getQ with
              | none => trivial
              | some yi =>
                obtain ⟨y, i3⟩ := yi
                have h2 := h.2
                rw [hq2] at h2
                exact ih _ h2

def boardChecksB (p : Seat) (i : SeatIn) : Bool :=
  dealChecksB p i.c &&
  match seatDealR p i with
  | none => true
  | some (_, i1) =>
    bidChecksB p (i1.q.length + 1) i1 &&
    match seatBiddingR p (i1.q.length + 1) i1 with
    | none => true
    | some (_, i2) =>
      match i2.getQ with
      | none => true
      | some (m, i3) => if m = MSG_NULL then playingChecksB p i3 else true

theorem boardChecksB_sound {p : Seat} {i : SeatIn} (h : boardChecksB p i = true) : boardChecks p i := by
  unfold boardChecksB at h
  rw [Bool.and_eq_true] at h
  refine ⟨dealChecksB_sound h.1, fun d i1 hd => ?_⟩
  have h2 := h.2
  rw [hd] at h2
  dsimp only at h2
  rw [Bool.and_eq_true] at h2
  refine ⟨bidChecksB_sound p _ _ h2.1, fun b i2 i3 hb hq => ?_⟩
  have h3 := h2.2
  rw [hb] at h3
  dsimp only at h3
  rw [hq] at h3
  dsimp only at h3
  rw [if_pos rfl] at h3
  exact playingChecksB_sound h3

def boardsChecksB (p : Seat) : Nat → SeatIn → Bool
  | 0, _ => true
  | n + 1, i =>
    boardChecksB p i &&
    match seatBoardR p i with
    | some (_, status, i1) => if status = MSG_NEXT then boardsChecksB p n i1 else true
    | none => true

theorem boardsChecksB_sound (p : Seat) : ∀ (n : Nat) (i : SeatIn), boardsChecksB p n i = true → boardsChecks p n i := by
  intro n
  induction n with
  | zero => intros; trivial
  | succ n ih =>
    intro i h
    unfold boardsChecksB at h
    rw [Bool.and_eq_true] at h
    refine ⟨boardChecksB_sound h.1, fun pre i1 hb => ?_⟩
    have h2 := h.2
    rw [hb] at h2
    dsimp only at h2
    rw [if_pos rfl] at h2
    exact ih _ h2

/-- the number of boards `seatBoardsR p n` goes through -/
def boardsNum (p : Seat) : Nat → SeatIn → Nat
  | 0, _ => 0
  | n + 1, i =>
    match seatBoardR p i with
    | some (_, status, i1) => if status = MSG_NEXT then boardsNum p n i1 + 1 else 1
    | none => 0

/-- `k` boards: `2 * k` barrier waits -/
def advBoards : Nat → Val × List Val → Val × List Val
  | 0, tt => tt
  | k + 1, tt => advBoards k (adv2 tt)

/-- `boardsTables`: two barrier waits per board -/
theorem boardsTables_eq_iterate (p : Seat) : ∀ (n : Nat) (i : SeatIn) (tt : Val × List Val),
    boardsTables p n i tt = advBoards (boardsNum p n i) tt := by
  intro n
  induction n with
  | zero => intros; rfl
  | succ n ih =>
    intro i tt
    unfold boardsTables boardsNum
    cases seatBoardR p i with
    | none => rfl
    | some x =>
      obtain ⟨pre, status, i1⟩ := x
      dsimp only
      by_cases hs : status = MSG_NEXT
      · rw [if_pos hs, if_pos hs, ih]; rfl
      · rw [if_neg hs, if_neg hs]; rfl

end Bridge.Translated.SeatC
