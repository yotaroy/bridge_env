import BridgeVerif.Translated.ThreadsSeatDLemmasB
/-! (2) the streams of the session model satisfy `boardsChecks`: phase by phase, following Lemmas/SeatThread.lean
(`seatDealR_phase`, `seatBiddingR_calls`, `one_trick`, `tricks_play`, `seatPlay_board`, `seatBoardsR_board`,
`seatBoardsR_boards`) -/
namespace Bridge.Translated.SeatD
open Bridge Bridge.Py Bridge.Generated.PyCore
open Bridge.Translated.SeatB (cardMainR cardOpenR mainCheck openCheck trickChecks tricksChecks playingChecks
  readyCardText readyDummyText)
open Bridge.Translated.SeatC (boardChecks boardsChecks seatBoardR)

/-! ## deal -/
theorem deal_checks (p : Seat) (h : Text) (cards : Seat → Text) (c' : List Text) :
    dealChecks p (cOf p (.deal h cards (fun p => readyFor p "deal".toList) (fun p => readyFor p "cards".toList)) ++ c') := by
  rw [cOf_deal]
  exact ⟨ready_deal_passes p, ready_cards_passes p⟩

/-! ## auction -/
theorem bid_checks (p dealer : Seat) (q' c' : List Text) : ∀ (calls : List (Call × Text)) (j fuel : Nat),
    bidChecks p fuel { q := (callPhases dealer j calls).flatMap (qOf p) ++ MSG_NULL :: q',
                       c := (callPhases dealer j calls).flatMap (cOf p) ++ c' } := by
  intro calls
  induction calls with
  | nil =>
    intro j fuel
    cases fuel with
    | zero => trivial
    | succ f => simp [callPhases, bidChecks]
  | cons x r ih =>
    intro j fuel
    obtain ⟨cl, text⟩ := x
    cases fuel with
    | zero => trivial
    | succ f =>
      have ih := ih (j + 1) f
      simp only [callPhases, List.flatMap_cons, qOf_call, cOf_call, List.append_assoc, List.cons_append]
      rw [bidChecks]
      by_cases h : p = dealer.rot j
      · subst h
        simp only [getQ_cons, formal_ne_null, if_false, seatOfFormal_formal, if_true, List.nil_append, List.cons_append,
          getC_cons]
        exact ih
      · simp only [getQ_cons, formal_ne_null, if_false, seatOfFormal_formal, if_neg h, List.nil_append, List.cons_append,
          getC_cons]
        exact ⟨ready_bid_passes p _, ih⟩

/-! ## one card -/
theorem main_step (p d a : Seat) (idx k : Nat) (card rdy : Text) (Q C : List Text)
    (hrdy : SeatB.passesCheck (readyCardText p d a k) rdy) :
    mainCheck p d a k { q := (if p = cardPlayer a d then [] else [card]) ++ Q,
                        c := (if p = cardPlayer a d then [card] else [rdy]) ++ C } ∧
    ∃ x, cardMainR p d idx a { q := (if p = cardPlayer a d then [] else [card]) ++ Q,
                               c := (if p = cardPlayer a d then [card] else [rdy]) ++ C } = some (x, { q := Q, c := C }) := by
  rcases cardPlayer_cases p a d with ⟨h1, h2 | ⟨h2, h3⟩⟩ | ⟨h1, h2, h3⟩
  · refine ⟨Or.inl h2, ?_⟩
    simp only [cardMainR, if_pos h1, if_pos h2]
    exact ⟨_, rfl⟩
  · refine ⟨Or.inr (Or.inl h3), ?_⟩
    simp only [cardMainR, if_pos h1, if_neg h2, if_pos h3]
    exact ⟨_, rfl⟩
  · refine ⟨Or.inr (Or.inr fun m r hc => ?_), ?_⟩
    · simp only [if_neg h1, List.cons_append, List.nil_append, List.cons.injEq] at hc
      obtain ⟨rfl, _⟩ := hc
      exact hrdy
    · simp only [cardMainR, if_neg h1, if_neg h2, if_neg h3]
      exact ⟨_, rfl⟩

theorem open_step (p d : Seat) (k idx : Nat) (op : Bool) (hop : op = true ↔ (k = 1 ∧ idx = 0)) (dc rdd : Text)
    (q' c' : List Text) (hrdd : SeatB.passesCheck (readyDummyText p) rdd) :
    openCheck p d k idx { q := (if op = true ∧ p ≠ d.partner then [dc] else []) ++ q',
                          c := (if op = true ∧ p ≠ d.partner then [rdd] else []) ++ c' } ∧
    ∃ y, cardOpenR p d (decide (k = 1)) idx ⟨(if op = true ∧ p ≠ d.partner then [dc] else []) ++ q',
        (if op = true ∧ p ≠ d.partner then [rdd] else []) ++ c'⟩ = some (y, { q := q', c := c' }) := by
  have hoeq : (decide (k = 1) = true ∧ idx = 0 ∧ p ≠ d.partner) ↔ (op = true ∧ p ≠ d.partner) := by
    rw [hop, and_assoc, decide_eq_true_eq]
  by_cases ho : op = true ∧ p ≠ d.partner
  · refine ⟨fun _ m r hc => ?_, ?_⟩
    · simp only [if_pos ho, List.cons_append, List.nil_append, List.cons.injEq] at hc
      obtain ⟨rfl, _⟩ := hc
      exact hrdd
    · simp only [cardOpenR, if_pos (hoeq.mpr ho), if_pos ho]
      exact ⟨_, rfl⟩
  · refine ⟨fun hk => absurd (hoeq.mp ⟨decide_eq_true hk.1, hk.2⟩) ho, ?_⟩
    simp only [cardOpenR, if_neg (fun hx => ho (hoeq.mp hx)), if_neg ho]
    exact ⟨_, rfl⟩

theorem trickChecks_step (p d a : Seat) (k n idx : Nat) (op : Bool) (hop : op = true ↔ (k = 1 ∧ idx = 0))
    (card dc rdy rdd : Text) (q' c' : List Text)
    (hrdy : SeatB.passesCheck (readyCardText p d a k) rdy) (hrdd : SeatB.passesCheck (readyDummyText p) rdd)
    (hrest : trickChecks p d k n (idx + 1) a.left { q := q', c := c' }) :
    trickChecks p d k (n + 1) idx a { q := cardQ p d a op card dc ++ q', c := cardC p d a op card rdy rdd ++ c' } := by
  simp only [cardQ, cardC, List.append_assoc]
  obtain ⟨hm, x0, hx0⟩ := main_step p d a idx k card rdy
    ((if op = true ∧ p ≠ d.partner then [dc] else []) ++ q') ((if op = true ∧ p ≠ d.partner then [rdd] else []) ++ c') hrdy
  obtain ⟨ho, y0, hy0⟩ := open_step p d k idx op hop dc rdd q' c' hrdd
  refine ⟨hm, fun x i1 h1 => ?_⟩
  rw [hx0] at h1
  simp only [Option.some.injEq, Prod.mk.injEq] at h1
  obtain ⟨_, rfl⟩ := h1
  refine ⟨ho, fun y i2 h2 => ?_⟩
  rw [hy0] at h2
  simp only [Option.some.injEq, Prod.mk.injEq] at h2
  obtain ⟨_, rfl⟩ := h2
  exact hrest

end Bridge.Translated.SeatD
