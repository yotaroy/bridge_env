import BridgeVerif.Translated.JsonWriterLemmasE
/-!
# json_handler/writer.py AS TRANSLATED writes exactly the model's text  (C12, C17)

`Generated/PyCoreJson.lean` (re-written from `writer.py` on every run) executed by the MiniPy interpreter at the
top-level fuel, compared with the hand-written model `Model/JsonLog.lean`:

* `jw_convert_deal_translated` — `convert_deal(deal)` is the dict whose JSON image is `dealJson`;
* `jw_open_translated`, `jw_write_content_translated`, `jw_close_translated` — the framing, for the three writer
  classes (`IsWriterCls`; the `TAG` class attribute is the property `jwTag`);
* `jw_log_write_translated`, `jw_setting_write_translated` — one call of `write` on an open writer appends the separator
  (unless first) and `pyDumps (logJson e)` / `pyDumps (settingJson e)`; on a writer that is not open it raises `Exception`;
* `jw_log_document_translated`, `jw_settings_document_translated` — `W(file); open(); write(e) for e in es; close()`
  leaves a file object whose chunks concatenate to `logText es` / `settingsText es`.

The arguments are encoded by `logArgs` / `settingArgs` (JsonWriterLemmasA.lean); a file object is `encFile chunks`, a writer
instance `encWriter cls chunks isOpen first`.

Hypotheses (`LogWF`, `SettingWF` — each is what the code needs; names, board id, calls, contract, scores are arbitrary):
* every card of the deal (and of the play history) has rank 2..14: `str(card)` prints `str(rank)` for a rank outside
  10..14 where the model writes `'?'` outside 2..14, and with ranks 2..14 `int(card)` is injective, so the interpreter's
  insertion sort (`x` before the first STRICTLY larger) and the model's `sortAsc` (before the first larger-or-equal)
  agree also when a hand lists a card twice.  The suit is arbitrary (`NT` prints as `NT` on both sides).
* `DdaWF`: the keys of the double-dummy table, and of each of its rows, are pairwise distinct — i.e. the value is a
  Python `dict` at all (the comprehension `{str(p): … for p, r in dda.items()}` would merge equal keys; the model maps
  the association list).
* the `scores` dictionary may list the two pairs in either order (`jw_log_write_translated_any_scores`): the code reads
  `scores[Pair.NS]` and `scores[Pair.EW]`.
-/
namespace Bridge.Translated
open Bridge Bridge.Py Bridge.Generated.PyCore

/-- the receiver after a method call -/
def selfAfter (c m : Id) (args : List Val) : R Val := (P.runMethod c m args).map (·.2)

theorem jw_runMethod_eq (c m : Id) (args : List Val) (cm : Id) (fd : FuncDef)
    (hm : P.method? classDepth c m = some (cm, fd)) : P.runMethod c m args = callF (mkRec P 999) fd args := by
  simp only [Program.runMethod, hm]; rfl

/-! ## (a) `convert_deal` -/
/-- `convert_deal(deal)` returns `dealVal h`, the dict seat name ↦ `[str(card) for card in sorted(deal[p])]` … -/
theorem jw_convert_deal_translated_val (h : Hands) (hok : ∀ p, ∀ c ∈ h p, 2 ≤ c.rank ∧ c.rank ≤ 14) :
    P.runFn n_convert_deal [encHands h] = .ok (dealVal h) := by
  have run : P.runFn n_convert_deal [encHands h] = (callF (mkRec P 999) f_convert_deal [encHands h]).map (·.1) := rfl
  rw [run, jw_convert_deal_call 959 h hok]; rfl

/-- … whose image under `json.dumps` is the model's `dealJson h` -/
theorem jw_convert_deal_translated (h : Hands) (hok : ∀ p, ∀ c ∈ h p, 2 ≤ c.rank ∧ c.rank ≤ 14) :
    ∃ v, P.runFn n_convert_deal [encHands h] = .ok v ∧ valToJson v = some (dealJson h) :=
  ⟨dealVal h, jw_convert_deal_translated_val h hok, jw_dealVal_json h⟩

/-- for valid cards (`Card.ok`) -/
theorem jw_convert_deal_translated_ok (h : Hands) (hok : ∀ p, ∀ c ∈ h p, c.ok = true) :
    ∃ v, P.runFn n_convert_deal [encHands h] = .ok v ∧ valToJson v = some (dealJson h) :=
  jw_convert_deal_translated h fun p c hc => by
    have := hok p c hc
    simp only [Card.ok, Bool.and_eq_true, decide_eq_true_eq] at this
    exact this.1

/-! ## (b) the framing -/
theorem jw_tag_log : jwTag n_JsonLogWriter = jkey "logs" := rfl
theorem jw_tag_setting : jwTag n_JsonBoardSettingWriter = jkey "board_settings" := rfl
theorem jw_tag_base : jwTag n_JsonWriter = [] := rfl
theorem jw_cls_log : IsWriterCls n_JsonLogWriter := Or.inl rfl
theorem jw_cls_setting : IsWriterCls n_JsonBoardSettingWriter := Or.inr (Or.inl rfl)
theorem jw_cls_base : IsWriterCls n_JsonWriter := Or.inr (Or.inr rfl)

/-- `W(file)`: not open, no record yet -/
theorem jw_new_log_translated (chunks : List Str) :
    P.runNew n_JsonLogWriter [encFile chunks] = .ok (encWriter n_JsonLogWriter chunks false false) :=
  jw_construct_log 987 chunks
theorem jw_new_setting_translated (chunks : List Str) :
    P.runNew n_JsonBoardSettingWriter [encFile chunks] = .ok (encWriter n_JsonBoardSettingWriter chunks false false) :=
  jw_construct_setting 987 chunks

/-- `open()` appends `{"TAG": [\n`, whatever the state of the writer -/
theorem jw_open_translated (cls : Id) (hc : IsWriterCls cls) (chunks : List Str) (o fl : Bool) :
    P.runMethod cls n_open [encWriter cls chunks o fl]
      = .ok (.none, encWriter cls (chunks ++ [jsonOpen (jwTag cls)]) true true) := by
  rw [jw_runMethod_eq _ _ _ _ _ (jw_mth_open cls hc)]
  exact jw_open_call 979 cls hc chunks o fl

/-- `close()` appends `]}` when no record was written since `open()`, `\n]}` otherwise -/
theorem jw_close_translated (cls : Id) (hc : IsWriterCls cls) (chunks : List Str) (o fl : Bool) :
    P.runMethod cls n_close [encWriter cls chunks o fl]
      = .ok (.none, encWriter cls (chunks ++ [if fl then jkey "]}" else jkey "\n]}"]) false fl) := by
  rw [jw_runMethod_eq _ _ _ _ _ (jw_mth_close cls hc)]
  exact jw_close_call 979 cls chunks o fl

/-- `_write_content(d)` appends `,\n` unless this is the first record, then `json.dumps(d)` -/
theorem jw_write_content_translated (cls : Id) (hc : IsWriterCls cls) (chunks : List Str) (o fl : Bool) (d : Val) (j : Json)
    (hj : valToJson d = some j) :
    P.runMethod cls n__write_content [encWriter cls chunks o fl, d]
      = .ok (.none, encWriter cls (chunks ++ (if fl then [] else [jkey ",\n"]) ++ [pyDumps j]) o false) := by
  rw [jw_runMethod_eq _ _ _ _ _ (jw_mth_write_content cls hc)]
  exact jw_write_content_call 979 cls chunks o fl d j hj

theorem jw_selfAfter_open (cls : Id) (hc : IsWriterCls cls) (chunks : List Str) (o fl : Bool) :
    selfAfter cls n_open [encWriter cls chunks o fl] = .ok (encWriter cls (chunks ++ [jsonOpen (jwTag cls)]) true true) := by
  rw [selfAfter, jw_open_translated cls hc]; rfl
theorem jw_selfAfter_close (cls : Id) (hc : IsWriterCls cls) (chunks : List Str) (o fl : Bool) :
    selfAfter cls n_close [encWriter cls chunks o fl]
      = .ok (encWriter cls (chunks ++ [if fl then jkey "]}" else jkey "\n]}"]) false fl) := by
  rw [selfAfter, jw_close_translated cls hc]; rfl

/-! ## (c) one record -/
theorem jw_log_write_call (f : Nat) (chunks : List Str) (fl : Bool) (e : LogEntry) (sc : List (Val × Val))
    (hns : lookupD sc (encSide .NS) = some (.int e.scoreNS)) (hew : lookupD sc (encSide .EW) = some (.int e.scoreEW))
    (hwf : LogWF e) :
    callF (mkRec P (f+70)) m_JsonLogWriter_write (encWriter n_JsonLogWriter chunks true fl :: logArgsWith (.dict sc) e)
      = .ok (.none, encWriter n_JsonLogWriter (chunks ++ (if fl then [] else [jkey ",\n"]) ++ [pyDumps (logJson e)])
          true false) := by
  rw [jw_log_write_call_aux f chunks fl e sc hns hew hwf,
    jw_write_content_call (f+48) n_JsonLogWriter chunks true fl (logVal e) (logJson e) (jw_logVal_json e)]
  rfl

/-- `JsonLogWriter.write(…)` on an open writer, the `scores` dictionary in any order -/
theorem jw_log_write_translated_any_scores (e : LogEntry) (hwf : LogWF e) (chunks : List Str) (fl : Bool)
    (sc : List (Val × Val))
    (hns : lookupD sc (encSide .NS) = some (.int e.scoreNS)) (hew : lookupD sc (encSide .EW) = some (.int e.scoreEW)) :
    P.runMethod n_JsonLogWriter n_write (encWriter n_JsonLogWriter chunks true fl :: logArgsWith (.dict sc) e)
      = .ok (.none, encWriter n_JsonLogWriter (chunks ++ (if fl then [] else [jkey ",\n"]) ++ [pyDumps (logJson e)])
          true false) := by
  rw [jw_runMethod_eq _ _ _ _ _ jw_mth_lw_write]
  exact jw_log_write_call 929 chunks fl e sc hns hew hwf

/-- ONE CALL OF `JsonLogWriter.write` on an open writer appends exactly the separator (unless first) and
`pyDumps (logJson e)` -/
theorem jw_log_write_translated (e : LogEntry) (hwf : LogWF e) (chunks : List Str) (fl : Bool) :
    P.runMethod n_JsonLogWriter n_write (encWriter n_JsonLogWriter chunks true fl :: logArgs e)
      = .ok (.none, encWriter n_JsonLogWriter (chunks ++ (if fl then [] else [jkey ",\n"]) ++ [pyDumps (logJson e)])
          true false) :=
  jw_log_write_translated_any_scores e hwf chunks fl _
    (by simp [lookupD, encSide, Val.beq, Side.value]) (by simp [lookupD, encSide, Val.beq, Side.value])

/-- the same with `scores = {Pair.EW: …, Pair.NS: …}`: the record still lists `NS` first -/
theorem jw_log_write_translated_scores_rev (e : LogEntry) (hwf : LogWF e) (chunks : List Str) (fl : Bool) :
    P.runMethod n_JsonLogWriter n_write
        (encWriter n_JsonLogWriter chunks true fl :: logArgsWith (jwEncScoresRev e.scoreNS e.scoreEW) e)
      = .ok (.none, encWriter n_JsonLogWriter (chunks ++ (if fl then [] else [jkey ",\n"]) ++ [pyDumps (logJson e)])
          true false) :=
  jw_log_write_translated_any_scores e hwf chunks fl _
    (by simp [lookupD, encSide, Val.beq, Side.value]) (by simp [lookupD, encSide, Val.beq, Side.value])

/-- on a writer that is not open: `Exception` (whatever the 14 — or, `dda` left to its default, 13 — arguments) -/
theorem jw_log_write_translated_not_open (chunks : List Str) (fl : Bool) (args : List Val)
    (hargs : args.length = 14 ∨ args.length = 13) :
    P.runMethod n_JsonLogWriter n_write (encWriter n_JsonLogWriter chunks false fl :: args) = .error (.exc K.Exception) := by
  rw [jw_runMethod_eq _ _ _ _ _ jw_mth_lw_write]
  exact jw_log_write_closed_call 989 chunks fl args hargs

theorem jw_log_write_translated_not_open_entry (e : LogEntry) (chunks : List Str) (fl : Bool) :
    P.runMethod n_JsonLogWriter n_write (encWriter n_JsonLogWriter chunks false fl :: logArgs e)
      = .error (.exc K.Exception) :=
  jw_log_write_translated_not_open chunks fl _ (Or.inl rfl)

theorem jw_callF_congr (r : Rec) (fd : FuncDef) (a b : List Val)
    (h : bindParams fd.params fd.defaults a = bindParams fd.params fd.defaults b) : callF r fd a = callF r fd b := by
  unfold callF; rw [h]

/-- `dda` left to its default (`None`): the same as passing `None` -/
theorem jw_log_write_translated_default_dda (e : LogEntry) (hwf : LogWF e) (hd : e.dda = none) (chunks : List Str)
    (fl : Bool) :
    P.runMethod n_JsonLogWriter n_write (encWriter n_JsonLogWriter chunks true fl :: (logArgs e).dropLast)
      = .ok (.none, encWriter n_JsonLogWriter (chunks ++ (if fl then [] else [jkey ",\n"]) ++ [pyDumps (logJson e)])
          true false) := by
  rw [← jw_log_write_translated e hwf chunks fl, jw_runMethod_eq _ _ _ _ _ jw_mth_lw_write,
    jw_runMethod_eq _ _ _ _ _ jw_mth_lw_write]
  apply jw_callF_congr
  simp only [logArgs, logArgsWith, hd, encOpt]
  rfl

theorem jw_setting_write_call (f : Nat) (chunks : List Str) (fl : Bool) (e : SettingEntry) (hwf : SettingWF e) :
    callF (mkRec P (f+70)) m_JsonBoardSettingWriter_write (encWriter n_JsonBoardSettingWriter chunks true fl :: settingArgs e)
      = .ok (.none, encWriter n_JsonBoardSettingWriter
          (chunks ++ (if fl then [] else [jkey ",\n"]) ++ [pyDumps (settingJson e)]) true false) := by
  rw [jw_setting_write_call_aux f chunks fl e hwf,
    jw_write_content_call (f+48) n_JsonBoardSettingWriter chunks true fl (settingVal e) (settingJson e)
      (jw_settingVal_json e)]
  rfl

/-- ONE CALL OF `JsonBoardSettingWriter.write` on an open writer appends exactly the separator (unless first) and
`pyDumps (settingJson e)` -/
theorem jw_setting_write_translated (e : SettingEntry) (hwf : SettingWF e) (chunks : List Str) (fl : Bool) :
    P.runMethod n_JsonBoardSettingWriter n_write (encWriter n_JsonBoardSettingWriter chunks true fl :: settingArgs e)
      = .ok (.none, encWriter n_JsonBoardSettingWriter
          (chunks ++ (if fl then [] else [jkey ",\n"]) ++ [pyDumps (settingJson e)]) true false) := by
  rw [jw_runMethod_eq _ _ _ _ _ jw_mth_sw_write]
  exact jw_setting_write_call 929 chunks fl e hwf

theorem jw_setting_write_translated_default_dda (e : SettingEntry) (hwf : SettingWF e) (hd : e.dda = none)
    (chunks : List Str) (fl : Bool) :
    P.runMethod n_JsonBoardSettingWriter n_write
        (encWriter n_JsonBoardSettingWriter chunks true fl :: (settingArgs e).dropLast)
      = .ok (.none, encWriter n_JsonBoardSettingWriter
          (chunks ++ (if fl then [] else [jkey ",\n"]) ++ [pyDumps (settingJson e)]) true false) := by
  rw [← jw_setting_write_translated e hwf chunks fl, jw_runMethod_eq _ _ _ _ _ jw_mth_sw_write,
    jw_runMethod_eq _ _ _ _ _ jw_mth_sw_write]
  apply jw_callF_congr
  simp only [settingArgs, hd, encOpt]
  rfl

theorem jw_setting_write_translated_not_open (chunks : List Str) (fl : Bool) (args : List Val)
    (hargs : args.length = 5 ∨ args.length = 4) :
    P.runMethod n_JsonBoardSettingWriter n_write (encWriter n_JsonBoardSettingWriter chunks false fl :: args)
      = .error (.exc K.Exception) := by
  rw [jw_runMethod_eq _ _ _ _ _ jw_mth_sw_write]
  exact jw_setting_write_closed_call 989 chunks fl args hargs

theorem jw_setting_write_translated_not_open_entry (e : SettingEntry) (chunks : List Str) (fl : Bool) :
    P.runMethod n_JsonBoardSettingWriter n_write (encWriter n_JsonBoardSettingWriter chunks false fl :: settingArgs e)
      = .error (.exc K.Exception) :=
  jw_setting_write_translated_not_open chunks fl _ (Or.inl rfl)

/-! ## (d) whole documents -/
/-- `w = JsonLogWriter(file); w.open(); for e in es: w.write(*logArgs e); w.close()` — the writer afterwards -/
def runLogDocument (chunks0 : List Str) (es : List LogEntry) : R Val := do
  let w ← P.runNew n_JsonLogWriter [encFile chunks0]
  let w ← selfAfter n_JsonLogWriter n_open [w]
  let w ← es.foldlM (fun w e => selfAfter n_JsonLogWriter n_write (w :: logArgs e)) w
  selfAfter n_JsonLogWriter n_close [w]

def runSettingsDocument (chunks0 : List Str) (es : List SettingEntry) : R Val := do
  let w ← P.runNew n_JsonBoardSettingWriter [encFile chunks0]
  let w ← selfAfter n_JsonBoardSettingWriter n_open [w]
  let w ← es.foldlM (fun w e => selfAfter n_JsonBoardSettingWriter n_write (w :: settingArgs e)) w
  selfAfter n_JsonBoardSettingWriter n_close [w]

/-- records written one after the other by a `write` that appends the separator (unless first) and the record's line -/
theorem jw_writes {α} (cls : Id) (args : α → List Val) (line : α → Str) (es : List α) : ∀ (chunks : List Str) (fl : Bool),
    (∀ e ∈ es, ∀ chunks fl, P.runMethod cls n_write (encWriter cls chunks true fl :: args e)
      = .ok (.none, encWriter cls (chunks ++ (if fl then [] else [jkey ",\n"]) ++ [line e]) true false)) →
    es.foldlM (fun w e => selfAfter cls n_write (w :: args e)) (encWriter cls chunks true fl)
      = .ok (encWriter cls (chunks ++ writeChunks fl (es.map line)) true (fl && es.isEmpty)) := by
  induction es with
  | nil => intro chunks fl _; simp [writeChunks, pure, Except.pure]
  | cons e es ih =>
    intro chunks fl h
    rw [List.foldlM_cons, selfAfter, h e (List.mem_cons_self ..) chunks fl]
    simp only [Except.map, bind_ok]
    rw [ih _ false fun x hx => h x (List.mem_cons_of_mem _ hx)]
    simp only [List.map_cons, ← jw_writeChunks_snoc, List.append_assoc, Bool.false_and, List.isEmpty_cons, Bool.and_false]

/-- `w = W(file); w.open(); for e in es: w.write(…); w.close()`: the writer afterwards is closed and holds `chunks0` and
then the chunks of the document -/
theorem jw_document_run {α} (cls : Id) (hc : IsWriterCls cls)
    (hnew : ∀ chunks, P.runNew cls [encFile chunks] = .ok (encWriter cls chunks false false))
    (args : α → List Val) (line : α → Str) (es : List α)
    (hw : ∀ e ∈ es, ∀ chunks fl, P.runMethod cls n_write (encWriter cls chunks true fl :: args e)
      = .ok (.none, encWriter cls (chunks ++ (if fl then [] else [jkey ",\n"]) ++ [line e]) true false))
    (chunks0 : List Str) :
    (do let w ← P.runNew cls [encFile chunks0]
        let w ← selfAfter cls n_open [w]
        let w ← es.foldlM (fun w e => selfAfter cls n_write (w :: args e)) w
        selfAfter cls n_close [w])
      = .ok (encWriter cls (chunks0 ++ frameChunks (jwTag cls) (es.map line)) false es.isEmpty) := by
  simp only [hnew, bind_ok, jw_selfAfter_open _ hc]
  rw [jw_writes cls args line es (chunks0 ++ [jsonOpen (jwTag cls)]) true hw]
  simp only [bind_ok, jw_selfAfter_close _ hc, Bool.true_and, frameChunks, List.append_assoc, List.isEmpty_map]

theorem jw_log_document_run (es : List LogEntry) (h : ∀ e ∈ es, LogWF e) (chunks0 : List Str) :
    runLogDocument chunks0 es
      = .ok (encWriter n_JsonLogWriter (chunks0 ++ frameChunks (jkey "logs") (es.map fun e => pyDumps (logJson e))) false
          es.isEmpty) :=
  jw_document_run n_JsonLogWriter jw_cls_log jw_new_log_translated logArgs _ es
    (fun e he => jw_log_write_translated e (h e he)) chunks0

theorem jw_settings_document_run (es : List SettingEntry) (h : ∀ e ∈ es, SettingWF e) (chunks0 : List Str) :
    runSettingsDocument chunks0 es
      = .ok (encWriter n_JsonBoardSettingWriter
          (chunks0 ++ frameChunks (jkey "board_settings") (es.map fun e => pyDumps (settingJson e))) false es.isEmpty) :=
  jw_document_run n_JsonBoardSettingWriter jw_cls_setting jw_new_setting_translated settingArgs _ es
    (fun e he => jw_setting_write_translated e (h e he)) chunks0

/-- THE TRANSLATED LOG WRITER, run over a whole document on an empty file, leaves a file object whose chunks concatenate
to the model's `logText es` -/
theorem jw_log_document_translated (es : List LogEntry) (h : ∀ e ∈ es, LogWF e) :
    ∃ chunks, runLogDocument [] es = .ok (encWriter n_JsonLogWriter chunks false es.isEmpty) ∧
      chunks.flatten = logText es :=
  ⟨_, jw_log_document_run es h [], by rw [List.nil_append, jw_frameChunks_text]; rfl⟩

/-- … and the settings writer to `settingsText es` -/
theorem jw_settings_document_translated (es : List SettingEntry) (h : ∀ e ∈ es, SettingWF e) :
    ∃ chunks, runSettingsDocument [] es = .ok (encWriter n_JsonBoardSettingWriter chunks false es.isEmpty) ∧
      chunks.flatten = settingsText es :=
  ⟨_, jw_settings_document_run es h [], by rw [List.nil_append, jw_frameChunks_text]; rfl⟩

/-- on a file that already holds text, the document is appended -/
theorem jw_log_document_translated_append (es : List LogEntry) (h : ∀ e ∈ es, LogWF e) (chunks0 : List Str) :
    ∃ chunks, runLogDocument chunks0 es = .ok (encWriter n_JsonLogWriter chunks false es.isEmpty) ∧
      chunks.flatten = chunks0.flatten ++ logText es :=
  ⟨_, jw_log_document_run es h chunks0, by rw [List.flatten_append, jw_frameChunks_text]; rfl⟩

/-! ## well-formedness from the library's own invariants -/
/-- valid cards (`Card.ok`) everywhere and no double-dummy table: `LogWF` -/
theorem jw_logWF_of_ok (e : LogEntry) (hdeal : ∀ p, ∀ c ∈ e.deal p, c.ok = true)
    (hplay : ∀ ts, e.play = some ts → ∀ t ∈ ts, ∀ c ∈ t.cards, c.ok = true) (hdda : ∀ d, e.dda = some d → DdaWF d) :
    LogWF e := by
  have key : ∀ c : Card, c.ok = true → 2 ≤ c.rank ∧ c.rank ≤ 14 := by
    intro c hc
    simp only [Card.ok, Bool.and_eq_true, decide_eq_true_eq] at hc
    exact hc.1
  exact ⟨fun p c hc => key c (hdeal p c hc), fun ts hts t ht c hc => key c (hplay ts hts t ht c hc), hdda⟩

/-! ## the hypotheses are needed (kernel evaluation of both sides on small inputs) -/
/-- the text `json.dumps` makes of what the translated `convert_deal` returns -/
def dealText? (h : Hands) : Option Str :=
  ((P.runFn n_convert_deal [encHands h]).toOption.bind valToJson).map pyDumps

/-- the single chunk a `JsonBoardSettingWriter.write` appends to an empty file as first record -/
def settingLine? (e : SettingEntry) : Option Str :=
  match P.runMethod n_JsonBoardSettingWriter n_write (encWriter n_JsonBoardSettingWriter [] true true :: settingArgs e) with
  | .ok (_, .obj _ ((_, .obj _ [(_, .tuple [.str s])]) :: _)) => some s
  | _ => none

/-- a rank below 2: the code prints `C1`, the model `C?` -/
theorem jw_rank_hypothesis_needed_low :
    dealText? (fun p => if p = .N then [⟨1, .C⟩] else []) = some "{\"N\": [\"C1\"], \"E\": [], \"S\": [], \"W\": []}".toList ∧
    pyDumps (dealJson fun p => if p = .N then [⟨1, .C⟩] else []) = "{\"N\": [\"C?\"], \"E\": [], \"S\": [], \"W\": []}".toList := by
  decide +kernel

/-- a rank above 14: the code prints `C15` (and sorts it AFTER `D2`, which has the same `int(card)`), the model `C?` first -/
theorem jw_rank_hypothesis_needed_high :
    dealText? (fun p => if p = .N then [⟨15, .C⟩, ⟨2, .D⟩] else [])
      = some "{\"N\": [\"D2\", \"C15\"], \"E\": [], \"S\": [], \"W\": []}".toList ∧
    pyDumps (dealJson fun p => if p = .N then [⟨15, .C⟩, ⟨2, .D⟩] else [])
      = "{\"N\": [\"C?\", \"D2\"], \"E\": [], \"S\": [], \"W\": []}".toList := by
  decide +kernel

/-- a setting whose double-dummy table lists North twice (so it is not the image of a `dict`) -/
def jwTwiceNorth : SettingEntry :=
  { boardId := ['1'], dealer := .N, deal := fun _ => [], vul := .none, dda := some [(.N, [(.C, 1)]), (.N, [(.D, 2)])] }

/-- … the comprehension keeps the last row, the model both -/
theorem jw_dda_hypothesis_needed :
    settingLine? jwTwiceNorth ≠ some (pyDumps (settingJson jwTwiceNorth)) := by
  decide +kernel

end Bridge.Translated
