import BridgeVerif.Translated.AuctionLemmasB
/-! Translated `BiddingPhase` = model: the simp set that drives the symbolic execution, method-call lemmas -/
namespace Bridge.Translated
open Bridge Bridge.Py Bridge.Generated.PyCore

/-! ## equation lemmas that fire only on constructor-headed values -/
theorem getAttr_obj (r : Rec) (c : Id) (fs : List (Id × Val)) (a : Id) :
    getAttrF r P (.obj c fs) a =
      if a = K.class__ then .ok (.cls c) else
      match lookup fs a with
      | some x => .ok x
      | none => (callMethod r P c a [.obj c fs] (.exc K.AttributeError)) >>= fun x => .ok x.1 := rfl
theorem getAttr_enum_value (r : Rec) (c : Id) (n : Int) : getAttrF r P (.enum c n) K.value = .ok (.int n) := rfl
theorem getAttr_encSeat_value (r : Rec) (p : Seat) : getAttrF r P (encSeat p) K.value = .ok (.int p.value) := rfl
theorem meth_obj (r : Rec) (c : Id) (fs : List (Id × Val)) (m : Id) (args : List Val) :
    methF r P (.obj c fs) m args = callMethod r P c m (.obj c fs :: args) (.exc K.AttributeError) := rfl
theorem meth_encSeat (r : Rec) (p : Seat) (m : Id) (args : List Val) :
    methF r P (encSeat p) m args = callMethod r P n_Player m (encSeat p :: args) (.exc K.AttributeError) := rfl
theorem index_dict (r : Rec) (kvs : List (Val × Val)) (iv : Val) :
    indexF r P (.dict kvs) iv = match lookupD kvs iv with
      | some v => .ok v
      | none => .error (.exc K.KeyError) := rfl
theorem truthy_bool (b : Bool) : truthy (.bool b) = b := rfl
theorem asInt_int (n : Int) : asInt? (.int n) = some n := rfl

/-! ## method tables and the closed facts the simp set is given -/
theorem mth_has_done : P.method? classDepth n_BiddingPhase n_has_done = some (n_BiddingPhase, m_BiddingPhase_has_done) := rfl
theorem mth_take_bid : P.method? classDepth n_BiddingPhase n_take_bid = some (n_BiddingPhase, m_BiddingPhase_take_bid) := rfl
theorem mth_contract : P.method? classDepth n_BiddingPhase n_contract = some (n_BiddingPhase, m_BiddingPhase_contract) := rfl
theorem mth_is_partner : P.method? classDepth n_Player n_is_partner = some (n_Player, m_Player_is_partner) := rfl
theorem encOpt_some {α} (g : α → Val) (a : α) : encOpt g (some a) = g a := rfl
theorem encOpt_none {α} (g : α → Val) : encOpt g none = .none := rfl
theorem mth_bidding_init :
    P.method? classDepth n_BiddingPhase K.init = some (n_BiddingPhase, m_BiddingPhase___init__) := rfl

theorem normIndex_38_36 : normIndex 38 36 = some 36 := by decide
theorem normIndex_38_37 : normIndex 38 37 = some 37 := by decide
theorem replaceAt_dbl_1 (a : Call → Bool) :
    replaceAt (availList a) 36 (.int 1) = availList (fun k => if k = .dbl then true else a k) := replaceAt_avail a .dbl true
theorem replaceAt_dbl_0 (a : Call → Bool) :
    replaceAt (availList a) 36 (.int 0) = availList (fun k => if k = .dbl then false else a k) := replaceAt_avail a .dbl false
theorem replaceAt_rdbl_1 (a : Call → Bool) :
    replaceAt (availList a) 37 (.int 1) = availList (fun k => if k = .rdbl then true else a k) := replaceAt_avail a .rdbl true
theorem replaceAt_rdbl_0 (a : Call → Bool) :
    replaceAt (availList a) 37 (.int 0) = availList (fun k => if k = .rdbl then false else a k) := replaceAt_avail a .rdbl false


/-- the symbolic execution of `BiddingPhase`: `pyexec`, calls entered (`callF`, not `callF_def`), the 38-slot vector -/
macro "pysimp" "[" ls:Lean.Parser.Tactic.simpLemma,* "]" : tactic =>
  `(tactic| simp -implicitDefEqProofs +decide only [pyexec, getAttr_encSeat_value, callF, beq_int_1_0, beq_int_0_0, encOpt_some,
      encOpt_none, availList_length, normIndex_38_36, normIndex_38_37, $ls,*])

/-! ## method calls, `Bid.idx`, a length compared with 3 -/

/-- `has_done()` on an instance with any attributes among which `__active_player` -/
theorem has_done_obj (f : Nat) (fs : List (Id × Val)) (h : (lookup fs n___active_player).isSome = true) :
    methF (mkRec P (f+8)) P (.obj n_BiddingPhase fs) n_has_done [] =
      .ok (.bool (((lookup fs n___active_player).getD .none).beq .none), .obj n_BiddingPhase fs) := by
  cases hl : lookup fs n___active_player with
  | none => rw [hl] at h; cases h
  | some v => pysimp [mth_has_done, m_BiddingPhase_has_done, hl]

theorem has_done_meth (f : Nat) (s : AState) :
    methF (mkRec P (f+8)) P (encState s) n_has_done [] = .ok (.bool s.active.isNone, encState s) := by
  rw [encState, has_done_obj f _ rfl]
  exact congrArg (fun b => Except.ok (Val.bool b, _)) (beq_encOptSeat_none s.active)

/-- the environment of `__init__` once the first `n` attributes of the new instance are assigned -/
def initEnv (n : Nat) (d : Seat) (v : Vul) : Env :=
  [(K.self, match encState (AState.init d v) with | .obj c fs => .obj c (fs.take n) | x => x),
   (n_dealer, encSeat d), (n_vul, encVul v)]

/-- `BiddingPhase(dealer, vul)` at every fuel.  The body of `__init__` is run in two parts: the unifier's work on one
`rfl` grows much faster than the number of statements. -/
theorem construct_bidding (f : Nat) (d : Seat) (v : Vul) :
    constructF (mkRec P (f+5)) P n_BiddingPhase [encSeat d, encVul v] = .ok (encState (AState.init d v)) := by
  have h1 : execF (mkRec P (f+3)) P (initEnv 0 d v) (m_BiddingPhase___init__.body.take 8)
      = .ok (initEnv 8 d v, .next) := rfl
  have h2 : execF (mkRec P (f+3)) P (initEnv 8 d v) (m_BiddingPhase___init__.body.drop 8)
      = .ok (initEnv 11 d v, .next) := rfl
  have h : execF (mkRec P (f+3)) P (initEnv 0 d v) m_BiddingPhase___init__.body = .ok (initEnv 11 d v, .next) :=
    (execF_append_next (m_BiddingPhase___init__.body.drop 8) h1).trans h2
  exact construct_of_init (f+3) (c' := n_BiddingPhase) (fd := m_BiddingPhase___init__) (ps := [n_dealer, n_vul])
    rfl rfl rfl mth_bidding_init rfl rfl h

theorem is_partner_meth (f : Nat) (p q : Seat) :
    methF (mkRec P (f+8)) P (encSeat p) n_is_partner [encSeat q] = .ok (.bool (p.isPartner q), encSeat p) := by
  pysimp [meth_encSeat, mth_is_partner, m_Player_is_partner]
  cases p <;> cases q <;> simp +decide [Val.beq, Seat.value, Seat.isPartner, Int.fmod]

theorem getAttr_idx_bid (f : Nat) (i : Fin 35) : getAttrF (mkRec P (f+5)) P (encBid i) n_idx = .ok (.int i.val) :=
  getAttr_idx f (.bid i)

theorem compare_len_ge3 (r : Rec) (n : Nat) : compareF r P .ge (.int n) (.int 3) = .ok (decide (3 ≤ n)) := by
  have e : decide ((n : Int) ≥ 3) = decide (3 ≤ n) := by
    by_cases h : 3 ≤ n
    · have : (n : Int) ≥ 3 := by omega
      simp [h, this]
    · have : ¬ (n : Int) ≥ 3 := by omega
      simp [h, this]
  simp only [compareF, asInt?, e]; rfl

/-! ## the statements of `take_bid`: the three guards, the case distinction on the kind of call, the common tail -/
def tbHead : List Stmt := m_BiddingPhase_take_bid.body.take 3
def tbKind : Stmt := m_BiddingPhase_take_bid.body.getD 3 .pass
def tbTail : List Stmt := m_BiddingPhase_take_bid.body.drop 4

theorem tb_body : m_BiddingPhase_take_bid.body = tbHead ++ tbKind :: tbTail := rfl

end Bridge.Translated
