import BridgeVerif.Translated.PbnParserLemmasH
/-!
# pbn_handler/parser.py AS TRANSLATED computes exactly the model's parser  (C17)

`Generated/PyCorePbn.lean` (class `PbnParser`, re-written from `parser.py` on every run) executed by the MiniPy interpreter
at the top-level fuel, compared with the hand-written model `Model/Pbn.lean` (`PbnSt`, `extractContent`, `parseBoard`,
`streamStep`, `parseStream`):

* `pp_new_translated` — `PbnParser()` is `encPbnParser {} [] []`;
* `pp_extract_content_translated` — `extract_content(s)` turns `encPbnParser st cl cb` into
  `encPbnParser (extractContent (s.length + 1) st s) cl' cb'` (the comment lists `cl'`, `cb'` are not observable through
  the parsing API; they are existentially quantified) and returns `None`;
* `pp_parse_board_translated` — `parse_board()` returns `encGame (parseBoard st.buffer.reverse)`, the object unchanged;
* `pp_parse_stream_translated`, `pp_parse_all_translated` — on a fresh parser and any NUMBER of lines,
  `parse_stream(lines)` (its yielded values, collected by the translator in a list) and `parse_all(lines)` return
  `(parseStream lines).map encGame`; `…_from` variants start from any parser state (`streamFrom st`);
  `…_no_pct` variants: files without a line that starts with `%` need no hypothesis about such lines;
* a two-game file as non-vacuity example (end of the file).

A parser instance is `encPbnParser st commentList commentBuffer` (fields in the order `__init__` creates them;
`tag_pair_buffer` oldest first = `st.buffer.reverse`); a game is `encGame g`, the `dict` name ↦ value in insertion order.

Hypotheses — each is what the INTERPRETED code needs:
* `hf : PbnRegexFacts` (Lemmas/RegexPbnFacts.lean; proved as `pbnRegexFacts` in Lemmas/RegexPbn.lean): what the regular
  expression engine answers on the three patterns of the class.  The pattern texts there are literally the constants
  the generated class returns (`pp_tag_call`, `pp_replace_call`, `pp_vos_call` hold by `rfl`).
* `hne : PbnSubNonempty` (`parse_board`, hence the stream functions): a match of `_VALUE_OR_SPACE_PATTERN` is never empty.
  The lambda of `re.sub` reads `m.group(0)[0]`, which raises `IndexError` on an empty match, where `subJoin` of
  `PbnRegexFacts.sub_value_or_space` yields `' '`; so this does not follow from `PbnRegexFacts`.  (Proved as
  `Bridge.RegexPbn.sub_matches_nonempty` in Lemmas/RegexPbnD.lean; `Translated/PbnParserClosed.lean` instantiates both.)
* `s.length ≤ 244` (`extract_content`), every line shorter than 241 (`parse_stream`) / 240 (`parse_all`) characters:
  `extract_content` is recursive, every recursive call is made on a strictly shorter string four levels of fuel further
  down, and `runMethod` gives `topFuel = 1000` levels.  The lemmas at an arbitrary fuel (`pp_extract_call`:
  `f + 4 * n + 16` levels for `s.length + (1 inside a comment) < 2 * n`; `pp_stream_call`, `pp_all_call` from any parser
  state) have no absolute bound, and `Translated/PbnParserWide.lean` draws the wider bounds from them.  This is a limit of
  the fuel, not of Python (PBN 2.1 limits a line to 255 characters).  The NUMBER of lines is unbounded: a `for` loop spends
  no fuel per element.
* every line is non-empty (`line[0]`; a text file never yields an empty line).
* `pctLineOk l = true` for every line `l` that starts with `%` (`PbnParserLemmasF.lean`; a decidable check): on such a line
  the code runs `re.match(r'% PBN (\d+)\.(\d+)', l)`, `int()` of its two groups, and `re.match(r'% EXPORT', l)`; the model
  ignores the line.  `pctLineOk l` says exactly that these do not raise: the first `re.match` fails, or groups 1 and 2 of
  the match object (as the translated program sees it, `matchVal`) are texts `int()` accepts; and the second `re.match`
  gives an answer.  (It is asked of every `%` line, also of one met inside a `{ … }` comment, where the code does not
  look at it.)  No regular-expression reasoning is done here about these two patterns.
-/
namespace Bridge.Translated
open Bridge Bridge.Py Bridge.Generated.PyCore Bridge.RegexPbn

theorem pp_runMethod_eq (c m : Id) (args : List Val) (cm : Id) (fd : FuncDef)
    (hm : P.method? classDepth c m = some (cm, fd)) : P.runMethod c m args = callF (mkRec P 999) fd args := by
  simp only [Program.runMethod, hm]; rfl

/-! ## (1) `PbnParser()` -/
theorem pp_new_translated : P.runNew n_PbnParser [] = .ok (encPbnParser {} [] []) := pp_construct 992

/-! ## (2) `extract_content` -/
theorem pp_extract_content_translated (hf : PbnRegexFacts) (st : PbnSt) (cl cb : List Str) (s : Str)
    (hlen : s.length ≤ 244) :
    ∃ cl' cb', P.runMethod n_PbnParser n_extract_content [encPbnParser st cl cb, .str s]
      = .ok (.none, encPbnParser (extractContent (s.length + 1) st s) cl' cb') := by
  rw [pp_runMethod_eq _ _ _ _ _ pp_mth_extract]
  have hb : st.inComment.toNat ≤ 1 := Bool.toNat_le _
  exact pp_extract_call hf 245 3 (s.length + 1) st cl cb s (by omega) (Nat.lt_succ_self _)

/-! ## (3) `parse_board` -/
theorem pp_parse_board_translated (hf : PbnRegexFacts) (hne : PbnSubNonempty) (st : PbnSt) (cl cb : List Str) :
    P.runMethod n_PbnParser n_parse_board [encPbnParser st cl cb]
      = .ok (encGame (parseBoard st.buffer.reverse), encPbnParser st cl cb) := by
  rw [pp_runMethod_eq _ _ _ _ _ pp_mth_board]
  exact pp_board_call hf hne 979 st cl cb

/-! ## (4) `parse_stream`, `parse_all` -/
theorem pp_parse_stream_translated_from (hf : PbnRegexFacts) (hne : PbnSubNonempty) (lines : List Str)
    (hok : ∀ l ∈ lines, l ≠ [] ∧ l.length < 241) (hpct : ∀ l ∈ lines, l.head? = some '%' → pctLineOk l = true)
    (st : PbnSt) (cl cb : List Str) :
    ∃ st' cl' cb', P.runMethod n_PbnParser n_parse_stream [encPbnParser st cl cb, .tuple (lines.map Val.str)]
      = .ok (.tuple ((streamFrom st lines).map encGame), encPbnParser st' cl' cb') := by
  rw [pp_runMethod_eq _ _ _ _ _ pp_mth_stream]
  exact pp_stream_call hf hne 2 241 lines
    (pp_linesOk 241 240 (by decide) lines (fun l hl => ⟨(hok l hl).1, Nat.le_of_lt_succ (hok l hl).2⟩) hpct) st cl cb

theorem pp_parse_all_translated_from (hf : PbnRegexFacts) (hne : PbnSubNonempty) (lines : List Str)
    (hok : ∀ l ∈ lines, l ≠ [] ∧ l.length < 240) (hpct : ∀ l ∈ lines, l.head? = some '%' → pctLineOk l = true)
    (st : PbnSt) (cl cb : List Str) :
    ∃ st' cl' cb', P.runMethod n_PbnParser n_parse_all [encPbnParser st cl cb, .tuple (lines.map Val.str)]
      = .ok (.tuple ((streamFrom st lines).map encGame), encPbnParser st' cl' cb') := by
  rw [pp_runMethod_eq _ _ _ _ _ pp_mth_all]
  exact pp_all_call hf hne 3 240 lines
    (pp_linesOk 240 239 (by decide) lines (fun l hl => ⟨(hok l hl).1, Nat.le_of_lt_succ (hok l hl).2⟩) hpct) st cl cb

/-- `list(PbnParser().parse_stream(lines))` -/
theorem pp_parse_stream_translated (hf : PbnRegexFacts) (hne : PbnSubNonempty) (lines : List Str)
    (hok : ∀ l ∈ lines, l ≠ [] ∧ l.length < 241) (hpct : ∀ l ∈ lines, l.head? = some '%' → pctLineOk l = true) :
    ∃ self', P.runMethod n_PbnParser n_parse_stream [encPbnParser {} [] [], .tuple (lines.map Val.str)]
      = .ok (.tuple ((parseStream lines).map encGame), self') := by
  obtain ⟨st', cl', cb', h⟩ := pp_parse_stream_translated_from hf hne lines hok hpct {} [] []
  exact ⟨_, h⟩

/-- THE TRANSLATED `PbnParser().parse_all(lines)` returns the model's games -/
theorem pp_parse_all_translated (hf : PbnRegexFacts) (hne : PbnSubNonempty) (lines : List Str)
    (hok : ∀ l ∈ lines, l ≠ [] ∧ l.length < 240) (hpct : ∀ l ∈ lines, l.head? = some '%' → pctLineOk l = true) :
    ∃ self', P.runMethod n_PbnParser n_parse_all [encPbnParser {} [] [], .tuple (lines.map Val.str)]
      = .ok (.tuple ((parseStream lines).map encGame), self') := by
  obtain ⟨st', cl', cb', h⟩ := pp_parse_all_translated_from hf hne lines hok hpct {} [] []
  exact ⟨_, h⟩

/-- files without `%` lines: no hypothesis about the two `re.match` calls -/
theorem pp_parse_all_translated_no_pct (hf : PbnRegexFacts) (hne : PbnSubNonempty) (lines : List Str)
    (hok : ∀ l ∈ lines, l ≠ [] ∧ l.length < 240) (hno : ∀ l ∈ lines, l.head? ≠ some '%') :
    ∃ self', P.runMethod n_PbnParser n_parse_all [encPbnParser {} [] [], .tuple (lines.map Val.str)]
      = .ok (.tuple ((parseStream lines).map encGame), self') :=
  pp_parse_all_translated hf hne lines hok fun l hl h => absurd h (hno l hl)

theorem pp_parse_stream_translated_no_pct (hf : PbnRegexFacts) (hne : PbnSubNonempty) (lines : List Str)
    (hok : ∀ l ∈ lines, l ≠ [] ∧ l.length < 241) (hno : ∀ l ∈ lines, l.head? ≠ some '%') :
    ∃ self', P.runMethod n_PbnParser n_parse_stream [encPbnParser {} [] [], .tuple (lines.map Val.str)]
      = .ok (.tuple ((parseStream lines).map encGame), self') :=
  pp_parse_stream_translated hf hne lines hok fun l hl h => absurd h (hno l hl)

/-! ## (5) non-vacuity: a two-game file (a `%` header, a comment, a blank line between the games, a repeated tag) -/
def ppExampleLines : List Str :=
  ["% PBN 2.1\n".toList, "[Event \"A  B\"]\n".toList, "[Board \"1\"] ; first\n".toList, "[Event \"again\"]\n".toList,
   "\n".toList, "[Board \"2\"]\n".toList]

def ppExampleGames : List Game :=
  [[("Event".toList, "A  B".toList), ("Board".toList, "1".toList)], [("Board".toList, "2".toList)]]

theorem pp_example_model : parseStream ppExampleLines = ppExampleGames := by
  rw [ppExampleLines, ppExampleGames]
  -- the characters of each literal by `String.toList_ofList`: the kernel would get them by decoding UTF-8
  repeat rw [String.toList_ofList]
  decide +kernel
theorem pp_example_pct : ∀ l ∈ ppExampleLines, l.head? = some '%' → pctLineOk l = true := by
  rw [ppExampleLines]
  repeat rw [String.toList_ofList]
  decide +kernel
theorem pp_example_ok : ∀ l ∈ ppExampleLines, l ≠ [] ∧ l.length < 240 := by
  rw [ppExampleLines]
  repeat rw [String.toList_ofList]
  decide +kernel

/-- the theorem instantiated: the translated `parse_all` returns the two games -/
example (hf : PbnRegexFacts) (hne : PbnSubNonempty) :
    ∃ self', P.runMethod n_PbnParser n_parse_all [encPbnParser {} [] [], .tuple (ppExampleLines.map Val.str)]
      = .ok (.tuple (ppExampleGames.map encGame), self') := by
  rw [← pp_example_model]
  exact pp_parse_all_translated hf hne ppExampleLines pp_example_ok pp_example_pct

end Bridge.Translated

