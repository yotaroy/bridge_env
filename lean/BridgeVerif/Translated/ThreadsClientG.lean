import BridgeVerif.Translated.ThreadsClientGLemmasB
/-!
# THE CAPSTONE FOR THE BUNDLED CLIENT, CLOSED: no parse hypothesis left

`ClientD.translated_client_is_session_program` / `…_consumes_everything` (the TRANSLATED `ClientThread.run`, fed what the
session's seat thread sends, performs exactly the session program `sessionProg sc (.client p)`) took two parse packages as
hypotheses — `connectParses` and `boardsParses`: on the messages received, the translated parsers return the encodings of
what the model's parsers return.  Both are DISCHARGED here for the session's streams, for every scenario, from the theorems
about the translated parsers on classes of texts (no kernel evaluation of instances):

* `session_connect_parses` : `connectParses N …` for every `N ≥ 31` (`ClientE.connectParses_all'`: every text);
* `session_boards_parses`  : `boardsParses N …` for every `N ≥ 31`, every scenario whose texts mean what was decided
  (`TextsConform`, a hypothesis of the capstone already), whose hands are `HandOK` (likewise), and whose player-worded texts
  (calls and cards — the table manager relays them: the calls with the alert removed, the cards as sent) are ASCII
  (`AsciiTexts`; implied by `MainE.AsciiTexts`).  Everything the table manager words itself — board header, own cards,
  lead prompts, dummy's cards, "Start of board", "End of session" — needs no hypothesis.
  The route: `MsgGood` for every message of the stream (Translated/ThreadsClientGLemmasB.lean), and the reactive client
  only consumes its streams (Translated/ThreadsClientGLemmasA.lean);
* `translated_client_is_session_program_closed`, `translated_client_consumes_everything_closed`,
  `translated_client_consumes_everything_of_handOK_closed` : the capstones at `N = 31` with no parse hypothesis;
* non-vacuity on `SeatD.exSc` and `ClientD.exSc13`.
-/
namespace Bridge.Translated.ClientG
open Bridge Bridge.Py Bridge.Generated.PyCore Bridge.Translated Bridge.Translated.ClientA Bridge.Translated.ClientB
open Bridge.Translated.ClientC Bridge.Translated.ClientD

/-- every text the players word (calls, cards) is ASCII -/
def AsciiTexts (sc : Scenario) : Prop :=
  ∀ bd ∈ sc.boards, (∀ x ∈ bd.2.calls, ∀ y ∈ x.2, y.toNat < 128) ∧ (∀ x ∈ bd.2.cards, ∀ y ∈ x.2, y.toNat < 128)

/-- the hypothesis of the main-thread capstone (`MainE.AsciiTexts`: ASCII without U+001C..U+001F) implies it -/
theorem asciiTexts_of_plain (sc : Scenario) (h : MainE.AsciiTexts sc) : AsciiTexts sc :=
  fun bd hbd => ⟨fun x hx y hy => ((h bd hbd).1 x hx y hy).1, fun x hx y hy => ((h bd hbd).2 x hx y hy).1⟩

/-- (1) `hp1` OF THE CAPSTONE HOLDS for the session's streams, every `N ≥ 31`, every reply -/
theorem session_connect_parses (sc : Scenario) (p : Seat) (N : Nat) (hN : 31 ≤ N) (reply : Text) :
    connectParses N ⟨reply :: sendsOn (Chan.s2c p) (sessionProg sc (.seat p)), scenarioOwnCalls sc p,
      scenarioOwnCards sc p⟩ :=
  ClientE.connectParses_all' N hN _

/-- every message of the session's `s2c p` stream after "Start of board" is `MsgGood` -/
theorem session_stream_good (sc : Scenario) (p : Seat)
    (hc : ∀ bd ∈ sc.boards, TextsConform bd.1 bd.2) (hd : ∀ bd ∈ sc.boards, ∀ q, HandOK (bd.1.deal q))
    (ha : AsciiTexts sc) :
    ∀ m ∈ (sendsOn (Chan.s2c p) (sessionProg sc (.seat p))).drop 2, MsgGood 31 p m := by
  intro m hm
  rw [session_s_eq] at hm
  simp only [List.drop_succ_cons, List.drop_zero] at hm
  exact boards_stream_good sc p sc.boards 1
    (fun bd hbd => ⟨hc bd hbd, hd bd hbd, (ha bd hbd).1, (ha bd hbd).2⟩) m hm

/-- (2) `hp2` OF THE CAPSTONE HOLDS for the session's streams of EVERY scenario whose texts mean what was decided, with
valid duplicate-free hands, and ASCII player-worded texts; every `N ≥ 31` -/
theorem session_boards_parses (sc : Scenario) (p : Seat) (N : Nat) (hN : 31 ≤ N)
    (hc : ∀ bd ∈ sc.boards, TextsConform bd.1 bd.2) (hd : ∀ bd ∈ sc.boards, ∀ q, HandOK (bd.1.deal q))
    (ha : AsciiTexts sc) :
    boardsParses N p ((sendsOn (Chan.s2c p) (sessionProg sc (.seat p))).length + 1)
      ⟨(sendsOn (Chan.s2c p) (sessionProg sc (.seat p))).drop 2, scenarioOwnCalls sc p, scenarioOwnCards sc p⟩ :=
  boardsParses_of_good N p _ _ (fun m hm => (session_stream_good sc p hc hd ha m hm).mono hN)
    (scenarioOwnCards_ok sc p hc)

/-- (3a) THE CAPSTONE, everything consumed, `HandOK` hands, NO PARSE HYPOTHESIS -/
theorem translated_client_consumes_everything_of_handOK_closed (sc : Scenario) (h : sc.boards ≠ []) (p : Seat)
    (hc : ∀ bd ∈ sc.boards, ConformingAuction bd.1 bd.2 ∧ ConformingPlay bd.1 bd.2 ∧ TextsConform bd.1 bd.2)
    (hb : BundledTexts sc p) (hd : ∀ bd ∈ sc.boards, ∀ q, HandOK (bd.1.deal q))
    (hn : NameOK sc.nsName ∧ NameOK sc.ewName) (ha : AsciiTexts sc)
    (reply : Text) (out : List Val) (opp : Val)
    (hreply : reply = seatedPlain p (ownName sc p) ∨ reply = seatedQuoted p (ownName sc p)) :
    ∃ ops extra', encClientActs p (sessionProg sc (.client p)) = some (eraseDecisions ops) ∧ DealtStar [] extra' ∧
      ∀ f, (sendsOn (Chan.s2c p) (sessionProg sc (.seat p))).length + (scenarioOwnCalls sc p).length + 31 + 178 ≤ f →
        callFn P f m_ClientThread_run
            [encClientThread p (encClientWorld (reply :: sendsOn (Chan.s2c p) (sessionProg sc (.seat p)))
              ((scenarioOwnCalls sc p).map encCall) ((scenarioOwnCards sc p).map encCard) out) (ownName sc p) opp []]
          = .ok (.none, encClientThread p (encClientWorld [] [] [] (out ++ connectOps p (ownName sc p) ++ ops))
              (ownName sc p) (.str (oppName sc p)) extra') :=
  translated_client_consumes_everything_of_handOK sc h p hc hb hd hn 31 reply out opp hreply
    (session_connect_parses sc p 31 (Nat.le_refl _) reply)
    (session_boards_parses sc p 31 (Nat.le_refl _) (fun bd hbd => (hc bd hbd).2.2) hd ha)

/-- (3b) THE CAPSTONE FOR THE BUNDLED CLIENT, NO PARSE HYPOTHESIS.  The hypotheses are those of
`C11.bundled_client_follows_the_messages` (at least one board; conforming decisions and texts; seat `p` played by the
bundled client; proper deals; team names without quote / line break) and `AsciiTexts sc`.  The connection delivers `reply`
(`… seated`, either form), then EXACTLY what the session's seat thread of `p` sends; the bidding and playing systems return
EXACTLY the scenario's own calls and cards of `p`.  For every fuel from the bound on, the generated `ClientThread.run`
returns `None`, having recorded `connectOps` followed by operations that are — apart from one `bidAsk` / `playAsk` per
decision — EXACTLY the rendering of `sessionProg sc (.client p)`. -/
theorem translated_client_is_session_program_closed (sc : Scenario) (h : sc.boards ≠ []) (p : Seat)
    (hc : ∀ bd ∈ sc.boards, ConformingAuction bd.1 bd.2 ∧ ConformingPlay bd.1 bd.2 ∧ TextsConform bd.1 bd.2)
    (hb : BundledTexts sc p)
    (hd : ∀ bd ∈ sc.boards, PartialDeal bd.1.deal ∧ ∀ q, (bd.1.deal q).length = 13)
    (hn : NameOK sc.nsName ∧ NameOK sc.ewName) (ha : AsciiTexts sc)
    (reply : Text) (out : List Val) (opp : Val)
    (hreply : reply = seatedPlain p (ownName sc p) ∨ reply = seatedQuoted p (ownName sc p)) :
    ∃ ops s' calls' cards' extra', encClientActs p (sessionProg sc (.client p)) = some (eraseDecisions ops) ∧
      DealtStar [] extra' ∧
      ∀ f, (sendsOn (Chan.s2c p) (sessionProg sc (.seat p))).length + (scenarioOwnCalls sc p).length + 31 + 178 ≤ f →
        callFn P f m_ClientThread_run
            [encClientThread p (encClientWorld (reply :: sendsOn (Chan.s2c p) (sessionProg sc (.seat p)))
              ((scenarioOwnCalls sc p).map encCall) ((scenarioOwnCards sc p).map encCard) out) (ownName sc p) opp []]
          = .ok (.none, encClientThread p (encClientWorld s' calls' cards' (out ++ connectOps p (ownName sc p) ++ ops))
              (ownName sc p) (.str (oppName sc p)) extra') :=
  translated_client_is_session_program sc h p hc hb hd hn 31 reply out opp hreply
    (session_connect_parses sc p 31 (Nat.le_refl _) reply)
    (session_boards_parses sc p 31 (Nat.le_refl _) (fun bd hbd => (hc bd hbd).2.2)
      (fun bd hbd q => handOK_of_deal bd.1 (hd bd hbd).1 q) ha)

/-- (3c) EVERYTHING IS CONSUMED, NO PARSE HYPOTHESIS: the final world has an empty connection stream and empty decision
streams -/
theorem translated_client_consumes_everything_closed (sc : Scenario) (h : sc.boards ≠ []) (p : Seat)
    (hc : ∀ bd ∈ sc.boards, ConformingAuction bd.1 bd.2 ∧ ConformingPlay bd.1 bd.2 ∧ TextsConform bd.1 bd.2)
    (hb : BundledTexts sc p)
    (hd : ∀ bd ∈ sc.boards, PartialDeal bd.1.deal ∧ ∀ q, (bd.1.deal q).length = 13)
    (hn : NameOK sc.nsName ∧ NameOK sc.ewName) (ha : AsciiTexts sc)
    (reply : Text) (out : List Val) (opp : Val)
    (hreply : reply = seatedPlain p (ownName sc p) ∨ reply = seatedQuoted p (ownName sc p)) :
    ∃ ops extra', encClientActs p (sessionProg sc (.client p)) = some (eraseDecisions ops) ∧ DealtStar [] extra' ∧
      ∀ f, (sendsOn (Chan.s2c p) (sessionProg sc (.seat p))).length + (scenarioOwnCalls sc p).length + 31 + 178 ≤ f →
        callFn P f m_ClientThread_run
            [encClientThread p (encClientWorld (reply :: sendsOn (Chan.s2c p) (sessionProg sc (.seat p)))
              ((scenarioOwnCalls sc p).map encCall) ((scenarioOwnCards sc p).map encCard) out) (ownName sc p) opp []]
          = .ok (.none, encClientThread p (encClientWorld [] [] [] (out ++ connectOps p (ownName sc p) ++ ops))
              (ownName sc p) (.str (oppName sc p)) extra') :=
  translated_client_consumes_everything_of_handOK_closed sc h p hc hb
    (fun bd hbd q => handOK_of_deal bd.1 (hd bd hbd).1 q) hn ha reply out opp hreply

/-! ## non-vacuity -/
open Bridge.Translated.SeatD (exSc exBoard exDecisions exSc_boards)

instance (sc : Scenario) : Decidable (AsciiTexts sc) := by unfold AsciiTexts; infer_instance

theorem ex_ascii : AsciiTexts exSc := by decide +kernel
theorem ex13_ascii : AsciiTexts exSc13 := by decide +kernel

/-- (4) the closed capstone on `SeatD.exSc` (one board, passed out, empty hands), South's client: every hypothesis
discharged, no kernel evaluation of a translated parser -/
example : ∃ ops extra', encClientActs .S (sessionProg exSc (.client .S)) = some (eraseDecisions ops) ∧
    DealtStar [] extra' ∧
    ∀ f, 8 + 1 + 31 + 178 ≤ f →
      callFn P f m_ClientThread_run
          [encClientThread .S (encClientWorld ("South Alpha seated".toList ::
              ["Teams : N/S : \"Alpha\" E/W : \"Beta\"".toList, "Start of board".toList,
               "Board number 1. Dealer North. Neither vulnerable.".toList, "South's cards : S -. H -. D -. C -.".toList,
               "North passes".toList, "East passes".toList, "West passes".toList, "End of session".toList])
            [encCall .pass] [] []) "Alpha".toList .none []]
        = .ok (.none, encClientThread .S (encClientWorld [] [] [] ([] ++ connectOps .S "Alpha".toList ++ ops))
            "Alpha".toList (.str "Beta".toList) extra') := by
  obtain ⟨ops, extra', ho, hd, hx⟩ := translated_client_consumes_everything_of_handOK_closed exSc exSc_boards .S
    ex_conform ex_bundled ex_hands ex_names ex_ascii "South Alpha seated".toList [] .none (Or.inl (by decide +kernel))
  refine ⟨ops, extra', ho, hd, fun f hf => ?_⟩
  have := hx f (by rw [ex_s2c, ex_calls]; exact hf)
  rw [ex_s2c, ex_calls, ex_cards, exBoardS, ex_cardsMsg] at this
  exact this

/-- (4') the closed capstones as stated on `ClientD.exSc13` (thirteen cards each), South's client, the request answered in
the quoted form -/
example : ∃ ops extra', encClientActs .S (sessionProg exSc13 (.client .S)) = some (eraseDecisions ops) ∧
    DealtStar [] extra' ∧
    ∀ f, 8 + 1 + 31 + 178 ≤ f →
      callFn P f m_ClientThread_run
          [encClientThread .S (encClientWorld ("South (\"Alpha\") seated".toList ::
              ["Teams : N/S : \"Alpha\" E/W : \"Beta\"".toList, "Start of board".toList,
               "Board number 1. Dealer North. Neither vulnerable.".toList,
               "South's cards : S -. H -. D A K Q J T 9 8 7 6 5 4 3 2. C -.".toList,
               "North passes".toList, "East passes".toList, "West passes".toList, "End of session".toList])
            [encCall .pass] [] []) "Alpha".toList .none []]
        = .ok (.none, encClientThread .S (encClientWorld [] [] [] ([] ++ connectOps .S "Alpha".toList ++ ops))
            "Alpha".toList (.str "Beta".toList) extra') := by
  obtain ⟨ops, extra', ho, hd, hx⟩ := translated_client_consumes_everything_closed exSc13 (List.cons_ne_nil _ _) .S
    ex13_conform ex13_bundled ex13_hands ex_names ex13_ascii "South (\"Alpha\") seated".toList [] .none
    (Or.inr (by decide +kernel))
  refine ⟨ops, extra', ho, hd, fun f hf => ?_⟩
  have := hx f (by rw [ex13_s2c, ex13_calls]; exact hf)
  rw [ex13_s2c, ex13_calls, ex13_cards, exBoardS, ex13_cardsMsg] at this
  exact this

end Bridge.Translated.ClientG
