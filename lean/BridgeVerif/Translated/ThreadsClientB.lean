import BridgeVerif.Translated.ThreadsClientBLemmasD
/-!
# The TRANSLATED client thread, playing phase (`ClientThread.playing_phase`, Generated/PyCoreThreads.lean) IS the
reactive model of Model/ClientThread.lean (`clientTrickR`, `clientPlayingR`)

Symbolic execution of the MiniPy interpreter on the generated body `m_ClientThread_playing_phase` (its pieces `cpCond`,
`cpBody`, `cpLead`, `cpInner` = [`cpOpen`, `cpMove`] are EXTRACTED from the generated definition,
ThreadsClientBLemmasA.lean) of the whole translated program `P`, on the symbolic client object
`encClientThread p (encClientWorld s bids plays out) team opp extra` and the local variables `penv …` of the method.
The translated `ObservedPlayingPhase` is the model `Observed` by Translated/Play*.lean (on every state with `WF`).
`Client.card_str` IS evaluated (52 cards, `card_str_translated`).  The translated parsers (`Client.parse_leader_message`,
`parse_cards`, `parse_hand`, `MessageInterface.parse_card`) are NOT executed (regular expressions): `PlayParses N i` says
that on every message still in the stream they return the encoding of what the model's parsers return, where those succeed.
A decision of the playing system is the world operation `playAsk` = `w_ask("play", None)`; the reactive model does not
list it: `erasePlays`.

* (1) `client_play_card_translated` — the body of the inner loop is one turn of `clientTrickR` (`clientCardR`;
  `clientTrickR_succ`, ThreadsClientBLemmasC.lean, cuts the model's function into these turns).
* (2) `client_playing_loop_translated` — the loop `while not env.has_done()` is `clientPlayingR` (from any replica with
  `WF`; `clientPlayingR_succ`, `cb_trick_loop`: the inner `for` is `clientTrickR … 4`);
  `client_playing_translated` — the method `playing_phase(contract)` from `Observed.init contract player hand_set`.
* NOT done: (3) `run` = `clientReactive` (no theorem about `m_ClientThread_run` here).
Hypotheses beyond the specified ones: `WF o.base` (the translated `PlayingHistory.record` needs it, Translated/Play.lean);
`PlayParses.ok` (every decision of the playing system is one of the 52 cards: `Client.card_str` raises `ValueError`
otherwise, the model does not); `PlayParses` quantifies over EVERY message still in the stream (a sufficient, not a walking
predicate); `hhs` (the object's `hand_set` attribute is the encoding of the hand the model's replica starts with).
The operations are given as `∃ ops` with `encClientActs p acts = some (erasePlays ops)` (for every fuel above the bound),
not as an explicit function of the model's walk.
-/
namespace Bridge.Translated.ClientB
open Bridge Bridge.Py Bridge.Generated.PyCore Bridge.Translated Bridge.Translated.ClientA

/-! ## (1) one turn of the inner loop `for _ in range(4)` -/

/-- (1) the body of the inner loop (`cpInner`, extracted from `m_ClientThread_playing_phase.body`) is one turn of the
model's `clientTrickR` (`clientCardR`, `clientTrickR_succ`): dummy's hand is opened if it is dummy's turn for the first
time (`clientOpenR`: nothing / only `hand_open` / "ready for dummy", the message parsed and set on the replica), then the
card (`clientMoveR`: own card decided by the playing system / dummy's card decided by the playing system of the declarer /
somebody else's card relayed and parsed); the replica `env` and `hand_open` end as in the model, the streams are the ones
the model leaves, the operations appended to `out` are the model's actions plus a `playAsk` per decision. -/
theorem client_play_card_translated (p decl : Seat) (c : Contract) (o o' : Observed) (opened opened' : Bool)
    (i i' : ClientIn) (acts : ClientActs) (N : Nat) (hwf : WF o.base)
    (h : clientCardR p decl o opened i = some (acts, o', opened', i')) (hp : PlayParses N i)
    (bids out : List Val) (team : Str) (opp : Val) (extra : List (Id × Val)) (rest : Env) (f : Nat) (hf : N + 91 ≤ f) :
    ∃ ops rest', encClientActs p acts = some (erasePlays ops) ∧ WF o'.base ∧ PlayParses N i' ∧
      execF (mkRec P f) P
          (penv (encClientThread p (encClientWorld i.s bids (i.cards.map encCard) out) team opp extra) c decl o opened
            rest) cpInner
        = .ok (penv (encClientThread p (encClientWorld i'.s bids (i'.cards.map encCard) (out ++ ops)) team opp extra) c
            decl o' opened' rest', .next) :=
  cb_card_step p decl c o o' opened opened' i i' acts N hwf h hp bids out team opp extra rest f hf

/-- the contract of the examples: 1C by North (dummy South, East leads) -/
def exC : Contract := ⟨some 0, false, false, .none, some .N⟩
/-- East's replica at the last trick (East to lead, dummy's hand shown) -/
def exO : Observed :=
  ⟨⟨.C, .N, .S, .E, .E, [], 13, List.replicate 12 ⟨.N, []⟩, [], 0, 0⟩, .E, [⟨14, .S⟩], some [⟨13, .S⟩]⟩

theorem exParses : PlayParses 0 ⟨[], [], [⟨14, .S⟩]⟩ :=
  ⟨fun m hm => absurd hm (List.not_mem_nil), fun m hm => absurd hm (List.not_mem_nil),
   fun m hm => absurd hm (List.not_mem_nil), by decide⟩

/-- non-vacuity of (1): East leads the ace of spades to the last trick — the decision of its playing system (`playAsk`),
the card on its replica, "East plays AS" -/
example (f : Nat) (hf : 0 + 91 ≤ f) (rest : Env) :
    ∃ acts o' ops rest', clientCardR .E .N exO true ⟨[], [], [⟨14, .S⟩]⟩ = some (acts, o', true, ⟨[], [], []⟩) ∧
      acts = [.send (.c2s .E) "East plays AS".toList] ∧ encClientActs .E acts = some (erasePlays ops) ∧
      execF (mkRec P f) P
          (penv (encClientThread .E (encClientWorld [] [] [encCard ⟨14, .S⟩] []) "T".toList .none []) exC .N exO true
            rest) cpInner
        = .ok (penv (encClientThread .E (encClientWorld [] [] [] ([] ++ ops)) "T".toList .none []) exC .N o' true rest',
            .next) := by
  have hm : ∃ acts o', clientCardR .E .N exO true ⟨[], [], [⟨14, .S⟩]⟩ = some (acts, o', true, ⟨[], [], []⟩) ∧
      acts = [.send (.c2s .E) "East plays AS".toList] :=
    ⟨_, _, by with_unfolding_all rfl, by with_unfolding_all rfl⟩
  obtain ⟨acts, o', h, ha⟩ := hm
  obtain ⟨ops, rest', e, _, _, hx⟩ := client_play_card_translated .E .N exC exO o' true true _ _ acts 0
    (by show 12 + 1 = 13; rfl) h exParses [] [] "T".toList .none [] rest f hf
  exact ⟨acts, o', ops, rest', h, ha, e, hx⟩

/-! ## (2) the loop `while not env.has_done()` and the method -/

/-- (2a) the loop of `playing_phase` (`cpCond`, `cpBody` extracted from the generated body) IS `clientPlayingR`: from any
replica `o` with `WF`, any `hand_open`, on the streams of `i` -/
theorem client_playing_loop_translated (p decl : Seat) (c : Contract) (N n : Nat) (o o' : Observed) (opened : Bool)
    (i i' : ClientIn) (acts : ClientActs) (hwf : WF o.base)
    (h : clientPlayingR p decl n o opened i = some (acts, o', i')) (hp : PlayParses N i)
    (bids out : List Val) (team : Str) (opp : Val) (extra : List (Id × Val)) (rest : Env) (f : Nat)
    (hf : n + N + 96 ≤ f) :
    ∃ ops opened' rest', encClientActs p acts = some (erasePlays ops) ∧
      (mkRec P f).loop
          (penv (encClientThread p (encClientWorld i.s bids (i.cards.map encCard) out) team opp extra) c decl o opened
            rest) cpCond cpBody
        = .ok (penv (encClientThread p (encClientWorld i'.s bids (i'.cards.map encCard) (out ++ ops)) team opp extra) c
            decl o' opened' rest', .next) :=
  cb_playing_loop p decl c N bids team opp extra n o o' opened i i' acts out rest f hwf h hp hf

/-- the last trick as East's client sees it: it leads, dummy's / West's / North's cards are relayed -/
def exI : ClientIn :=
  ⟨["East to lead".toList, "South plays SK".toList, "West plays SQ".toList, "North plays SJ".toList], [], [⟨14, .S⟩]⟩

/-- non-vacuity of (2a), the model's side evaluated: the last trick (the parser agreement `PlayParses` on the four
messages is assumed here; it is the only hypothesis) -/
example (hp : PlayParses 40 exI) (f : Nat) (hf : 2 + 40 + 96 ≤ f) (rest : Env) :
    ∃ acts o' ops op' rest', clientPlayingR .E .N 2 exO true exI = some (acts, o', ⟨[], [], []⟩) ∧
      acts = [.recv (.s2c .E), .send (.c2s .E) "East plays AS".toList,
        .send (.c2s .E) "East ready for dummy's card to trick 13".toList, .recv (.s2c .E),
        .send (.c2s .E) "East ready for West's card to trick 13".toList, .recv (.s2c .E),
        .send (.c2s .E) "East ready for North's card to trick 13".toList, .recv (.s2c .E)] ∧
      o'.base.trickNum = 14 ∧ encClientActs .E acts = some (erasePlays ops) ∧
      (mkRec P f).loop
          (penv (encClientThread .E (encClientWorld exI.s [] (exI.cards.map encCard) []) "T".toList .none []) exC .N exO
            true rest) cpCond cpBody
        = .ok (penv (encClientThread .E (encClientWorld [] [] [] ([] ++ ops)) "T".toList .none []) exC .N o' op' rest',
            .next) := by
  have hm : ∃ o', clientPlayingR .E .N 2 exO true exI = some ([.recv (.s2c .E), .send (.c2s .E) "East plays AS".toList,
        .send (.c2s .E) "East ready for dummy's card to trick 13".toList, .recv (.s2c .E),
        .send (.c2s .E) "East ready for West's card to trick 13".toList, .recv (.s2c .E),
        .send (.c2s .E) "East ready for North's card to trick 13".toList, .recv (.s2c .E)], o', ⟨[], [], []⟩) ∧
      o'.base.trickNum = 14 := by
    unfold exI
    rw [show "East to lead".toList = _ from String.toList_ofList,
      show "South plays SK".toList = _ from String.toList_ofList,
      show "West plays SQ".toList = _ from String.toList_ofList,
      show "North plays SJ".toList = _ from String.toList_ofList,
      show "East plays AS".toList = _ from String.toList_ofList,
      show "East ready for dummy's card to trick 13".toList = _ from String.toList_ofList,
      show "East ready for West's card to trick 13".toList = _ from String.toList_ofList,
      show "East ready for North's card to trick 13".toList = _ from String.toList_ofList]
    exact ⟨_, by with_unfolding_all rfl, by with_unfolding_all rfl⟩
  obtain ⟨o', h, hk⟩ := hm
  obtain ⟨ops, op', rest', e, hx⟩ := client_playing_loop_translated .E .N exC 40 2 exO o' true exI _ _
    (by show 12 + 1 = 13; rfl) h hp [] [] "T".toList .none [] rest f hf
  exact ⟨_, o', ops, op', rest', h, rfl, hk, e, hx⟩

theorem cb_construct_obs (f : Nat) (c : Contract) (me : Seat) (hand : List Card) (o : Observed)
    (h : Observed.init c me hand = some o) :
    constructF (mkRec P (f+51)) P n_ObservedPlayingPhase [encContract c, encSeat me, encCards hand]
      = .ok (encObserved c o) := by
  have run : constructF (mkRec P (f+51)) P n_ObservedPlayingPhase [encContract c, encSeat me, encCards hand]
      = (callF (mkRec P (f+50)) m_ObservedPlayingPhase___init__
          [.obj n_ObservedPlayingPhase [], encContract c, encSeat me, encCards hand] >>= fun x => pure x.2) := rfl
  rw [run, observed_init_call f c me hand]
  simp only [Observed.init, init_eq] at h
  cases hb : c.finalBid with
  | none => rw [hb] at h; cases h
  | some b =>
    cases hd : c.declarer with
    | none => rw [hb, hd] at h; cases h
    | some d => rw [hb, hd] at h; cases h; rfl

theorem cb_mth_playing_phase :
    P.method? classDepth n_ClientThread n_playing_phase = some (n_ClientThread, m_ClientThread_playing_phase) := rfl

/-- (2) `playing_phase(contract)` is `clientPlayingR` from `Observed.init contract player hand_set`, `hand_open = False`:
returns `None`; the streams are the ones the model leaves; the operations appended to `out` are the model's actions with a
`playAsk` per decision of the playing system -/
theorem client_playing_translated (p decl : Seat) (c : Contract) (hand : List Card) (o0 o' : Observed) (n N : Nat)
    (i i' : ClientIn) (acts : ClientActs) (hdecl : c.declarer = some decl) (h0 : Observed.init c p hand = some o0)
    (h : clientPlayingR p decl n o0 false i = some (acts, o', i')) (hp : PlayParses N i)
    (bids out : List Val) (team : Str) (opp : Val) (extra : List (Id × Val))
    (hhs : lookup extra n_hand_set = some (encCards hand)) (f : Nat) (hf : n + N + 110 ≤ f) :
    ∃ ops, encClientActs p acts = some (erasePlays ops) ∧
      callFn P f m_ClientThread_playing_phase
          [encClientThread p (encClientWorld i.s bids (i.cards.map encCard) out) team opp extra, encContract c]
        = .ok (.none, encClientThread p (encClientWorld i'.s bids (i'.cards.map encCard) (out ++ ops)) team opp
            extra) := by
  obtain ⟨g, rfl⟩ : ∃ g, f = g + 60 := ⟨f - 60, by omega⟩
  obtain ⟨ops, op', rest', e, hl⟩ := cb_playing_loop p decl c N bids team opp extra n o0 o' false i i' acts out []
    (g+58) (wf_observed_init c p hand o0 h0) h hp (by omega)
  refine ⟨ops, e, ?_⟩
  have hfb : c.finalBid.isNone = false := by
    simp only [Observed.init, init_eq] at h0
    cases hb : c.finalBid with
    | none => rw [hb] at h0; cases h0
    | some b => rfl
  have hco := fun f => cb_construct_obs f c p hand o0 h0
  simp only [penv, cself] at hl
  rw [callFn, call_succ, callF_def]
  simp only [cp_body_def, cp_params, cp_defaults, ct_thread_def, bindParams, Option.map]
  ppsimp [meth_encContract, mth_is_passed_out, is_passed_out_call, hfb, getAttr_contract_declarer, hdecl,
    beq_encSeat_none, getAttr_partner, hhs, hco, hl, truthy]

end Bridge.Translated.ClientB
