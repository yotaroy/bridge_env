import BridgeVerif.Translated.PbnParserLemmasA
/-! Translated PBN parser = model: what the proof for `extract_content` is made of (one unfolding of the model, the
builtins it calls, its two conditions, its body cut in two) -/
namespace Bridge.Translated
open Bridge Bridge.Py Bridge.Generated.PyCore Bridge.RegexPbn

/-- Python's `find()` result: `-1` when absent -/
def optIdx (o : Option Nat) : Int := match o with | some i => i | none => -1

theorem pp_optIdx_pos (o : Option Nat) (h : 0 < optIdx o) : o = some (optIdx o).toNat := by
  cases o with
  | none => simp [optIdx] at h
  | some i => simp [optIdx]

theorem pp_optIdx_ofNat (o : Option Nat) (h : 0 < optIdx o) : optIdx o = Int.ofNat (optIdx o).toNat := by
  cases o with
  | none => simp [optIdx] at h
  | some i => simp [optIdx]

/-- one unfolding of the model, with the `find()` results named -/
theorem pp_ec_succ (k : Nat) (st : PbnSt) (s : Str) : extractContent (k + 1) st s =
    if s.isEmpty then st
    else if st.inComment then
      match splitAtChar '}' s with
      | some (_, rem) => extractContent k { st with inComment := false } rem
      | none => st
    else
      if (0 < optIdx (find2 ';' ' ' s 0) ∧ optIdx (find2 ';' ' ' s 0) < optIdx (find2 '{' ' ' s 0))
          ∨ (optIdx (find2 '{' ' ' s 0) < 0 ∧ 0 < optIdx (find2 ';' ' ' s 0)) then
        (match searchTag (s.length + 1) s 0 with
          | some (a, b) =>
            if (a : Int) < optIdx (find2 ';' ' ' s 0) ∧ optIdx (find2 ';' ' ' s 0) < (b : Int) then
              extractContent k (st.push (s.take b)) (s.drop b) else st
          | none => st).push (s.take (optIdx (find2 ';' ' ' s 0)).toNat)
      else if (optIdx (find2 ';' ' ' s 0) > optIdx (find2 '{' ' ' s 0) ∧ optIdx (find2 '{' ' ' s 0) > 0)
          ∨ (optIdx (find2 '{' ' ' s 0) > 0 ∧ 0 > optIdx (find2 ';' ' ' s 0)) then
        extractContent k { (st.push (s.take (optIdx (find2 '{' ' ' s 0)).toNat)) with inComment := true }
          (s.drop ((optIdx (find2 '{' ' ' s 0)).toNat + 2))
      else st.push s := rfl

/-! ## builtins -/
theorem pp_find_builtin (r : Rec) (s : Str) (a b : Char) :
    builtinF r P .find [.str s, .str [a, b]] = .ok (.int (optIdx (find2 a b s 0))) := by
  simp only [builtinF, pp_findFrom2]
  cases find2 a b s 0 <;> rfl

theorem pp_splitOnce2 (r : Rec) (s : Str) (a b : Char) (i : Nat) (h : find2 a b s 0 = some i) :
    builtinF r P .splitOnce [.str s, .str [a, b]] = .ok (.tuple [.str (s.take i), .str (s.drop (i + 2))]) := by
  simp only [builtinF, pp_findFrom2, h, List.isEmpty_cons, Bool.false_eq_true, if_false, List.length_cons, List.length_nil]
  rfl

theorem pp_splitOnce1 (r : Rec) (s : Str) (c : Char) (a rem : Str) (h : splitAtChar c s = some (a, rem)) :
    builtinF r P .splitOnce [.str s, .str [c]] = .ok (.tuple [.str a, .str rem]) := by
  have := pp_splitAtChar_spec c s a rem h
  simp only [builtinF, pp_findFrom1, h, List.isEmpty_cons, Bool.false_eq_true, if_false, List.length_cons, List.length_nil,
    Option.map, Nat.zero_add, this.1, this.2.1]
  rfl

theorem pp_in1 (r : Rec) (s : Str) (c : Char) :
    cmpF r P .inn (.str [c]) (.str s) = .ok (.bool (splitAtChar c s).isSome) := by
  simp only [cmpF, pp_infix1]
  cases (splitAtChar c s).isSome <;> rfl

theorem pp_truthy_str (s : Str) : truthy (.str s) = !s.isEmpty := rfl
theorem pp_truthy_obj (c : Id) (fs : List (Id × Val)) : truthy (.obj c fs) = true := rfl
theorem pp_truthy_none : truthy .none = false := rfl

/-- `re.search(TAG_PATTERN, s)` as the translated code sees it -/
def searchVal (t : Val) : Option (Nat × Nat) → Val
  | none => .none
  | some (a, b) => .obj n__MatchS [(n_texts, t), (n_span, .tuple [.int ((a : Nat) : Int), .int ((b : Nat) : Int)])]

theorem pp_search_builtin (hf : PbnRegexFacts) (s : Str) :
    ∃ t, ∀ r : Rec, builtinF r P .reSearchSpan [.str TAG_PATTERN, .str s, .bool false, .cls n__MatchS, .int n_texts, .int n_span]
      = .ok (searchVal t (searchTag (s.length + 1) s 0)) := by
  have h := hf.search_tag s
  cases hp : Re.pySearch false TAG_PATTERN s with
  | none => rw [hp] at h; cases h
  | some mo =>
    rw [hp] at h
    simp only [Option.map, Option.some.injEq] at h
    cases mo with
    | none =>
      simp only at h
      refine ⟨.none, fun r => ?_⟩
      simp only [builtinF, hp, ← h, searchVal]; rfl
    | some m =>
      simp only at h
      refine ⟨(match matchVal n__MatchS n_texts s m with | .obj _ ((_, t) :: _) => t | _ => .none), fun r => ?_⟩
      simp only [builtinF, hp, ← h, searchVal, matchVal]
      rfl


/-! ## the two conditions -/
theorem pp_cond1 (g : Nat) (sv tp : Val) (s : Str) (xi yi : Int) :
    evalF (mkRec P (g + 18)) P [(K.self, sv), (n_string, .str s), (n_x, .int xi), (n_y, .int yi), (n_tag_pair, tp)]
      (.or (.and (.cmp .lt (.const (.int 0)) (.var n_x)) (.cmp .lt (.var n_x) (.var n_y)))
        (.and (.cmp .lt (.var n_y) (.const (.int 0))) (.cmp .lt (.const (.int 0)) (.var n_x))))
      = .ok (.bool (decide ((0 < xi ∧ xi < yi) ∨ (yi < 0 ∧ 0 < xi)))) := by
  by_cases h1 : 0 < xi <;> by_cases h2 : xi < yi <;> by_cases h3 : yi < 0 <;> ppsimp [h1, h2, h3]

theorem pp_cond2 (g : Nat) (sv tp : Val) (s : Str) (xi yi : Int) :
    evalF (mkRec P (g + 17)) P [(K.self, sv), (n_string, .str s), (n_x, .int xi), (n_y, .int yi), (n_tag_pair, tp)]
      (.or (.and (.cmp .gt (.var n_x) (.var n_y)) (.cmp .gt (.var n_y) (.const (.int 0))))
        (.and (.cmp .gt (.var n_y) (.const (.int 0))) (.cmp .gt (.const (.int 0)) (.var n_x))))
      = .ok (.bool (decide ((xi > yi ∧ yi > 0) ∨ (yi > 0 ∧ 0 > xi)))) := by
  by_cases h1 : xi > yi <;> by_cases h2 : yi > 0 <;> by_cases h3 : 0 > xi <;> ppsimp [h1, h2, h3]

/-! ## running a body in two stages -/
/-- the first five statements of `extract_content` (the two early returns, `x`, `y`, `tag_pair`) and the rest -/
def ecPre : List Stmt := m_PbnParser_extract_content.body.take 5
def ecRest : List Stmt := m_PbnParser_extract_content.body.drop 5

theorem pp_callF_extract (r : Rec) (sv x : Val) :
    callF r m_PbnParser_extract_content [sv, x] =
      r.exec [(K.self, sv), (n_string, x)] (ecPre ++ ecRest) >>= fun x =>
        match x.2 with
        | .ret v => .ok (v, (lookup x.1 K.self).getD .none)
        | _ => .ok (.none, (lookup x.1 K.self).getD .none) := by
  rw [callF_def]; rfl

end Bridge.Translated
