import BridgeVerif.Translated.HandsPbnLemmasB
import BridgeVerif.Lemmas.RegexMsgBidA
import BridgeVerif.Model.Msg
/-! Translated `MessageInterface.parse_match_base` / `parse_card` (socket_interface.py) = model, part A: the match object
`re.match(…, re.IGNORECASE)` hands to the program when the engine's groups are known, `parse_match_base` at any sufficient
fuel, and `parse_card(content, player)` against `parseCard? content player` (the encoded card when the model reads one,
otherwise one of four exceptions) — for EVERY text whose
characters are in the class `RegexMsgBid.agree` (every ASCII text), every seat, every fuel ≥ 20. -/
namespace Bridge.Translated.MsgParsers
open Bridge Bridge.Py Bridge.Generated.PyCore Bridge.Translated Bridge.RegexHands Bridge.RegexMsgBid
open Bridge.Translated.HandsPbn

/-! ## the match object (`re.IGNORECASE`), `parse_match_base`, `match.group` -/
theorem mp_reMatch_none (r : Rec) (pat s : List Char)
    (h : (Re.pyMatch true pat s).map (Option.map (groupTexts s)) = some none) :
    builtinF r P .reMatch [.str pat, .str s, .bool true, .cls n__Match, .int n_texts] = .ok .none :=
  hp_reMatch_none r pat s h

theorem mp_reMatch_some (pat s : List Char) (gs : List (List Char))
    (h : (Re.pyMatch true pat s).map (Option.map (groupTexts s)) = some (some (gs.map some))) :
    ∃ g0, ∀ r : Rec, builtinF r P .reMatch [.str pat, .str s, .bool true, .cls n__Match, .int n_texts]
      = .ok (.obj n__Match [(n_texts, .tuple (.str g0 :: gs.map Val.str))]) :=
  hp_reMatch_some pat s gs h

theorem mp_mth_pmb : P.method? classDepth n_MessageInterface n_parse_match_base
    = some (n_MessageInterface, m_MessageInterface_parse_match_base) := hp_mth_pmb

theorem mp_beq_none_none : (Val.none).beq .none = true := by simp only [Val.beq]

theorem mp_pmb_none (f : Nat) (pat s : List Char)
    (h : (Re.pyMatch true pat s).map (Option.map (groupTexts s)) = some none) :
    callF (mkRec P (f+4)) m_MessageInterface_parse_match_base [.str pat, .str s] = .error (.exc K.Exception) :=
  hp_pmb_none f pat s h

theorem mp_pmb_some (pat s : List Char) (gs : List (List Char))
    (h : (Re.pyMatch true pat s).map (Option.map (groupTexts s)) = some (some (gs.map some))) :
    ∃ g0, ∀ f, callF (mkRec P (f+4)) m_MessageInterface_parse_match_base [.str pat, .str s]
      = .ok (.obj n__Match [(n_texts, .tuple (.str g0 :: gs.map Val.str))], .str pat) :=
  hp_pmb_some pat s gs h

theorem mp_group_call2 (f : Nat) (x0 x1 : Val) (i : Int) (k : Nat) (h : normIndex 2 i = some k) :
    callF (mkRec P (f+6)) m__Match_group [.obj n__Match [(n_texts, .tuple [x0, x1])], .int i]
      = .ok ([x0, x1].getD k .none, .obj n__Match [(n_texts, .tuple [x0, x1])]) :=
  hp_group_call f [x0, x1] i k h

/-! ## `parse_card` -/
theorem mp_formal_name (f : Nat) (p : Seat) :
    getAttrF (mkRec P (f+12)) P (encSeat p) n_formal_name = .ok (.str p.formal) := by
  cases p <;> with_unfolding_all rfl

theorem mp_upperC : upperC = upperA := by funext c; rfl
theorem mp_lowerC : lowerC = lowerA := by funext c; rfl

theorem mp_builtin_upper (r : Rec) (s : List Char) : builtinF r P .upper [.str s] = .ok (.str (upperS s)) := by
  show Except.ok (Val.str (s.map upperC)) = _
  rw [mp_upperC]; rfl
theorem mp_builtin_lower (r : Rec) (s : List Char) : builtinF r P .lower [.str s] = .ok (.str (lowerS s)) := by
  show Except.ok (Val.str (s.map lowerC)) = _
  rw [mp_lowerC]; rfl

theorem mp_index_str0 (r : Rec) (a : Char) (t : List Char) : indexF r P (.str (a :: t)) (.int 0) = .ok (.str [a]) := by
  simp [indexF, asInt?, normIndex]; rfl
theorem mp_index_str1 (r : Rec) (a b : Char) (t : List Char) :
    indexF r P (.str (a :: b :: t)) (.int 1) = .ok (.str [b]) := by
  simp [indexF, asInt?, normIndex]; rfl

/-- the test `card_str[0] in ('S', 'H', 'D', 'C')` -/
theorem mp_contains_suit (a : Char) :
    containsVal [.str ['S'], .str ['H'], .str ['D'], .str ['C']] (.str [a])
      = decide (a = 'S' ∨ a = 'H' ∨ a = 'D' ∨ a = 'C') := by
  simp only [containsVal, List.any_cons, List.any_nil, beq_str_decide, Bool.or_false, List.cons.injEq, and_true]
  rw [Bool.eq_iff_iff]
  simp only [Bool.or_eq_true, decide_eq_true_eq]
  constructor
  · rintro (h | h | h | h) <;> simp [← h]
  · rintro (h | h | h | h) <;> simp [h]

theorem mp_mth_parse_card : P.method? classDepth n_MessageInterface n_parse_card
    = some (n_MessageInterface, m_MessageInterface_parse_card) := rfl

theorem mp_card_ok (rk : Nat) (su : Suit) (c : Card) (h : mkCard? rk su = some c) : c = ⟨rk, su⟩ ∧ c.ok = true := by
  unfold mkCard? at h
  split at h
  · cases h
  · split at h
    · cases h
    · rename_i h1 h2
      cases h
      refine ⟨rfl, ?_⟩
      simp only [Card.ok, Bool.and_eq_true, decide_eq_true_eq]
      exact ⟨by omega, h2⟩

/-- what the model reads in a card message, spelled out -/
theorem mp_parseCard_some (content : List Char) (p : Seat) (card : Card) (h : parseCard? content p = some card) :
    ∃ r a b t rk su, stripPrefixCI (p.formal ++ " plays ".toList) content = some r ∧
      upperS (r.takeWhile (· ≠ '\n')) = a :: b :: t ∧ mkCard? rk su = some card ∧
      ((a = 'S' ∨ a = 'H' ∨ a = 'D' ∨ a = 'C') ∧ rankOfChar? b = some rk ∧ suitOfName? [a] = some su ∨
       ¬ (a = 'S' ∨ a = 'H' ∨ a = 'D' ∨ a = 'C') ∧ rankOfChar? a = some rk ∧ suitOfName? [b] = some su) := by
  unfold parseCard? at h
  split at h
  · cases h
  · rename_i r hr
    split at h
    · rename_i a b t hw
      refine ⟨r, a, b, t, ?_⟩
      split at h
      · rename_i hab
        cases hrk : rankOfChar? b with
        | none => rw [hrk] at h; cases h
        | some rk =>
          cases hsu : suitOfName? [a] with
          | none => rw [hrk, hsu] at h; cases h
          | some su =>
            rw [hrk, hsu] at h
            exact ⟨rk, su, hr, hw, h, Or.inl ⟨hab, rfl, rfl⟩⟩
      · rename_i hab
        cases hrk : rankOfChar? a with
        | none => rw [hrk] at h; cases h
        | some rk =>
          cases hsu : suitOfName? [b] with
          | none => rw [hrk, hsu] at h; cases h
          | some su =>
            rw [hrk, hsu] at h
            exact ⟨rk, su, hr, hw, h, Or.inr ⟨hab, rfl, rfl⟩⟩
    · cases h

/-! ## the failing pieces -/
theorem mp_builtin_int_none (r : Rec) (s : List Char) (h : parseInt? s = none) :
    builtinF r P .int [.str s] = .error (.exc K.ValueError) := by
  simp only [builtinF, h]; rfl

theorem mp_parseInt_none (b : Char) (h : digitVal? b = none) : parseInt? [b] = none := by
  have hnd : b.isDigit = false := by
    cases hb : b.isDigit with
    | false => rfl
    | true =>
      exfalso
      simp only [Char.isDigit, Bool.and_eq_true, decide_eq_true_eq] at hb
      have : ('0' ≤ b ∧ b ≤ '9') := ⟨hb.1, hb.2⟩
      simp [digitVal?, this] at h
  unfold parseInt?
  split
  · rename_i heq; cases heq; rfl
  · rename_i heq; cases heq; rfl
  · simp [parseNat?, hnd]

/-- `Card.rank_str_to_int` on a character that is no rank: `int(...)` raises `ValueError` -/
theorem mp_rank_fail (f : Nat) (b : Char) (h : rankOfChar? b = none) :
    callF (mkRec P (f+10)) m_Card_rank_str_to_int [.cls n_Card, .str [b]] = .error (.exc K.ValueError) := by
  unfold rankOfChar? at h
  split at h <;> try (cases h)
  rename_i h1 h2 h3 h4 h5
  have e1 : ¬ [b] = ['T'] := by intro e; cases e; exact h1 rfl
  have e2 : ¬ [b] = ['J'] := by intro e; cases e; exact h2 rfl
  have e3 : ¬ [b] = ['Q'] := by intro e; cases e; exact h3 rfl
  have e4 : ¬ [b] = ['K'] := by intro e; cases e; exact h4 rfl
  have e5 : ¬ [b] = ['A'] := by intro e; cases e; exact h5 rfl
  rw [callF_def]
  simp only [m_Card_rank_str_to_int, bindParams, Option.map]
  ppsimp [beq_str_decide, e1, e2, e3, e4, e5, mapR, mp_builtin_int_none _ _ (mp_parseInt_none b h)]

/-- `Card(rank, suit)` with a rank outside 2..14: `__post_init__` raises `ValueError` -/
theorem mp_construct_fail (f : Nat) (rk : Nat) (su : Suit) (h : rk < 2 ∨ 14 < rk) :
    constructF (mkRec P (f+9)) P n_Card [.int rk, .enum n_Suit su.value] = .error (.exc K.ValueError) := by
  have e : constructF (mkRec P (f+9)) P n_Card [.int rk, .enum n_Suit su.value]
      = (callF (mkRec P (f+8)) m_Card___post_init__ [encCard ⟨rk, su⟩] >>= fun x => pure x.2) := rfl
  rw [e, callF_def]
  simp only [m_Card___post_init__, bindParams, Option.map, encCard]
  have h1 : ((rk : Int) < 2) ∨ (14 < (rk : Int)) := by omega
  rcases h1 with h1 | h1
  · ppsimp [h1]
  · have h2 : ¬ ((rk : Int) < 2) := by omega
    ppsimp [h1, h2]

theorem mp_member_suit_none (b : Char) (h : suitOfName? [b] = none) : memberValue? (clsOf n_Suit) [b] = none := by
  unfold suitOfName? at h
  split at h <;> try (cases h)
  rename_i h1 h2 h3 h4 h5
  have e1 : b ≠ 'C' := fun e => h1 (by rw [e])
  have e2 : b ≠ 'D' := fun e => h2 (by rw [e])
  have e3 : b ≠ 'H' := fun e => h3 (by rw [e])
  have e4 : b ≠ 'S' := fun e => h4 (by rw [e])
  have hm : (clsOf n_Suit).members = [(['C'], 1), (['D'], 2), (['H'], 3), (['S'], 4), (['N', 'T'], 5)] := by
    with_unfolding_all rfl
  have f1 : ('C' == b) = false := beq_eq_false_iff_ne.2 e1.symm
  have f2 : ('D' == b) = false := beq_eq_false_iff_ne.2 e2.symm
  have f3 : ('H' == b) = false := beq_eq_false_iff_ne.2 e3.symm
  have f4 : ('S' == b) = false := beq_eq_false_iff_ne.2 e4.symm
  simp [memberValue?, hm, List.find?, f1, f2, f3, f4]

theorem mp_index_str_nil (r : Rec) (i : Int) (h : 0 ≤ i) : indexF r P (.str []) (.int i) = .error (.exc K.IndexError) := by
  simp [indexF, asInt?, normIndex, h]; rfl
theorem mp_index_str_oob1 (r : Rec) (a : Char) : indexF r P (.str [a]) (.int 1) = .error (.exc K.IndexError) := by
  simp [indexF, asInt?, normIndex]; rfl

theorem mp_suit_of_letter (a : Char) (h : a = 'S' ∨ a = 'H' ∨ a = 'D' ∨ a = 'C') :
    ∃ su, suitOfName? [a] = some su := by
  rcases h with rfl | rfl | rfl | rfl
  · exact ⟨.S, rfl⟩
  · exact ⟨.H, rfl⟩
  · exact ⟨.D, rfl⟩
  · exact ⟨.C, rfl⟩

theorem mp_mkCard_none (rk : Nat) (su : Suit) (a : Char) (hsu : suitOfName? [a] = some su) (h : mkCard? rk su = none) :
    rk < 2 ∨ 14 < rk := by
  have hnt : su ≠ .NT := by
    intro e; subst e
    unfold suitOfName? at hsu
    split at hsu
    · cases hsu
    · cases hsu
    · cases hsu
    · cases hsu
    · rename_i heq; simp at heq
    · cases hsu
  unfold mkCard? at h
  split at h
  · assumption
  · simp at h

theorem mp_parse_card_all (f : Nat) (content : List Char) (hs : ∀ x ∈ content, agree x = true) (p : Seat)
    (C : R (Val × Val)) (hC : callF (mkRec P (f+19)) m_MessageInterface_parse_card [.str content, encSeat p] = C) :
    match parseCard? content p with
    | some card => C = .ok (encCard card, .str content)
    | none => ∃ c ∈ [K.Exception, K.IndexError, K.ValueError, K.KeyError], C = .error (.exc c) := by
  revert hC
  have hfact := match_plays p content hs
  rw [playsPat, show " plays (.*)".toList = _ from String.toList_ofList] at hfact
  unfold parseCard?
  rw [callF_def]
  simp only [m_MessageInterface_parse_card, bindParams, Option.map]
  cases hr : stripPrefixCI (p.formal ++ " plays ".toList) content with
  | none =>
    rw [hr] at hfact
    ppsimp [mp_formal_name, mapR, strOfF, List.flatten, List.append_eq, List.append_nil, mp_mth_pmb, mp_pmb_none _ _ _ hfact]
    rintro rfl
    exact ⟨K.Exception, by simp, rfl⟩
  | some r =>
    rw [hr] at hfact
    simp only
    obtain ⟨g0, hpmb⟩ := mp_pmb_some _ content [r.takeWhile (· ≠ '\n')] hfact
    generalize r.takeWhile (· ≠ '\n') = g at hpmb ⊢
    ppsimp [mp_formal_name, mapR, strOfF, List.flatten, List.append_eq, List.append_nil, mp_mth_pmb, hpmb, List.map_cons, List.map_nil,
        hp_mth_group, mp_group_call2 _ _ _ _ _ (by decide : normIndex 2 1 = some 1), List.getD_cons_succ,
        List.getD_cons_zero, mp_builtin_upper, jp_mth_rank_str_to_int, jp_cls_Suit]
    generalize upperS g = w
    cases w with
    | nil =>
      ppsimp [mp_index_str_nil _ 0 (by decide)]
      rintro rfl
      exact ⟨K.IndexError, by simp, rfl⟩
    | cons a t =>
      by_cases hab : a = 'S' ∨ a = 'H' ∨ a = 'D' ∨ a = 'C'
      · cases t with
        | nil =>
          ppsimp [mp_index_str0, mp_index_str_oob1, mp_contains_suit, hab]
          rintro rfl
          exact ⟨K.IndexError, by simp, rfl⟩
        | cons b t =>
          obtain ⟨su, hsu⟩ := mp_suit_of_letter a hab
          cases hrk : rankOfChar? b with
          | none =>
            ppsimp [mp_index_str0, mp_index_str1, mp_contains_suit, hab, mp_rank_fail _ _ hrk, hrk]
            rintro rfl
            exact ⟨K.ValueError, by simp, rfl⟩
          | some rk =>
            cases hc : mkCard? rk su with
            | none =>
              ppsimp [mp_index_str0, mp_index_str1, mp_contains_suit, hab, jp_rank_str_to_int_call _ _ _ hrk, hrk,
                jp_member_suit _ _ hsu, hsu, mp_construct_fail _ rk su (mp_mkCard_none rk su a hsu hc), hc, Option.bind_some]
              rintro rfl
              exact ⟨K.ValueError, by simp, rfl⟩
            | some card =>
              obtain ⟨rfl, hok⟩ := mp_card_ok rk su card hc
              have hcon : ∀ k, constructF (mkRec P (k + 9)) P n_Card [.int rk, .enum n_Suit su.value] = .ok (encCard ⟨rk, su⟩) :=
                fun k => hd_construct_card k ⟨rk, su⟩ hok
              ppsimp [mp_index_str0, mp_index_str1, mp_contains_suit, hab, jp_rank_str_to_int_call _ _ _ hrk, hrk,
                jp_member_suit _ _ hsu, hsu, hcon, hc, Option.bind_some]
              exact Eq.symm
      · cases hrk : rankOfChar? a with
        | none =>
          ppsimp [mp_index_str0, mp_contains_suit, hab, mp_rank_fail _ _ hrk]
          rintro rfl
          cases t <;> simp only [hab, if_false, hrk, Option.bind_none] <;> exact ⟨K.ValueError, by simp, rfl⟩
        | some rk =>
          cases t with
          | nil =>
            ppsimp [mp_index_str0, mp_index_str_oob1, mp_contains_suit, hab, jp_rank_str_to_int_call _ _ _ hrk]
            rintro rfl
            exact ⟨K.IndexError, by simp, rfl⟩
          | cons b t =>
            cases hsu : suitOfName? [b] with
            | none =>
              ppsimp [mp_index_str0, mp_index_str1, mp_contains_suit, hab, jp_rank_str_to_int_call _ _ _ hrk, hrk,
                mp_member_suit_none _ hsu, hsu, Option.bind_some, Option.bind_none]
              rintro rfl
              exact ⟨K.KeyError, by simp, rfl⟩
            | some su =>
              cases hc : mkCard? rk su with
              | none =>
                ppsimp [mp_index_str0, mp_index_str1, mp_contains_suit, hab, jp_rank_str_to_int_call _ _ _ hrk, hrk,
                  jp_member_suit _ _ hsu, hsu, mp_construct_fail _ rk su (mp_mkCard_none rk su b hsu hc), hc, Option.bind_some]
                rintro rfl
                exact ⟨K.ValueError, by simp, rfl⟩
              | some card =>
                obtain ⟨rfl, hok⟩ := mp_card_ok rk su card hc
                have hcon : ∀ k, constructF (mkRec P (k + 9)) P n_Card [.int rk, .enum n_Suit su.value] = .ok (encCard ⟨rk, su⟩) :=
                  fun k => hd_construct_card k ⟨rk, su⟩ hok
                ppsimp [mp_index_str0, mp_index_str1, mp_contains_suit, hab, jp_rank_str_to_int_call _ _ _ hrk, hrk,
                  jp_member_suit _ _ hsu, hsu, hcon, hc, Option.bind_some]
                exact Eq.symm

/-- TRANSLATED `parse_card` = MODEL, for every text of the class `agree`, every seat, every fuel ≥ 20: whenever the model's
`parseCard?` reads a card, the generated `MessageInterface.parse_card` returns its encoding (this is `MainB.ParsesTo`) -/
theorem parse_card_translated (content : List Char) (hs : ∀ x ∈ content, agree x = true) (p : Seat) (card : Card)
    (h : parseCard? content p = some card) :
    ∀ f, 20 ≤ f → callFn P f m_MessageInterface_parse_card [.str content, encSeat p] = .ok (encCard card, .str content) := by
  intro f hf
  obtain ⟨g, rfl⟩ : ∃ g, f = g + 20 := ⟨f - 20, by omega⟩
  have := mp_parse_card_all g content hs p _ rfl
  rw [h] at this
  exact this

/-- … in particular for every ASCII text -/
theorem parse_card_translated_ascii (content : List Char) (hs : ∀ x ∈ content, x.toNat < 128) (p : Seat) (card : Card)
    (h : parseCard? content p = some card) :
    ∀ f, 20 ≤ f → callFn P f m_MessageInterface_parse_card [.str content, encSeat p] = .ok (encCard card, .str content) :=
  parse_card_translated content (fun x hx => agree_ascii x (hs x hx)) p card h

end Bridge.Translated.MsgParsers
