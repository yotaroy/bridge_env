import BridgeVerif.Translated.ThreadsSeatA
import BridgeVerif.Translated.ThreadsMainALemmas
import BridgeVerif.Translated.NetHelpers
import BridgeVerif.Translated.Play
/-! Translated `MainThread.playing_phase`: the `_World` methods on main's world, environments up to `lookup`, the attributes of the
`PlayingPhaseWithHands` object, loops over the four seats; the pieces of the body of one card (`for i in range(4)`), executed
on an environment known up to `lookup` -/
set_option linter.unusedSimpArgs false
namespace Bridge.Translated.MainB

section
open Bridge Bridge.Py Bridge.Generated.PyCore

/-! ## main's world -/

theorem mb_world_def (i : Seat → List Str) (out : List Val) (table : Val) (tables : List Val) (more : List (Val × Val)) :
    encMainWorld i out table tables more = .obj n__World [(n_ins, .dict ((qkey "t2m" .N, vtexts (i .N)) ::
        (qkey "t2m" .E, vtexts (i .E)) :: (qkey "t2m" .S, vtexts (i .S)) :: (qkey "t2m" .W, vtexts (i .W)) :: more)),
      (n_out, .tuple out), (n_table, table), (n_tables, .tuple tables), (n_eof, .bool false)] := rfl

theorem mb_methF_world (r : Rec) (i : Seat → List Str) (out : List Val) (table : Val) (tables : List Val)
    (more : List (Val × Val)) (m : Id) (args : List Val) :
    methF r P (encMainWorld i out table tables more) m args
      = callMethod r P n__World m (encMainWorld i out table tables more :: args) (.exc K.AttributeError) := rfl

theorem mb_w_put_call (f : Nat) (i : Seat → List Str) (out : List Val) (table : Val) (tables : List Val)
    (more : List (Val × Val)) (a b m : Val) :
    callF (mkRec P (f+12)) m__World_w_put [encMainWorld i out table tables more, a, b, m]
      = .ok (.none, encMainWorld i (out ++ [.tuple [.str ['p', 'u', 't'], a, b, m]]) table tables more) :=
  SeatB.sb_w_put (f+6) _ out table tables false a b m

theorem mb_w_op_call (f : Nat) (i : Seat → List Str) (out : List Val) (table : Val) (tables : List Val)
    (more : List (Val × Val)) (a b : Val) :
    callF (mkRec P (f+12)) m__World_w_op [encMainWorld i out table tables more, a, b]
      = .ok (.none, encMainWorld i (out ++ [.tuple [a, b]]) table tables more) :=
  SeatB.sb_w_op (f+6) _ out table tables false a b

/-! ## the `PlayingPhaseWithHands` object, kept folded -/

theorem mb_methF_wh (r : Rec) (c : Contract) (w : WithHands) (m : Id) (args : List Val) :
    methF r P (encWithHands c w) m args
      = callMethod r P n_PlayingPhaseWithHands m (encWithHands c w :: args) (.exc K.AttributeError) := rfl
theorem mb_mth_wh_play : P.method? classDepth n_PlayingPhaseWithHands n_play_card_by_player
    = some (n_PlayingPhaseWithHands, m_PlayingPhaseWithHands_play_card_by_player) := rfl

theorem mb_attr_active (r : Rec) (c : Contract) (w : WithHands) :
    getAttrF r P (encWithHands c w) n_active_player = .ok (encSeat w.base.active) := rfl
theorem mb_attr_dummy (r : Rec) (c : Contract) (w : WithHands) :
    getAttrF r P (encWithHands c w) n_dummy = .ok (encSeat w.base.dummy) := rfl
theorem mb_attr_declarer (r : Rec) (c : Contract) (w : WithHands) :
    getAttrF r P (encWithHands c w) n_declarer = .ok (encSeat w.base.declarer) := rfl
theorem mb_attr_leader (r : Rec) (c : Contract) (w : WithHands) :
    getAttrF r P (encWithHands c w) n_leader = .ok (encSeat w.base.leader) := rfl
theorem mb_attr_history (r : Rec) (c : Contract) (w : WithHands) :
    getAttrF r P (encWithHands c w) n_playing_history = .ok (encHistory c w.base.history) := rfl
theorem mb_attr_taken (r : Rec) (c : Contract) (w : WithHands) :
    getAttrF r P (encWithHands c w) n_taken_tricks = .ok (.dict (takenKvs w.base.takenNS w.base.takenEW)) := rfl

/-- `PlayingPhaseWithHands(contract, cards)` is a call of `__init__` on a fresh instance -/
theorem mb_construct_wh (f : Nat) (args : List Val) :
    constructF (mkRec P (f+1)) P n_PlayingPhaseWithHands args
      = (callF (mkRec P f) m_PlayingPhaseWithHands___init__ (.obj n_PlayingPhaseWithHands [] :: args)
          >>= fun x => .ok x.2) := rfl

/-! ## environments up to `lookup` -/

def Frame (vars : List Id) (env env' : Env) : Prop := ∀ y, y ∉ vars → lookup env' y = lookup env y

theorem Frame.refl (vars : List Id) (env : Env) : Frame vars env env := fun _ _ => rfl
theorem Frame.trans {vars : List Id} {e1 e2 e3 : Env} (h1 : Frame vars e1 e2) (h2 : Frame vars e2 e3) :
    Frame vars e1 e3 := fun y hy => (h2 y hy).trans (h1 y hy)
theorem Frame.mono {v1 v2 : List Id} {e1 e2 : Env} (h : Frame v1 e1 e2) (hs : ∀ y, y ∈ v1 → y ∈ v2) : Frame v2 e1 e2 :=
  fun y hy => h y fun hm => hy (hs y hm)
theorem Frame.update {vars : List Id} {e1 e2 : Env} (h : Frame vars e1 e2) (x : Id) (v : Val) (hx : x ∈ vars) :
    Frame vars e1 (update e2 x v) := fun y hy => by
  have hne : x ≠ y := fun e => hy (by rw [← e]; exact hx)
  rw [lookup_update_ne _ _ _ _ hne]; exact h y hy

/-! ## loops over the four seats -/

/-- a loop `for player in Player` whose body, run for seat `p` on an environment with the property `Inv`, goes on (`next` or
`continue`), performs `ops p`, and writes `self` and `player` only: the loop performs `ops` of the seats in turn -/
theorem mb_for_seats (r : Rec) (body : List Stmt) (Inv : Env → Prop) (ops : Seat → List Val) (i : Seat → List Str)
    (table : Val) (tables : List Val) (more : List (Val × Val)) (bs : Val)
    (hInv : ∀ env env', Frame [K.self, n_player] env env' → Inv env → Inv env')
    (hiter : ∀ env out p, Inv env →
      lookup env K.self = some (encMainThread (encMainWorld i out table tables more) bs) →
      ∃ env' fl, (fl = .next ∨ fl = .cont) ∧ r.exec (update env n_player (encSeat p)) body = .ok (env', fl) ∧
        lookup env' K.self = some (encMainThread (encMainWorld i (out ++ ops p) table tables more) bs) ∧
        Frame [K.self, n_player] env env') :
    ∀ (ps : List Seat) (env : Env) (out : List Val), Inv env →
      lookup env K.self = some (encMainThread (encMainWorld i out table tables more) bs) →
      ∃ env', forF r [n_player] body env (ps.map encSeat) = .ok (env', .next) ∧
        lookup env' K.self = some (encMainThread (encMainWorld i (out ++ ps.flatMap ops) table tables more) bs) ∧
        Frame [K.self, n_player] env env' := by
  intro ps
  induction ps with
  | nil => intro env out _ hself; exact ⟨env, rfl, by simpa using hself, Frame.refl _ _⟩
  | cons p ps ih =>
    intro env out hinv hself
    obtain ⟨e1, fl, hfl, h1, hs1, hf1⟩ := hiter env out p hinv hself
    obtain ⟨e2, h2, hs2, hf2⟩ := ih e1 _ (hInv _ _ hf1 hinv) hs1
    refine ⟨e2, ?_, by rw [hs2, List.flatMap_cons, List.append_assoc], hf1.trans hf2⟩
    rcases hfl with rfl | rfl <;> simp only [List.map_cons, forF, pure_eq, bind_ok, h1, h2]


def opGet (p : Seat) : Val := .tuple [vstr "get", vstr "t2m", encSeat p]
def opPut (p : Seat) (m : Str) : Val := .tuple [vstr "put", vstr "m2t", encSeat p, .str m]
def opSleep : Val := .tuple [vstr "sleep", .int 1]
def opsPutAll (m : Str) : List Val := [opPut .N m, opPut .E m, opPut .S m, opPut .W m]
def opsPutAllBut (x : Seat) (m : Str) : List Val := ([Seat.N, .E, .S, .W].filter (· ≠ x)).map (opPut · m)

def mbDeclLoop : Stmt := m_MainThread_playing_phase.body.getD 1 .pass
def mbTrickBody : List Stmt := match m_MainThread_playing_phase.body.getD 2 .pass with
  | .for _ _ b => b
  | _ => []
def mbCardBody : List Stmt := match mbTrickBody.getD 3 .pass with
  | .for _ _ b => b
  | _ => []

attribute [pyworld] mb_methF_world mb_w_put_call mb_w_op_call mb_methF_wh mb_attr_active mb_attr_dummy mb_attr_declarer
  mb_attr_leader mb_attr_history mb_attr_taken MainA.mt_iter_player st_formal_name
macro "lk_tac" : tactic =>
  `(tactic| (simp +decide only [lookup_update_same, lookup_update_ne, ne_eq, not_false_eq_true, opGet, vstr, reduceCtorEq,
      String.reduceToList, List.append_assoc, List.cons_append, List.nil_append, opsPutAll, opsPutAllBut, opPut,
      List.filter, decide_true, decide_false, decide_not, Bool.not_true, Bool.not_false, List.map_cons, List.map_nil]
      <;> try rfl))

/-- `Frame vars env (update (… (update env x v) …) y w)`: every updated variable is in `vars` -/
macro "frame_tac" : tactic =>
  `(tactic| ((repeat (refine Frame.update ?_ _ _ (by decide))); exact Frame.refl _ _))

theorem mb_loop_decl (f : Nat) (env : Env) (i : Seat → List Str) (out : List Val) (table : Val) (tables : List Val)
    (more : List (Val × Val)) (bs : Val) (c : Contract) (w : WithHands)
    (hself : lookup env K.self = some (encMainThread (encMainWorld i out table tables more) bs))
    (hpe : lookup env n_playing_env = some (encWithHands c w)) :
    ∃ env', execStmtF (mkRec P (f+30)) P env mbDeclLoop = .ok (env', .next) ∧
      lookup env' K.self = some (encMainThread (encMainWorld i (out ++ opsPutAll w.base.declarer.formal) table tables more) bs) ∧
      Frame [K.self, n_player] env env' := by
  simp only [encMainThread] at hself ⊢
  -- the witness `env'` stays a metavariable (`rotate_left` puts its goal last): the symbolic execution in the first bullet fills it in
  refine ⟨?_, ?_, ?_, ?_⟩
  rotate_left
  · simp only [mbDeclLoop, m_MainThread_playing_phase, List.getD_cons_zero, List.getD_cons_succ]
    ppsimp [pyworld, forF, hself, hpe]
    try rfl
  · lk_tac
  · frame_tac

def mbLeaderLoop : Stmt := mbTrickBody.getD 2 .pass
def mbRelayLoop : Stmt := mbCardBody.getD 4 .pass
def mbDummyIte : Stmt := mbCardBody.getD 5 .pass

theorem mb_loop_leader (f : Nat) (env : Env) (i : Seat → List Str) (out : List Val) (table : Val) (tables : List Val)
    (more : List (Val × Val)) (bs : Val) (l : Seat)
    (hself : lookup env K.self = some (encMainThread (encMainWorld i out table tables more) bs))
    (hl : lookup env n_leader = some (encSeat l)) :
    ∃ env', execStmtF (mkRec P (f+30)) P env mbLeaderLoop = .ok (env', .next) ∧
      lookup env' K.self = some (encMainThread (encMainWorld i (out ++ opsPutAll l.formal) table tables more) bs) ∧
      Frame [K.self, n_player] env env' := by
  simp only [encMainThread] at hself ⊢
  refine ⟨?_, ?_, ?_, ?_⟩
  rotate_left
  · simp only [mbLeaderLoop, mbTrickBody, m_MainThread_playing_phase, List.getD_cons_zero, List.getD_cons_succ]
    ppsimp [pyworld, forF, hself, hl]
    try rfl
  · lk_tac
  · frame_tac

def mbRelayBody : List Stmt := match mbRelayLoop with | .for _ _ b => b | _ => []
theorem mb_relayLoop_stmt (f : Nat) (env : Env) :
    execStmtF (mkRec P (f+1)) P env mbRelayLoop
      = forF (mkRec P (f+1)) [n_player] mbRelayBody env ([Seat.N, .E, .S, .W].map encSeat) := rfl

theorem opsPutAllBut_eq (x : Seat) (m : Str) :
    [Seat.N, .E, .S, .W].flatMap (fun p => if p = x then [] else [opPut p m]) = opsPutAllBut x m := by
  cases x <;> rfl

/-- one seat of the relay loop: `continue` for the seat that played, else the message is put to it -/
theorem mb_relay_iter (f : Nat) (env : Env) (i : Seat → List Str) (out : List Val) (table : Val) (tables : List Val)
    (more : List (Val × Val)) (bs : Val) (x p : Seat) (m : Str)
    (hx : lookup env n_played_player = some (encSeat x))
    (hm : lookup env n_message = some (.str m))
    (hself : lookup env K.self = some (encMainThread (encMainWorld i out table tables more) bs)) :
    ∃ env' fl, (fl = .next ∨ fl = .cont) ∧
      (mkRec P (f+30)).exec (update env n_player (encSeat p)) mbRelayBody = .ok (env', fl) ∧
      lookup env' K.self = some (encMainThread (encMainWorld i (out ++ if p = x then [] else [opPut p m]) table tables
        more) bs) ∧
      Frame [K.self, n_player] env env' := by
  simp only [encMainThread] at hself ⊢
  by_cases h : p = x
  · subst h
    refine ⟨update env n_player (encSeat p), .cont, Or.inr rfl, ?_, ?_, Frame.update (Frame.refl _ _) _ _ (by decide)⟩
    · simp only [mbRelayBody, mbRelayLoop, mbCardBody, mbTrickBody, m_MainThread_playing_phase, List.getD_cons_zero,
        List.getD_cons_succ]
      ppsimp [pyworld, forF, hx]
    · simp only [if_true, List.append_nil]; lk_tac; exact hself
  · refine ⟨?_, .next, Or.inl rfl, ?_, ?_, ?_⟩
    rotate_left
    · simp only [mbRelayBody, mbRelayLoop, mbCardBody, mbTrickBody, m_MainThread_playing_phase, List.getD_cons_zero,
        List.getD_cons_succ]
      ppsimp [pyworld, forF, hself, hx, hm, h]
      try rfl
    · simp only [h, if_false]; lk_tac
    · frame_tac

theorem mb_loop_relay (f : Nat) (env : Env) (i : Seat → List Str) (out : List Val) (table : Val) (tables : List Val)
    (more : List (Val × Val)) (bs : Val) (x : Seat) (m : Str)
    (hself : lookup env K.self = some (encMainThread (encMainWorld i out table tables more) bs))
    (hx : lookup env n_played_player = some (encSeat x))
    (hm : lookup env n_message = some (.str m)) :
    ∃ env', execStmtF (mkRec P (f+30)) P env mbRelayLoop = .ok (env', .next) ∧
      lookup env' K.self = some (encMainThread (encMainWorld i (out ++ opsPutAllBut x m) table tables more) bs) ∧
      Frame [K.self, n_player] env env' := by
  rw [mb_relayLoop_stmt (f+29), ← opsPutAllBut_eq]
  exact mb_for_seats _ _ (fun e => lookup e n_played_player = some (encSeat x) ∧ lookup e n_message = some (.str m)) _
    i table tables more bs (fun e e' hf h => ⟨by rw [hf _ (by decide), h.1], by rw [hf _ (by decide), h.2]⟩)
    (fun e o p h hs => mb_relay_iter (f+0) e i o table tables more bs x p m h.1 h.2 hs) _ env out ⟨hx, hm⟩ hself

def mbCardHead : List Stmt := mbCardBody.take 4
theorem mbCardBody_eq : mbCardBody = mbCardHead ++ [mbRelayLoop, mbDummyIte] := rfl

/-- who sends the card: declarer plays dummy's cards -/
def playedBy (w : WithHands) : Seat := if w.base.active = w.base.dummy then w.base.declarer else w.base.active

theorem mb_card_head (f : Nat) (env : Env) (i i' : Seat → List Str) (out : List Val) (table : Val) (tables : List Val)
    (more : List (Val × Val)) (bs : Val) (c : Contract) (w w' : WithHands) (card : Card) (msg : Str)
    (hself : lookup env K.self = some (encMainThread (encMainWorld i out table tables more) bs))
    (hpe : lookup env n_playing_env = some (encWithHands c w))
    (hwf : WF w.base)
    (hget : MainIn.get i (playedBy w) = some (msg, i'))
    (hparse : ∀ g, callF (mkRec P (g+20)) m_MessageInterface_parse_card [.str msg, encSeat w.base.active]
        = .ok (encCard card, .str msg))
    (hplay : w.play card w.base.active = .ok w') :
    ∃ env', execF (mkRec P (f+70)) P env mbCardHead = .ok (env', .next) ∧
      lookup env' K.self = some (encMainThread (encMainWorld i' (out ++ [opGet (playedBy w)]) table tables more) bs) ∧
      lookup env' n_playing_env = some (encWithHands c w') ∧
      lookup env' n_played_player = some (encSeat (playedBy w)) ∧
      lookup env' n_message = some (.str msg) ∧
      Frame [K.self, n_playing_env, n_played_player, n_message, n_card] env env' := by
  simp only [encMainThread] at hself ⊢
  have hg := fun f out => MainA.mt_get_call f i i' (playedBy w) msg hget out table tables more
  have hpl := fun f => with_hands_play_call f c w card w.base.active hwf
  simp only [hplay] at hpl
  by_cases hd : w.base.active = w.base.dummy
  · have hd' := decide_eq_true hd
    have hpb : playedBy w = w.base.declarer := by simp only [playedBy, hd, if_true]
    rw [hpb] at hg ⊢
    refine ⟨?_, ?_, ?_, ?_, ?_, ?_, ?_⟩
    rotate_left
    · simp only [mbCardHead, mbCardBody, mbTrickBody, m_MainThread_playing_phase, List.getD_cons_zero, List.getD_cons_succ,
        List.take]
      ppsimp [pyworld, forF, hself, hpe, hd', hg, SeatB.sb_mth_parse_card, hparse, mb_mth_wh_play, hpl]
      rfl
    · lk_tac
    · lk_tac
    · lk_tac
    · lk_tac
    · frame_tac
  · have hd' := decide_eq_false hd
    have hpb : playedBy w = w.base.active := by simp only [playedBy, hd, if_false]
    rw [hpb] at hg ⊢
    refine ⟨?_, ?_, ?_, ?_, ?_, ?_, ?_⟩
    rotate_left
    · simp only [mbCardHead, mbCardBody, mbTrickBody, m_MainThread_playing_phase, List.getD_cons_zero, List.getD_cons_succ,
        List.take]
      ppsimp [pyworld, forF, hself, hpe, hd', hg, SeatB.sb_mth_parse_card, hparse, mb_mth_wh_play, hpl]
      rfl
    · lk_tac
    · lk_tac
    · lk_tac
    · lk_tac
    · frame_tac

theorem mb_dummy_msg (hand : List Card) :
    'D' :: 'u' :: 'm' :: 'm' :: 'y' :: '\'' :: 's' :: ' ' :: 'c' :: 'a' :: 'r' :: 'd' :: 's' :: ' ' :: ':' :: ' ' :: handToStr hand
      = cardsMsg "Dummy".toList hand := rfl

def mbDummyThen : List Stmt := match mbDummyIte with | .ite _ t _ => t | _ => []
def mbDummyAssign : Stmt := mbDummyThen.getD 0 .pass
def mbDummyLoop : Stmt := mbDummyThen.getD 1 .pass
def mbDummyBody : List Stmt := match mbDummyLoop with | .for _ _ b => b | _ => []
theorem mb_dummyLoop_stmt (f : Nat) (env : Env) :
    execStmtF (mkRec P (f+1)) P env mbDummyLoop
      = forF (mkRec P (f+1)) [n_player] mbDummyBody env ([Seat.N, .E, .S, .W].map encSeat) := rfl

/-- `dummy_hand_message = "Dummy's cards : " + Server.hand_to_str(cards[playing_env.dummy])` -/
theorem mb_dummy_assign (f : Nat) (env : Env) (c : Contract) (w : WithHands) (deal : Seat → List Card)
    (hpe : lookup env n_playing_env = some (encWithHands c w))
    (hcards : lookup env n_cards = some (.dict (handsKvs deal)))
    (hok : ∀ c ∈ deal w.base.dummy, 2 ≤ c.rank ∧ c.rank ≤ 14) :
    execStmtF (mkRec P (f+69)) P env mbDummyAssign
      = .ok (update env n_dummy_hand_message (.str (cardsMsg "Dummy".toList (deal w.base.dummy))), .next) := by
  have hh := fun f => nh_hand_to_str_call f (deal w.base.dummy) hok
  simp only [mbDummyAssign, mbDummyThen, mbDummyIte, mbCardBody, mbTrickBody, m_MainThread_playing_phase, List.getD_cons_zero,
    List.getD_cons_succ]
  ppsimp [pyworld, forF, hpe, hcards, lookup_hands, encCards, nh_mth_hand_to_str, hh, mb_dummy_msg]

/-- one seat of the loop that shows dummy's cards: `continue` for dummy, else the message is put to the seat -/
theorem mb_dummy_iter (f : Nat) (env : Env) (i : Seat → List Str) (out : List Val) (table : Val) (tables : List Val)
    (more : List (Val × Val)) (bs : Val) (c : Contract) (w : WithHands) (p : Seat) (m : Str)
    (hpe : lookup env n_playing_env = some (encWithHands c w))
    (hm : lookup env n_dummy_hand_message = some (.str m))
    (hself : lookup env K.self = some (encMainThread (encMainWorld i out table tables more) bs)) :
    ∃ env' fl, (fl = .next ∨ fl = .cont) ∧
      (mkRec P (f+30)).exec (update env n_player (encSeat p)) mbDummyBody = .ok (env', fl) ∧
      lookup env' K.self = some (encMainThread (encMainWorld i (out ++ if p = w.base.dummy then [] else [opPut p m]) table
        tables more) bs) ∧
      Frame [K.self, n_player] env env' := by
  simp only [encMainThread] at hself ⊢
  by_cases h : p = w.base.dummy
  · refine ⟨update env n_player (encSeat p), .cont, Or.inr rfl, ?_, ?_, Frame.update (Frame.refl _ _) _ _ (by decide)⟩
    · simp only [mbDummyBody, mbDummyLoop, mbDummyThen, mbDummyIte, mbCardBody, mbTrickBody, m_MainThread_playing_phase,
        List.getD_cons_zero, List.getD_cons_succ]
      ppsimp [pyworld, forF, hpe, h]
    · simp only [h, if_true, List.append_nil]; lk_tac; exact hself
  · refine ⟨?_, .next, Or.inl rfl, ?_, ?_, ?_⟩
    rotate_left
    · simp only [mbDummyBody, mbDummyLoop, mbDummyThen, mbDummyIte, mbCardBody, mbTrickBody, m_MainThread_playing_phase,
        List.getD_cons_zero, List.getD_cons_succ]
      ppsimp [pyworld, forF, hself, hpe, hm, h]
      try rfl
    · simp only [h, if_false]; lk_tac
    · frame_tac

theorem mb_dummy_ite_first (f : Nat) (env : Env) (i : Seat → List Str) (out : List Val) (table : Val) (tables : List Val)
    (more : List (Val × Val)) (bs : Val) (c : Contract) (w : WithHands) (deal : Seat → List Card)
    (hself : lookup env K.self = some (encMainThread (encMainWorld i out table tables more) bs))
    (hpe : lookup env n_playing_env = some (encWithHands c w))
    (htk : lookup env n_trick_num = some (.int 1)) (hix : lookup env n_i = some (.int 0))
    (hcards : lookup env n_cards = some (.dict (handsKvs deal)))
    (hok : ∀ c ∈ deal w.base.dummy, 2 ≤ c.rank ∧ c.rank ≤ 14) :
    ∃ env', execStmtF (mkRec P (f+70)) P env mbDummyIte = .ok (env', .next) ∧
      lookup env' K.self = some (encMainThread (encMainWorld i
        (out ++ opsPutAllBut w.base.dummy (cardsMsg "Dummy".toList (deal w.base.dummy))) table tables more) bs) ∧
      Frame [K.self, n_player, n_dummy_hand_message] env env' := by
  have hite : execStmtF (mkRec P (f+70)) P env mbDummyIte = execF (mkRec P (f+69)) P env [mbDummyAssign, mbDummyLoop] := by
    have e : mbDummyIte = .ite (.and (.cmp .eq (.var n_trick_num) (.const (.int 1))) (.cmp .eq (.var n_i) (.const (.int 0))))
        [mbDummyAssign, mbDummyLoop] [] := rfl
    rw [e]
    ppsimp [pyworld, forF, htk, hix, beq_int]
  have hne : ∀ y, n_dummy_hand_message ≠ y →
      lookup (update env n_dummy_hand_message (.str (cardsMsg "Dummy".toList (deal w.base.dummy)))) y = lookup env y :=
    fun y hy => lookup_update_ne _ _ _ _ hy
  obtain ⟨e2, h2, hs2, hf2⟩ := mb_for_seats (mkRec P (f+69)) mbDummyBody
    (fun e => lookup e n_playing_env = some (encWithHands c w) ∧
      lookup e n_dummy_hand_message = some (.str (cardsMsg "Dummy".toList (deal w.base.dummy)))) _
    i table tables more bs (fun e e' hf h => ⟨by rw [hf _ (by decide), h.1], by rw [hf _ (by decide), h.2]⟩)
    (fun e o p h hs => mb_dummy_iter (f+39) e i o table tables more bs c w p _ h.1 h.2 hs) [.N, .E, .S, .W]
    (update env n_dummy_hand_message (.str (cardsMsg "Dummy".toList (deal w.base.dummy)))) out
    ⟨by rw [hne _ (by decide), hpe], lookup_update_same _ _ _⟩ (by rw [hne _ (by decide), hself])
  refine ⟨e2, ?_, by rw [hs2, opsPutAllBut_eq], ?_⟩
  · rw [hite]
    simp only [execF, mb_dummy_assign f env c w deal hpe hcards hok, mb_dummyLoop_stmt (f+68), h2, bind_ok, pure_eq]
  · exact (Frame.update (Frame.refl _ _) _ _ (by decide)).trans (hf2.mono (by decide))

theorem mb_dummy_ite_later (f : Nat) (env : Env) (tk ix : Int) (h : ¬ (tk = 1 ∧ ix = 0))
    (htk : lookup env n_trick_num = some (.int tk)) (hix : lookup env n_i = some (.int ix)) :
    execStmtF (mkRec P (f+70)) P env mbDummyIte = .ok (env, .next) := by
  simp only [mbDummyIte, mbCardBody, mbTrickBody, m_MainThread_playing_phase, List.getD_cons_zero, List.getD_cons_succ]
  by_cases h1 : tk = 1
  · have h2 : ¬ ix = 0 := fun e => h ⟨h1, e⟩
    subst h1
    ppsimp [pyworld, forF, htk, hix, beq_int, h2, beq_iff_eq]
  · ppsimp [pyworld, forF, htk, hix, beq_int, h1, beq_iff_eq]

end

end Bridge.Translated.MainB
