import BridgeVerif.Lemmas.RegexConnect
import BridgeVerif.Translated.ThreadsSeatA
import BridgeVerif.Translated.PbnParserLemmasG
import BridgeVerif.Translated.MsgParsersA
/-!
# `PlayerThread.parse_connection_info` translated = `parseConnect?` : the builtins it meets  (helpers)

* the digit text the scanner returns is a non-empty run of ASCII digits, `int()` of it is `decimal?` of it;
* `re.match(pattern, req, re.IGNORECASE)` as the interpreter's `.reMatch` builtin, from `RegexConnect.match_connect`;
* `.capitalize()` is `capitalizeA`; `Player.convert_formal_name` on a text that is no seat name raises `ValueError`.
-/
namespace Bridge.Translated.ConnectInfo
open Bridge Bridge.Py Bridge.Generated.PyCore Bridge.RegexConnect Bridge.Translated

/-! ### the scanner's result -/
theorem greedy_some {α : Type} (s : List Char) (k : List Char → List Char → Option α) (r : α) :
    ∀ n, greedy s k n = some r → ∃ g t, k g t = some r := by
  intro n
  induction n with
  | zero => intro h; exact ⟨_, _, h⟩
  | succ n ih =>
    intro h
    simp only [greedy] at h
    cases hk : k (s.take (n + 1)) (s.drop (n + 1)) with
    | some r' => rw [hk] at h; cases h; exact ⟨_, _, hk⟩
    | none => rw [hk] at h; exact ih h

theorem dotStar_some {α : Type} (s : List Char) (k : List Char → List Char → Option α) (r : α)
    (h : dotStar s k = some r) : ∃ g t, k g t = some r := greedy_some s k r _ h

/-- the value of a digit text -/
def digitsVal (ds : List Char) : Nat := ds.foldl (fun n c => n * 10 + (c.toNat - '0'.toNat)) 0

/-- the third text of the scanner is a non-empty run of ASCII digits -/
theorem triple_digits (req team seat ds : List Char) (h : connectTriple? req = some (team, seat, ds)) :
    ds ≠ [] ∧ ds.all Bridge.isDigit = true := by
  unfold connectTriple? at h
  split at h
  · cases h
  · obtain ⟨g1, t1, h1⟩ := dotStar_some _ _ _ h
    cases hb : stripPrefixCI "\" as ".toList t1 with
    | none => rw [hb] at h1; cases h1
    | some r1 =>
      rw [hb] at h1
      obtain ⟨g2, t2, h2⟩ := dotStar_some _ _ _ h1
      cases hc : stripPrefixCI " using protocol version ".toList t2 with
      | none => rw [hc] at h2; cases h2
      | some r2 =>
        rw [hc] at h2
        simp only [Option.bind_some] at h2
        split at h2
        · cases h2
        · rename_i hne
          simp only [Option.some.injEq, Prod.mk.injEq] at h2
          obtain ⟨_, _, rfl⟩ := h2
          refine ⟨hne, ?_⟩
          rw [List.all_eq_true]
          intro x hx
          exact List.all_eq_true.1 List.all_takeWhile x hx

theorem decimal_of_digits (ds : List Char) (h1 : ds ≠ []) (h2 : ds.all Bridge.isDigit = true) :
    decimal? ds = some (digitsVal ds) := by
  unfold decimal?
  rw [if_neg]
  · rfl
  · intro h
    cases h with
    | inl h => exact h1 h
    | inr h => exact h h2

theorem isDigit_char (c : Char) (h : Bridge.isDigit c = true) : c.isDigit = true ∧ c ≠ '-' ∧ c ≠ '+' := by
  simp only [Bridge.isDigit, decide_eq_true_eq, Char.le_def] at h
  refine ⟨?_, ?_, ?_⟩
  · simp only [Char.isDigit, Bool.and_eq_true, decide_eq_true_eq, UInt32.le_iff_toNat_le]
    exact h
  · rintro rfl; revert h; decide
  · rintro rfl; revert h; decide

theorem parseNat_fold (ds : List Char) (h : ds.all Bridge.isDigit = true) : ∀ a : Nat,
    ds.foldl (fun acc c => acc.bind fun a => if c.isDigit then some (a * 10 + (c.toNat - 48)) else none) (some a)
      = some (ds.foldl (fun n c => n * 10 + (c.toNat - '0'.toNat)) a) := by
  induction ds with
  | nil => intro a; rfl
  | cons c r ih =>
    intro a
    simp only [List.all_cons, Bool.and_eq_true] at h
    simp only [List.foldl_cons, Option.bind_some, (isDigit_char c h.1).1, if_true]
    exact ih h.2 _

theorem parseInt_of_digits (ds : List Char) (h1 : ds ≠ []) (h2 : ds.all Bridge.isDigit = true) :
    parseInt? ds = some ((digitsVal ds : Nat) : Int) := by
  cases ds with
  | nil => exact absurd rfl h1
  | cons c r =>
    have hc : Bridge.isDigit c = true := by
      simp only [List.all_cons, Bool.and_eq_true] at h2; exact h2.1
    obtain ⟨_, hm, hp⟩ := isDigit_char c hc
    have e : parseNat? (c :: r) = some (digitsVal (c :: r)) := by
      show List.foldl _ (some 0) (c :: r) = _
      exact parseNat_fold (c :: r) h2 0
    unfold parseInt?
    split
    · rename_i heq; cases heq; exact absurd rfl hm
    · rename_i heq; cases heq; exact absurd rfl hp
    · rw [e]; rfl

/-! ### `re.match` -/
/-- the value `re.match(pattern, req, re.IGNORECASE)` evaluates to -/
theorem reMatch_connect (req : Str) (hreq : ∀ x ∈ req, agree x = true) :
    match connectTriple? req with
    | none => ∀ r : Rec, builtinF r P .reMatch [.str CONNECT_PATTERN, .str req, .bool true, .cls n__Match, .int n_texts]
        = .ok .none
    | some (team, seat, ds) => ∃ g0, ∀ r : Rec,
        builtinF r P .reMatch [.str CONNECT_PATTERN, .str req, .bool true, .cls n__Match, .int n_texts]
          = .ok (.obj n__Match [(n_texts, .tuple [g0, .str team, .str seat, .str ds])]) := by
  have h := match_connect req hreq
  unfold connectFields? at h
  cases ht : connectTriple? req with
  | none =>
    rw [ht] at h
    exact fun r => MsgParsers.mp_reMatch_none r _ _ h
  | some x =>
    obtain ⟨team, seat, ds⟩ := x
    rw [ht] at h
    obtain ⟨g0, hg⟩ := MsgParsers.mp_reMatch_some _ _ [team, seat, ds] h
    exact ⟨.str g0, hg⟩

/-! ### `.capitalize()` -/
theorem capitalize_builtin (r : Rec) (s : Str) : builtinF r P .capitalize [.str s] = .ok (.str (capitalizeA s)) := by
  cases s <;> rfl

end Bridge.Translated.ConnectInfo
