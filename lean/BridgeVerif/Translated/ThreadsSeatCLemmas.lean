import BridgeVerif.Translated.ThreadsSeatA
import BridgeVerif.Translated.ThreadsSeatB
/-! Translated `SeatThread.run`: the board loop cut into one board (model `seatBoardR`), the body of the generated loop
cut into a front part (up to `_playing_phase`) and a back part (the status message), symbolic execution of both -/
namespace Bridge.Translated.SeatC
open Bridge Bridge.Py Bridge.Generated.PyCore
open Bridge.Translated.SeatB (playingChecks seat_playing_translated encSeatActs_append sb_execF_append)

/-! ## the generated loop -/

/-- the body of the `while True` board loop of the generated `run` -/
def runBody : List Stmt := match m_SeatThread_run.body.getD 2 .pass with
  | .while _ b => b
  | _ => []

/-- the statements of the body up to and including `if not passed_out: …` -/
def runFront : List Stmt := runBody.take 9
/-- the status message: `continue` / `End of session` + `return` / `raise` -/
def runBack : List Stmt := runBody.drop 9

theorem runBody_eq : runBody = runFront ++ runBack := rfl

/-- two barrier waits -/
def adv2 (tt : Val × List Val) : Val × List Val := advanceTables (advanceTables tt)

theorem sc_passed_beq :
    (Val.str MSG_PASSED_OUT).beq (.str ['p', 'a', 's', 's', 'e', 'd', ' ', 'o', 'u', 't']) = true := by
  with_unfolding_all rfl
theorem sc_null_ne_passed :
    (Val.str MSG_NULL).beq (.str ['p', 'a', 's', 's', 'e', 'd', ' ', 'o', 'u', 't']) = false := by
  with_unfolding_all rfl
theorem sc_next_beq :
    (Val.str MSG_NEXT).beq (.str ['n', 'e', 'x', 't', ' ', 'b', 'o', 'a', 'r', 'd']) = true := by
  with_unfolding_all rfl
theorem sc_end_ne_next :
    (Val.str MSG_END).beq (.str ['n', 'e', 'x', 't', ' ', 'b', 'o', 'a', 'r', 'd']) = false := by
  with_unfolding_all rfl
theorem sc_end_beq :
    (Val.str MSG_END).beq (.str ['E', 'n', 'd', ' ', 'o', 'f', ' ', 's', 'e', 's', 's', 'i', 'o', 'n']) = true := by
  with_unfolding_all rfl

theorem sc_mth_bidding :
    P.method? classDepth n_SeatThread n__bidding_phase = some (n_SeatThread, m_SeatThread__bidding_phase) := rfl
theorem sc_mth_playing :
    P.method? classDepth n_SeatThread n__playing_phase = some (n_SeatThread, m_SeatThread__playing_phase) := rfl

/-- the front part when the auction was passed out -/
theorem sc_front_passed (g : Nat) (p : Seat) (q c qd cd qb cb : List Str) (dops bops : List Val)
    (extra : List (Id × Val)) (out : List Val) (table : Val) (tables : List Val) (rest : Env)
    (hd : ∀ k out table tables, callF (mkRec P (g+k)) m_SeatThread__deal
        [encSeatThread p (encSeatWorld p q c out table tables) extra]
      = .ok (.bool true, encSeatThread p (encSeatWorld p qd cd (out ++ dops)
          (adv2 (table, tables)).1 (adv2 (table, tables)).2) extra))
    (hb : ∀ k out table tables, callF (mkRec P (g+k)) m_SeatThread__bidding_phase
        [encSeatThread p (encSeatWorld p qd cd out table tables) extra]
      = .ok (.bool true, encSeatThread p (encSeatWorld p (MSG_PASSED_OUT :: qb) cb (out ++ bops) table tables) extra)) :
    ∃ rest', execF (mkRec P (g+30)) P
        ((K.self, encSeatThread p (encSeatWorld p q c out table tables) extra) :: rest) runFront
      = .ok ((K.self, encSeatThread p (encSeatWorld p qb cb
          (out ++ [.tuple [vstr "send", .str MSG_START]] ++ dops ++ bops ++ [.tuple [vstr "get", vstr "m2t", encSeat p]])
          (adv2 (table, tables)).1 (adv2 (table, tables)).2) extra) :: rest', .next) := by
  simp only [st_thread_def] at hd hb ⊢
  refine ⟨?_, ?_⟩
  rotate_left
  · simp only [runFront, runBody, m_SeatThread_run, List.getD_cons_zero, List.getD_cons_succ, List.take_succ_cons,
      List.take_zero]
    ppsimp [pyworld, st_mth_deal, hd, sc_mth_bidding, hb, st_mth_recv_q, SeatB.sbu_recv_q, sc_passed_beq, List.append_assoc]
    rfl

/-- the front part when a contract was reached: `_playing_phase` runs -/
theorem sc_front_played (g : Nat) (p : Seat) (q c qd cd qb cb qp cp : List Str) (dops bops pops : List Val)
    (extra : List (Id × Val)) (out : List Val) (table : Val) (tables : List Val) (rest : Env)
    (hd : ∀ k out table tables, callF (mkRec P (g+k)) m_SeatThread__deal
        [encSeatThread p (encSeatWorld p q c out table tables) extra]
      = .ok (.bool true, encSeatThread p (encSeatWorld p qd cd (out ++ dops)
          (adv2 (table, tables)).1 (adv2 (table, tables)).2) extra))
    (hb : ∀ k out table tables, callF (mkRec P (g+k)) m_SeatThread__bidding_phase
        [encSeatThread p (encSeatWorld p qd cd out table tables) extra]
      = .ok (.bool true, encSeatThread p (encSeatWorld p (MSG_NULL :: qb) cb (out ++ bops) table tables) extra))
    (hp : ∀ k out table tables, callF (mkRec P (g+k)) m_SeatThread__playing_phase
        [encSeatThread p (encSeatWorld p qb cb out table tables) extra]
      = .ok (.bool true, encSeatThread p (encSeatWorld p qp cp (out ++ pops) table tables) extra)) :
    ∃ rest', execF (mkRec P (g+30)) P
        ((K.self, encSeatThread p (encSeatWorld p q c out table tables) extra) :: rest) runFront
      = .ok ((K.self, encSeatThread p (encSeatWorld p qp cp
          (out ++ [.tuple [vstr "send", .str MSG_START]] ++ dops ++ bops ++ [.tuple [vstr "get", vstr "m2t", encSeat p]]
            ++ pops)
          (adv2 (table, tables)).1 (adv2 (table, tables)).2) extra) :: rest', .next) := by
  simp only [st_thread_def] at hd hb hp ⊢
  refine ⟨?_, ?_⟩
  rotate_left
  · simp only [runFront, runBody, m_SeatThread_run, List.getD_cons_zero, List.getD_cons_succ, List.take_succ_cons,
      List.take_zero]
    ppsimp [pyworld, st_mth_deal, hd, sc_mth_bidding, hb, st_mth_recv_q, SeatB.sbu_recv_q, sc_null_ne_passed, st_null_beq,
      sc_mth_playing, hp, List.append_assoc]
    rfl

/-- the back part: `next board` -/
theorem sc_back_next (g : Nat) (p : Seat) (q c : List Str) (extra : List (Id × Val)) (out : List Val) (table : Val)
    (tables : List Val) (rest : Env) :
    ∃ rest', execF (mkRec P (g+30)) P
        ((K.self, encSeatThread p (encSeatWorld p (MSG_NEXT :: q) c out table tables) extra) :: rest) runBack
      = .ok ((K.self, encSeatThread p (encSeatWorld p q c
          (out ++ [.tuple [vstr "get", vstr "m2t", encSeat p]]) table tables) extra) :: rest', .cont) := by
  simp only [st_thread_def]
  refine ⟨?_, ?_⟩
  rotate_left
  · simp only [runBack, runBody, m_SeatThread_run, List.getD_cons_zero, List.getD_cons_succ, List.drop_succ_cons,
      List.drop_zero]
    ppsimp [pyworld, st_mth_recv_q, SeatB.sbu_recv_q, sc_next_beq]
    rfl

/-- the back part: `End of session` -/
theorem sc_back_end (g : Nat) (p : Seat) (q c : List Str) (extra : List (Id × Val)) (out : List Val) (table : Val)
    (tables : List Val) (rest : Env) :
    ∃ rest', execF (mkRec P (g+30)) P
        ((K.self, encSeatThread p (encSeatWorld p (MSG_END :: q) c out table tables) extra) :: rest) runBack
      = .ok ((K.self, encSeatThread p (encSeatWorld p q c
          (out ++ [.tuple [vstr "get", vstr "m2t", encSeat p], .tuple [vstr "send", .str MSG_END]]) table tables) extra)
          :: rest', .ret .none) := by
  simp only [st_thread_def]
  refine ⟨?_, ?_⟩
  rotate_left
  · simp only [runBack, runBody, m_SeatThread_run, List.getD_cons_zero, List.getD_cons_succ, List.drop_succ_cons,
      List.drop_zero]
    ppsimp [pyworld, st_mth_recv_q, SeatB.sbu_recv_q, sc_end_ne_next, sc_end_beq, List.append_assoc]
    rfl

end Bridge.Translated.SeatC
