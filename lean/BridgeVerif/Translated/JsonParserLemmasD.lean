import BridgeVerif.Translated.JsonParserLemmasC
/-! Translated JSON parser (parser.py) = model: the dictionary comprehensions (`dda`), the `BoardSetting` encoder, `convert_board_setting` -/
namespace Bridge.Translated
open Bridge Bridge.Py Bridge.Generated.PyCore

/-! ## dictionaries built by comprehension -/
/-- the `dict` built by inserting the pairs in order (a repeated key keeps its first position and takes the last value);
when the keys are pairwise different (`jp_encDict_nodup`) it is the list itself -/
def encDict (kvs : List (Val × Val)) : Val := .dict (kvs.foldl (fun acc (k, v) => updateD acc k v) [])

def encDdaRow (row : List (Suit × Int)) : Val := encDict (row.map fun sv => (encSuit sv.1, .int sv.2))
/-- a double-dummy table -/
def encDda (d : Dda) : Val := encDict (d.map fun pr => (encSeat pr.1, encDdaRow pr.2))

/-- `d.items()` -/
def itemsOf (kvs : List (Val × Val)) : List Val := kvs.map fun (k, v) => Val.tuple [k, v]
theorem jp_items (r : Rec) (kvs : List (Val × Val)) : builtinF r P .items [.dict kvs] = .ok (.tuple (itemsOf kvs)) := rfl
theorem jp_itemsOf_cons (k v : Val) (r : List (Val × Val)) : itemsOf ((k, v) :: r) = .tuple [k, v] :: itemsOf r := rfl
theorem jp_itemsOf_nil : itemsOf [] = [] := rfl

def ddaCol? (sv : List Char × Json) : Option (Suit × Int) := do
  let s ← suitOfKey? sv.1
  match sv.2 with
  | .int n => pure (s, n)
  | _ => none
def ddaRow? (pr : List Char × Json) : Option (Seat × List (Suit × Int)) := do
  let p ← seatOfName? pr.1
  let cols ← pr.2.obj?
  let cols ← cols.mapM ddaCol?
  pure (p, cols)
theorem jp_ddaOfJson_obj (rows : List (List Char × Json)) : ddaOfJson? (.obj rows) = rows.mapM ddaRow? := rfl

theorem jp_dda_cols (f : Nat) (env : Env) (cols : List (List Char × Json)) : ∀ (row : List (Suit × Int)),
    cols.mapM ddaCol? = some row →
    dictCompTF (mkRec P (f+4)) env [n_s, n_n] (.byName n_Suit (.var n_s)) (.var n_n) (itemsOf (membersToKvs cols))
      = .ok (row.map fun sv => (encSuit sv.1, .int sv.2)) := by
  induction cols with
  | nil => intro row h; simp at h; subst h; rfl
  | cons a cols ih =>
    intro row h
    obtain ⟨b, r', ha, hl, rfl⟩ := jp_mapM_cons_some _ _ _ _ h
    obtain ⟨k, v⟩ := a
    simp only [ddaCol?] at ha
    cases hk : suitOfKey? k with
    | none => rw [hk] at ha; cases ha
    | some su =>
      rw [hk] at ha
      cases v <;> try (cases ha)
      rename_i n
      simp only [membersToKvs, jp_itemsOf_cons, dictCompTF, ih r' hl, jsonToVal]
      ppsimp [bindTargets, jp_cls_Suit, jp_member_suit _ _ hk, List.map_cons]
      rfl

theorem jp_dda_rows (f : Nat) (env : Env) (rows : List (List Char × Json)) : ∀ (d : Dda),
    rows.mapM ddaRow? = some d →
    dictCompTF (mkRec P (f+8)) env [n_p, n_d] (.byName n_Player (.var n_p))
        (.dictCompT [n_s, n_n] (.builtin .items [.var n_d]) (.byName n_Suit (.var n_s)) (.var n_n))
        (itemsOf (membersToKvs rows))
      = .ok (d.map fun pr => (encSeat pr.1, encDdaRow pr.2)) := by
  induction rows with
  | nil => intro d h; simp at h; subst h; rfl
  | cons a rows ih =>
    intro d h
    obtain ⟨b, r', ha, hl, rfl⟩ := jp_mapM_cons_some _ _ _ _ h
    obtain ⟨k, v⟩ := a
    simp only [ddaRow?] at ha
    cases hk : seatOfName? k with
    | none => rw [hk] at ha; cases ha
    | some p =>
      rw [hk] at ha
      cases v <;> try (cases ha)
      rename_i cols
      cases hc : cols.mapM ddaCol? with
      | none => simp [Json.obj?, hc] at ha
      | some row =>
        simp [Json.obj?, hc] at ha
        subst ha
        simp only [membersToKvs, jp_itemsOf_cons, dictCompTF, ih r' hl, jsonToVal]
        ppsimp [bindTargets, jp_cls_Player, jp_member_seat _ _ hk, List.map_cons, jp_items, iterItems_tuple,
          jp_dda_cols _ _ _ _ hc]
        rfl

/-! ## `convert_board_setting` -/
/-- a `BoardSetting` instance (fields in the order of the class definition) holding `hands` as its deal -/
def encSettingWith (hands : Val) (e : SettingEntry) : Val :=
  .obj n_BoardSetting [(n_hands, hands), (n_dealer, encSeat e.dealer), (n_vul, encVul e.vul), (n_board_id, .str e.boardId),
    (n_dda, encOpt encDda e.dda)]
/-- the `BoardSetting` instance for the model's record -/
def encSetting (e : SettingEntry) : Val := encSettingWith (encHands e.deal) e

/-- the `deal` member of a record -/
def dealOf (j : Json) : Json := (j.get? (jkey "deal")).getD .null

theorem jp_construct_setting (r : Rec) (a b c d e : Val) :
    constructF r P n_BoardSetting [a, b, c, d, e]
      = .ok (.obj n_BoardSetting [(n_hands, a), (n_dealer, b), (n_vul, c), (n_board_id, d), (n_dda, e)]) := rfl

theorem jp_find_convert_board_setting : findFunc P.funcs n_convert_board_setting = some f_convert_board_setting := rfl

theorem jp_bind_str_some (o : Option Json) (s : List Char) (h : o.bind Json.str? = some s) : o = some (.str s) := by
  cases o with
  | none => cases h
  | some v => cases v <;> first | (cases h; rfl) | cases h

theorem jp_map_some_bind {α β} (o : Option α) (k : Option α → Option β) (b : β) (h : (o.map some).bind k = some b) :
    ∃ a, o = some a ∧ k (some a) = some b := by
  cases o with
  | none => cases h
  | some a => exact ⟨a, rfl, h⟩

theorem jp_setting_cases (j : Json) (e : SettingEntry) (hm : settingOfJson? j = some e) :
    ∃ l dealerS dealJ vulS, j = .obj l ∧
      (Json.obj l).get? ['b', 'o', 'a', 'r', 'd', '_', 'i', 'd'] = some (.str e.boardId) ∧
      (Json.obj l).get? ['d', 'e', 'a', 'l', 'e', 'r'] = some (.str dealerS) ∧ seatOfName? dealerS = some e.dealer ∧
      (Json.obj l).get? ['d', 'e', 'a', 'l'] = some dealJ ∧ handsOfJson? dealJ = some e.deal ∧
      (Json.obj l).get? ['v', 'u', 'l', 'n', 'e', 'r', 'a', 'b', 'i', 'l', 'i', 't', 'y'] = some (.str vulS) ∧
      strToVul? vulS = some e.vul ∧
      (((Json.obj l).get? ['d', 'd', 'a'] = none ∧ e.dda = none) ∨
       (∃ rows d, (Json.obj l).get? ['d', 'd', 'a'] = some (.obj rows) ∧ rows.mapM ddaRow? = some d ∧ e.dda = some d)) := by
  unfold settingOfJson? at hm
  obtain ⟨id, h1, hm⟩ := Option.bind_eq_some_iff.1 hm
  obtain ⟨dealer, h2, hm⟩ := Option.bind_eq_some_iff.1 hm
  obtain ⟨deal, h3, hm⟩ := Option.bind_eq_some_iff.1 hm
  obtain ⟨vul, h4, hm⟩ := Option.bind_eq_some_iff.1 hm
  have g1 := jp_bind_str_some _ _ h1
  obtain ⟨l, rfl⟩ := jp_get_obj _ _ _ g1
  obtain ⟨dealerS, h2a, g2'⟩ := Option.bind_eq_some_iff.1 h2
  obtain ⟨dealJ, g3, g3'⟩ := Option.bind_eq_some_iff.1 h3
  obtain ⟨vulS, h4a, g4'⟩ := Option.bind_eq_some_iff.1 h4
  have g2 := jp_bind_str_some _ _ h2a
  have g4 := jp_bind_str_some _ _ h4a
  cases hg : (Json.obj l).get? (jkey "dda") with
  | none =>
    rw [hg] at hm; cases hm
    exact ⟨l, dealerS, dealJ, vulS, rfl, g1, g2, g2', g3, g3', g4, g4', Or.inl ⟨hg, rfl⟩⟩
  | some dj =>
    rw [hg] at hm
    obtain ⟨d, hd, hm⟩ := jp_map_some_bind _ _ _ hm
    cases hm
    cases dj <;> first | cases hd | skip
    exact ⟨l, dealerS, dealJ, vulS, rfl, g1, g2, g2', g3, g3', g4, g4', Or.inr ⟨_, d, hg, hd, rfl⟩⟩

theorem jp_setting_deal (j : Json) (e : SettingEntry) (hm : settingOfJson? j = some e) :
    handsOfJson? (dealOf j) = some e.deal := by
  obtain ⟨l, _, dealJ, _, rfl, -, -, -, g3, g3', -⟩ := jp_setting_cases j e hm
  show handsOfJson? (((Json.obj l).get? ['d', 'e', 'a', 'l']).getD .null) = _
  rw [g3]; exact g3'

/-- the expression `{Player[p]: {Suit[s]: n …} for p, d in data['dda'].items()} if 'dda' in data else None` -/
def cbsDdaExpr : Expr :=
  match f_convert_board_setting.body.getD 8 .pass with
  | .assign _ e => e
  | _ => .const .none

theorem jp_eval_dda (f : Nat) (l : List (List Char × Json)) (tail : Env) (o : Option Dda)
    (h : ((Json.obj l).get? ['d', 'd', 'a'] = none ∧ o = none) ∨
      (∃ rows d, (Json.obj l).get? ['d', 'd', 'a'] = some (.obj rows) ∧ rows.mapM ddaRow? = some d ∧ o = some d)) :
    evalF (mkRec P (f+12)) P ((n_data, .dict (membersToKvs l)) :: tail) cbsDdaExpr = .ok (encOpt encDda o) := by
  simp only [cbsDdaExpr, f_convert_board_setting, List.getD_cons_succ, List.getD_cons_zero]
  rcases h with ⟨h, rfl⟩ | ⟨rows, d, h, hd, rfl⟩
  · ppsimp [jp_lookupD_members, h, bne]
  · ppsimp [jp_lookupD_members, h, bne, jsonToVal, jp_items, iterItems_tuple, jp_dda_rows _ _ _ _ hd]
    rfl

theorem jp_convert_board_setting_call (f : Nat) (j : Json) (e : SettingEntry) (hm : settingOfJson? j = some e) :
    callF (mkRec P (f+40)) f_convert_board_setting [jsonToVal j]
      = .ok (encSettingWith (encHands (pyHands (dealOf j))) e, jsonToVal j) := by
  obtain ⟨l, dealerS, dealJ, vulS, rfl, g1, g2, g2', g3, g3', g4, g4', g5⟩ := jp_setting_cases j e hm
  have hdeal : dealOf (Json.obj l) = dealJ := by
    show ((Json.obj l).get? ['d', 'e', 'a', 'l']).getD .null = dealJ
    rw [g3]; rfl
  have hdda := fun g tail => jp_eval_dda g l tail e.dda g5
  simp only [cbsDdaExpr, f_convert_board_setting, List.getD_cons_succ, List.getD_cons_zero] at hdda
  rw [callF_def]
  simp only [f_convert_board_setting, bindParams, Option.map, jsonToVal]
  ppsimp [jp_lookupD_members, g1, g2, g3, g4, jsonToVal, bne, jp_cls_Player, jp_member_seat _ _ g2',
    jp_find_hands_parser, jp_hands_parser_call _ _ _ g3', jp_mth_str_to_vul, jp_str_to_vul_call _ _ _ g4',
    jp_construct_setting, ↓hdda]
  rw [hdeal, encSettingWith]; rfl

end Bridge.Translated
