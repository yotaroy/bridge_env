import BridgeVerif.Translated.PbnSettingsLemmasB
/-! Translated `PbnParser.parse_board_settings` = model: the loop over the games, the call -/
namespace Bridge.Translated
open Bridge Bridge.Py Bridge.Generated.PyCore Bridge.RegexPbn Bridge.RegexHands Bridge.Translated.HandsPbn

/-- `SameSetting` entry by entry (same number of boards, same order) -/
inductive SameSettings : List SettingEntry → List SettingEntry → Prop
  | nil : SameSettings [] []
  | cons {a b : SettingEntry} {as bs : List SettingEntry} : SameSetting a b → SameSettings as bs → SameSettings (a :: as) (b :: bs)

theorem SameSettings.length_eq {as bs : List SettingEntry} (h : SameSettings as bs) : as.length = bs.length := by
  induction h with
  | nil => rfl
  | cons _ _ ih => simp only [List.length_cons, ih]

theorem SameSettings.getElem {as bs : List SettingEntry} (h : SameSettings as bs) :
    ∀ i (h₁ : i < as.length) (h₂ : i < bs.length), SameSetting as[i] bs[i] := by
  induction h with
  | nil => intro i h₁; cases h₁
  | cons hab _ ih =>
    intro i h₁ h₂
    cases i with
    | zero => exact hab
    | succ i => exact ih i (by simpa using h₁) (by simpa using h₂)

theorem ps_env_update (sv fv ov iv v : Val) (tail : Env) :
    update ((K.self, sv) :: (n_fp, fv) :: (n_outputs, ov) :: (n__it1, iv) :: tail) n_x v
      = (K.self, sv) :: (n_fp, fv) :: (n_outputs, ov) :: (n__it1, iv) :: update tail n_x v := rfl

theorem ps_mth_settings : P.method? classDepth n_PbnParser n_parse_board_settings
    = some (n_PbnParser, m_PbnParser_parse_board_settings) := rfl

/-- the loop: the first failing game decides (`mapM`) -/
theorem ps_loop (hh : HandsRegexFacts) (g0 : Nat) (sv fv iv : Val) : ∀ (games : List Game) (acc : List Val) (tail : Env),
    match games.mapM settingOfGame? with
    | some es => ∃ es' tail', SameSettings es' es ∧
        forF (mkRec P (g0 + 58)) [n_x] psbBody
          ((K.self, sv) :: (n_fp, fv) :: (n_outputs, .tuple acc) :: (n__it1, iv) :: tail) (games.map encGame)
        = .ok ((K.self, sv) :: (n_fp, fv) :: (n_outputs, .tuple (acc ++ es'.map encSetting)) :: (n__it1, iv) :: tail', .next)
    | none => ∃ c, c ∈ psErrors ∧
        forF (mkRec P (g0 + 58)) [n_x] psbBody
          ((K.self, sv) :: (n_fp, fv) :: (n_outputs, .tuple acc) :: (n__it1, iv) :: tail) (games.map encGame)
        = .error (.exc c) := by
  intro games
  induction games with
  | nil =>
    intro acc tail
    exact ⟨[], tail, SameSettings.nil, by simp only [List.map_nil, List.append_nil]; rfl⟩
  | cons g games ih =>
    intro acc tail
    have hs := ps_step hh g0 sv fv iv acc tail g
    rw [List.mapM_cons]
    simp only [List.map_cons, forF, pure_eq, bind_ok, ps_env_update, exec_succ]
    cases hg : settingOfGame? g with
    | none =>
      rw [hg] at hs
      obtain ⟨c, hc, hs⟩ := hs
      exact ⟨c, hc, by rw [hs]; rfl⟩
    | some e =>
      rw [hg] at hs
      obtain ⟨e', tail', hsame, hs⟩ := hs
      have ih' := ih (acc ++ [encSetting e']) tail'
      rw [hs]
      simp only [bind_ok, Option.bind_eq_bind, Option.bind_some]
      cases hm : games.mapM settingOfGame? with
      | none =>
        rw [hm] at ih'
        obtain ⟨c, hc, ih'⟩ := ih'
        exact ⟨c, hc, ih'⟩
      | some es =>
        rw [hm] at ih'
        obtain ⟨es', tail'', hall, ih'⟩ := ih'
        refine ⟨e' :: es', tail'', SameSettings.cons hsame hall, ?_⟩
        rw [ih']
        simp only [List.map_cons, List.append_assoc, List.cons_append, List.nil_append]

/-- `parse_board_settings(lines)` at an arbitrary fuel, from any parser state -/
theorem ps_settings_call (hf : PbnRegexFacts) (hne : PbnSubNonempty) (hh : HandsRegexFacts) (f N : Nat) (lines : List Str)
    (hok : LinesOk N lines) (st : PbnSt) (cl cb : List Str) :
    match (streamFrom st lines).mapM settingOfGame? with
    | some es => ∃ es' st' cl' cb', SameSettings es' es ∧
        callF (mkRec P (f + 4 * N + 60)) m_PbnParser_parse_board_settings
          [encPbnParser st cl cb, .tuple (lines.map Val.str)]
        = .ok (.tuple (es'.map encSetting), encPbnParser st' cl' cb')
    | none => ∃ c, c ∈ psErrors ∧
        callF (mkRec P (f + 4 * N + 60)) m_PbnParser_parse_board_settings
          [encPbnParser st cl cb, .tuple (lines.map Val.str)]
        = .error (.exc c) := by
  obtain ⟨st', cl', cb', hs⟩ := pp_stream_call hf hne (f + 24) N lines hok st cl cb
  have e : f + 24 + 4 * N + 33 = f + 4 * N + 57 := by omega
  rw [e] at hs
  simp only [encPbnParser] at hs
  have hl := ps_loop hh (f + 4 * N) (encPbnParser st' cl' cb') (.tuple (lines.map Val.str))
    (.tuple ((streamFrom st lines).map encGame)) (streamFrom st lines) [] []
  cases hm : (streamFrom st lines).mapM settingOfGame? with
  | none =>
    rw [hm] at hl
    obtain ⟨c, hc, hl⟩ := hl
    refine ⟨c, hc, ?_⟩
    simp only [psbBody, m_PbnParser_parse_board_settings, List.getD_cons_succ, List.getD_cons_zero, encPbnParser] at hl
    rw [callF_def]
    simp only [m_PbnParser_parse_board_settings, bindParams, Option.map, encPbnParser]
    ppsimp [builtin_tuple_nil, pp_mth_stream, hs, iterItems_tuple, hl]
  | some es =>
    rw [hm] at hl
    obtain ⟨es', tail', hall, hl⟩ := hl
    refine ⟨es', st', cl', cb', hall, ?_⟩
    simp only [psbBody, m_PbnParser_parse_board_settings, List.getD_cons_succ, List.getD_cons_zero, encPbnParser,
      List.nil_append] at hl
    rw [callF_def]
    simp only [m_PbnParser_parse_board_settings, bindParams, Option.map, encPbnParser]
    ppsimp [builtin_tuple_nil, pp_mth_stream, hs, iterItems_tuple, hl]

end Bridge.Translated
