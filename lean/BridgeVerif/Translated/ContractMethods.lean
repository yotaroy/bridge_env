import BridgeVerif.Translated.Notation
import BridgeVerif.Translated.EncBeq
import BridgeVerif.Lemmas.MiniPyExtend
import BridgeVerif.Lemmas.MiniPyTable
import BridgeVerif.Spec.Scoring
/-!
# The methods of `Contract` AS TRANSLATED, one by one, in every program that extends `PB`, at every sufficient fuel

Each lemma runs one method of the translated `Contract` class (`Generated/PyCoreBase.lean`) on `encContract c` by executing
its body symbolically, inside a program `Q` of which only `PB.Ext Q` is known: the base program itself
(`Program.Ext.refl`) or the whole translated program (`PB_ext_P`).  The statement shows which fields the method reads.
A property of a `Bid` is evaluated by the kernel on the 35 bids in `PB` and carried to `Q` and to the fuel at hand by
`callNI_extend`; `Bid.str_to_bid` and `Contract.str_to_contract` are executed on an ARBITRARY text that the model reads.
-/
namespace Bridge.Translated
open Bridge Bridge.Py Bridge.Generated.PyCore

/-! one level of fuel unfolds one level of the interpreter -/
section unfold
variable (P : Program) (f : Nat)
theorem cs_eval (env : Env) (e : Expr) : (mkRec P (f + 1)).eval env e = evalF (mkRec P f) P env e := rfl
theorem cs_exec (env : Env) (ss : List Stmt) : (mkRec P (f + 1)).exec env ss = execF (mkRec P f) P env ss := rfl
theorem cs_call (fd : FuncDef) (args : List Val) : (mkRec P (f + 1)).call fd args = callF (mkRec P f) fd args := rfl
end unfold

/-! what the names resolve to in the translated program -/
theorem passed_out_method :
    PB.method? classDepth n_Contract n_is_passed_out = some (n_Contract, m_Contract_is_passed_out) := rfl
theorem is_vul_method : PB.method? classDepth n_Contract n_is_vul = some (n_Contract, m_Contract_is_vul) := rfl

/-! reading an encoded `Contract` (whatever the fuel: these attributes are stored fields, no property is called) -/
section attrs
variable (r : Rec) (c : Contract)
theorem attr_final_bid : getAttrF r PB (encContract c) n_final_bid = .ok (encOpt encBid c.finalBid) := rfl
theorem attr_x : getAttrF r PB (encContract c) n_x = .ok (.bool c.x) := rfl
theorem attr_xx : getAttrF r PB (encContract c) n_xx = .ok (.bool c.xx) := rfl
/-- a method call on an encoded `Contract` is dispatched to class `Contract` -/
theorem methF_contract (m : Id) (args : List Val) :
    methF r PB (encContract c) m args = callMethod r PB n_Contract m (encContract c :: args) (.exc K.AttributeError) := rfl
end attrs

section attrs
variable (r : Rec) (Q : Program) (c : Contract)
theorem attr_final_bid_in : getAttrF r Q (encContract c) n_final_bid = .ok (encOpt encBid c.finalBid) := rfl
theorem attr_x_in : getAttrF r Q (encContract c) n_x = .ok (.bool c.x) := rfl
theorem attr_xx_in : getAttrF r Q (encContract c) n_xx = .ok (.bool c.xx) := rfl
theorem methF_contract_in (m : Id) (args : List Val) :
    methF r Q (encContract c) m args = callMethod r Q n_Contract m (encContract c :: args) (.exc K.AttributeError) := rfl
end attrs

/-- The symbolic execution of a function body: `simp` with the interpreter unfolded by name, one level of fuel at a time
(`bind` unfolded to a `match`, so that a continuation is entered with its value known), and the stored fields of an
encoded `Contract`; the caller adds the body and the lemmas about the nested calls. -/
macro "cmsimp" "[" ls:Lean.Parser.Tactic.simpLemma,* "]" : tactic =>
  `(tactic| simp +decide [cs_exec, cs_eval, callF, bindParams, execF, execStmtF, evalF, mapR, truthy, lookup, cmpF, callMethod,
      assignToF, update, optIntF, binopVal, asInt?, bind, Except.bind, pure, Except.pure, Except.map, encOpt, attr_final_bid_in,
      attr_x_in, attr_xx_in, methF_contract_in, beq_bid_none, beq_str, $ls,*])

variable {Q : Program}

/-- `Contract.is_passed_out()`: `final_bid is Bid.Pass or final_bid is None`; `self` is left as it was -/
theorem passed_out_call (Q : Program) (g : Nat) (hg : 9 ≤ g) (c : Contract) :
    (mkRec Q g).call m_Contract_is_passed_out [encContract c] = .ok (.bool c.finalBid.isNone, encContract c) := by
  obtain ⟨f, rfl⟩ := Nat.exists_eq_add_of_le' hg
  obtain ⟨ob, x, xx, v, d⟩ := c
  rw [cs_call]
  cases ob <;> cmsimp [m_Contract_is_passed_out, beq_encBid_pass, Val.beq]

theorem passed_out_meth (hQ : PB.Ext Q) (g : Nat) (hg : 9 ≤ g) (c : Contract) :
    methF (mkRec Q g) Q (encContract c) n_is_passed_out [] = .ok (.bool c.finalBid.isNone, encContract c) := by
  rw [methF_contract_in, callMethod, hQ.method passed_out_method]
  exact passed_out_call Q g hg c

/-! ## what `Contract` asks of a `Bid`: the 35 bids in `PB` at fuel 20, hence in `Q` at any fuel from 20 up -/

theorem enumOf_eq_some {c : Id} {r : R Val} {n : Int} (h : enumOf c r = some n) : r = .ok (.enum c n) := by
  match r, h with
  | .ok (.enum c' _), h =>
    simp only [enumOf] at h
    split at h
    · cases h; subst_vars; rfl
    · cases h

theorem bid_level_at_12 : ∀ b : Fin 35, (callNI PB 12 m_Bid_level [encBid b]).int? = some (bidLevel b : Int) := by
  decide +kernel
theorem bid_suit_at_12 : ∀ b : Fin 35, enumOf n_Suit (callNI PB 12 m_Bid_suit [encBid b]) = some ((bidDenom b).value : Int) := by
  decide +kernel
theorem bid_str_at_20 : ∀ b : Fin 35, (callNI PB 20 m_Bid___str__ [encBid b]).str? = some (callStr (.bid b)) := by
  decide +kernel

theorem callMethod_extend (hQ : PB.Ext Q) (c m : Id) {c' : Id} {fd : FuncDef} (hm : PB.method? classDepth c m = some (c', fd))
    {k g : Nat} (hk : k ≤ g) {args : List Val} {v : Val} (h : callNI PB k fd args = .ok v) (missing : Err) :
    ∃ s, callMethod (mkRec Q g) Q c m args missing = .ok (v, s) := by
  rw [callMethod, hQ.method hm]
  exact callNI_extend hQ hk _ _ _ h

theorem attr_bid_level (hQ : PB.Ext Q) (g : Nat) (hg : 12 ≤ g) (b : Fin 35) :
    getAttrF (mkRec Q g) Q (encBid b) n_level = .ok (.int (bidLevel b)) := by
  obtain ⟨s, h⟩ := callMethod_extend hQ n_Bid n_level rfl hg (int?_eq_some (bid_level_at_12 b)) (.exc K.AttributeError)
  exact congrArg (Except.map (·.1)) h

theorem attr_bid_suit (hQ : PB.Ext Q) (g : Nat) (hg : 12 ≤ g) (b : Fin 35) :
    getAttrF (mkRec Q g) Q (encBid b) n_suit = .ok (encSuit (bidDenom b)) := by
  obtain ⟨s, h⟩ := callMethod_extend hQ n_Bid n_suit rfl hg (enumOf_eq_some (bid_suit_at_12 b)) (.exc K.AttributeError)
  exact congrArg (Except.map (·.1)) h

theorem str_bid (hQ : PB.Ext Q) (g : Nat) (hg : 20 ≤ g) (b : Fin 35) :
    builtinF (mkRec Q g) Q .str [encBid b] = .ok (.str (callStr (.bid b))) := by
  obtain ⟨s, h⟩ := callMethod_extend hQ n_Bid K.str__ rfl hg (str?_eq_some (bid_str_at_20 b)) (.stuck 6)
  show ((callMethod (mkRec Q g) Q n_Bid K.str__ [encBid b] (.stuck 6) >>= _) >>= _) = _
  rw [h]
  rfl

/-- `Contract.level`: `None` when passed out, else `final_bid.level`; reads `final_bid` only -/
theorem level_call (hQ : PB.Ext Q) (g : Nat) (hg : 25 ≤ g) (c : Contract) :
    (mkRec Q g).call m_Contract_level [encContract c]
      = .ok (encOpt (fun b => .int (bidLevel b)) c.finalBid, encContract c) := by
  obtain ⟨f, rfl⟩ := Nat.exists_eq_add_of_le' hg
  obtain ⟨ob, x, xx, v, d⟩ := c
  rw [cs_call]
  cases ob <;> cmsimp [m_Contract_level, passed_out_meth hQ (f + 22) (by omega), attr_bid_level hQ (f + 22) (by omega)]

/-- `Contract.trump`: `None` when passed out, else `final_bid.suit`; reads `final_bid` only -/
theorem trump_call (hQ : PB.Ext Q) (g : Nat) (hg : 25 ≤ g) (c : Contract) :
    (mkRec Q g).call m_Contract_trump [encContract c]
      = .ok (encOpt (fun b => encSuit (bidDenom b)) c.finalBid, encContract c) := by
  obtain ⟨f, rfl⟩ := Nat.exists_eq_add_of_le' hg
  obtain ⟨ob, x, xx, v, d⟩ := c
  rw [cs_call]
  cases ob <;> cmsimp [m_Contract_trump, passed_out_meth hQ (f + 22) (by omega), attr_bid_suit hQ (f + 22) (by omega)]

/-- `Contract.necessary_tricks()`: `None` when passed out, else `self.level + 6`; reads `final_bid` only -/
theorem necessary_tricks_call (hQ : PB.Ext Q) (g : Nat) (hg : 35 ≤ g) (c : Contract) :
    (mkRec Q g).call m_Contract_necessary_tricks [encContract c]
      = .ok (encOpt (fun b => .int ((bidLevel b : Int) + 6)) c.finalBid, encContract c) := by
  obtain ⟨f, rfl⟩ := Nat.exists_eq_add_of_le' hg
  have e : getAttrF (mkRec Q (f + 31)) Q (encContract c) n_level
      = ((mkRec Q (f + 31)).call m_Contract_level [encContract c]).map (·.1) := by
    show (callMethod _ Q n_Contract n_level _ _).map _ = _
    rw [callMethod, hQ.method (x := (n_Contract, m_Contract_level)) rfl]
  rw [level_call hQ _ (by omega)] at e
  obtain ⟨ob, x, xx, v, d⟩ := c
  rw [cs_call]
  cases ob <;> cmsimp [m_Contract_necessary_tricks, passed_out_meth hQ (f + 32) (by omega), e, Val.beq]

/-- `str(contract)`: reads `final_bid`, `xx` and (unless `xx`) `x` -/
theorem str_call (hQ : PB.Ext Q) (g : Nat) (hg : 25 ≤ g) (c : Contract) :
    (mkRec Q g).call m_Contract___str__ [encContract c] = .ok (.str (contractStr c), encContract c) := by
  obtain ⟨f, rfl⟩ := Nat.exists_eq_add_of_le' hg
  obtain ⟨ob, x, xx, v, d⟩ := c
  rw [cs_call]
  cases ob <;> cases xx <;> cases x <;>
  cmsimp [m_Contract___str__, passed_out_meth hQ (f + 22) (by omega), str_bid hQ (f + 22) (by omega), contractStr]

/-- `Contract.is_vul()` with a declarer: the vulnerability of DECLARER'S SIDE (4 vulnerabilities × 4 seats, each one
evaluated through `Player.is_vul` → `Player.pair` → `Pair.is_vul`) -/
theorem is_vul_call_some (hQ : PB.Ext Q) (g : Nat) (hg : 30 ≤ g) (ob : Option (Fin 35)) (x xx : Bool) (v : Vul) (d : Seat) :
    (mkRec Q g).call m_Contract_is_vul [encContract ⟨ob, x, xx, v, some d⟩]
      = .ok (.bool (sideVulnerable v d), encContract ⟨ob, x, xx, v, some d⟩) := by
  cases v <;> cases d <;> exact callFn_extend hQ hg _ _ _ (by with_unfolding_all rfl)

/-- `Contract.is_vul()` without a declarer: `False` / `True` when nobody / everybody is vulnerable, else `ValueError` -/
theorem is_vul_call_none (Q : Program) (g : Nat) (hg : 30 ≤ g) (ob : Option (Fin 35)) (x xx : Bool) (v : Vul) :
    (mkRec Q g).call m_Contract_is_vul [encContract ⟨ob, x, xx, v, none⟩]
      = match v with
        | .none => .ok (.bool false, encContract ⟨ob, x, xx, v, none⟩)
        | .both => .ok (.bool true, encContract ⟨ob, x, xx, v, none⟩)
        | _ => .error (.exc K.ValueError) := by
  obtain ⟨f, rfl⟩ := Nat.exists_eq_add_of_le' hg
  cases v <;> with_unfolding_all rfl

/-- `Contract(final_bid, x, xx, vul, declarer)` stores its five arguments as they are; `__post_init__` refuses `Bid.X` and
`Bid.XX` as final bid and reads nothing else -/
theorem contract_new (hQ : PB.Ext Q) (g : Nat) (hg : 9 ≤ g) (fb x xx v d : Val) (h1 : fb.beq (.enum n_Bid 37) = false)
    (h2 : fb.beq (.enum n_Bid 38) = false) :
    constructF (mkRec Q g) Q n_Contract [fb, x, xx, v, d]
      = .ok (.obj n_Contract [(n_final_bid, fb), (n_x, x), (n_xx, xx), (n_vul, v), (n_declarer, d)]) := by
  obtain ⟨f, rfl⟩ := Nat.exists_eq_add_of_le' hg
  refine (constructF_ext hQ _ _).ok ?_
  have e : constructF (mkRec Q (f + 9)) PB n_Contract [fb, x, xx, v, d]
      = ((mkRec Q (f + 9)).call m_Contract___post_init__
          [.obj n_Contract [(n_final_bid, fb), (n_x, x), (n_xx, xx), (n_vul, v), (n_declarer, d)]]).map (·.2) := rfl
  have a : ∀ r, getAttrF r Q (.obj n_Contract [(n_final_bid, fb), (n_x, x), (n_xx, xx), (n_vul, v), (n_declarer, d)]) n_final_bid
      = .ok fb := fun _ => rfl
  rw [e, cs_call]
  cmsimp [m_Contract___post_init__, a, h1, h2]

theorem bid_by_name (hQ : PB.Ext Q) :
    ∃ cd, Q.cls? n_Bid = some cd ∧ ∀ s c, callOfName? s = some c → memberValue? cd s = some (c.value : Int) := by
  refine ⟨(PB.cls? n_Bid).getD default, hQ.cls rfl, fun s c h => ?_⟩
  have hm : ((PB.cls? n_Bid).getD default).members = Call.all.map fun c => (callName c, (c.value : Int)) := by decide
  have e : ((fun (x : List Char × Int) => x.1 == s) ∘ fun c => (callName c, (c.value : Int))) = fun c => callName c == s := rfl
  rw [memberValue?, hm, List.find?_map, e, ← callOfName?, h]
  rfl

/-- `Bid.str_to_bid` on an ARBITRARY text that the model reads as a call -/
theorem str_to_bid_call (hQ : PB.Ext Q) (g : Nat) (hg : 10 ≤ g) (s : List Char) (c : Call) (h : strToCall? s = some c) :
    (mkRec Q g).call m_Bid_str_to_bid [.cls n_Bid, .str s] = .ok (encCall c, .cls n_Bid) := by
  obtain ⟨f, rfl⟩ := Nat.exists_eq_add_of_le' hg
  obtain ⟨cd, hcd, hm⟩ := bid_by_name hQ
  rw [cs_call]
  unfold strToCall? at h
  rw [show "Pass".toList = ['P', 'a', 's', 's'] from String.toList_ofList] at h
  split at h
  · next hc =>
    have hm := hm _ _ h
    rcases hc with rfl | rfl | rfl <;> cmsimp [m_Bid_str_to_bid, containsVal, hcd, hm, encCall]
  · next hc =>
    match s, h with
    | a :: r, h =>
      have hin : containsVal [.str ['P', 'a', 's', 's'], .str ['X'], .str ['X', 'X']] (.str (a :: r)) = false := by
        simpa [containsVal, beq_str, @eq_comm _ (a :: r)] using hc
      cmsimp [m_Bid_str_to_bid, hin, hcd, hm _ _ h, encCall, indexF, sliceList, clampIndex, normIndex]

def pyContractVal (fb : Val) (c : Contract) : Val :=
  .obj n_Contract [(n_final_bid, fb), (n_x, .bool c.x), (n_xx, .bool c.xx), (n_vul, encVul c.vul),
                   (n_declarer, encOpt encSeat c.declarer)]
/-- the `Contract` instance `Contract.str_to_contract(s, …)` builds where the model reads `c`: for a final bid `Pass` (texts
`Pass`, `PassX`, `sPas`, … — the model has `finalBid = none` for them) Python builds `Contract(Bid.Pass, …)`, NOT
`Contract(None, …)` -/
def pyContract (s : List Char) (c : Contract) : Val :=
  pyContractVal (if c.finalBid = none ∧ s ≠ "Passed_out".toList then .enum n_Bid 36 else encOpt encBid c.finalBid) c

theorem pyContract_eq_enc {s : List Char} {c : Contract} (h : c.finalBid = none → s = "Passed_out".toList) :
    pyContract s c = encContract c := by
  rw [pyContract, if_neg fun h' => h'.2 (h h'.1)]
  rfl

theorem stripX_eq (s : List Char) : stripX s = if s.getLast? = some 'X' then some s.dropLast else none := by
  rcases List.eq_nil_or_concat s with rfl | ⟨t, c, rfl⟩
  · rfl
  · by_cases hc : c = 'X' <;> simp [stripX, hc]

/-- `s[-1]` -/
theorem index_last (r : Rec) (P : Program) (s : List Char) :
    indexF r P (.str s) (.int (-1)) = match s.getLast? with
      | some c => .ok (.str [c])
      | none => .error (.exc K.IndexError) := by
  rcases List.eq_nil_or_concat s with rfl | ⟨t, c, rfl⟩
  · rfl
  · simp [indexF, asInt?, normIndex, pure, Except.pure]

/-- `s[:-1]` -/
theorem slice_init (s : List Char) : sliceList s none (some (-1)) = s.dropLast := by
  simp [sliceList, clampIndex, List.dropLast_eq_take]
  omega

/-- the last step of the model's `strToContract?`: the call that `body` is read as is neither `X` nor `XX`, and the
instance Python builds has it as final bid -/
theorem strToContract_tail {s body : List Char} {x xx : Bool} {v : Vul} {d : Option Seat} {c : Contract}
    (hs : s ≠ "Passed_out".toList)
    (h : (match strToCall? body with
      | some (.bid b) => some (⟨some b, x, xx, v, d⟩ : Contract)
      | some .pass => some ⟨none, x, xx, v, d⟩
      | _ => none) = some c) :
    ∃ cl, strToCall? body = some cl ∧ (encCall cl).beq (.enum n_Bid 37) = false ∧ (encCall cl).beq (.enum n_Bid 38) = false ∧
      pyContract s c = .obj n_Contract [(n_final_bid, encCall cl), (n_x, .bool x), (n_xx, .bool xx), (n_vul, encVul v),
        (n_declarer, encOpt encSeat d)] := by
  cases hb : strToCall? body with
  | none => rw [hb] at h; cases h
  | some cl =>
    rw [hb] at h
    cases cl <;> cases h
    · exact ⟨_, rfl, beq_encBid_dbl _, beq_encBid_rdbl _, rfl⟩
    · exact ⟨_, rfl, by simp [encCall, Val.beq, Call.value, Call.idx], by simp [encCall, Val.beq, Call.value, Call.idx],
        by rw [pyContract, if_pos ⟨rfl, hs⟩]; rfl⟩

/-- `Contract.str_to_contract` on an ARBITRARY text that the model reads as a contract; `vul` and `declarer` are handed to
the constructor as they are -/
theorem str_to_contract_call (hQ : PB.Ext Q) (g : Nat) (hg : 25 ≤ g) (s : List Char) (v : Vul) (d : Option Seat)
    (c : Contract) (h : strToContract? s v d = some c) :
    (mkRec Q g).call m_Contract_str_to_contract [.cls n_Contract, .str s, encVul v, encOpt encSeat d]
      = .ok (pyContract s c, .cls n_Contract) := by
  unfold strToContract? at h
  by_cases hp : s = "Passed_out".toList
  · subst hp
    cases d with
    | some p => cases h
    | none =>
      cases h
      exact callFn_extend hQ hg _ _ _ (by with_unfolding_all rfl)
  obtain ⟨f, rfl⟩ := Nat.exists_eq_add_of_le' hg
  have hp' : ¬ s = ['P', 'a', 's', 's', 'e', 'd', '_', 'o', 'u', 't'] := by
    rwa [show "Passed_out".toList = _ from String.toList_ofList] at hp
  have hm : Q.method? classDepth n_Bid n_str_to_bid = some (n_Bid, m_Bid_str_to_bid) := hQ.method rfl
  rw [if_neg hp] at h
  simp only [stripX_eq] at h
  split at h
  · cases h
  next hn =>
  rw [cs_call]
  obtain ⟨a, ha⟩ : ∃ a, s.getLast? = some a := ⟨_, List.getLast?_eq_some_getLast hn⟩
  by_cases hax : a = 'X'
  · by_cases h1 : s.dropLast = []
    · simp [ha, hax, h1] at h
    obtain ⟨a', ha'⟩ : ∃ a, s.dropLast.getLast? = some a := ⟨_, List.getLast?_eq_some_getLast h1⟩
    by_cases hax' : a' = 'X' <;>
    · simp only [ha, hax, h1, ha', hax', Option.some.injEq, if_true, if_false] at h
      split at h
      · cases h
      obtain ⟨cl, hb, hb1, hb2, e⟩ := strToContract_tail hp h
      cmsimp [m_Contract_str_to_contract, hp', index_last, slice_init, ha, hax, ha', hax', hm,
        str_to_bid_call hQ (f + 21) (by omega) _ _ hb, contract_new hQ (f + 22) (by omega) _ _ _ _ _ hb1 hb2, e]
  · simp only [ha, hax, Option.some.injEq, if_false] at h
    split at h
    · cases h
    obtain ⟨cl, hb, hb1, hb2, e⟩ := strToContract_tail hp h
    cmsimp [m_Contract_str_to_contract, hp', index_last, ha, hax, hm, str_to_bid_call hQ (f + 21) (by omega) _ _ hb,
      contract_new hQ (f + 22) (by omega) _ _ _ _ _ hb1 hb2, e]

/-- `Contract.str_to_contract('Passed_out', vul, declarer)` admits no declarer -/
theorem str_to_contract_declarer (Q : Program) (g : Nat) (hg : 25 ≤ g) (v : Vul) (p : Seat) :
    (mkRec Q g).call m_Contract_str_to_contract [.cls n_Contract, .str "Passed_out".toList, encVul v, encSeat p]
      = .error (.exc K.AssertionError) := by
  obtain ⟨f, rfl⟩ := Nat.exists_eq_add_of_le' hg
  cases p <;> with_unfolding_all rfl

end Bridge.Translated
