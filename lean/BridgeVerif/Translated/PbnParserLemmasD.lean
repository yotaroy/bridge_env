import BridgeVerif.Translated.PbnParserLemmasC
/-! Translated PBN parser = model: `parse_board` (the `re.sub` comprehension, `re.findall`, the first-wins loop) -/
namespace Bridge.Translated
open Bridge Bridge.Py Bridge.Generated.PyCore Bridge.RegexPbn

/-- HYPOTHESIS of `parse_board`: a match of `_VALUE_OR_SPACE_PATTERN` is never empty (the lambda of `re.sub` reads
`m.group(0)[0]`, which would raise `IndexError` on an empty match; `subJoin` of `PbnRegexFacts` silently yields `' '`) -/
def PbnSubNonempty : Prop :=
  ∀ (s : Str) (ms : List Re.MatchObj), Re.pyFinditer false VALUE_OR_SPACE_PATTERN s = some ms →
    ∀ m ∈ ms, Re.slice s m.span.1 m.span.2 ≠ []

/-- the pieces the comprehension of `parse_board` joins -/
def subPieces (s : Str) : Nat → List Re.MatchObj → List Str
  | i, [] => [s.drop i]
  | i, m :: r =>
    (s.drop i).take (m.span.1 - i)
      :: (let g := Re.slice s m.span.1 m.span.2; if g.head? = some '"' then g else [' '])
      :: subPieces s m.span.2 r

theorem pp_subPieces_flatten (s : Str) : ∀ (ms : List Re.MatchObj) (i : Nat), (subPieces s i ms).flatten = subJoin s i ms := by
  intro ms
  induction ms with
  | nil => intro i; simp [subPieces, subJoin]
  | cons m r ih => intro i; simp only [subPieces, subJoin, List.flatten_cons, ih, List.append_assoc]

/-- the element expression of the comprehension -/
def pbBody : Expr := match m_PbnParser_parse_board.body.getD 1 .pass with
  | .assign _ (.builtin .join [_, .comp _ _ _ b]) => b
  | _ => default

theorem pp_matchVal (s : Str) (m : Re.MatchObj) : ∃ gs, matchVal n__Match (Int.toNat n_texts) s m
    = .obj n__Match [(n_texts, .tuple (.str (Re.slice s m.span.1 m.span.2) :: gs))] := ⟨_, rfl⟩

theorem pp_isSub_Match : P.isSubclass classDepth n__Match n__Match = true := rfl
theorem pp_m_group_call (f : Nat) (g : Val) (gs : List Val) :
    callF (mkRec P (f+6)) m__Match_group [.obj n__Match [(n_texts, .tuple (g :: gs))], .int 0]
      = .ok (g, .obj n__Match [(n_texts, .tuple (g :: gs))]) := rfl

theorem pp_index_str0 (r : Rec) (c : Char) (l : Str) : indexF r P (.str (c :: l)) (.int 0) = .ok (.str [c]) := rfl
theorem pp_beq_quote (c : Char) : (Val.str [c]).beq (.str ['"']) = decide (c = '"') := by
  simp only [Val.beq]; rw [Bool.eq_iff_iff]; simp

theorem pp_comp_str (f : Nat) (env : Env) (x : Str) :
    evalF (mkRec P (f+12)) P (update env n_m (.str x)) pbBody = .ok (.str x) := by
  simp only [pbBody, m_PbnParser_parse_board, List.getD_cons_succ, List.getD_cons_zero]
  ppsimp [builtinF, classOf?]

theorem pp_comp_match (f : Nat) (env : Env) (g : Str) (gs : List Val) (hg : g ≠ []) :
    evalF (mkRec P (f+12)) P (update env n_m (.obj n__Match [(n_texts, .tuple (.str g :: gs))])) pbBody
      = .ok (.str (if g.head? = some '"' then g else [' '])) := by
  simp only [pbBody, m_PbnParser_parse_board, List.getD_cons_succ, List.getD_cons_zero]
  cases g with
  | nil => exact absurd rfl hg
  | cons c l =>
    by_cases hc : c = '"'
    · ppsimp [builtinF, classOf?, pp_isSub_Match, pp_mth_m_group, pp_m_group_call, pp_index_str0, pp_beq_quote, hc,
        List.head?_cons]
    · ppsimp [builtinF, classOf?, pp_isSub_Match, pp_mth_m_group, pp_m_group_call, pp_index_str0, pp_beq_quote, hc,
        List.head?_cons, Option.some.injEq]

theorem pp_comp_pieces (f : Nat) (env : Env) (s : Str) : ∀ (ms : List Re.MatchObj) (i : Nat),
    (∀ m ∈ ms, Re.slice s m.span.1 m.span.2 ≠ []) →
    compF (mkRec P (f+13)) env n_m none pbBody (builtinF.go s n__Match n_texts i ms)
      = .ok ((subPieces s i ms).map Val.str) := by
  intro ms
  induction ms with
  | nil =>
    intro i _
    simp only [builtinF.go, compF, eval_succ, pp_comp_str, bind_ok, pure_eq, if_true, subPieces, List.map_cons, List.map_nil]
  | cons m r ih =>
    intro i h
    obtain ⟨gs, hm⟩ := pp_matchVal s m
    simp only [builtinF.go, hm, compF, eval_succ, pp_comp_str, bind_ok, pure_eq, if_true, subPieces, List.map_cons,
      pp_comp_match _ _ _ _ (h m (List.mem_cons_self ..)), ih _ (fun x hx => h x (List.mem_cons_of_mem _ hx))]

/-! ## the first-wins loop -/
def encRow (nv : Str × Str) : Val := .tuple [.str nv.1, .str nv.2]

def pbLoop : List Stmt := match m_PbnParser_parse_board.body.getD 4 .pass with
  | .for _ _ b => b
  | _ => []

theorem pp_lookupD_game (k : Str) : ∀ g : Game,
    (lookupD (g.map fun kv => (Val.str kv.1, Val.str kv.2)) (.str k)).isSome = g.any (fun kv => kv.1 == k) := by
  intro g
  induction g with
  | nil => rfl
  | cons a g ih =>
    simp only [List.map_cons, lookupD, beq_str, List.any_cons]
    cases h : (a.1 == k)
    · simpa using ih
    · simp

theorem pp_updateD_absent (k v : Str) : ∀ g : Game, g.any (fun kv => kv.1 == k) = false →
    updateD (g.map fun kv => (Val.str kv.1, Val.str kv.2)) (.str k) (.str v)
      = (g ++ [(k, v)]).map fun kv => (Val.str kv.1, Val.str kv.2) := by
  intro g
  induction g with
  | nil => intro _; rfl
  | cons a g ih =>
    intro h
    simp only [List.any_cons, Bool.or_eq_false_iff] at h
    simp only [List.map_cons, updateD, beq_str, h.1, Bool.false_eq_true, if_false, List.cons_append, ih h.2]

theorem pp_index_pair0 (r : Rec) (a b : Val) : indexF r P (.tuple [a, b]) (.int 0) = .ok a := rfl
theorem pp_index_pair1 (r : Rec) (a b : Val) : indexF r P (.tuple [a, b]) (.int 1) = .ok b := rfl

theorem pp_board_loop (f : Nat) (sv xv yv : Val) : ∀ (rows : List (Str × Str)) (acc : Game) (tail : Env),
    ∃ tail', forF (mkRec P (f+19)) [n_tag_pair] pbLoop
        ((K.self, sv) :: (n_string, xv) :: (n_tag_pairs, yv) :: (n_game_mem, encGame acc.reverse) :: tail) (rows.map encRow)
      = .ok ((K.self, sv) :: (n_string, xv) :: (n_tag_pairs, yv) :: (n_game_mem, encGame (firstWins rows acc)) :: tail',
          .next) := by
  intro rows
  induction rows with
  | nil => intro acc tail; exact ⟨tail, rfl⟩
  | cons kv rows ih =>
    intro acc tail
    obtain ⟨k, v⟩ := kv
    simp only [List.map_cons, forF, pbLoop, m_PbnParser_parse_board, List.getD_cons_succ, List.getD_cons_zero, encRow,
      encGame, firstWins]
    have hl := pp_lookupD_game k acc.reverse
    rw [List.any_reverse] at hl
    cases hin : acc.any (fun kv => kv.1 == k) with
    | true =>
      rw [hin] at hl
      ppsimp [pp_index_pair0, pp_index_pair1, pp_inn_flag, hl]
      have := ih acc (update tail n_tag_pair (Val.tuple [Val.str k, Val.str v]))
      simpa only [encGame, pbLoop, m_PbnParser_parse_board, List.getD_cons_succ, List.getD_cons_zero] using this
    | false =>
      rw [hin] at hl
      have hu := pp_updateD_absent k v acc.reverse (by rw [List.any_reverse]; exact hin)
      have hl' : lookupD (acc.reverse.map fun kv => (Val.str kv.1, Val.str kv.2)) (.str k) = none := by
        cases hh : lookupD (acc.reverse.map fun kv => (Val.str kv.1, Val.str kv.2)) (.str k) with
        | none => rfl
        | some x => rw [hh] at hl; cases hl
      ppsimp [pp_index_pair0, pp_index_pair1, pp_inn_flag, hl', hu]
      have := ih ((k, v) :: acc) (update tail n_tag_pair (Val.tuple [Val.str k, Val.str v]))
      simpa only [encGame, List.reverse_cons, pbLoop, m_PbnParser_parse_board, List.getD_cons_succ, List.getD_cons_zero] using this

/-! ## the call of `parse_board` -/

theorem pp_findall_builtin (hf : PbnRegexFacts) (r : Rec) (s : Str) :
    builtinF r P .reFindall [.str TAG_PATTERN, .str s, .bool false]
      = .ok (.tuple ((findTags (s.length + 1) s).map encRow)) := by
  simp only [builtinF, hf.findall_tag s, List.map_map]
  rfl

theorem pp_subPieces_builtin (r : Rec) (s : Str) (ms : List Re.MatchObj)
    (h : Re.pyFinditer false VALUE_OR_SPACE_PATTERN s = some ms) :
    builtinF r P .reSubPieces [.str VALUE_OR_SPACE_PATTERN, .str s, .bool false, .cls n__Match, .int n_texts]
      = .ok (.tuple (builtinF.go s n__Match n_texts 0 ms)) := by
  simp only [builtinF, h]; rfl

/-- `parse_board()` at an arbitrary fuel -/
theorem pp_board_call (hf : PbnRegexFacts) (hne : PbnSubNonempty) (f : Nat) (st : PbnSt) (cl cb : List Str) :
    callF (mkRec P (f + 20)) m_PbnParser_parse_board [encPbnParser st cl cb]
      = .ok (encGame (parseBoard st.buffer.reverse), encPbnParser st cl cb) := by
  have hs := hf.sub_value_or_space st.buffer.reverse.flatten
  cases hfi : Re.pyFinditer false VALUE_OR_SPACE_PATTERN st.buffer.reverse.flatten with
  | none => rw [hfi] at hs; cases hs
  | some ms =>
    rw [hfi] at hs
    simp only [Option.map, Option.some.injEq] at hs
    have hl := pp_board_loop f (encPbnParser st cl cb) (.str (collapseWs (st.buffer.reverse.flatten.length + 1) st.buffer.reverse.flatten))
      (.tuple ((findTags ((collapseWs (st.buffer.reverse.flatten.length + 1) st.buffer.reverse.flatten).length + 1)
        (collapseWs (st.buffer.reverse.flatten.length + 1) st.buffer.reverse.flatten)).map encRow))
      (findTags ((collapseWs (st.buffer.reverse.flatten.length + 1) st.buffer.reverse.flatten).length + 1)
        (collapseWs (st.buffer.reverse.flatten.length + 1) st.buffer.reverse.flatten)) [] []
    obtain ⟨tail', hl⟩ := hl
    simp only [pbLoop, m_PbnParser_parse_board, List.getD_cons_succ, List.getD_cons_zero, encPbnParser, List.reverse_nil,
      encGame, List.map_nil] at hl
    rw [callF_def]
    simp only [m_PbnParser_parse_board, bindParams, Option.map, encPbnParser, parseBoard]
    have hcp : compF (mkRec P (f + 17)) [(K.self, encPbnParser st cl cb), (n_string, .str st.buffer.reverse.flatten)]
        n_m none pbBody (builtinF.go st.buffer.reverse.flatten n__Match n_texts 0 ms)
        = .ok ((subPieces st.buffer.reverse.flatten 0 ms).map Val.str) :=
      pp_comp_pieces (f + 4) _ _ ms 0 (hne _ ms hfi)
    simp only [pbBody, m_PbnParser_parse_board, List.getD_cons_succ, List.getD_cons_zero, encPbnParser] at hcp
    ppsimp [pp_join, pp_mth_vos, pp_vos_call, pp_subPieces_builtin _ _ ms hfi, iterItems_tuple,
      hcp, pp_subPieces_flatten, hs, pp_mth_tag, pp_tag_call,
      pp_findall_builtin hf, hl, List.foldl_nil, List.zip_nil_left, List.map_nil]
    rfl

end Bridge.Translated
