import BridgeVerif.Translated.PbnWriterLemmasC
import BridgeVerif.Translated.JsonWriter
/-!
# pbn_handler/writer.py AS TRANSLATED writes exactly the model's chunks  (C18)

`Generated/PyCoreJson.lean` (re-written from `writer.py` on every run) executed by the MiniPy interpreter at the
top-level fuel, compared with the hand-written model `Model/Pbn.lean` (section "writer"):

* `pw_write_line_translated` — `write_line(s)` appends exactly `writeLine? s` (the 255-column wrapping); `''` raises
  `IndexError`;
* `pw_write_tag_pair_translated`, `pw_write_header_translated`, `pw_new_translated`,
  `pw_create_contents_sequence_translated`;
* `pw_write_board_result_translated` — one call of `write_board_result` appends exactly `writeBoardResult? r` (the fifteen
  tag lines and the empty line that ends the game); when the model's `resultTags? r` is `none` (`pw_resultTags_none_iff`:
  board number ≤ 0, a hand that is neither empty nor of 13 cards, tricks present iff passed out) the call raises
  `AssertionError`.  In that case the real file already holds the tag lines written before the failing assertion; the
  interpreter's call returns the error and the receiver is unchanged, so only the exception is stated;
* `pw_document_translated` — `PbnWriter(file); write_header(); write_board_result(…) …` leaves a file object whose
  chunks are `writeHeader` followed by the model's chunks of every result.

A writer instance is `encPbnWriter chunks` (its `writer` attribute is the synthetic file object `encFile chunks`), the
arguments of `write_board_result` are `resultArgs r` (the date is the synthetic `_Date` object `encDate text`, whose
`strftime` returns the text: the model's `dateStr`).

Hypotheses — each is what the INTERPRETED code needs:
* `s.length ≤ 200000` (`write_line`, `write_tag_pair`) and the bounds `≤ 199000` on the written texts of `PbnWF` (the free
  texts, the date, and the decimal texts of the board number and of the tricks): a turn of the `while` loop of
  `write_line` costs one level of fuel (254 characters per turn), and `runMethod` gives `topFuel = 1000` levels.  The
  lemmas at an arbitrary fuel (`pw_write_line_call`: `k + 23` levels for `254 * k + 254` characters) have no absolute
  bound.  This is a limit of the fuel, not of Python, and it is the ONLY limit on the sizes.
* The numbers themselves are unrestricted: the interpreter's `str(int)` (`intStr`) is the model's `intRepr` for every
  integer (`pw_intStr_eq`).  `PbnWF.board`, `PbnWF.tricks` bound only the number of characters printed
  (`(intRepr n).length ≤ 199000`, for the fuel); `pw_intRepr_len` gives it from `|n| < 10 ^ f` (`f + 2` characters), and
  `pw_wf_of_bounds` takes `|n| < 10 ^ 1000`.
* `PbnWF.deal`: a hand of 13 cards holds ranks 2..14 (as for `Hands.to_pbn`, Translated/Hands.lean).
* `write_tag_pair`: the tag starts with an upper-case ASCII letter (`assert tag[0].isupper()`; an empty tag raises
  `IndexError`, another first character `AssertionError`: `pw_write_tag_pair_translated_cases`).
-/
namespace Bridge.Translated
open Bridge Bridge.Py Bridge.Generated.PyCore

theorem pw_writeLine_none (s : Str) : writeLine? s = none ↔ s = [] := by
  cases s with
  | nil => simp [writeLine?]
  | cons c r =>
    simp only [writeLine?]
    cases h : (c :: r).getLast? with
    | none => simp at h
    | some d => simp

/-! ## (a) `write_line` -/
theorem pw_write_line_translated_cases (s : Str) (chunks : List Str) (hlen : s.length ≤ 200000) :
    P.runMethod n_PbnWriter n_write_line [encPbnWriter chunks, .str s]
      = match writeLine? s with
        | some cs => .ok (.none, encPbnWriter (chunks ++ cs))
        | none => .error (.exc K.IndexError) := by
  rw [jw_runMethod_eq _ _ _ _ _ pw_mth_write_line]
  cases h : writeLine? s with
  | some cs => exact pw_write_line_call 976 chunks s cs h (by omega)
  | none =>
    rw [(pw_writeLine_none s).1 h]
    exact pw_write_line_call_empty 989 chunks

theorem pw_write_line_translated (s : Str) (chunks : List Str) (hlen : s.length ≤ 200000) (cs : List Str)
    (h : writeLine? s = some cs) :
    P.runMethod n_PbnWriter n_write_line [encPbnWriter chunks, .str s] = .ok (.none, encPbnWriter (chunks ++ cs)) := by
  rw [pw_write_line_translated_cases s chunks hlen, h]

theorem pw_write_line_translated_empty (chunks : List Str) :
    P.runMethod n_PbnWriter n_write_line [encPbnWriter chunks, .str []] = .error (.exc K.IndexError) :=
  pw_write_line_translated_cases [] chunks (by decide)

/-! ## (b) `write_tag_pair`, `write_header`, `PbnWriter(file)` -/
theorem pw_write_tag_pair_translated_cases (tag content : Str) (chunks : List Str)
    (hlen : tag.length + content.length ≤ 200000) :
    P.runMethod n_PbnWriter n_write_tag_pair [encPbnWriter chunks, .str tag, .str content]
      = match tag with
        | [] => .error (.exc K.IndexError)
        | c :: _ =>
          if isUpper c = true then .ok (.none, encPbnWriter (chunks ++ writeTagPair tag content))
          else .error (.exc K.AssertionError) := by
  rw [jw_runMethod_eq _ _ _ _ _ pw_mth_tag_pair]
  cases tag with
  | nil => exact pw_tag_pair_call_empty 989 chunks content
  | cons c rest =>
    by_cases hu : isUpper c = true
    · simp only [hu, if_true]
      exact pw_tag_pair_call 974 chunks c rest content hu (by simp only [List.length_cons] at hlen; omega)
    · simp only [hu]
      exact pw_tag_pair_call_lower 989 chunks c rest content (by simpa using hu)

theorem pw_write_tag_pair_translated (c : Char) (rest content : Str) (chunks : List Str) (hu : isUpper c = true)
    (hlen : rest.length + content.length < 200000) :
    P.runMethod n_PbnWriter n_write_tag_pair [encPbnWriter chunks, .str (c :: rest), .str content]
      = .ok (.none, encPbnWriter (chunks ++ writeTagPair (c :: rest) content)) := by
  rw [pw_write_tag_pair_translated_cases _ _ _ (by simp only [List.length_cons]; omega)]
  simp only [hu, if_true]

theorem pw_write_header_translated (chunks : List Str) :
    P.runMethod n_PbnWriter n_write_header [encPbnWriter chunks] = .ok (.none, encPbnWriter (chunks ++ writeHeader)) := by
  rw [jw_runMethod_eq _ _ _ _ _ pw_mth_header]
  exact pw_header_call 969 chunks

theorem pw_new_translated (chunks : List Str) : P.runNew n_PbnWriter [encFile chunks] = .ok (encPbnWriter chunks) :=
  pw_construct 991 chunks

/-- the static `create_contents_sequence` : `';'.join(contents)` -/
theorem pw_create_contents_sequence_translated (l : List Str) :
    P.runMethod n_PbnWriter n_create_contents_sequence [.tuple (l.map Val.str)]
      = .ok (.str (List.intercalate [';'] l), .tuple (l.map Val.str)) := by
  have hm : P.method? classDepth n_PbnWriter n_create_contents_sequence
      = some (n_PbnWriter, m_PbnWriter_create_contents_sequence) := rfl
  rw [jw_runMethod_eq _ _ _ _ _ hm, callF_def]
  simp only [m_PbnWriter_create_contents_sequence, bindParams, Option.map]
  have hs := hd_strsOf_map (fun a : Str => a) l
  simp only [List.map_id'] at hs
  ppsimp [builtinF, iterItems, Option.bind, hs]

/-! ## (c) `write_board_result` -/
theorem pw_write_board_result_translated_cases (r : PbnResult) (h : PbnWF r) (chunks : List Str) :
    P.runMethod n_PbnWriter n_write_board_result (encPbnWriter chunks :: resultArgs r)
      = match writeBoardResult? r with
        | some cs => .ok (.none, encPbnWriter (chunks ++ cs))
        | none => .error (.exc K.AssertionError) := by
  rw [jw_runMethod_eq _ _ _ _ _ pw_mth_wbr]
  exact pw_board_result_call 169 chunks r h

theorem pw_write_board_result_translated (r : PbnResult) (h : PbnWF r) (chunks : List Str) (cs : List Str)
    (hcs : writeBoardResult? r = some cs) :
    P.runMethod n_PbnWriter n_write_board_result (encPbnWriter chunks :: resultArgs r)
      = .ok (.none, encPbnWriter (chunks ++ cs)) := by
  rw [pw_write_board_result_translated_cases r h chunks, hcs]

theorem pw_write_board_result_translated_assertion (r : PbnResult) (h : PbnWF r) (chunks : List Str)
    (hn : resultTags? r = none) :
    P.runMethod n_PbnWriter n_write_board_result (encPbnWriter chunks :: resultArgs r)
      = .error (.exc K.AssertionError) := by
  rw [pw_write_board_result_translated_cases r h chunks, writeBoardResult?, hn]; rfl

/-- when the model's `resultTags?` is `none` -/
theorem pw_resultTags_none_iff (r : PbnResult) :
    resultTags? r = none ↔ (r.boardNum ≤ 0 ∨ toPbn? r.deal r.dealer = none ∨
      (r.contract.isPassedOut = true ∧ r.tricks.isSome = true) ∨ (r.contract.isPassedOut = false ∧ r.tricks = none)) := by
  simp only [resultTags?]
  by_cases hb : r.boardNum ≤ 0
  · simp [hb]
  · cases hd : toPbn? r.deal r.dealer with
    | none => simp [hb]
    | some t =>
      cases hpo : r.contract.isPassedOut <;> cases ht : r.tricks <;> simp [hb]

/-- `PbnWF` from bounds on the arguments themselves: a real date, valid cards, numbers of 1000 digits at most (any
bound `10 ^ f` with `f + 2 ≤ 199000` would do: only the length of the printed text matters, for the fuel) -/
theorem pw_wf_of_bounds (r : PbnResult) (hdeal : ∀ p, ∀ c ∈ r.deal p, c.ok = true)
    (hboard : r.boardNum.natAbs < 10 ^ 1000) (htricks : ∀ n, r.tricks = some n → n.natAbs < 10 ^ 1000)
    (hy : r.year ≤ 9999) (hm : r.month ≤ 12) (hd : r.day ≤ 31)
    (hev : r.event.length ≤ 199000) (hsi : r.site.length ≤ 199000) (hw : r.west.length ≤ 199000)
    (hn : r.north.length ≤ 199000) (he : r.east.length ≤ 199000) (hs : r.south.length ≤ 199000) : PbnWF r :=
  have key : ∀ c : Card, c.ok = true → 2 ≤ c.rank ∧ c.rank ≤ 14 := by
    intro c hc
    simp only [Card.ok, Bool.and_eq_true, decide_eq_true_eq] at hc
    exact hc.1
  { deal := fun p _ c hc => key c (hdeal p c hc)
    board := Nat.le_trans (pw_intRepr_len 1000 _ hboard) (by decide)
    tricks := fun n hn => Nat.le_trans (pw_intRepr_len 1000 n (htricks n hn)) (by decide)
    event := hev, site := hsi, date := pw_dateStr_len _ _ _ hy hm hd,
    west := hw, north := hn, east := he, south := hs }

/-! ## (d) a whole document -/
/-- `w = PbnWriter(file); w.write_header(); for r in rs: w.write_board_result(*resultArgs r)` — the writer afterwards -/
def runPbnDocument (chunks0 : List Str) (rs : List PbnResult) : R Val := do
  let w ← P.runNew n_PbnWriter [encFile chunks0]
  let w ← selfAfter n_PbnWriter n_write_header [w]
  rs.foldlM (fun w r => selfAfter n_PbnWriter n_write_board_result (w :: resultArgs r)) w

theorem pw_results (rs : List PbnResult) : ∀ (chunks : List Str) (css : List (List Str)), (∀ r ∈ rs, PbnWF r) →
    rs.mapM writeBoardResult? = some css →
    rs.foldlM (fun w r => selfAfter n_PbnWriter n_write_board_result (w :: resultArgs r)) (encPbnWriter chunks)
      = .ok (encPbnWriter (chunks ++ css.flatten)) := by
  induction rs with
  | nil =>
    intro chunks css _ hm
    simp only [List.mapM_nil, Option.pure_def, Option.some.injEq] at hm
    subst hm
    simp [pure, Except.pure]
  | cons r rs ih =>
    intro chunks css h hm
    rw [List.mapM_cons] at hm
    cases hr : writeBoardResult? r with
    | none => rw [hr] at hm; cases hm
    | some cs =>
      cases hrs : rs.mapM writeBoardResult? with
      | none => rw [hr, hrs] at hm; cases hm
      | some css' =>
        rw [hr, hrs] at hm
        simp only [Option.pure_def, Option.bind_eq_bind, Option.bind_some, Option.some.injEq] at hm
        subst hm
        rw [List.foldlM_cons, selfAfter, pw_write_board_result_translated r (h r (List.mem_cons_self ..)) chunks cs hr]
        simp only [Except.map, bind_ok]
        rw [ih _ css' (fun x hx => h x (List.mem_cons_of_mem _ hx)) hrs]
        simp only [List.flatten_cons, List.append_assoc]

/-- the writer after a whole document: it holds `chunks0`, the two header lines, then the chunks of the results -/
theorem pw_document_run (rs : List PbnResult) (h : ∀ r ∈ rs, PbnWF r) (css : List (List Str))
    (hm : rs.mapM writeBoardResult? = some css) (chunks0 : List Str) :
    runPbnDocument chunks0 rs = .ok (encPbnWriter (chunks0 ++ writeHeader ++ css.flatten)) := by
  simp only [runPbnDocument, pw_new_translated, bind_ok, selfAfter, pw_write_header_translated, Except.map]
  exact pw_results rs _ css h hm

/-- THE TRANSLATED PBN WRITER, run over a whole document on an empty file, leaves a file object whose chunks are the
header lines followed by the model's chunks of every result -/
theorem pw_document_translated (rs : List PbnResult) (h : ∀ r ∈ rs, PbnWF r) (css : List (List Str))
    (hm : rs.mapM writeBoardResult? = some css) :
    runPbnDocument [] rs = .ok (encPbnWriter (writeHeader ++ css.flatten)) := by
  rw [pw_document_run rs h css hm []]; rfl

/-- … so the text of the file is the header followed by the text of every result -/
theorem pw_document_translated_text (rs : List PbnResult) (h : ∀ r ∈ rs, PbnWF r) (css : List (List Str))
    (hm : rs.mapM writeBoardResult? = some css) :
    ∃ chunks, runPbnDocument [] rs = .ok (encPbnWriter chunks) ∧
      chunks.flatten = "% PBN 2.1\n% EXPORT\n".toList ++ css.flatten.flatten :=
  ⟨_, pw_document_translated rs h css hm, by
    rw [List.flatten_append, writeHeader]
    repeat rw [String.toList_ofList]
    rfl⟩

/-- a result whose assertion fails stops the document with `AssertionError` (the results before it are written) -/
theorem pw_document_translated_assertion (rs : List PbnResult) (r : PbnResult) (rest : List PbnResult)
    (h : ∀ x ∈ rs, PbnWF x) (hr : PbnWF r) (css : List (List Str)) (hm : rs.mapM writeBoardResult? = some css)
    (hn : resultTags? r = none) :
    runPbnDocument [] (rs ++ r :: rest) = .error (.exc K.AssertionError) := by
  simp only [runPbnDocument, pw_new_translated, bind_ok, selfAfter, pw_write_header_translated, Except.map,
    List.foldlM_append, List.foldlM_cons]
  have := pw_results rs ([] ++ writeHeader) css h hm
  simp only [selfAfter, Except.map] at this
  rw [this]
  simp only [bind_ok, pw_write_board_result_translated_assertion r hr _ hn]
  rfl

end Bridge.Translated
