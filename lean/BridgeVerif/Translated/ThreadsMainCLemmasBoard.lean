import BridgeVerif.Translated.ThreadsMainCLemmasBody
import BridgeVerif.Translated.ThreadsMainCLemmasS
import BridgeVerif.Lemmas.Play
/-! Translated `MainThread.run`: ONE iteration of the board loop is `mainBoardR` — the record handed to the log writer
(`encRecord`), what a successful `mainBoardR` did, a passed-out board, a played board (after the thirteen tricks the two sides
have taken thirteen tricks together, so the argument of `calc_score` is in 0..13) -/
set_option linter.unusedSimpArgs false
namespace Bridge.Translated.MainC

section
open Bridge Bridge.Py Bridge.Generated.PyCore Bridge.Translated.MainA Bridge.Translated.MainB

/-- the `scores` dictionary of a record: declarer's pair first (`{declarer.pair: score, opponent: -score}`), N/S first
without a declarer -/
def encScoresR (r : BoardRecord) : Val :=
  match r.contract.declarer with
  | none => .dict [(encSide .NS, .int r.scoreNS), (encSide .EW, .int r.scoreEW)]
  | some d => .dict [(encSide d.side, .int (if d.side = .NS then r.scoreNS else r.scoreEW)),
                     (encSide d.side.opp, .int (if d.side = .NS then r.scoreEW else r.scoreNS))]

/-- THE DICT OF KEYWORD ARGUMENTS `Server.run` hands to `game_log_writer.write(**…)` (here: `w_emit('write', {…})`) for the
record `r`: keys `board_id, west_player, north_player, east_player, south_player, dealer, deal, scoring, bid_history,
contract, play_history, taken_trick_num, scores, dda` in that order; the deal is the dictionary seat ↦ cards, `scoring`
the constant instance `Scoring.IMP`, the play history the `PlayingHistory` object, `dda` the board's table -/
def encRecord (r : BoardRecord) : Val :=
  recDict (.str r.boardId) (.str r.ewName) (.str r.nsName) (encSeat r.dealer) (.dict (handsKvs r.deal))
    (.tuple (r.calls.map encCall)) (encContract r.contract) (encOpt (encPlayingHistory r.contract) r.play)
    (encOpt (fun t : Nat => Val.int t) r.tricks) (encScoresR r) (encDdaOpt r.dda)

/-- `scoring` is `encScoring .IMP` (Translated/JsonWriterLemmasA.lean) -/
theorem encRecord_scoring (r : BoardRecord) :
    lookupD (match encRecord r with | .dict kvs => kvs | _ => []) (.str "scoring".toList) = some (encScoring .IMP) := by
  simp [encRecord, recDict, lookupD, Val.beq]; rfl

/-- the record of a passed-out board, as the code builds it -/
theorem mc_record_passed_out (sc : Scenario) (b : BoardSetting) (calls : List Call) (c : Contract)
    (hpo : c.isPassedOut = true) (w : Option WithHands) :
    recDict (.str b.boardId) (.str sc.ewName) (.str sc.nsName) (encSeat b.dealer) (.dict (handsKvs b.deal))
        (.tuple (calls.map encCall)) (encContract c) .none .none (scoresVal c.declarer 0) (encDdaOpt b.dda)
      = encRecord (recordFrom sc b calls c w) := by
  have hfb : c.finalBid = none := by
    simpa [Contract.isPassedOut, Option.isNone_iff_eq_none] using hpo
  have hr : recordFrom sc b calls c w
      = { boardId := b.boardId, nsName := sc.nsName, ewName := sc.ewName, dealer := b.dealer, deal := b.deal,
          vul := c.vul, calls := calls, contract := c, play := none, tricks := none,
          scoreNS := 0, scoreEW := 0, dda := b.dda } := by
    simp only [recordFrom, hfb]
  rw [hr]
  simp only [encRecord, encScoresR, scoresVal, encOpt]
  cases hd : c.declarer with
  | none => rfl
  | some d => cases hs : d.side <;> simp [Side.opp]

/-- the record of a played board, as the code builds it -/
theorem mc_record_played (sc : Scenario) (b : BoardSetting) (calls : List Call) (c : Contract) (fb : Fin 35) (decl : Seat)
    (hfb : c.finalBid = some fb) (hd : c.declarer = some decl) (w : WithHands) :
    recDict (.str b.boardId) (.str sc.ewName) (.str sc.nsName) (encSeat b.dealer) (.dict (handsKvs b.deal))
        (.tuple (calls.map encCall)) (encContract c) (encHistory c w.base.history) (.int (declTricks decl w))
        (scoresVal c.declarer ((calcScore c (declTricks decl w)).getD 0)) (encDdaOpt b.dda)
      = encRecord (recordFrom sc b calls c (some w)) := by
  have hr : recordFrom sc b calls c (some w)
      = { boardId := b.boardId, nsName := sc.nsName, ewName := sc.ewName, dealer := b.dealer, deal := b.deal,
          vul := c.vul, calls := calls, contract := c, play := some w.base.history.reverse,
          tricks := some (declTricks decl w),
          scoreNS := if decl.side = .NS then (calcScore c (declTricks decl w)).getD 0
                     else -(calcScore c (declTricks decl w)).getD 0,
          scoreEW := if decl.side = .EW then (calcScore c (declTricks decl w)).getD 0
                     else -(calcScore c (declTricks decl w)).getD 0, dda := b.dda } := by
    simp only [recordFrom, hfb, hd]
    rfl
  rw [hr]
  simp only [encRecord, encScoresR, scoresVal, encOpt, hd, jw_encPlayingHistory_eq, List.reverse_reverse]
  cases hs : decl.side <;> simp [Side.opp]

/-- the closing actions of a board in the model -/
def finActs (last : Bool) (r : BoardRecord) : MainActs :=
  if last then [.emit (.write r), .emit LogOp.close] ++ putAll MSG_END else [.emit (.write r)] ++ putAll MSG_NEXT

/-- what a successful `mainBoardR` did -/
theorem mainBoardR_inv (sc : Scenario) (k : Nat) (last : Bool) (b : BoardSetting) (i i' : MainIn) (acts : MainActs)
    (hm : mainBoardR sc k last b i = some (acts, i')) :
    ∃ bid s i1 c, mainBiddingR 321 (AState.init b.dealer b.vul) i = some (bid, s, i1) ∧ s.contract = some c ∧
      ((c.isPassedOut = true ∧ i' = i1 ∧
          acts = mainDealR k b ++ bid ++ [] ++ finActs last (recordFrom sc b s.history.reverse c none)) ∨
       (c.isPassedOut = false ∧ ∃ decl w0 play w, c.declarer = some decl ∧ WithHands.init c b.deal = some w0 ∧
          mainPlayingR decl (cardsMsg "Dummy".toList (b.deal decl.partner)) w0 i1 = some (play, w, i') ∧
          acts = mainDealR k b ++ bid ++ play ++ finActs last (recordFrom sc b s.history.reverse c (some w)))) := by
  unfold mainBoardR at hm
  cases hb : mainBiddingR (320 + 1) (AState.init b.dealer b.vul) i with
  | none => simp [hb] at hm
  | some x =>
    obtain ⟨bid, s, i1⟩ := x
    cases hc : s.contract with
    | none => simp [hb, hc] at hm
    | some c =>
      refine ⟨bid, s, i1, c, rfl, hc, ?_⟩
      simp only [hb, hc, Option.bind_eq_bind, Option.bind_some] at hm
      cases hpo : c.isPassedOut with
      | true =>
        left
        simp only [hpo, if_true, Option.pure_def, Option.bind_some, Option.some.injEq, Prod.mk.injEq] at hm
        obtain ⟨h1, h2⟩ := hm
        exact ⟨rfl, h2.symm, by rw [← h1]; cases last <;> rfl⟩
      | false =>
        right
        simp only [hpo, Bool.false_eq_true, if_false] at hm
        cases hd : c.declarer with
        | none => simp [hd] at hm
        | some decl =>
          cases hw : WithHands.init c b.deal with
          | none => simp [hd, hw] at hm
          | some w0 =>
            simp only [hd, hw] at hm
            cases hp : mainPlayingR decl (cardsMsg "Dummy".toList (b.deal decl.partner)) w0 i1 with
            | none => rw [hp] at hm; simp at hm
            | some y =>
              obtain ⟨play, w, i2⟩ := y
              simp only [hp, Option.bind_eq_bind, Option.bind_some, Option.pure_def, Option.some.injEq, Prod.mk.injEq] at hm
              obtain ⟨h1, h2⟩ := hm
              subst h2
              exact ⟨rfl, decl, w0, play, w, rfl, rfl, hp, by rw [← h1]; cases last <;> rfl⟩

end

section
open Bridge Bridge.Py Bridge.Generated.PyCore Bridge.Translated.MainA Bridge.Translated.MainB

/-- the variables one iteration of the board loop may write -/
def boardVars : List Id := headVars ++ tailVars

def opEmitClose : Val := .tuple [vstr "emit", vstr "close", .none]

/-- the operations after the loop that the model counts with the last board -/
def lastOps (last : Prop) [Decidable last] : List Val := if last then opEmitClose :: opsPutAll MSG_END else []

theorem mc_finActs_ops (last : Prop) [Decidable last] (r : BoardRecord) :
    encMainActs encRecord (finActs (decide last) r)
      = some ((opEmitWrite (encRecord r) :: (if last then [] else opsPutAll MSG_NEXT)) ++ lastOps last) := by
  by_cases h : last
  · simp only [finActs, h, decide_true, if_true, lastOps]; rfl
  · simp only [finActs, h, decide_false, if_false, lastOps, Bool.false_eq_true]; rfl

theorem mc_strip_cons (v : Val) (l : List Val) (h : v.beq opSleep = false) : stripSleep (v :: l) = v :: stripSleep l := by
  simp only [stripSleep, List.filter, h, Bool.not_false]

theorem mc_emit_not_sleep (v : Val) : (opEmitWrite v).beq opSleep = false := by
  simp [opEmitWrite, opSleep, Val.beq, beqL, vstr]

theorem mc_callFn_callF (f : Nat) (fd : FuncDef) (args : List Val) :
    callFn P (f + 1) fd args = callF (mkRec P f) fd args := rfl

/-- the table after the two barrier waits of `deal` -/
def tableAfterDeal (table : Val) (tables : List Val) : Val × List Val :=
  advTable (advTable table tables).1 (advTable table tables).2

/-- the bidding hypothesis in the form the symbolic execution uses -/
theorem mc_bidding_calls (F : Nat) (b : BoardSetting) (i i1 : MainIn) (bid : MainActs) (s : AState) (c : Contract)
    (hbidR : mainBiddingR 321 (AState.init b.dealer b.vul) i = some (bid, s, i1)) (hc : s.contract = some c)
    (hmsgs : BidMsgsOK F 321 (AState.init b.dealer b.vul) i) (more : List (Val × Val)) (bs : Val) :
    ∃ bidOps, encMainActs encRecord bid = some bidOps ∧
      ∀ f0, 321 + F + 70 ≤ f0 → ∀ j out T TS, callF (mkRec P (f0 + j)) m_MainThread_bidding_phase
          [encMainThread (encMainWorld i out T TS more) bs, encSeat b.dealer, encVul b.vul]
        = .ok (.tuple [encContract c, .tuple (s.history.reverse.map encCall)],
               encMainThread (encMainWorld i1 (out ++ bidOps) T TS more) bs) := by
  obtain ⟨c0, bidOps, hc0, hops, _⟩ := main_bidding_translated encRecord F 321 b.dealer b.vul i bid s i1 hbidR hmsgs
    [] .none [] more bs (321 + F + 70) (Nat.le_refl _)
  refine ⟨bidOps, hops, ?_⟩
  intro f0 hf0 j out T TS
  obtain ⟨c1, ops1, hc1, hops1, hcall⟩ := main_bidding_translated encRecord F 321 b.dealer b.vul i bid s i1 hbidR hmsgs
    out T TS more bs (f0 + j + 1) (by omega)
  have e1 : c1 = c := by rw [hc] at hc1; exact (Option.some.inj hc1).symm
  have e2 : ops1 = bidOps := by rw [hops] at hops1; exact (Option.some.inj hops1).symm
  subst e1; subst e2
  exact hcall

/-- ONE ITERATION of the board loop, given what its middle statement `mcPlayIte` does: on the streams `i1` left by the
auction it performs `playOps` (the rendering of the model's `play`), leaves the streams `i2` and sets `play_history`,
`taken_trick_num` and `score` to the values the record `recordFrom … w` is built from -/
theorem mc_board_of_play (sc : Scenario) (F k n : Nat) (b : BoardSetting) (i i1 i2 : MainIn) (bid play : MainActs) (s : AState)
    (c : Contract) (w : Option WithHands) (playOps : List Val) (ph tt : Val) (score : Int)
    (hbidR : mainBiddingR 321 (AState.init b.dealer b.vul) i = some (bid, s, i1)) (hc : s.contract = some c)
    (hmsgs : BidMsgsOK F 321 (AState.init b.dealer b.vul) i)
    (hok : ∀ p, ∀ c ∈ b.deal p, 2 ≤ c.rank ∧ c.rank ≤ 14)
    (boards : List BoardSetting) (h1 : 1 ≤ k) (hb : boards[k-1]? = some b)
    (more : List (Val × Val))
    (hplayops : encMainActs encRecord play = some (stripSleep playOps))
    (hite : ∀ (f0 : Nat) (env : Env) (out : List Val) (T : Val) (TS : List Val), F + 500 ≤ f0 →
      lookup env K.self = some (encMainThread (encMainWorld i1 out T TS more) (.tuple (boards.map encBoardSetting))) →
      lookup env n_contract = some (encContract c) → lookup env n_cards = some (.dict (handsKvs b.deal)) →
      ∃ env', execStmtF (mkRec P (f0 + 100)) P env mcPlayIte = .ok (env', .next) ∧
        lookup env' K.self = some (encMainThread (encMainWorld i2 (out ++ playOps) T TS more)
          (.tuple (boards.map encBoardSetting))) ∧
        lookup env' n_play_history = some ph ∧ lookup env' n_taken_trick_num = some tt ∧
        lookup env' n_score = some (.int score) ∧ Frame tailVars env env')
    (hrec : recDict (.str b.boardId) (.str sc.ewName) (.str sc.nsName) (encSeat b.dealer) (.dict (handsKvs b.deal))
        (.tuple (s.history.reverse.map encCall)) (encContract c) ph tt (scoresVal c.declarer score) (encDdaOpt b.dda)
      = encRecord (recordFrom sc b s.history.reverse c w)) :
    ∃ opsS, encMainActs encRecord (mainDealR k b ++ bid ++ play ++
          finActs (decide (k = n)) (recordFrom sc b s.history.reverse c w))
        = some (stripSleep opsS ++ lastOps (k = n)) ∧
      ∀ (env : Env) (out : List Val) (table : Val) (tables : List Val),
      lookup env K.self
        = some (encMainThread (encMainWorld i out table tables more) (.tuple (boards.map encBoardSetting))) →
      lookup env n_board_number = some (.int k) →
      lookup env n_max_board_num = some (.int ((n : Int) + 1)) →
      lookup env n_ns_team_name = some (.str sc.nsName) →
      lookup env n_ew_team_name = some (.str sc.ewName) →
      ∀ f, F + 700 ≤ f → ∃ env', exec P f env mcBoardBody = .ok (env', if k = n then .brk else .next) ∧
        lookup env' K.self = some (encMainThread (encMainWorld i2 (out ++ opsS) (tableAfterDeal table tables).1
          (tableAfterDeal table tables).2 more) (.tuple (boards.map encBoardSetting))) ∧
        Frame boardVars env env' := by
  obtain ⟨bidOps, hbidops, hbidcalls⟩ := mc_bidding_calls F b i i1 bid s c hbidR hc hmsgs more
    (.tuple (boards.map encBoardSetting))
  refine ⟨dealOps k b ++ bidOps ++ playOps ++ (opEmitWrite (encRecord (recordFrom sc b s.history.reverse c w)) ::
      (if k = n then [] else opsPutAll MSG_NEXT)), ?_, ?_⟩
  · have hfin := mc_finActs_ops (k = n) (recordFrom sc b s.history.reverse c w)
    have h12 := MainA.encMainActs_append encRecord _ _ _ _ (main_deal_ops encRecord k b) hbidops
    have h123 := MainA.encMainActs_append encRecord _ _ _ _ h12 hplayops
    have hall := MainA.encMainActs_append encRecord _ _ _ _ h123 hfin
    rw [hall]
    have hs1 : stripSleep (dealOps k b ++ bidOps) = dealOps k b ++ bidOps := encMainActs_no_sleep encRecord _ _ h12
    have hs2 : stripSleep (opEmitWrite (encRecord (recordFrom sc b s.history.reverse c w)) ::
        (if k = n then [] else opsPutAll MSG_NEXT)) = opEmitWrite (encRecord (recordFrom sc b s.history.reverse c w)) ::
        (if k = n then [] else opsPutAll MSG_NEXT) := by
      rw [mc_strip_cons _ _ (mc_emit_not_sleep _)]
      by_cases hkn : k = n
      · simp only [hkn, if_true]; rfl
      · simp only [hkn, if_false]; exact congrArg _ (encMainActs_no_sleep encRecord _ _ (encMainActs_putAll encRecord MSG_NEXT))
    rw [stripSleep_append, stripSleep_append, hs1, hs2]
    simp only [List.append_assoc]
  · intro env out table tables hself hk hmax hns hew f hf
    obtain ⟨f0, rfl⟩ : ∃ f0, f = f0 + 101 := ⟨f - 101, by omega⟩
    have hb' : (boards.map encBoardSetting)[k-1]? = some (encBoardSetting b) := by
      rw [List.getElem?_map, hb]; rfl
    obtain ⟨e1, h1e, hs1, hc1, hbh1, hcards1, hdealer1, hbid1, hdda1, hf1⟩ := mc_head f0 env i i1 out table tables more
      (boards.map encBoardSetting) k b c s.history.reverse bidOps hself hk h1 hb' hok (hbidcalls f0 (by omega))
    obtain ⟨e2, h2e, hs2, hph2, htt2, hsc2, hf2⟩ := hite f0 e1 _ _ _ (by omega) hs1 hc1 hcards1
    have hl2 : ∀ y, y ∉ tailVars → y ∉ headVars → lookup e2 y = lookup env y :=
      fun y h2 h1' => (hf2 y h2).trans (hf1 y h1')
    obtain ⟨e3, h3e, hsc3, hf3⟩ := mc_scores f0 e2 c score (by rw [hf2 _ (by decide), hc1]) hsc2
    obtain ⟨e4, h4e, hs4, hf4⟩ := mc_emit f0 e3 i2 _ _ _ more _ (.str b.boardId) (.str sc.ewName) (.str sc.nsName)
      (encSeat b.dealer) (.dict (handsKvs b.deal)) (.tuple (s.history.reverse.map encCall)) (encContract c) ph tt
      (scoresVal c.declarer score) (encDdaOpt b.dda) (by rw [hf3 _ (by decide), hs2])
      (by rw [hf3 _ (by decide), hf2 _ (by decide), hc1]) (by rw [hf3 _ (by decide), hf2 _ (by decide), hbid1])
      (by rw [hf3 _ (by decide), hl2 _ (by decide) (by decide), hew]) (by rw [hf3 _ (by decide), hl2 _ (by decide) (by decide), hns])
      (by rw [hf3 _ (by decide), hf2 _ (by decide), hdealer1]) (by rw [hf3 _ (by decide), hf2 _ (by decide), hcards1])
      (by rw [hf3 _ (by decide), hf2 _ (by decide), hbh1]) (by rw [hf3 _ (by decide), hph2]) (by rw [hf3 _ (by decide), htt2])
      hsc3 (by rw [hf3 _ (by decide), hf2 _ (by decide), hdda1])
    obtain ⟨e5, h5e, hs5, hf5⟩ := mc_last f0 e4 i2 _ _ _ more _ k n hs4
      (by rw [hf4 _ (by decide), hf3 _ (by decide), hl2 _ (by decide) (by decide), hk])
      (by rw [hf4 _ (by decide), hf3 _ (by decide), hl2 _ (by decide) (by decide), hmax])
    refine ⟨e5, ?_, ?_, ?_⟩
    · show execF (mkRec P (f0 + 100)) P env mcBoardBody = _
      rw [mcBoardBody_eq, execF_append_next _ h1e, execF_cons_next _ h2e, mcTail_eq, execF_append_next _ h3e,
        execF_cons_next _ h4e, h5e]
    · rw [hs5, hrec]
      simp only [tableAfterDeal, List.append_assoc, List.cons_append, List.nil_append]
    · exact ((((hf1.mono (by decide)).trans (hf2.mono (by decide))).trans (hf3.mono (by decide))).trans
        (hf4.mono (by decide))).trans (hf5.mono (by decide))

/-- ONE ITERATION of the board loop, a PASSED-OUT board -/
theorem mc_board_passed_out (sc : Scenario) (F k n : Nat) (b : BoardSetting) (i i1 : MainIn) (bid : MainActs) (s : AState)
    (c : Contract)
    (hbidR : mainBiddingR 321 (AState.init b.dealer b.vul) i = some (bid, s, i1)) (hc : s.contract = some c)
    (hpo : c.isPassedOut = true)
    (hmsgs : BidMsgsOK F 321 (AState.init b.dealer b.vul) i)
    (hok : ∀ p, ∀ c ∈ b.deal p, 2 ≤ c.rank ∧ c.rank ≤ 14)
    (boards : List BoardSetting) (h1 : 1 ≤ k) (hb : boards[k-1]? = some b)
    (more : List (Val × Val)) :
    ∃ opsS, encMainActs encRecord (mainDealR k b ++ bid ++ [] ++
          finActs (decide (k = n)) (recordFrom sc b s.history.reverse c none))
        = some (stripSleep opsS ++ lastOps (k = n)) ∧
      ∀ (env : Env) (out : List Val) (table : Val) (tables : List Val),
      lookup env K.self
        = some (encMainThread (encMainWorld i out table tables more) (.tuple (boards.map encBoardSetting))) →
      lookup env n_board_number = some (.int k) →
      lookup env n_max_board_num = some (.int ((n : Int) + 1)) →
      lookup env n_ns_team_name = some (.str sc.nsName) →
      lookup env n_ew_team_name = some (.str sc.ewName) →
      ∀ f, F + 700 ≤ f → ∃ env', exec P f env mcBoardBody = .ok (env', if k = n then .brk else .next) ∧
        lookup env' K.self = some (encMainThread (encMainWorld i1 (out ++ opsS) (tableAfterDeal table tables).1
          (tableAfterDeal table tables).2 more) (.tuple (boards.map encBoardSetting))) ∧
        Frame boardVars env env' := by
  refine mc_board_of_play sc F k n b i i1 i1 bid [] s c none [] .none .none 0 hbidR hc hmsgs hok boards h1 hb more rfl ?_
    (mc_record_passed_out sc b s.history.reverse c hpo none)
  intro f0 env out T TS _ hself hc1 _
  obtain ⟨e2, h2e, hph2, htt2, hsc2, hf2⟩ := mc_play_passed_out f0 env c hpo hc1
  exact ⟨e2, h2e, by rw [hf2 _ (by decide), hself, List.append_nil], hph2, htt2, hsc2, hf2.mono (by decide)⟩

end

section
open Bridge Bridge.Py Bridge.Generated.PyCore Bridge.Translated.MainA Bridge.Translated.MainB

/-- the tricks taken are the tricks in the history; the current trick has fewer than four cards -/
def TInv (s : PState) : Prop := s.takenNS + s.takenEW = s.history.length ∧ s.trick.length < 4

/-- the number of cards played -/
def cardsPlayed (s : PState) : Nat := 4 * s.history.length + s.trick.length

theorem tinv_playCard (s : PState) (c : Card) (h : TInv s) :
    TInv (playCard s c) ∧ cardsPlayed (playCard s c) = cardsPlayed s + 1 := by
  obtain ⟨h1, h2⟩ := h
  unfold playCard
  simp only [List.length_append, List.length_cons, List.length_nil]
  by_cases h4 : s.trick.length + (0 + 1) = 4
  · rw [if_pos h4]
    refine ⟨⟨?_, ?_⟩, ?_⟩
    · rw [addTaken_takenNS, addTaken_takenEW, addTaken_history]
      simp only [List.length_cons]
      cases (s.leader.rot (highestIdx s.trump (s.trick ++ [c])).toNat).side <;> simp <;> omega
    · rw [addTaken_trick]; simp
    · simp only [cardsPlayed, addTaken_history, addTaken_trick, List.length_cons, List.length_nil]; omega
  · rw [if_neg h4]
    refine ⟨⟨h1, ?_⟩, ?_⟩
    · simp only [List.length_append, List.length_cons, List.length_nil]; omega
    · simp only [cardsPlayed, List.length_append, List.length_cons, List.length_nil]; omega

theorem tinv_play {w w' : WithHands} {c : Card} {p : Seat} (hp : w.play c p = .ok w') (h : TInv w.base) :
    TInv w'.base ∧ cardsPlayed w'.base = cardsPlayed w.base + 1 := by
  unfold WithHands.play at hp
  split at hp
  · cases hp
  · split at hp
    · cases hp
    · cases hp
      exact tinv_playCard _ _ h

theorem tinv_trick (decl : Seat) (dm : Text) (first : Bool) : ∀ (m idx : Nat) (w wf : WithHands) (i i_f : MainIn)
    (acts : MainActs), idx + m = 4 → TInv w.base → mainTrickR decl dm first idx w i = some (acts, wf, i_f) →
    TInv wf.base ∧ cardsPlayed wf.base = cardsPlayed w.base + m := by
  intro m
  induction m with
  | zero =>
    intro idx w wf i i_f acts hidx hinv hr
    obtain rfl : idx = 4 := by omega
    rw [mainTrickR_four] at hr
    simp only [Option.some.injEq, Prod.mk.injEq] at hr
    obtain ⟨_, rfl, _⟩ := hr
    exact ⟨hinv, rfl⟩
  | succ m ih =>
    intro idx w wf i i_f acts hidx hinv hr
    obtain ⟨message, i1, card, w1, rest, _, _, hplay, hrest, _⟩ := mainTrickR_inv (by omega) hr
    obtain ⟨hinv1, hc1⟩ := tinv_play hplay hinv
    obtain ⟨hinvf, hcf⟩ := ih (idx + 1) w1 wf i1 i_f rest (by omega) hinv1 hrest
    exact ⟨hinvf, by rw [hcf, hc1]; omega⟩

theorem tinv_tricks (decl : Seat) (dm : Text) : ∀ (n k : Nat) (w wf : WithHands) (i i_f : MainIn) (acts : MainActs),
    TInv w.base → mainPlayingR.tricks decl dm n k w i = some (acts, wf, i_f) →
    TInv wf.base ∧ cardsPlayed wf.base = cardsPlayed w.base + 4 * n := by
  intro n
  induction n with
  | zero =>
    intro k w wf i i_f acts hinv hr
    rw [mainPlayingR.tricks] at hr
    simp only [Option.some.injEq, Prod.mk.injEq] at hr
    obtain ⟨_, rfl, _⟩ := hr
    exact ⟨hinv, rfl⟩
  | succ n ih =>
    intro k w wf i i_f acts hinv hr
    rw [tricks_succ] at hr
    cases ht : mainTrickR decl dm (k = 1) 0 w i with
    | none => rw [ht] at hr; cases hr
    | some x =>
      obtain ⟨t, w1, i1⟩ := x
      rw [ht] at hr
      simp only at hr
      cases hts : mainPlayingR.tricks decl dm n (k + 1) w1 i1 with
      | none => rw [hts] at hr; cases hr
      | some y =>
        obtain ⟨rest, w2, i2⟩ := y
        rw [hts] at hr
        simp only [Option.some.injEq, Prod.mk.injEq] at hr
        obtain ⟨_, rfl, _⟩ := hr
        obtain ⟨hinv1, hc1⟩ := tinv_trick decl dm _ 4 0 w w1 i i1 t rfl hinv ht
        obtain ⟨hinv2, hc2⟩ := ih (k + 1) w1 w2 i1 i2 rest hinv1 hts
        exact ⟨hinv2, by rw [hc2, hc1]; omega⟩

/-- after `mainPlayingR` the two sides have taken thirteen tricks together -/
theorem mc_taken_le (c : Contract) (deal : Seat → List Card) (decl : Seat) (dm : Text) (w0 w : WithHands) (i i' : MainIn)
    (acts : MainActs) (hw0 : WithHands.init c deal = some w0) (hr : mainPlayingR decl dm w0 i = some (acts, w, i')) :
    declTricks decl w ≤ 13 := by
  have hinv0 : TInv w0.base ∧ cardsPlayed w0.base = 0 := by
    unfold WithHands.init at hw0
    cases hp : PState.init c with
    | none => rw [hp] at hw0; cases hw0
    | some s0 =>
      rw [hp] at hw0
      simp only [Option.map_some, Option.some.injEq] at hw0
      subst hw0
      unfold PState.init at hp
      split at hp
      · cases hp; exact ⟨⟨rfl, by simp⟩, rfl⟩
      · cases hp
  rw [mainPlayingR_eq] at hr
  cases hts : mainPlayingR.tricks decl dm 13 1 w0 i with
  | none => rw [hts] at hr; cases hr
  | some x =>
    obtain ⟨ts, wf, i_f⟩ := x
    rw [hts] at hr
    simp only [Option.some.injEq, Prod.mk.injEq] at hr
    obtain ⟨_, rfl, _⟩ := hr
    obtain ⟨⟨h1, h2⟩, hc⟩ := tinv_tricks decl dm 13 1 w0 wf i i_f ts hinv0.1 hts
    rw [hinv0.2] at hc
    simp only [cardsPlayed] at hc
    unfold declTricks
    cases decl.side <;> simp only <;> omega

end

section
open Bridge Bridge.Py Bridge.Generated.PyCore Bridge.Translated.MainA Bridge.Translated.MainB

/-- the playing hypothesis in the form the symbolic execution uses -/
theorem mc_playing_calls (c : Contract) (deal : Seat → List Card) (decl : Seat) (w0 w : WithHands) (i i' : MainIn)
    (acts : MainActs)
    (hw0 : WithHands.init c deal = some w0) (hdecl : c.declarer = some decl)
    (hr : mainPlayingR decl (cardsMsg "Dummy".toList (deal decl.partner)) w0 i = some (acts, w, i'))
    (hpp : PlayParses decl (cardsMsg "Dummy".toList (deal decl.partner)) 13 1 w0 i)
    (hok : ∀ c ∈ deal decl.partner, 2 ≤ c.rank ∧ c.rank ≤ 14) (more : List (Val × Val)) (bs : Val) :
    ∃ opsS, playingOpsS encRecord decl (cardsMsg "Dummy".toList (deal decl.partner)) w0 i = some opsS ∧
      encMainActs encRecord acts = some (stripSleep opsS) ∧
      ∀ f0, 80 ≤ f0 → ∀ out T TS j, callF (mkRec P (f0 + j)) m_MainThread_playing_phase
          [encMainThread (encMainWorld i out T TS more) bs, encContract c, .dict (handsKvs deal)]
        = .ok (.tuple [encHistory c w.base.history, .int (declTricks decl w)],
               encMainThread (encMainWorld i' (out ++ opsS) T TS more) bs) := by
  obtain ⟨opsS, hops, hstrip, _⟩ := main_playing_translated encRecord c deal decl w0 w i i' acts [] .none [] more bs
    hw0 hdecl hr hpp hok
  refine ⟨opsS, hops, hstrip, ?_⟩
  intro f0 hf0 out T TS j
  obtain ⟨opsS', hops', _, h⟩ := main_playing_translated encRecord c deal decl w0 w i i' acts out T TS more bs
    hw0 hdecl hr hpp hok
  have e : opsS' = opsS := by rw [hops] at hops'; exact (Option.some.inj hops').symm
  subst e
  exact h (f0 + j + 1) (by omega)

/-- ONE ITERATION of the board loop, a PLAYED board -/
theorem mc_board_played (sc : Scenario) (F k n : Nat) (b : BoardSetting) (i i1 i2 : MainIn) (bid play : MainActs) (s : AState)
    (c : Contract) (decl : Seat) (w0 w : WithHands)
    (hbidR : mainBiddingR 321 (AState.init b.dealer b.vul) i = some (bid, s, i1)) (hc : s.contract = some c)
    (hpo : c.isPassedOut = false) (hdecl : c.declarer = some decl) (hw0 : WithHands.init c b.deal = some w0)
    (hplayR : mainPlayingR decl (cardsMsg "Dummy".toList (b.deal decl.partner)) w0 i1 = some (play, w, i2))
    (hmsgs : BidMsgsOK F 321 (AState.init b.dealer b.vul) i)
    (hpp : PlayParses decl (cardsMsg "Dummy".toList (b.deal decl.partner)) 13 1 w0 i1)
    (hok : ∀ p, ∀ c ∈ b.deal p, 2 ≤ c.rank ∧ c.rank ≤ 14)
    (boards : List BoardSetting) (h1 : 1 ≤ k) (hb : boards[k-1]? = some b)
    (more : List (Val × Val)) :
    ∃ opsS, encMainActs encRecord (mainDealR k b ++ bid ++ play ++
          finActs (decide (k = n)) (recordFrom sc b s.history.reverse c (some w)))
        = some (stripSleep opsS ++ lastOps (k = n)) ∧
      ∀ (env : Env) (out : List Val) (table : Val) (tables : List Val),
      lookup env K.self
        = some (encMainThread (encMainWorld i out table tables more) (.tuple (boards.map encBoardSetting))) →
      lookup env n_board_number = some (.int k) →
      lookup env n_max_board_num = some (.int ((n : Int) + 1)) →
      lookup env n_ns_team_name = some (.str sc.nsName) →
      lookup env n_ew_team_name = some (.str sc.ewName) →
      ∀ f, F + 700 ≤ f → ∃ env', exec P f env mcBoardBody = .ok (env', if k = n then .brk else .next) ∧
        lookup env' K.self = some (encMainThread (encMainWorld i2 (out ++ opsS) (tableAfterDeal table tables).1
          (tableAfterDeal table tables).2 more) (.tuple (boards.map encBoardSetting))) ∧
        Frame boardVars env env' := by
  obtain ⟨playOps, _, hplayops, hplaycalls⟩ := mc_playing_calls c b.deal decl w0 w i1 i2 play hw0 hdecl hplayR hpp
    (hok decl.partner) more (.tuple (boards.map encBoardSetting))
  obtain ⟨fb, hfb⟩ : ∃ fb, c.finalBid = some fb := by
    cases hx : c.finalBid with
    | none => simp [Contract.isPassedOut, hx] at hpo
    | some fb => exact ⟨fb, rfl⟩
  have hle := mc_taken_le c b.deal decl _ w0 w i1 i2 play hw0 hplayR
  refine mc_board_of_play sc F k n b i i1 i2 bid play s c (some w) playOps (encHistory c w.base.history)
    (.int (declTricks decl w)) ((calcScore c (declTricks decl w)).getD 0) hbidR hc hmsgs hok boards h1 hb more hplayops ?_
    (mc_record_played sc b s.history.reverse c fb decl hfb hdecl w)
  intro f0 env out T TS hf0 hself hc1 hcards1
  exact mc_play_played f0 env c hpo i1 i2 _ _ _ more _ _ (encHistory c w.base.history) (declTricks decl w)
    ((calcScore c (declTricks decl w)).getD 0) playOps (encContract c) hself hc1 hcards1
    (fun j => hplaycalls f0 (by omega) _ _ _ j)
    (fun j => mc_calc_score_call c fb decl hfb hdecl (declTricks decl w) hle (f0 + j + 1) (by omega))

end

section
open Bridge Bridge.Py Bridge.Generated.PyCore Bridge.Translated.MainA Bridge.Translated.MainB

/-! ## (1) one iteration of the board loop -/

/-- the parse hypotheses of one board (those of `main_bidding_translated` and `main_playing_translated`): the texts the
auction consumes are parsed by the translated `remove_alert_word` / `parse_bid` as the model parses them (`BidMsgsOK`, at
every fuel from `F` on), and — when the board is played — the texts the play consumes are parsed by the translated
`parse_card` as the model parses them (`PlayParses`) -/
def BoardParses (F : Nat) (b : BoardSetting) (i : MainIn) : Prop :=
  BidMsgsOK F 321 (AState.init b.dealer b.vul) i ∧
  ∀ bid s i1 c decl w0, mainBiddingR 321 (AState.init b.dealer b.vul) i = some (bid, s, i1) → s.contract = some c →
    c.isPassedOut = false → c.declarer = some decl → WithHands.init c b.deal = some w0 →
    PlayParses decl (cardsMsg "Dummy".toList (b.deal decl.partner)) 13 1 w0 i1

/-- ONE ITERATION OF `for board_number in range(1, max_board_num)` (`mcBoardBody`, extracted from
`m_MainThread_run.body`) IS `mainBoardR`: for the board `b` = `board_settings[k-1]` with board number `k` of `n` boards
(`max_board_num = n + 1`; the last board is `k = n`), on an environment in which `self` is the thread on the streams `i`,
`board_number = k`, `max_board_num = n + 1`, `ns_team_name` / `ew_team_name` the scenario's names — when the model runs
the board (`mainBoardR sc k (k = n) b i = some (acts, i')`), the body runs to its end (`break` on the last board), leaves
the streams `i'`, the table advanced by the two barrier waits of `deal`, and has performed `opsS` where
`stripSleep opsS` followed by `lastOps` (the `emit close` and the four `End of session` puts, which the code performs
AFTER the loop and the model counts with the last board) is `encMainActs encRecord acts`. -/
theorem mc_board (sc : Scenario) (F k n : Nat) (b : BoardSetting) (i i' : MainIn) (acts : MainActs)
    (hm : mainBoardR sc k (decide (k = n)) b i = some (acts, i'))
    (hparse : BoardParses F b i)
    (hok : ∀ p, ∀ c ∈ b.deal p, 2 ≤ c.rank ∧ c.rank ≤ 14)
    (boards : List BoardSetting) (h1 : 1 ≤ k) (hb : boards[k-1]? = some b)
    (more : List (Val × Val)) :
    ∃ opsS, encMainActs encRecord acts = some (stripSleep opsS ++ lastOps (k = n)) ∧
      ∀ (env : Env) (out : List Val) (table : Val) (tables : List Val),
      lookup env K.self
        = some (encMainThread (encMainWorld i out table tables more) (.tuple (boards.map encBoardSetting))) →
      lookup env n_board_number = some (.int k) →
      lookup env n_max_board_num = some (.int ((n : Int) + 1)) →
      lookup env n_ns_team_name = some (.str sc.nsName) →
      lookup env n_ew_team_name = some (.str sc.ewName) →
      ∀ f, F + 700 ≤ f → ∃ env', exec P f env mcBoardBody = .ok (env', if k = n then .brk else .next) ∧
        lookup env' K.self = some (encMainThread (encMainWorld i' (out ++ opsS) (tableAfterDeal table tables).1
          (tableAfterDeal table tables).2 more) (.tuple (boards.map encBoardSetting))) ∧
        Frame boardVars env env' := by
  obtain ⟨bid, s, i1, c, hbidR, hc, hcase⟩ := mainBoardR_inv sc k _ b i i' acts hm
  rcases hcase with ⟨hpo, rfl, rfl⟩ | ⟨hpo, decl, w0, play, w, hdecl, hw0, hplayR, rfl⟩
  · exact mc_board_passed_out sc F k n b i i' bid s c hbidR hc hpo hparse.1 hok boards h1 hb more
  · exact mc_board_played sc F k n b i i1 i' bid play s c decl w0 w hbidR hc hpo hdecl hw0 hplayR hparse.1
      (hparse.2 bid s i1 c decl w0 hbidR hc hpo hdecl hw0) hok boards h1 hb more

end

end Bridge.Translated.MainC
