import BridgeVerif.Translated.PbnWriterLemmasB
/-! Translated PBN writer = model: `write_board_result` (the fifteen tag pairs one statement after the other: each is a
`write_tag_pair` of a text that does not depend on what has been written so far) -/
namespace Bridge.Translated
open Bridge Bridge.Py Bridge.Generated.PyCore

/-- the 13 arguments of `write_board_result` after `self`, in parameter order -/
def resultArgs (r : PbnResult) : List Val :=
  [.str r.event, .str r.site, encDate (dateStr r.year r.month r.day), .int r.boardNum, .str r.west, .str r.north,
   .str r.east, .str r.south, encSeat r.dealer, encHands r.deal, encScoring r.scoring, encContract r.contract,
   encOpt Val.int r.tricks]

/-- what the code (as interpreted) needs of the arguments of `write_board_result` -/
structure PbnWF (r : PbnResult) : Prop where
  /-- a 13-card hand holds ranks 2..14 (`Card.rank_int_to_str` raises outside, the model prints `?`; the sort) -/
  deal : ∀ p, (r.deal p).length = 13 → ∀ c ∈ r.deal p, 2 ≤ c.rank ∧ c.rank ≤ 14
  /-- a turn of the `while` loop of `write_line` costs a level of fuel: the texts fit the top-level fuel.  The two
  numbers are printed exactly whatever their size (`pw_intStr_eq`); only the LENGTH of their decimal text is bounded
  (`pw_intRepr_len`: `|n| < 10 ^ f` gives `f + 2` characters at most) -/
  board : (intRepr r.boardNum).length ≤ 199000
  tricks : ∀ n, r.tricks = some n → (intRepr n).length ≤ 199000
  event : r.event.length ≤ 199000
  site : r.site.length ≤ 199000
  date : (dateStr r.year r.month r.day).length ≤ 199000
  west : r.west.length ≤ 199000
  north : r.north.length ≤ 199000
  east : r.east.length ≤ 199000
  south : r.south.length ≤ 199000

theorem pw_mth_wbr :
    P.method? classDepth n_PbnWriter n_write_board_result = some (n_PbnWriter, m_PbnWriter_write_board_result) := rfl
theorem pw_mth_pbn_format : P.method? classDepth n_Vul n_pbn_format = some (n_Vul, m_Vul_pbn_format) := rfl
theorem pw_pbn_format_call (f : Nat) (v : Vul) :
    callF (mkRec P (f + 10)) m_Vul_pbn_format [encVul v] = .ok (.str (vulPbn v), encVul v) := by
  rw [callF_def]
  simp only [m_Vul_pbn_format, bindParams, Option.map]
  cases v <;> ppsimp [encVul, Vul.value, beq_int, jw_vul_name] <;> rfl
theorem pw_pbn_format_meth (f : Nat) (v : Vul) :
    methF (mkRec P (f + 11)) P (encVul v) n_pbn_format [] = .ok (.str (vulPbn v), encVul v) := by
  have e : methF (mkRec P (f + 11)) P (encVul v) n_pbn_format []
      = callF (mkRec P (f + 10)) m_Vul_pbn_format [encVul v] := rfl
  rw [e, pw_pbn_format_call]
theorem pw_mth_to_pbn : P.method? classDepth n_Hands n_to_pbn = some (n_Hands, m_Hands_to_pbn) := rfl
theorem pw_to_pbn_meth (f : Nat) (h : Hands) (first : Seat)
    (hr : ∀ p, (h p).length = 13 → ∀ c ∈ h p, 2 ≤ c.rank ∧ c.rank ≤ 14) :
    methF (mkRec P (f + 61)) P (encHands h) n_to_pbn [encSeat first]
      = match toPbn? h first with
        | some s => .ok (.str s, encHands h)
        | none => .error (.exc K.AssertionError) := by
  simp only [encHands, Py.meth_obj, callMethod, pw_mth_to_pbn, call_succ]
  exact hands_to_pbn_call f h first hr

theorem pw_str_int (r : Rec) (n : Int) : builtinF r P .str [.int n] = .ok (.str (intStr n)) := rfl

/-- `write_tag_pair` inside `write_board_result` -/
theorem pw_tp (f : Nat) (chunks : List Str) (c : Char) (rest content : Str) (hu : isUpper c = true)
    (hr : rest.length ≤ 20) (hc : content.length ≤ 199000) :
    callF (mkRec P (f + 828)) m_PbnWriter_write_tag_pair
        [.obj n_PbnWriter [(n_writer, encFile chunks)], .str (c :: rest), .str content]
      = .ok (.none, .obj n_PbnWriter [(n_writer, encFile (chunks ++ writeTagPair (c :: rest) content))]) :=
  pw_tag_pair_call (f + 803) chunks c rest content hu (by omega)

/-- the parameters of `write_board_result` after `self` -/
def wbrTail (r : PbnResult) : Env :=
  [(n_event, .str r.event), (n_site, .str r.site), (n_date, encDate (dateStr r.year r.month r.day)),
   (n_board_num, .int r.boardNum), (n_west_player, .str r.west), (n_north_player, .str r.north),
   (n_east_player, .str r.east), (n_south_player, .str r.south), (n_dealer, encSeat r.dealer), (n_deal, encHands r.deal),
   (n_scoring, encScoring r.scoring), (n_contract, encContract r.contract), (n_taken_tricks, encOpt Val.int r.tricks)]

/-- inside `write_board_result` the expression `e` evaluates to the text `x`, whatever has been written so far -/
def WbrVal (f : Nat) (r : PbnResult) (e : Expr) (x : Str) : Prop :=
  ∀ sv, evalF (mkRec P (f + 828)) P ((K.self, sv) :: wbrTail r) e = .ok (.str x)

/-- a statement `self.write_tag_pair(tag, e)` of `write_board_result`; `ss`: the statements that follow -/
theorem pw_wbr_tag {f : Nat} {r : PbnResult} {e : Expr} {x : Str} (he : WbrVal f r e x) (hx : x.length ≤ 199000)
    {c : Char} {rest : Str} (hu : isUpper c = true) (hr : rest.length ≤ 20) {chunks : List Str} {ss : List Stmt} :
    execF (mkRec P (f + 829)) P ((K.self, .obj n_PbnWriter [(n_writer, encFile chunks)]) :: wbrTail r)
        (.callMut (.var K.self) n_write_tag_pair [.const (.str (c :: rest)), e] :: ss)
      = execF (mkRec P (f + 829)) P
          ((K.self, .obj n_PbnWriter [(n_writer, encFile (chunks ++ writeTagPair (c :: rest) x))]) :: wbrTail r) ss := by
  have htp := pw_tp f chunks c rest x hu hr hx
  refine execF_cons_next _ ?_
  simp only [execStmtF, Target.toExpr, eval_succ, mapR, bind_ok, pure_eq]
  rw [he]
  ppsimp [pw_mth_tag_pair, htp]

theorem pw_wbr_tag_err {f : Nat} {r : PbnResult} {e : Expr} {err : Err}
    (he : ∀ sv, evalF (mkRec P (f + 828)) P ((K.self, sv) :: wbrTail r) e = .error err) {sv : Val} {tag : Str}
    {ss : List Stmt} :
    execF (mkRec P (f + 829)) P ((K.self, sv) :: wbrTail r)
        (.callMut (.var K.self) n_write_tag_pair [.const (.str tag), e] :: ss) = .error err := by
  simp only [execF, execStmtF, Target.toExpr, eval_succ, mapR, bind_ok, pure_eq]
  rw [he]
  ppsimp []

theorem pw_foldl_tags (tags : List (Str × Str)) : ∀ chunks : List Str,
    tags.foldl (fun acc tc => acc ++ writeTagPair tc.1 tc.2) chunks
      = chunks ++ tags.flatMap fun (t, c) => writeTagPair t c := by
  induction tags with
  | nil => intro chunks; simp only [List.foldl_nil, List.flatMap_nil, List.append_nil]
  | cons tc tags ih => intro chunks; rw [List.foldl_cons, ih, List.flatMap_cons, List.append_assoc]

/-- `write_board_result` at an arbitrary (sufficient) fuel -/
theorem pw_board_result_call (f : Nat) (chunks : List Str) (r : PbnResult) (hwf : PbnWF r) :
    callF (mkRec P (f + 830)) m_PbnWriter_write_board_result
        (.obj n_PbnWriter [(n_writer, encFile chunks)] :: resultArgs r)
      = match writeBoardResult? r with
        | some cs => .ok (.none, .obj n_PbnWriter [(n_writer, encFile (chunks ++ cs))])
        | none => .error (.exc K.AssertionError) := by
  have hbind : bindParams m_PbnWriter_write_board_result.params m_PbnWriter_write_board_result.defaults
      (.obj n_PbnWriter [(n_writer, encFile chunks)] :: resultArgs r)
      = some ((K.self, .obj n_PbnWriter [(n_writer, encFile chunks)]) :: wbrTail r) := rfl
  have e0 : WbrVal f r (.var n_event) r.event := fun _ => rfl
  have e1 : WbrVal f r (.var n_site) r.site := fun _ => rfl
  have e2 : WbrVal f r (.meth (.var n_date) n_strftime [.const (.str ['%', 'Y', '.', '%', 'm', '.', '%', 'd'])])
      (dateStr r.year r.month r.day) := fun _ => rfl
  have e3 : ∀ sv, evalF (mkRec P (f + 828)) P ((K.self, sv) :: wbrTail r) (.cmp .gt (.var n_board_num) (.const (.int 0)))
      = .ok (.bool (decide (r.boardNum > 0))) := fun _ => rfl
  have e4 : WbrVal f r (.builtin .str [.var n_board_num]) (intRepr r.boardNum) :=
    fun sv => by simp only [wbrTail]; ppsimp [pw_str_int, pw_intStr_eq]
  have e5 : WbrVal f r (.var n_west_player) r.west := fun _ => rfl
  have e6 : WbrVal f r (.var n_north_player) r.north := fun _ => rfl
  have e7 : WbrVal f r (.var n_east_player) r.east := fun _ => rfl
  have e8 : WbrVal f r (.var n_south_player) r.south := fun _ => rfl
  have e9 : WbrVal f r (.builtin .str [.var n_dealer]) r.dealer.name :=
    fun sv => by simp only [wbrTail]; ppsimp [jw_str_seat]
  have e10 : WbrVal f r (.meth (.attr (.var n_contract) n_vul) n_pbn_format []) (vulPbn r.contract.vul) :=
    fun sv => by simp only [wbrTail]; ppsimp [jw_contract_vul, pw_pbn_format_meth]
  have e11 : ∀ sv, evalF (mkRec P (f + 828)) P ((K.self, sv) :: wbrTail r) (.meth (.var n_deal) n_to_pbn [.var n_dealer])
      = match toPbn? r.deal r.dealer with
        | some s => .ok (.str s)
        | none => .error (.exc K.AssertionError) :=
    fun sv => by
      simp only [wbrTail]
      ppsimp [pw_to_pbn_meth _ r.deal r.dealer hwf.deal]
      cases toPbn? r.deal r.dealer <;> rfl
  have e12 : WbrVal f r (.attr (.var n_scoring) K.value) r.scoring.value := fun _ => rfl
  have e13 : ∀ sv ss, execF (mkRec P (f + 829)) P ((K.self, sv) :: wbrTail r)
      (.ite (.meth (.var n_contract) n_is_passed_out []) [.assert (.cmp .is (.var n_taken_tricks) (.const .none))]
        [.assert (.cmp .isNot (.var n_taken_tricks) (.const .none))] :: ss)
      = if (r.contract.isPassedOut && r.tricks.isSome) = true then .error (.exc K.AssertionError)
        else if (!r.contract.isPassedOut && r.tricks.isNone) = true then .error (.exc K.AssertionError)
        else execF (mkRec P (f + 829)) P ((K.self, sv) :: wbrTail r) ss :=
    fun sv ss => by
      simp only [wbrTail]
      cases hp : r.contract.isPassedOut <;> cases r.tricks <;> ppsimp [jw_meth_ipo, hp, Val.beq, truthy]
  have e14 : WbrVal f r (.ifexp (.meth (.var n_contract) n_is_passed_out []) (.const (.str []))
      (.builtin .str [.attr (.var n_contract) n_declarer]))
      (if r.contract.isPassedOut then [] else seatOptStr r.contract.declarer) :=
    fun sv => by
      simp only [wbrTail]
      cases hp : r.contract.isPassedOut <;> ppsimp [jw_meth_ipo, hp, jw_contract_declarer, jw_str_optSeat]
  have e15 : WbrVal f r (.ifexp (.meth (.var n_contract) n_is_passed_out []) (.const (.str ['P', 'a', 's', 's']))
      (.builtin .str [.var n_contract])) (if r.contract.isPassedOut then "Pass".toList else contractStr r.contract) :=
    fun sv => by
      simp only [wbrTail]
      cases hp : r.contract.isPassedOut <;> ppsimp [jw_meth_ipo, hp, jw_str_contract, String.reduceToList]
  have e16 : (!r.contract.isPassedOut && r.tricks.isNone) = false →
      WbrVal f r (.ifexp (.meth (.var n_contract) n_is_passed_out []) (.const (.str [])) (.builtin .str [.var n_taken_tricks]))
        (match r.tricks with | some n => if r.contract.isPassedOut then [] else intRepr n | none => []) :=
    fun h sv => by
      simp only [wbrTail]
      cases hp : r.contract.isPassedOut <;> cases ht : r.tricks <;> rw [hp, ht] at h
      · cases h
      all_goals ppsimp [jw_meth_ipo, hp, pw_str_int, pw_intStr_eq]
  rw [callF_def, hbind]
  simp only [m_PbnWriter_write_board_result, exec_succ]
  rw [pw_wbr_tag e0 hwf.event rfl (by decide), pw_wbr_tag e1 hwf.site rfl (by decide),
    pw_wbr_tag e2 hwf.date rfl (by decide), pw_execF_assert _ _ _ _ _ (e3 _), Py.truthy_bool]
  by_cases hb : r.boardNum ≤ 0
  · have hb' : ¬ r.boardNum > 0 := by omega
    simp only [writeBoardResult?, resultTags?, hb, if_true, Option.map, decide_eq_false hb', Bool.false_eq_true, if_false]
    rfl
  have hb' : r.boardNum > 0 := by omega
  rw [decide_eq_true hb', if_pos rfl, pw_wbr_tag e4 hwf.board rfl (by decide), pw_wbr_tag e5 hwf.west rfl (by decide),
    pw_wbr_tag e6 hwf.north rfl (by decide), pw_wbr_tag e7 hwf.east rfl (by decide),
    pw_wbr_tag e8 hwf.south rfl (by decide), pw_wbr_tag e9 (pw_seat_name_len _) rfl (by decide),
    pw_wbr_tag e10 (pw_vulPbn_len _) rfl (by decide)]
  cases hd : toPbn? r.deal r.dealer with
  | none =>
    rw [hd] at e11
    rw [pw_wbr_tag_err e11]
    simp only [writeBoardResult?, resultTags?, hb, if_false, hd, Option.map]
    rfl
  | some dealText =>
    rw [hd] at e11
    rw [pw_wbr_tag e11 (pw_toPbn_len _ _ _ hd) rfl (by decide), pw_wbr_tag e12 (pw_scoring_len _) rfl (by decide), e13]
    simp only [writeBoardResult?, resultTags?, hb, if_false, hd]
    cases h1 : (r.contract.isPassedOut && r.tricks.isSome)
    case true => simp only [if_true, Option.map]; rfl
    cases h2 : (!r.contract.isPassedOut && r.tricks.isNone)
    case true => simp only [Bool.false_eq_true, if_false, if_true, Option.map]; rfl
    have l14 : (if r.contract.isPassedOut = true then [] else seatOptStr r.contract.declarer).length ≤ 199000 := by
      split
      · exact Nat.zero_le _
      · exact pw_seatOpt_len _
    have l15 : (if r.contract.isPassedOut = true then "Pass".toList else contractStr r.contract).length ≤ 199000 := by
      split
      · decide
      · exact pw_contractStr_len _
    have l16 : (match r.tricks with | some n => if r.contract.isPassedOut = true then [] else intRepr n | none => []).length
        ≤ 199000 := by
      cases ht : r.tricks with
      | none => exact Nat.zero_le _
      | some n =>
        simp only
        split
        · exact Nat.zero_le _
        · exact hwf.tricks n ht
    simp only [Bool.false_eq_true, if_false, Option.map]
    rw [pw_wbr_tag e14 l14 rfl (by decide), pw_wbr_tag e15 l15 rfl (by decide), pw_wbr_tag (e16 h2) l16 rfl (by decide),
      ← List.append_assoc, ← pw_foldl_tags]
    -- the characters of the fifteen tag names by `String.toList_ofList`, not by evaluation
    repeat rw [String.toList_ofList]
    ppsimp [jw_file_write_meth]
    rfl

end Bridge.Translated
