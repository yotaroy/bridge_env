import BridgeVerif.Translated.ThreadsClientGLemmasA
import BridgeVerif.Translated.ThreadsClientF
import BridgeVerif.Translated.ThreadsClientHands
import BridgeVerif.Translated.ThreadsMainE
/-!
# Towards the closed bundled-client capstone (B): every message of the session's `s2c` stream is `MsgGood`

* `msgGood_of_ascii` : an ASCII message that is not a hand message (`parseCards?` refuses it for the five names) is
  `MsgGood 31` — from the regular-expression theorems for `parse_board`, `parse_bid`, `parse_card`,
  `parse_leader_message`;
* `msgGood_cardsMsg` : the hand message `cardsMsg name hand` of EVERY hand `HandOK`, each of the five names;
* a text a player worded that the model reads as a call / a card of seat `a` begins with `a`'s name and a blank, hence is
  not a hand message (`noCards_of_seat_prefix`): relayed calls and cards need only be ASCII;
* `board_stream_good`, `boards_stream_good` : every message of `(boardsPhases sc k boards).flatMap (s2cOf p)`.
-/
namespace Bridge.Translated.ClientG
open Bridge Bridge.Py Bridge.Generated.PyCore Bridge.Translated Bridge.Translated.ClientA Bridge.Translated.ClientB
open Bridge.Translated.ClientC Bridge.Translated.ClientE Bridge.RegexMsgHand Bridge.Translated.MsgParsers

/-! ## two literal prefixes of one text -/
/-- the two patterns differ (after case folding) at a position both have -/
def clash2 : List Char → List Char → Bool
  | a :: x, b :: y => !(foldC a == foldC b) || clash2 x y
  | _, _ => false

theorem strip_two : ∀ (x y r t : List Char), stripPrefixCI x r = some t → clash2 x y = true →
    stripPrefixCI y r = none := by
  intro x
  induction x with
  | nil => intro y r t _ hc; simp [clash2] at hc
  | cons a x ih =>
    intro y r t hs hc
    cases y with
    | nil => simp [clash2] at hc
    | cons b y =>
      cases r with
      | nil => simp [stripPrefixCI] at hs
      | cons c r =>
        simp only [stripPrefixCI] at hs ⊢
        by_cases hac : eqCI a c = true
        · rw [if_pos hac] at hs
          by_cases hbc : eqCI b c = true
          · rw [if_pos hbc]
            refine ih y r t hs ?_
            simp only [eqCI, beq_iff_eq] at hac hbc
            simp only [clash2, hac, hbc, beq_self_eq_true, Bool.not_true, Bool.false_or] at hc
            exact hc
          · rw [if_neg hbc]
        · rw [if_neg hac] at hs; cases hs

/-- a text that begins with `x`, where `x` clashes with every `<name>'s cards : `, is no hand message -/
theorem noCards_of_prefix (x m t : List Char) (h : stripPrefixCI x m = some t)
    (hc : ∀ name ∈ cardNames, clash2 x (name ++ "'s cards : ".toList) = true) :
    ∀ name ∈ cardNames, parseCards? m name = none := by
  intro name hn
  unfold parseCards?
  rw [strip_two x _ m t h (hc name hn)]
  rfl

theorem seat_clash : ∀ a : Seat, ∀ name ∈ cardNames, clash2 (a.formal ++ [' ']) (name ++ "'s cards : ".toList) = true := by
  intro a; cases a <;> decide +kernel

/-- a text that begins with a seat's name and a blank is no hand message -/
theorem noCards_of_seat_prefix (a : Seat) (m t : List Char) (h : stripPrefixCI (a.formal ++ [' ']) m = some t) :
    ∀ name ∈ cardNames, parseCards? m name = none :=
  noCards_of_prefix _ m t h (seat_clash a)

theorem strip_left {x y r t : List Char} (h : stripPrefixCI (x ++ y) r = some t) : ∃ t', stripPrefixCI x r = some t' := by
  rw [strip_append] at h
  cases hx : stripPrefixCI x r with
  | none => rw [hx] at h; cases h
  | some t' => exact ⟨t', rfl⟩

theorem parseBid_prefix (r name : List Char) (c : Call) (h : parseBid? r name = some c) :
    ∃ t, stripPrefixCI (name ++ [' ']) r = some t := by
  rw [mp_parseBid_eq] at h
  cases h1 : stripPrefixCI (name ++ " bids ".toList) r with
  | some t =>
    have e : name ++ " bids ".toList = (name ++ [' ']) ++ "bids ".toList := by simp
    rw [e] at h1
    exact strip_left h1
  | none =>
    rw [h1] at h
    simp only [Option.bind_none] at h
    obtain ⟨t, ht, _⟩ := mp_wordCall_some r name c h
    exact ⟨t, ht⟩

theorem parseCard_prefix (m : List Char) (a : Seat) (c : Card) (h : parseCard? m a = some c) :
    (∃ t, stripPrefixCI (a.formal ++ [' ']) m = some t) ∧ c.ok = true := by
  obtain ⟨r, x, y, t, rk, su, hs, _, hmk, _⟩ := mp_parseCard_some m a c h
  have e : a.formal ++ " plays ".toList = (a.formal ++ [' ']) ++ "plays ".toList := by simp
  rw [e] at hs
  exact ⟨strip_left hs, (mp_card_ok rk su c hmk).2⟩

/-! ## ASCII messages that are not hand messages -/
theorem dummy_mem : ['D', 'u', 'm', 'm', 'y'] ∈ cardNames := by decide

theorem msgGood_of_ascii (p : Seat) (m : Text) (ha : ∀ x ∈ m, x.toNat < 128)
    (hn : ∀ name ∈ cardNames, parseCards? m name = none) : MsgGood 31 p m where
  board := dealParses_board_nodigit m fun x hx => Or.inl (ha x hx)
  own := fun t ht => by rw [hn _ (formal_mem_cardNames p)] at ht; cases ht
  dummy := fun t ht => by rw [hn _ dummy_mem] at ht; cases ht
  bid := fun a c h f hf => parse_bid_translated_ascii m ha a c h f (by omega)
  card := fun a c h f hf => by rw [parse_card_translated_ascii m ha a c h f (by omega)]; rfl
  leader := playParses_leader_all ⟨[m], [], []⟩ m List.mem_cons_self

/-- a relayed call: ASCII, read as a call of some seat -/
theorem msgGood_relayed_call (p a : Seat) (m : Text) (c : Call) (ha : ∀ x ∈ m, x.toNat < 128)
    (h : parseBid? m a.formal = some c) : MsgGood 31 p m := by
  obtain ⟨t, ht⟩ := parseBid_prefix m a.formal c h
  exact msgGood_of_ascii p m ha (noCards_of_seat_prefix a m t ht)

/-- a relayed card: ASCII, read as a card of some seat -/
theorem msgGood_relayed_card (p a : Seat) (m : Text) (c : Card) (ha : ∀ x ∈ m, x.toNat < 128)
    (h : parseCard? m a = some c) : MsgGood 31 p m := by
  obtain ⟨⟨t, ht⟩, _⟩ := parseCard_prefix m a c h
  exact msgGood_of_ascii p m ha (noCards_of_seat_prefix a m t ht)

/-! ## what the table manager words itself -/
theorem msgGood_start (p : Seat) : MsgGood 31 p MSG_START :=
  msgGood_of_ascii p _ (by decide +kernel) (by decide +kernel)
theorem msgGood_end (p : Seat) : MsgGood 31 p MSG_END :=
  msgGood_of_ascii p _ (by decide +kernel) (by decide +kernel)
theorem msgGood_dummy_lead (p : Seat) : MsgGood 31 p "Dummy to lead".toList :=
  msgGood_of_ascii p _ (by decide +kernel) (by decide +kernel)
theorem msgGood_seat_lead (p a : Seat) : MsgGood 31 p (a.formal ++ " to lead".toList) :=
  msgGood_of_ascii p _ (by cases a <;> decide +kernel) (by cases a <;> decide +kernel)

theorem msgGood_header (p : Seat) (n : Nat) (dealer : Seat) (v : Vul) : MsgGood 31 p (boardHeader n dealer v) := by
  have hs : stripPrefixCI "Board number ".toList (boardHeader n dealer v) =
      some (natStr n ++ ". Dealer ".toList ++ dealer.formal ++ ". ".toList ++ convertVul v ++ " vulnerable.".toList) := by
    unfold boardHeader
    simp only [List.append_assoc]
    exact strip_self _ _
  exact msgGood_of_ascii p _ (boardHeader_ascii n dealer v) (noCards_of_prefix _ _ _ hs (by decide +kernel))

/-! ## the hand messages -/
theorem cardsMsg_ascii (name : List Char) (hn : name ∈ cardNames) (hand : List Card) :
    ∀ x ∈ cardsMsg name hand, x.toNat < 128 := by
  have c1 : ∀ name ∈ cardNames, ∀ x ∈ name ++ "'s cards : ".toList, x.toNat < 128 := by decide +kernel
  have c2 : ∀ x ∈ ClientHands.msgChars, x.toNat < 128 := by decide +kernel
  intro x hx
  unfold cardsMsg at hx
  rw [List.mem_append] at hx
  rcases hx with hx | hx
  · exact c1 name hn x hx
  · exact c2 x (ClientHands.handToStr_chars hand x hx)

theorem name_clash : ∀ name ∈ cardNames, ∀ name' ∈ cardNames, name ≠ name' →
    clash2 (name ++ "'s cards : ".toList) (name' ++ "'s cards : ".toList) = true := by decide +kernel

theorem seat_name_clash : ∀ a : Seat, ∀ name ∈ cardNames,
    clash2 (name ++ "'s cards : ".toList) (a.formal ++ [' ']) = true := by
  intro a; cases a <;> decide +kernel

/-- the hand message `cardsMsg name hand` of every hand, each of the five names -/
theorem msgGood_cardsMsg (p : Seat) (name : List Char) (hn : name ∈ cardNames) (hand : List Card) (hok : HandOK hand) :
    MsgGood 31 p (cardsMsg name hand) := by
  have ha := cardsMsg_ascii name hn hand
  obtain ⟨h1, h2, _, h4, h5⟩ := ClientHands.hand_message_translated name hn hand hok
  have hstrip : stripPrefixCI (name ++ "'s cards : ".toList) (cardsMsg name hand) = some (handToStr hand) := by
    unfold cardsMsg; exact strip_self _ _
  -- read for a name: the same name, or refused
  have hcards : ∀ name' ∈ cardNames, ∀ t, parseCards? (cardsMsg name hand) name' = some t →
      Returns 31 m_Client_parse_cards [.str (cardsMsg name hand), .str name'] (.str t) ∧
      ∀ dh, parseHand? t = some dh → ∃ hb, Returns 31 m_Client_parse_hand [.str t] (.tuple [encCards dh, hb]) := by
    intro name' hn' t ht
    by_cases e : name = name'
    · subst e
      rw [h1] at ht
      cases ht
      refine ⟨fun f hf => by rw [h4 f (by omega)]; rfl, fun dh hdh => ?_⟩
      rw [h2] at hdh
      cases hdh
      exact ⟨_, fun f hf => by rw [h5 f (by omega)]; rfl⟩
    · have : parseCards? (cardsMsg name hand) name' = none := by
        unfold parseCards?
        rw [strip_two _ _ _ _ hstrip (name_clash name hn name' hn' e)]
        rfl
      rw [this] at ht; cases ht
  have hseat : ∀ a : Seat, stripPrefixCI (a.formal ++ [' ']) (cardsMsg name hand) = none :=
    fun a => strip_two _ _ _ _ hstrip (seat_name_clash a name hn)
  exact
    { board := dealParses_board_nodigit _ fun x hx => Or.inl (ha x hx)
      own := hcards _ (formal_mem_cardNames p)
      dummy := hcards _ dummy_mem
      bid := fun a c h f hf => parse_bid_translated_ascii _ ha a c h f (by omega)
      card := fun a c h f hf => by rw [parse_card_translated_ascii _ ha a c h f (by omega)]; rfl
      leader := playParses_leader_all ⟨[cardsMsg name hand], [], []⟩ _ List.mem_cons_self }

theorem MsgGood.mono {N M : Nat} {p : Seat} {m : Text} (h : MsgGood N p m) (hNM : N ≤ M) : MsgGood M p m where
  board := fun k d v hp => Returns.mono (h.board k d v hp) hNM
  own := fun t ht => ⟨Returns.mono (h.own t ht).1 hNM, fun dh hd =>
    let ⟨hb, hr⟩ := (h.own t ht).2 dh hd; ⟨hb, Returns.mono hr hNM⟩⟩
  dummy := fun t ht => ⟨Returns.mono (h.dummy t ht).1 hNM, fun dh hd =>
    let ⟨hb, hr⟩ := (h.dummy t ht).2 dh hd; ⟨hb, Returns.mono hr hNM⟩⟩
  bid := fun a c hp => Returns.mono (h.bid a c hp) hNM
  card := fun a c hp => Returns.mono (h.card a c hp) hNM
  leader := fun d l hp => Returns.mono (h.leader d l hp) hNM

/-! ## the messages of the phases -/
/-- the relayed calls -/
theorem calls_stream_good (p d : Seat) : ∀ (l : List (Call × Text)) (j : Nat),
    (∀ x ∈ l, (∃ (a : Seat) (c : Call), parseBid? (preprocessBid x.2) a.formal = some c) ∧
      ∀ y ∈ preprocessBid x.2, y.toNat < 128) →
    ∀ m ∈ (callPhases d j l).flatMap (s2cOf p), MsgGood 31 p m := by
  intro l
  induction l with
  | nil => intro j _ m hm; simp [callPhases] at hm
  | cons x r ih =>
    intro j h m hm
    obtain ⟨c, text⟩ := x
    simp only [callPhases, List.flatMap_cons, s2cOf_call, List.mem_append] at hm
    rcases hm with hm | hm
    · split at hm
      · cases hm
      · simp only [List.mem_singleton] at hm
        subst hm
        obtain ⟨⟨a, c', hp⟩, ha⟩ := h (c, text) List.mem_cons_self
        exact msgGood_relayed_call p a _ c' ha hp
    · exact ih (j + 1) (fun x hx => h x (List.mem_cons_of_mem _ hx)) m hm

/-- the lead prompts, the relayed cards, dummy's cards -/
theorem cards_stream_good (p d : Seat) (deal : Hands) (hok : HandOK (deal d.partner)) :
    ∀ (l : List (Card × Text)) (s : PState) (j : Nat),
    (∀ x ∈ l, (∃ (a : Seat) (c : Card), parseCard? x.2 a = some c) ∧ ∀ y ∈ x.2, y.toNat < 128) →
    ∀ m ∈ (cardPhases d deal s j l).flatMap (s2cOf p), MsgGood 31 p m := by
  intro l
  induction l with
  | nil => intro s j _ m hm; simp [cardPhases] at hm
  | cons x r ih =>
    intro s j h m hm
    obtain ⟨c, text⟩ := x
    simp only [cardPhases, List.flatMap_cons, s2cOf_card3, List.mem_append] at hm
    rcases hm with (hm | hm | hm) | hm
    · split at hm
      · simp only [List.mem_singleton] at hm
        subst hm
        split
        · exact msgGood_dummy_lead p
        · exact msgGood_seat_lead p _
      · cases hm
    · split at hm
      · cases hm
      · simp only [List.mem_singleton] at hm
        subst hm
        obtain ⟨⟨a, c', hp⟩, ha⟩ := h _ List.mem_cons_self
        exact msgGood_relayed_card p a _ c' ha hp
    · split at hm
      · simp only [List.mem_singleton] at hm
        subst hm
        exact msgGood_cardsMsg p _ dummy_mem _ hok
      · cases hm
    · exact ih _ (j + 1) (fun x hx => h x (List.mem_cons_of_mem _ hx)) m hm

/-- what is assumed of a board: the texts mean what was decided (`TextsConform`), the hands are valid and duplicate-free,
the texts the players worded are ASCII -/
structure BoardTexts (b : BoardSetting) (d : Decisions) : Prop where
  texts : TextsConform b d
  hands : ∀ q, HandOK (b.deal q)
  calls : ∀ x ∈ d.calls, ∀ y ∈ x.2, y.toNat < 128
  cards : ∀ x ∈ d.cards, ∀ y ∈ x.2, y.toNat < 128

theorem preprocess_ascii (m : List Char) (h : ∀ y ∈ m, y.toNat < 128) : ∀ y ∈ preprocessBid m, y.toNat < 128 := by
  intro x hx
  unfold preprocessBid at hx
  split at hx
  · exact h x (MainE.removeAlertAux_mem _ _ _ hx)
  · exact h x hx

/-- every message of a board -/
theorem board_stream_good (sc : Scenario) (p : Seat) (k : Nat) (last : Bool) (b : BoardSetting) (d : Decisions)
    (hb : BoardTexts b d) : ∀ m ∈ (boardPhases sc k last b d).flatMap (s2cOf p), MsgGood 31 p m := by
  intro m hm
  rw [cl_boardPhases_eq] at hm
  simp only [List.flatMap_cons, List.flatMap_append, List.flatMap_nil, s2cOf_deal, s2cOf_auctionEnd, s2cOf_clFinal,
    List.mem_append, List.mem_cons, List.not_mem_nil, or_false, List.nil_append] at hm
  rcases hm with (hm | hm) | hm | hm | hm
  · subst hm; exact msgGood_header p _ _ _
  · subst hm; exact msgGood_cardsMsg p _ (formal_mem_cardNames p) _ (hb.hands p)
  · refine calls_stream_good p b.dealer d.calls 0 (fun x hx => ?_) m hm
    obtain ⟨j, hj, rfl⟩ := List.getElem_of_mem hx
    exact ⟨⟨_, _, hb.texts.calls j hj⟩, preprocess_ascii _ (hb.calls _ hx)⟩
  · unfold clPlayPhases at hm
    split at hm
    · rename_i s0 decl hs0 hdecl
      simp only [List.flatMap_cons, s2cOf_playStart, List.nil_append] at hm
      refine cards_stream_good p decl b.deal (hb.hands _) d.cards s0 0 (fun x hx => ?_) m hm
      obtain ⟨j, hj, rfl⟩ := List.getElem_of_mem hx
      exact ⟨⟨_, _, hb.texts.cards s0 hs0 j hj⟩, hb.cards _ hx⟩
    · simp at hm
  · subst hm
    cases last
    · exact msgGood_start p
    · exact msgGood_end p

/-- every message of the boards -/
theorem boards_stream_good (sc : Scenario) (p : Seat) : ∀ (boards : List (BoardSetting × Decisions)) (k : Nat),
    (∀ bd ∈ boards, BoardTexts bd.1 bd.2) →
    ∀ m ∈ (boardsPhases sc k boards).flatMap (s2cOf p), MsgGood 31 p m := by
  intro boards
  induction boards with
  | nil => intro k _ m hm; simp [boardsPhases] at hm
  | cons x r ih =>
    intro k h m hm
    obtain ⟨b, d⟩ := x
    cases r with
    | nil =>
      simp only [boardsPhases] at hm
      exact board_stream_good sc p k true b d (h (b, d) List.mem_cons_self) m hm
    | cons y r' =>
      rw [boardsPhases] at hm
      · rw [List.flatMap_append, List.mem_append] at hm
        rcases hm with hm | hm
        · exact board_stream_good sc p k false b d (h (b, d) List.mem_cons_self) m hm
        · exact ih (k + 1) (fun bd hbd => h bd (List.mem_cons_of_mem _ hbd)) m hm
      · simp

/-! ## the decisions of the playing system are cards of the deck -/
theorem ownCards_mem (p decl : Seat) : ∀ (l : List (Card × Text)) (s : PState), ∀ c ∈ ownCards p decl s l,
    c ∈ l.map (·.1) := by
  intro l
  induction l with
  | nil => intro s c hc; simp [ownCards] at hc
  | cons x r ih =>
    intro s c hc
    obtain ⟨c0, t⟩ := x
    simp only [ownCards, List.mem_append] at hc
    rcases hc with hc | hc
    · split at hc
      · simp only [List.mem_singleton] at hc
        subst hc
        simp
      · cases hc
    · simp only [List.map_cons, List.mem_cons]
      exact Or.inr (ih _ c hc)

theorem boardOwnCards_ok (p : Seat) (b : BoardSetting) (d : Decisions) (ht : TextsConform b d) :
    ∀ c ∈ boardOwnCards p b d, c.ok = true := by
  intro c hc
  unfold boardOwnCards at hc
  split at hc
  · rename_i s0 decl hs0 hdecl
    have := ownCards_mem p decl d.cards s0 c hc
    obtain ⟨x, hx, rfl⟩ := List.mem_map.1 this
    obtain ⟨j, hj, rfl⟩ := List.getElem_of_mem hx
    exact (parseCard_prefix _ _ _ (ht.cards s0 hs0 j hj)).2
  · cases hc

theorem scenarioOwnCards_ok (sc : Scenario) (p : Seat) (h : ∀ bd ∈ sc.boards, TextsConform bd.1 bd.2) :
    ∀ c ∈ scenarioOwnCards sc p, c.ok = true := by
  intro c hc
  unfold scenarioOwnCards at hc
  obtain ⟨bd, hbd, hc⟩ := List.mem_flatMap.1 hc
  exact boardOwnCards_ok p bd.1 bd.2 (h bd hbd) c hc

end Bridge.Translated.ClientG
