import BridgeVerif.Translated.ThreadsMainCLemmasRun
import BridgeVerif.Translated.MsgParsersD
/-! Translated `MainThread.run`: discharging the parse hypotheses — they hold when every queued text is read alike by the
model and by the translated code (`Good`), and every plain-ASCII text is (`good_of_plain_ascii`, from
Translated/MsgParsers*.lean); the data of the examples -/
namespace Bridge.Translated.MainC
open Bridge Bridge.Py Bridge.Generated.PyCore Bridge.Translated.MainA Bridge.Translated.MainB

/-- the auction only takes messages from the streams -/
theorem mainBiddingR_mem : ∀ (n : Nat) (s : AState) (i : MainIn) (acts : MainActs) (s' : AState) (i' : MainIn),
    mainBiddingR n s i = some (acts, s', i') → ∀ p, ∀ m ∈ i' p, m ∈ i p := by
  intro n
  induction n with
  | zero => intro s i acts s' i' h; simp [mainBiddingR] at h
  | succ n ih =>
    intro s i acts s' i' h p m hm
    cases ha : s.active with
    | none =>
      simp only [mainBiddingR, ha] at h
      cases hc : s.contract with
      | none => simp [hc] at h
      | some c =>
        simp only [hc, Option.some.injEq, Prod.mk.injEq] at h
        obtain ⟨_, _, rfl⟩ := h
        exact hm
    | some a =>
      obtain ⟨msg, r, call, s1, res, rest, hi, _, _, _, hr, _⟩ := mainBiddingR_inv n s i acts s' i' a ha h
      have := ih s1 _ rest s' i' hr p m hm
      by_cases hp : p = a
      · subst hp
        simp only [if_true] at this
        rw [hi]; exact List.mem_cons_of_mem _ this
      · simpa only [hp, if_false] using this

/-- a board only takes messages from the streams -/
theorem mainBoardR_mem (sc : Scenario) (k : Nat) (last : Bool) (b : BoardSetting) (i i' : MainIn) (acts : MainActs)
    (hm : mainBoardR sc k last b i = some (acts, i')) : ∀ p, ∀ m ∈ i' p, m ∈ i p := by
  obtain ⟨bid, s, i1, c, hb, _, hcase⟩ := mainBoardR_inv sc k last b i i' acts hm
  have h1 := mainBiddingR_mem 321 _ i bid s i1 hb
  rcases hcase with ⟨_, rfl, _⟩ | ⟨_, decl, w0, play, w, _, _, hp, _⟩
  · exact h1
  · exact fun p m hm => h1 p m (mainPlayingR_mem decl _ w0 w i1 i' play hp p m hm)

/-- message `m` is read alike by the model and by the translated code, WHOEVER it is read for and whether it is consumed
by the auction (`remove_alert_word`, `parse_bid`, at every fuel from `F` on) or by the play (`parse_card`) -/
def Good (F : Nat) (m : Text) : Prop :=
  (hasAlert m = true →
    ∀ g, F ≤ g → (callFn P g m_Server_remove_alert_word [.str m]).map (·.1) = .ok (.str (preprocessBid m))) ∧
  (∀ (a : Seat) call, parseBid? (preprocessBid m) a.formal = some call → ∀ g, F ≤ g →
    (callFn P g m_MessageInterface_parse_bid [.str (preprocessBid m), .str a.formal]).map (·.1) = .ok (encCall call)) ∧
  (∀ (a : Seat) card, parseCard? m a = some card → ParsesTo m a card)

def AllGood (F : Nat) (i : MainIn) : Prop := ∀ p, ∀ m ∈ i p, Good F m

theorem allGood_of_mem {F : Nat} {i i1 : MainIn} (h : AllGood F i) (hsub : ∀ p, ∀ m ∈ i1 p, m ∈ i p) : AllGood F i1 :=
  fun p m hm => h p m (hsub p m hm)

theorem bidMsgsOK_of_good (F : Nat) : ∀ (n : Nat) (s : AState) (i : MainIn), AllGood F i → BidMsgsOK F n s i := by
  intro n
  induction n with
  | zero => intro s i _; trivial
  | succ n ih =>
    intro s i h
    simp only [BidMsgsOK]
    cases ha : s.active with
    | none => exact True.intro
    | some a =>
      simp only []
      cases hg : i.get a with
      | none => exact True.intro
      | some x =>
        obtain ⟨msg, i1⟩ := x
        obtain ⟨hm, hsub⟩ := get_mem hg
        obtain ⟨g1, g2, _⟩ := h a msg hm
        simp only []
        refine ⟨g1, ?_⟩
        cases hp : parseBid? (preprocessBid msg) a.formal with
        | none => exact True.intro
        | some call =>
          simp only []
          refine ⟨g2 a call hp, ?_⟩
          cases ht : takeBid s call with
          | error e => exact True.intro
          | ok y =>
            obtain ⟨s1, res⟩ := y
            exact ih s1 i1 (allGood_of_mem h hsub)

theorem boardParses_of_good (F : Nat) (b : BoardSetting) (i : MainIn) (h : AllGood F i) : BoardParses F b i := by
  refine ⟨bidMsgsOK_of_good F 321 _ _ h, ?_⟩
  intro bid s i1 c decl w0 hb _ _ _ _
  have hall : AllParse i := fun p m hm => (h p m hm).2.2
  exact playParses_of_all decl _ 13 1 w0 i1 (allParse_of_mem hall (mainBiddingR_mem 321 _ i bid s i1 hb))

/-- the boards, walked like `mainBoardsR`: all the parse hypotheses follow from `AllGood` of the streams -/
theorem boardsParse_of_good (sc : Scenario) (F : Nat) : ∀ (boards : List BoardSetting) (k : Nat) (i : MainIn),
    AllGood F i → BoardsParse sc F k boards i := by
  intro boards
  induction boards with
  | nil => intro k i _; trivial
  | cons b r ih =>
    intro k i h
    exact ⟨boardParses_of_good F b i h,
      fun acts i' hm => ih (k + 1) i' (allGood_of_mem h (mainBoardR_mem sc k _ b i i' acts hm))⟩

end Bridge.Translated.MainC

namespace Bridge.Translated.MainE
open Bridge Bridge.Py Bridge.Generated.PyCore
open Bridge.Translated.MainA Bridge.Translated.MainB Bridge.Translated.MainC Bridge.Translated.MsgParsers Bridge.RegexMsgBid

/-- ASCII without the four information separators U+001C..U+001F (white space for Python's `\s`, not for the model) -/
def PlainAscii (m : List Char) : Prop := ∀ x ∈ m, x.toNat < 128 ∧ ¬ (0x1C ≤ x.toNat ∧ x.toNat ≤ 0x1F)

theorem removeAlertAux_mem : ∀ (F : Nat) (s : List Char) (x : Char), x ∈ removeAlertAux F s → x ∈ s := by
  intro F
  induction F with
  | zero => intro s x h; exact h
  | succ F ih =>
    intro s x h
    cases s with
    | nil => rw [removeAlertAux_nil] at h; exact h
    | cons c r =>
      rw [removeAlertAux_succ] at h
      cases ha : alertAt (c :: r) with
      | none =>
        rw [ha] at h
        simp only [List.mem_cons] at h ⊢
        rcases h with h | h
        · exact Or.inl h
        · exact Or.inr (ih r x h)
      | some kt =>
        obtain ⟨k, t⟩ := kt
        rw [ha] at h
        have := (alertAt_spec _ _ _ ha).2.2
        have hx := ih t x h
        rw [← this] at hx
        exact List.mem_of_mem_drop hx

theorem plainAscii_preprocess (m : List Char) (h : PlainAscii m) : PlainAscii (preprocessBid m) := by
  intro x hx
  unfold preprocessBid at hx
  split at hx
  · exact h x (removeAlertAux_mem _ _ _ hx)
  · exact h x hx

/-- EVERY plain-ASCII text is read alike by the model and by the translated code, whoever it is read for -/
theorem good_of_plain_ascii (F : Nat) (hF : 22 ≤ F) (m : List Char) (h : PlainAscii m) : Good F m := by
  refine ⟨?_, ?_, ?_⟩
  · intro ha g hg
    rw [preprocessBid_of_alert m ha,
      remove_alert_word_translated_ascii m h g (by omega)]
    rfl
  · intro a call hc g hg
    obtain ⟨g', rfl⟩ : ∃ g', g = g' + 22 := ⟨g - 22, by omega⟩
    exact mp_parse_bid_call g' _ (fun x hx => (plainAscii_preprocess m h x hx).1) a call hc
  · intro a card hc
    exact parse_card_translated_ascii m (fun x hx => (h x hx).1) a card hc

instance (m : List Char) : Decidable (PlainAscii m) := by unfold PlainAscii; infer_instance

theorem allGood_of_plain_ascii (F : Nat) (hF : 22 ≤ F) (i : MainIn) (h : ∀ p, ∀ m ∈ i p, PlainAscii m) : AllGood F i :=
  fun p m hm => good_of_plain_ascii F hF m (h p m hm)

end Bridge.Translated.MainE

namespace Bridge.Translated.MainC
open Bridge Bridge.Py Bridge.Generated.PyCore Bridge.Translated.MainA Bridge.Translated.MainB Bridge.Translated.MainE

/-! ## the data of the examples -/

def exSc : Scenario := { nsName := "NS".toList, ewName := "EW".toList, boards := [] }

/-- a passed-out board: the partial deal of ThreadsMainA.lean, East deals, four passes (South's with an alert word) -/
def exPassIn : MainIn := fun p => match p with
  | .N => ["North passes".toList, "kept".toList]
  | .E => ["East passes".toList]
  | .S => ["South passes  Alert. ".toList]
  | .W => ["West passes".toList]

/-- a played board: the deal of ThreadsMainBLemmasE.lean, South deals and opens 1NT, three passes, then the thirteen tricks
of that example -/
def exPlayBoard : BoardSetting := { boardId := "2".toList, dealer := .S, vul := .none, deal := exDeal }
def exPlayIn : MainIn := fun p => match p with
  | .N => "North passes".toList :: MainB.exIn .N
  | .E => "East passes".toList :: MainB.exIn .E
  | .S => "South bids 1NT".toList :: MainB.exIn .S
  | .W => "West passes".toList :: MainB.exIn .W

theorem ex_ok_board : ∀ p, ∀ c ∈ exBoard.deal p, 2 ≤ c.rank ∧ c.rank ≤ 14 := by
  intro p c hc; cases p <;> simp [exBoard] at hc <;> (try rcases hc with rfl | rfl | rfl) <;> (try subst hc) <;> decide
theorem ex_ok_playBoard : ∀ p, ∀ c ∈ exPlayBoard.deal p, 2 ≤ c.rank ∧ c.rank ≤ 14 := by
  intro p c hc
  have : ∀ s : Suit, ∀ c ∈ suitHand s, 2 ≤ c.rank ∧ c.rank ≤ 14 := by
    intro s c hc
    simp only [suitHand, List.mem_map] at hc
    obtain ⟨r, hr, rfl⟩ := hc
    simp only [List.mem_cons, List.mem_nil_iff, or_false] at hr
    rcases hr with h | h | h | h | h | h | h | h | h | h | h | h | h <;> subst h <;> simp
  cases p <;> exact this _ c hc

theorem ex_pass_ascii : ∀ p, ∀ m ∈ exPassIn p, PlainAscii m := by
  intro p; cases p <;> decide +kernel

theorem ex_play_ascii : ∀ p, ∀ m ∈ exPlayIn p, PlainAscii m := by
  intro p m hm
  have h : m ∈ MainB.exIn p → PlainAscii m := MainB.ex_ascii p (seat_mem_all p) m
  cases p <;> rcases List.mem_cons.1 hm with rfl | hm' <;> first | exact h hm' | decide +kernel

theorem ex_pass_parses : BoardParses 40 exBoard exPassIn :=
  boardParses_of_good 40 exBoard exPassIn (allGood_of_plain_ascii 40 (by decide) _ ex_pass_ascii)
theorem ex_play_parses : BoardParses 40 exPlayBoard exPlayIn :=
  boardParses_of_good 40 exPlayBoard exPlayIn (allGood_of_plain_ascii 40 (by decide) _ ex_play_ascii)

/-- the passed-out board in the model: 57 actions, `kept` stays in North's queue -/
theorem ex_pass_run : (mainBoardR exSc 1 (decide (1 = 2)) exBoard exPassIn).map (fun x => (x.1.length, x.2 .N))
    = some (57, ["kept".toList]) := by decide +kernel
theorem ex_pass_model : (mainBoardR exSc 1 (decide (1 = 2)) exBoard exPassIn).isSome = true := by
  have h := ex_pass_run
  cases hm : mainBoardR exSc 1 (decide (1 = 2)) exBoard exPassIn with
  | none => rw [hm] at h; cases h
  | some x => rfl
theorem ex_play_model : (mainBoardR exSc 1 (decide (1 = 1)) exPlayBoard exPlayIn).isSome = true := by
  rw [show exPlayIn = fun p => exPlayIn p from rfl]
  simp only [exPlayIn, MainB.exIn]
  repeat rw [String.toList_ofList]
  decide +kernel

end Bridge.Translated.MainC
