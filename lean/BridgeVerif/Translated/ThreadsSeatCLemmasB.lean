import BridgeVerif.Translated.ThreadsSeatCLemmas
/-! the reactive models never lengthen the queue stream; one board of `seatBoardsR` (`seatBoardR`) -/
namespace Bridge.Translated.SeatC
open Bridge Bridge.Py Bridge.Generated.PyCore
open Bridge.Translated.SeatB (cardMainR cardOpenR seatTrickR_four seatTrickR_lt)

theorem getQ_len {i i' : SeatIn} {m : Text} (h : i.getQ = some (m, i')) : i'.q.length + 1 = i.q.length ∧ i'.c = i.c := by
  obtain ⟨q, c⟩ := i
  cases q with
  | nil => simp [SeatIn.getQ] at h
  | cons x r =>
    simp only [SeatIn.getQ, Option.some.injEq, Prod.mk.injEq] at h
    obtain ⟨_, rfl⟩ := h
    exact ⟨rfl, rfl⟩

theorem getC_len {i i' : SeatIn} {m : Text} (h : i.getC = some (m, i')) : i'.q = i.q := by
  obtain ⟨q, c⟩ := i
  cases c with
  | nil => simp [SeatIn.getC] at h
  | cons x r =>
    simp only [SeatIn.getC, Option.some.injEq, Prod.mk.injEq] at h
    obtain ⟨_, rfl⟩ := h
    rfl

theorem bind_some_inv {α β} {x : Option α} {k : α → Option β} {b : β} (h : x.bind k = some b) :
    ∃ a, x = some a ∧ k a = some b := Option.bind_eq_some_iff.1 h

theorem seatBiddingR_len (p : Seat) : ∀ (n : Nat) (i i' : SeatIn) (acts : SeatActs),
    seatBiddingR p n i = some (acts, i') → i'.q.length ≤ i.q.length := by
  intro n
  induction n with
  | zero => intro i i' acts h; simp [seatBiddingR] at h
  | succ n ih =>
    intro i i' acts h
    simp only [seatBiddingR, Option.bind_eq_bind] at h
    obtain ⟨⟨m, i1⟩, h1, h⟩ := bind_some_inv h
    have l1 := (getQ_len h1).1
    try dsimp only at h
    split at h
    · simp only [Option.pure_def, Option.some.injEq, Prod.mk.injEq] at h
      obtain ⟨_, rfl⟩ := h
      omega
    · obtain ⟨a, _, h⟩ := bind_some_inv h
      split at h
      · obtain ⟨⟨bid, i2⟩, h2, h⟩ := bind_some_inv h
        have l2 := getC_len h2
        obtain ⟨⟨rest, i3⟩, h3, h⟩ := bind_some_inv h
        have l3 := ih _ _ _ h3
        simp only [Option.pure_def, Option.some.injEq, Prod.mk.injEq] at h
        obtain ⟨_, rfl⟩ := h
        try dsimp only at l1 l2 l3 ⊢
        rw [l2] at l3
        omega
      · obtain ⟨⟨x, i2⟩, h2, h⟩ := bind_some_inv h
        have l2 := getC_len h2
        obtain ⟨⟨relay, i3⟩, h3, h⟩ := bind_some_inv h
        have l3 := (getQ_len h3).1
        obtain ⟨⟨rest, i4⟩, h4, h⟩ := bind_some_inv h
        have l4 := ih _ _ _ h4
        simp only [Option.pure_def, Option.some.injEq, Prod.mk.injEq] at h
        obtain ⟨_, rfl⟩ := h
        try dsimp only at l1 l2 l3 l4 ⊢
        rw [l2] at l3
        omega

theorem cardMainR_len (p d : Seat) (idx : Nat) (a : Seat) (i i' : SeatIn) (x : SeatActs)
    (h : cardMainR p d idx a i = some (x, i')) : i'.q.length ≤ i.q.length := by
  unfold cardMainR at h
  split at h
  · obtain ⟨⟨m, i1⟩, h1, h⟩ := bind_some_inv h
    have l1 := getC_len h1
    simp only [Option.pure_def, Option.some.injEq, Prod.mk.injEq] at h
    obtain ⟨_, rfl⟩ := h
    rw [l1]; exact Nat.le_refl _
  · split at h
    · obtain ⟨⟨m, i1⟩, h1, h⟩ := bind_some_inv h
      have l1 := getC_len h1
      simp only [Option.pure_def, Option.some.injEq, Prod.mk.injEq] at h
      obtain ⟨_, rfl⟩ := h
      rw [l1]; exact Nat.le_refl _
    · obtain ⟨⟨m, i1⟩, h1, h⟩ := bind_some_inv h
      have l1 := getC_len h1
      obtain ⟨⟨r, i2⟩, h2, h⟩ := bind_some_inv h
      have l2 := (getQ_len h2).1
      simp only [Option.pure_def, Option.some.injEq, Prod.mk.injEq] at h
      obtain ⟨_, rfl⟩ := h
      try dsimp only at l1 l2 ⊢
      rw [l1] at l2
      omega

theorem cardOpenR_len (p d : Seat) (first : Bool) (idx : Nat) (i i' : SeatIn) (x : SeatActs)
    (h : cardOpenR p d first idx i = some (x, i')) : i'.q.length ≤ i.q.length := by
  unfold cardOpenR at h
  split at h
  · obtain ⟨⟨m, i1⟩, h1, h⟩ := bind_some_inv h
    have l1 := getC_len h1
    obtain ⟨⟨r, i2⟩, h2, h⟩ := bind_some_inv h
    have l2 := (getQ_len h2).1
    simp only [Option.pure_def, Option.some.injEq, Prod.mk.injEq] at h
    obtain ⟨_, rfl⟩ := h
    try dsimp only at l1 l2 ⊢
    rw [l1] at l2
    omega
  · simp only [Option.pure_def, Option.some.injEq, Prod.mk.injEq] at h
    obtain ⟨_, rfl⟩ := h
    exact Nat.le_refl _

theorem seatTrickR_len (p d : Seat) (first : Bool) : ∀ (k idx : Nat), idx + k = 4 → ∀ (a : Seat) (i i' : SeatIn)
    (t : SeatActs), seatTrickR p d first idx a i = some (t, i') → i'.q.length ≤ i.q.length := by
  intro k
  induction k with
  | zero =>
    intro idx hk a i i' t h
    have : idx = 4 := by omega
    subst this
    rw [seatTrickR_four] at h
    simp only [Option.some.injEq, Prod.mk.injEq] at h
    obtain ⟨_, rfl⟩ := h
    exact Nat.le_refl _
  | succ k ih =>
    intro idx hk a i i' t h
    rw [seatTrickR_lt p d first idx (by omega)] at h
    obtain ⟨⟨x, i1⟩, h1, h⟩ := bind_some_inv h
    obtain ⟨⟨y, i2⟩, h2, h⟩ := bind_some_inv h
    obtain ⟨⟨r, i3⟩, h3, h⟩ := bind_some_inv h
    simp only [Option.pure_def, Option.some.injEq, Prod.mk.injEq] at h
    obtain ⟨_, rfl⟩ := h
    have l1 := cardMainR_len _ _ _ _ _ _ _ h1
    have l2 := cardOpenR_len _ _ _ _ _ _ _ h2
    have l3 := ih (idx + 1) (by omega) _ _ _ _ h3
    try dsimp only at l1 l2 l3 ⊢
    omega

theorem tricks_len (p d : Seat) : ∀ (n k : Nat) (i i' : SeatIn) (acts : SeatActs),
    seatPlayingR.tricks p d n k i = some (acts, i') → i'.q.length ≤ i.q.length := by
  intro n
  induction n with
  | zero =>
    intro k i i' acts h
    simp only [seatPlayingR.tricks, Option.some.injEq, Prod.mk.injEq] at h
    obtain ⟨_, rfl⟩ := h
    exact Nat.le_refl _
  | succ n ih =>
    intro k i i' acts h
    simp only [seatPlayingR.tricks, Option.bind_eq_bind] at h
    obtain ⟨⟨ln, i1⟩, h1, h⟩ := bind_some_inv h
    obtain ⟨leader, _, h⟩ := bind_some_inv h
    obtain ⟨⟨t, i2⟩, h2, h⟩ := bind_some_inv h
    obtain ⟨⟨r, i3⟩, h3, h⟩ := bind_some_inv h
    simp only [Option.pure_def, Option.some.injEq, Prod.mk.injEq] at h
    obtain ⟨_, rfl⟩ := h
    have l1 := (getQ_len h1).1
    have l2 := seatTrickR_len p d _ 4 0 rfl _ _ _ _ h2
    have l3 := ih _ _ _ _ h3
    try dsimp only at l1 l2 l3 ⊢
    omega

theorem seatPlayingR_len (p : Seat) (i i' : SeatIn) (acts : SeatActs) (h : seatPlayingR p i = some (acts, i')) :
    i'.q.length ≤ i.q.length := by
  simp only [seatPlayingR, Option.bind_eq_bind] at h
  obtain ⟨⟨dn, i1⟩, h1, h⟩ := bind_some_inv h
  obtain ⟨decl, _, h⟩ := bind_some_inv h
  obtain ⟨⟨ts, i2⟩, h2, h⟩ := bind_some_inv h
  simp only [Option.pure_def, Option.some.injEq, Prod.mk.injEq] at h
  obtain ⟨_, rfl⟩ := h
  have l1 := (getQ_len h1).1
  have l2 := tricks_len _ _ _ _ _ _ _ h2
  try dsimp only at l1 l2 ⊢
  omega

/-! ## one board -/

/-- ONE board of `seatBoardsR`: deal, auction, the second message, play unless passed out, and the status message taken
from the queue (returned, not yet interpreted) -/
def seatBoardR (p : Seat) (i : SeatIn) : Option (SeatActs × Text × SeatIn) := do
  let (d, i) ← seatDealR p i
  let (b, i) ← seatBiddingR p (i.q.length + 1) i
  let (second, i) ← i.getQ
  let (pl, i) ←
    if second = MSG_PASSED_OUT then pure ([], i)
    else if second = MSG_NULL then seatPlayingR p i
    else none
  let (status, i) ← i.getQ
  pure (d ++ b ++ [.recv (.m2t p)] ++ pl, status, i)

/-- `seatBoardsR` is `seatBoardR` repeated while the status message is `next board` -/
theorem seatBoardsR_succ (p : Seat) (n : Nat) (i : SeatIn) :
    seatBoardsR p (n + 1) i = (seatBoardR p i).bind fun x =>
      if x.2.1 = MSG_NEXT then
        (seatBoardsR p n x.2.2).bind fun y => some (x.1 ++ [.recv (.m2t p), .send (.s2c p) MSG_START] ++ y.1, y.2)
      else if x.2.1 = MSG_END then some (x.1 ++ [.recv (.m2t p), .send (.s2c p) MSG_END], x.2.2)
      else none := by
  simp only [seatBoardsR, seatBoardR, Option.bind_eq_bind, Option.pure_def]
  cases seatDealR p i with
  | none => rfl
  | some di =>
    obtain ⟨d, i1⟩ := di
    simp only [Option.bind_some]
    cases seatBiddingR p (i1.q.length + 1) i1 with
    | none => rfl
    | some bi =>
      obtain ⟨b, i2⟩ := bi
      simp only [Option.bind_some]
      cases i2.getQ with
      | none => rfl
      | some si =>
        obtain ⟨second, i3⟩ := si
        simp only [Option.bind_some]
        by_cases h1 : second = MSG_PASSED_OUT
        · simp only [if_pos h1]
          cases i3.getQ with
          | none => rfl
          | some ti => rfl
        · by_cases h2 : second = MSG_NULL
          · simp only [if_neg h1, if_pos h2]
            cases seatPlayingR p i3 with
            | none => rfl
            | some pi =>
              obtain ⟨pl, i4⟩ := pi
              simp only [Option.bind_some]
              cases i4.getQ with
              | none => rfl
              | some ti => rfl
          · simp only [if_neg h1, if_neg h2]
            rfl

end Bridge.Translated.SeatC
