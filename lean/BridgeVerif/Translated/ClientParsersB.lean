import BridgeVerif.Translated.ClientParsersA
/-!
# The TRANSLATED `Client.parse_leader_message` IS `parseLeader?`

`m_Client_parse_leader_message` (Generated/PyCoreNet.lean; `client.py`: `parse_match_base(r'(.*) to lead', content)`, then
`dummy` for the name `Dummy`, `Player.convert_formal_name(name)` otherwise) executed SYMBOLICALLY by the MiniPy interpreter
in the whole translated program `P`, its `re.match(…, re.IGNORECASE)` being the generic regular-expression engine
(`RegexMsgClient.match_lead`).  For EVERY text whose characters are in the class `RegexMsgClient.agreeLead` (every ASCII
text is), at EVERY fuel ≥ 31:

* `parseLeader? s dummy = some l` : the call returns `Player l` (the state returned is `.str s`);
* `parseLeader? s dummy = none` : the call raises — `Exception` (from `parse_match_base`) when the text does not match the
  pattern, `ValueError` (from `convert_formal_name`) when it does but the name is neither `Dummy` nor a seat name.
-/
namespace Bridge.Translated.ClientParsers
open Bridge Bridge.Py Bridge.Generated.PyCore Bridge.Translated Bridge.RegexHands Bridge.RegexMsgClient
open Bridge.Translated.ConnectInfo (str_beq convert_formal_fail)

theorem lead_pat_eq : (['(', '.', '*', ')', ' ', 't', 'o', ' ', 'l', 'e', 'a', 'd'] : List Char) = LEAD_PATTERN :=
  String.toList_ofList.symm

/-- what the translated method computes, in one statement -/
def leaderResult (s : Str) (dummy : Seat) : R (Val × Val) :=
  match leadGroup? s with
  | none => .error (.exc K.Exception)
  | some g =>
    if g = "Dummy".toList then .ok (encSeat dummy, .str s)
    else match seatOfFormal? g with
      | none => .error (.exc K.ValueError)
      | some p => .ok (encSeat p, .str s)

theorem lead_exec_nomatch (f : Nat) (s : Str) (hs : ∀ x ∈ s, agreeLead x = true) (d : Val) (h : leadGroup? s = none) :
    callF (mkRec P (f+30)) m_Client_parse_leader_message [.str s, d] = .error (.exc K.Exception) := by
  have hm := match_lead s hs
  simp only [leadFields?, h, Option.map_none] at hm
  have hb := reMatch_none _ _ hm
  rw [callF_def]
  simp only [m_Client_parse_leader_message]
  rw [lead_pat_eq]
  ppsimp [mth_match_base, match_base_none _ _ _ hb]

theorem lead_exec_dummy (f : Nat) (s : Str) (hs : ∀ x ∈ s, agreeLead x = true) (d : Val)
    (h : leadGroup? s = some "Dummy".toList) :
    callF (mkRec P (f+30)) m_Client_parse_leader_message [.str s, d] = .ok (d, .str s) := by
  have hm := match_lead s hs
  simp only [leadFields?, h, Option.map_some] at hm
  obtain ⟨g0, hb⟩ := reMatch_some _ _ _ hm
  rw [callF_def]
  simp only [m_Client_parse_leader_message]
  rw [lead_pat_eq]
  ppsimp [mth_match_base, match_base_some _ _ _ _ hb, pp_mth_m_group, pp_m_group_call1, List.map_cons, List.map_nil, str_beq,
    String.reduceToList]

theorem lead_exec_seat (f : Nat) (s : Str) (hs : ∀ x ∈ s, agreeLead x = true) (d : Val) (g : Str)
    (h : leadGroup? s = some g) (hd : g ≠ "Dummy".toList) (p : Seat) (hp : seatOfFormal? g = some p) :
    callF (mkRec P (f+30)) m_Client_parse_leader_message [.str s, d] = .ok (encSeat p, .str s) := by
  have hm := match_lead s hs
  simp only [leadFields?, h, Option.map_some] at hm
  obtain ⟨g0, hb⟩ := reMatch_some _ _ _ hm
  have hcv := seatOfFormal_eq hp
  have b : (g == ['D', 'u', 'm', 'm', 'y']) = false := beq_eq_false_iff_ne.mpr hd
  rw [callF_def]
  simp only [m_Client_parse_leader_message]
  rw [lead_pat_eq]
  ppsimp [mth_match_base, match_base_some _ _ _ _ hb, pp_mth_m_group, pp_m_group_call1, List.map_cons, List.map_nil, str_beq,
    b, st_mth_convert]
  rw [hcv]
  ppsimp [st_convert_formal_call]

theorem lead_exec_badname (f : Nat) (s : Str) (hs : ∀ x ∈ s, agreeLead x = true) (d : Val) (g : Str)
    (h : leadGroup? s = some g) (hd : g ≠ "Dummy".toList) (hp : seatOfFormal? g = none) :
    callF (mkRec P (f+30)) m_Client_parse_leader_message [.str s, d] = .error (.exc K.ValueError) := by
  have hm := match_lead s hs
  simp only [leadFields?, h, Option.map_some] at hm
  obtain ⟨g0, hb⟩ := reMatch_some _ _ _ hm
  have b : (g == ['D', 'u', 'm', 'm', 'y']) = false := beq_eq_false_iff_ne.mpr hd
  rw [callF_def]
  simp only [m_Client_parse_leader_message]
  rw [lead_pat_eq]
  ppsimp [mth_match_base, match_base_some _ _ _ _ hb, pp_mth_m_group, pp_m_group_call1, List.map_cons, List.map_nil, str_beq,
    b, st_mth_convert, convert_formal_fail _ _ hp]

/-- THE TRANSLATED METHOD, at every fuel ≥ 31, on every text in the class -/
theorem parse_leader_message_translated (s : Str) (hs : ∀ x ∈ s, agreeLead x = true) (dummy : Seat) (g : Nat)
    (hg : 31 ≤ g) :
    callFn P g m_Client_parse_leader_message [.str s, encSeat dummy] = leaderResult s dummy := by
  refine st_callFn_of_callF (K := 30) (fun f => ?_) g hg
  unfold leaderResult
  cases h : leadGroup? s with
  | none => exact lead_exec_nomatch f s hs _ h
  | some t =>
    by_cases hd : t = "Dummy".toList
    · subst hd
      simp only [if_true]
      exact lead_exec_dummy f s hs _ h
    · simp only [hd, if_false]
      cases hp : seatOfFormal? t with
      | none => exact lead_exec_badname f s hs _ t h hd hp
      | some p => exact lead_exec_seat f s hs _ t h hd p hp

/-- (B, success) the model reads the prompt as "`l` leads": so does the translated method, at every fuel ≥ 31 -/
theorem parse_leader_message_ok (s : Str) (hs : ∀ x ∈ s, agreeLead x = true) (dummy l : Seat)
    (h : parseLeader? s dummy = some l) (g : Nat) (hg : 31 ≤ g) :
    callFn P g m_Client_parse_leader_message [.str s, encSeat dummy] = .ok (encSeat l, .str s) := by
  rw [parse_leader_message_translated s hs dummy g hg]
  rw [parseLeader_eq_group] at h
  unfold leaderResult
  cases ht : leadGroup? s with
  | none => rw [ht] at h; cases h
  | some t =>
    rw [ht] at h
    simp only [Option.bind_some] at h
    by_cases hd : t = "Dummy".toList
    · simp only [hd, if_true, Option.some.injEq] at h ⊢
      rw [h]
    · simp only [hd, if_false] at h ⊢
      rw [h]

/-- (B, failure) the model refuses the prompt: the translated method raises — `Exception` (no match) or `ValueError`
(`convert_formal_name` on an unknown name) -/
theorem parse_leader_message_raises (s : Str) (hs : ∀ x ∈ s, agreeLead x = true) (dummy : Seat)
    (h : parseLeader? s dummy = none) (g : Nat) (hg : 31 ≤ g) :
    (leadGroup? s = none ∧
      callFn P g m_Client_parse_leader_message [.str s, encSeat dummy] = .error (.exc K.Exception)) ∨
    ((leadGroup? s).isSome = true ∧
      callFn P g m_Client_parse_leader_message [.str s, encSeat dummy] = .error (.exc K.ValueError)) := by
  rw [parse_leader_message_translated s hs dummy g hg]
  rw [parseLeader_eq_group] at h
  unfold leaderResult
  cases ht : leadGroup? s with
  | none => exact .inl ⟨rfl, rfl⟩
  | some t =>
    rw [ht] at h
    simp only [Option.bind_some] at h
    by_cases hd : t = "Dummy".toList
    · simp only [hd, if_true] at h; cases h
    · simp only [hd, if_false] at h ⊢
      rw [h]
      exact .inr ⟨rfl, rfl⟩

/-- in the form the bundled-client capstone asks (`Returns` of Translated/ThreadsClientALemmas.lean) -/
theorem parse_leader_message_returns (s : Str) (hs : ∀ x ∈ s, agreeLead x = true) (dummy l : Seat)
    (h : parseLeader? s dummy = some l) :
    ∀ f, 31 ≤ f → (callFn P f m_Client_parse_leader_message [.str s, encSeat dummy]).map (·.1) = .ok (encSeat l) := by
  intro f hf
  rw [parse_leader_message_ok s hs dummy l h f hf]
  rfl

/-- for ASCII texts -/
theorem parse_leader_message_ok_ascii (s : Str) (hs : ∀ x ∈ s, x.toNat < 128) (dummy l : Seat)
    (h : parseLeader? s dummy = some l) (g : Nat) (hg : 31 ≤ g) :
    callFn P g m_Client_parse_leader_message [.str s, encSeat dummy] = .ok (encSeat l, .str s) :=
  parse_leader_message_ok s (fun x hx => agreeLead_ascii x (hs x hx)) dummy l h g hg

/-! ### non-vacuity -/
example : callFn P 31 m_Client_parse_leader_message [.str "wesT TO Lead, please".toList, encSeat .N]
    = .error (.exc K.ValueError) := by
  have := parse_leader_message_raises "wesT TO Lead, please".toList
    (fun x hx => agreeLead_ascii x (by revert x; decide +kernel)) .N (by decide +kernel) 31 (Nat.le_refl _)
  rcases this with ⟨h, _⟩ | ⟨_, h⟩
  · exact absurd h (by decide +kernel)
  · exact h
example : callFn P 31 m_Client_parse_leader_message [.str "West TO Lead, please".toList, encSeat .N]
    = .ok (encSeat .W, .str "West TO Lead, please".toList) :=
  parse_leader_message_ok_ascii _ (by decide +kernel) .N .W (by decide +kernel) 31 (Nat.le_refl _)
example : callFn P 31 m_Client_parse_leader_message [.str "Dummy to lead".toList, encSeat .E]
    = .ok (encSeat .E, .str "Dummy to lead".toList) :=
  parse_leader_message_ok_ascii _ (by decide +kernel) .E .E (by decide +kernel) 31 (Nat.le_refl _)

end Bridge.Translated.ClientParsers
