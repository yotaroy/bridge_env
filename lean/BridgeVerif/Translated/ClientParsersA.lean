import BridgeVerif.Lemmas.RegexMsgClient
import BridgeVerif.Translated.ConnectInfo
import BridgeVerif.Translated.HandsPbnLemmasA
/-!
# The bundled client's parsers translated = the model's : `re.match` as the program sees it, `parse_match_base`

* `reMatch_none` / `reMatch_some` : the value of the interpreter's `.reMatch` builtin (with `re.IGNORECASE`) when the engine's groups are
  known (from the theorems of `Lemmas/RegexMsgClient.lean`);
* `match_base_none` / `match_base_some` : the translated `MessageInterface.parse_match_base(pattern, content)` raises
  `Exception` when there is no match and returns the `_Match` object otherwise, at every sufficient fuel.
-/
namespace Bridge.Translated.ClientParsers
open Bridge Bridge.Py Bridge.Generated.PyCore Bridge.Translated Bridge.RegexHands Bridge.RegexMsgClient

/-- `re.match(pat, s, re.IGNORECASE)` as the program sees it, when the engine's groups are known: no match -/
theorem reMatch_none (pat s : List Char)
    (h : (Re.pyMatch true pat s).map (Option.map (groupTexts s)) = some none) (r : Rec) :
    builtinF r P .reMatch [.str pat, .str s, .bool true, .cls n__Match, .int n_texts] = .ok .none :=
  HandsPbn.hp_reMatch_none r pat s h

/-- … a match: an instance of `_Match` whose `texts` are group 0 and the group texts -/
theorem reMatch_some (pat s : List Char) (gs : List (List Char))
    (h : (Re.pyMatch true pat s).map (Option.map (groupTexts s)) = some (some (gs.map some))) :
    ∃ g0, ∀ r : Rec, builtinF r P .reMatch [.str pat, .str s, .bool true, .cls n__Match, .int n_texts]
        = .ok (.obj n__Match [(n_texts, .tuple (.str g0 :: gs.map Val.str))]) :=
  HandsPbn.hp_reMatch_some pat s gs h

theorem mth_match_base : P.method? classDepth n_MessageInterface n_parse_match_base
    = some (n_MessageInterface, m_MessageInterface_parse_match_base) := rfl

/-- no match: `parse_match_base` raises `Exception` -/
theorem match_base_none (f : Nat) (pat s : Str)
    (h : ∀ r : Rec, builtinF r P .reMatch [.str pat, .str s, .bool true, .cls n__Match, .int n_texts] = .ok .none) :
    callF (mkRec P (f+10)) m_MessageInterface_parse_match_base [.str pat, .str s] = .error (.exc K.Exception) := by
  rw [callF_def]
  simp only [m_MessageInterface_parse_match_base]
  ppsimp [h]

/-- a match: `parse_match_base` returns the match object -/
theorem match_base_some (f : Nat) (pat s : Str) (fs : List (Id × Val))
    (h : ∀ r : Rec, builtinF r P .reMatch [.str pat, .str s, .bool true, .cls n__Match, .int n_texts]
      = .ok (.obj n__Match fs)) :
    callF (mkRec P (f+10)) m_MessageInterface_parse_match_base [.str pat, .str s]
      = .ok (.obj n__Match fs, .str pat) := by
  rw [callF_def]
  simp only [m_MessageInterface_parse_match_base]
  ppsimp [h, beq_obj_none]

end Bridge.Translated.ClientParsers
