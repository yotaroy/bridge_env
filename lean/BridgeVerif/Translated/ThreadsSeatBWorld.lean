import BridgeVerif.Translated.PlayLemmasB
import BridgeVerif.Translated.ThreadsEnc
import BridgeVerif.Translated.PbnWriterLemmasB
import BridgeVerif.Lemmas.MiniPyFuel
import BridgeVerif.Model.Admission
/-! Translated `SeatThread`: the methods of the world object `_World` and the small methods of the thread
(`_handle_error`, `_sync_event`, the two queue methods, `_check_message`) executed on a symbolic world; the `Player`
properties; the texts of f-strings -/
namespace Bridge.Translated.SeatB
open Bridge Bridge.Py Bridge.Generated.PyCore

/-! ## method resolution -/
theorem sb_mth_w_send : P.method? classDepth n__World n_w_send = some (n__World, m__World_w_send) := rfl
theorem sb_mth_w_recv : P.method? classDepth n__World n_w_recv = some (n__World, m__World_w_recv) := rfl
theorem sb_mth_w_op : P.method? classDepth n__World n_w_op = some (n__World, m__World_w_op) := rfl
theorem sb_mth_w_put : P.method? classDepth n__World n_w_put = some (n__World, m__World_w_put) := rfl
theorem sb_mth_w_get : P.method? classDepth n__World n_w_get = some (n__World, m__World_w_get) := rfl
theorem sb_mth_w_sync : P.method? classDepth n__World n_w_sync = some (n__World, m__World_w_sync) := rfl
theorem sb_mth_w_advance : P.method? classDepth n__World n_w_advance = some (n__World, m__World_w_advance) := rfl
theorem sb_mth_w_set_table : P.method? classDepth n__World n_w_set_table = some (n__World, m__World_w_set_table) := rfl
theorem sb_mth_w_ask : P.method? classDepth n__World n_w_ask = some (n__World, m__World_w_ask) := rfl
theorem sb_mth_parse_card : P.method? classDepth n_MessageInterface n_parse_card
    = some (n_MessageInterface, m_MessageInterface_parse_card) := rfl

/-- the world object, unfolded -/
abbrev wObj (ins : List (Val × Val)) (out : List Val) (table : Val) (tables : List Val) (eof : Bool) : Val :=
  .obj n__World [(n_ins, .dict ins), (n_out, .tuple out), (n_table, table), (n_tables, .tuple tables), (n_eof, .bool eof)]

section
variable (f : Nat) (ins : List (Val × Val)) (out : List Val) (tb : Val) (tbs : List Val) (eof : Bool)

theorem sb_w_send (m : Val) :
    callF (mkRec P (f+6)) m__World_w_send [encWorld ins out tb tbs eof, m]
      = .ok (.none, encWorld ins (out ++ [.tuple [vstr "send", m]]) tb tbs eof) := by
  rw [callF_def]
  simp only [m__World_w_send, bindParams, Option.map, encWorld]
  ppsimp [↓R_bind_match]
  rfl

/-- `w_recv` on a non-empty connection stream: its first element; the stream loses it; one `recv` operation -/
theorem sb_w_recv_of (m : Val) (rest : List Val) (h : lookupD ins (.str ['c', 'o', 'n', 'n']) = some (.tuple (m :: rest))) :
    callF (mkRec P (f+8)) m__World_w_recv [encWorld ins out tb tbs eof]
      = .ok (m, encWorld (updateD ins (.str ['c', 'o', 'n', 'n']) (.tuple rest)) (out ++ [.tuple [vstr "recv"]]) tb tbs eof) := by
  rw [callF_def]
  simp only [m__World_w_recv, bindParams, Option.map, encWorld]
  ppsimp [↓R_bind_match, h, builtin_len_tuple, ofNat_succ_beq_zero, index_zero, sliceList_tail]
  rfl

/-- `w_recv` on an empty connection stream raises `Blocked` -/
theorem sb_w_recv_blocked (h : lookupD ins (.str ['c', 'o', 'n', 'n']) = some (.tuple [])) :
    callF (mkRec P (f+8)) m__World_w_recv [encWorld ins out tb tbs eof] = .error (.exc n_Blocked) := by
  rw [callF_def]
  simp only [m__World_w_recv, bindParams, Option.map, encWorld]
  ppsimp [↓R_bind_match, h, builtin_len_tuple, ofNat_zero_beq_zero]

theorem sb_w_op (k a : Val) :
    callF (mkRec P (f+6)) m__World_w_op [encWorld ins out tb tbs eof, k, a]
      = .ok (.none, encWorld ins (out ++ [.tuple [k, a]]) tb tbs eof) := by
  rw [callF_def]
  simp only [m__World_w_op, bindParams, Option.map, encWorld]
  ppsimp [↓R_bind_match]

theorem sb_w_put (q k m : Val) :
    callF (mkRec P (f+6)) m__World_w_put [encWorld ins out tb tbs eof, q, k, m]
      = .ok (.none, encWorld ins (out ++ [.tuple [vstr "put", q, k, m]]) tb tbs eof) := by
  rw [callF_def]
  simp only [m__World_w_put, bindParams, Option.map, encWorld]
  ppsimp [↓R_bind_match]
  rfl

/-- `w_get` on a non-empty stream: its first element; the stream loses it; one `get` operation -/
theorem sb_w_get_of (q k m : Val) (rest : List Val) (h : lookupD ins (.tuple [q, k]) = some (.tuple (m :: rest))) :
    callF (mkRec P (f+8)) m__World_w_get [encWorld ins out tb tbs eof, q, k]
      = .ok (m, encWorld (updateD ins (.tuple [q, k]) (.tuple rest)) (out ++ [.tuple [vstr "get", q, k]]) tb tbs eof) := by
  rw [callF_def]
  simp only [m__World_w_get, bindParams, Option.map, encWorld]
  ppsimp [↓R_bind_match, h, builtin_len_tuple, ofNat_succ_beq_zero, index_zero, sliceList_tail]
  rfl

/-- `w_get` on an empty stream raises `Blocked` -/
theorem sb_w_get_blocked (q k : Val) (h : lookupD ins (.tuple [q, k]) = some (.tuple [])) :
    callF (mkRec P (f+8)) m__World_w_get [encWorld ins out tb tbs eof, q, k] = .error (.exc n_Blocked) := by
  rw [callF_def]
  simp only [m__World_w_get, bindParams, Option.map, encWorld]
  ppsimp [↓R_bind_match, h, builtin_len_tuple, ofNat_zero_beq_zero]

/-- `w_ask` on a non-empty stream of answers of kind `kind`: its first element; one operation (`kind`, `arg`) -/
theorem sb_w_ask_of (kind arg v : Val) (rest : List Val) (h : lookupD ins kind = some (.tuple (v :: rest))) :
    callF (mkRec P (f+8)) m__World_w_ask [encWorld ins out tb tbs eof, kind, arg]
      = .ok (v, encWorld (updateD ins kind (.tuple rest)) (out ++ [.tuple [kind, arg]]) tb tbs eof) := by
  rw [callF_def]
  simp only [m__World_w_ask, bindParams, Option.map, encWorld]
  ppsimp [↓R_bind_match, h, builtin_len_tuple, ofNat_succ_beq_zero, index_zero, sliceList_tail]

theorem sb_w_ask_blocked (kind arg : Val) (h : lookupD ins kind = some (.tuple [])) :
    callF (mkRec P (f+8)) m__World_w_ask [encWorld ins out tb tbs eof, kind, arg] = .error (.exc n_Blocked) := by
  rw [callF_def]
  simp only [m__World_w_ask, bindParams, Option.map, encWorld]
  ppsimp [↓R_bind_match, h, builtin_len_tuple, ofNat_zero_beq_zero]

theorem sb_w_advance :
    callF (mkRec P (f+8)) m__World_w_advance [encWorld ins out tb tbs eof]
      = .ok (.none, encWorld ins out (tbs.headD tb) tbs.tail eof) := by
  rw [callF_def]
  simp only [m__World_w_advance, bindParams, Option.map, encWorld]
  cases tbs with
  | nil => ppsimp [↓R_bind_match, builtin_len_tuple, ofNat_zero_beq_zero]; rfl
  | cons t r => ppsimp [↓R_bind_match, builtin_len_tuple, ofNat_succ_beq_zero, index_zero, sliceList_tail]; rfl

theorem sb_w_sync :
    callF (mkRec P (f+10)) m__World_w_sync [encWorld ins out tb tbs eof]
      = .ok (.none, encWorld ins (out ++ [.tuple [vstr "sync"]]) (tbs.headD tb) tbs.tail eof) := by
  rw [callF_def]
  simp only [m__World_w_sync, bindParams, Option.map]
  have h := fun out => sb_w_advance f ins out tb tbs eof
  simp only [encWorld] at h ⊢
  ppsimp [↓R_bind_match, sb_mth_w_advance, h]
  rfl

theorem sb_mth_handle_error :
    P.method? classDepth n_SeatThread n__handle_error = some (n_SeatThread, m_SeatThread__handle_error) := rfl
theorem sb_mth_sync_event :
    P.method? classDepth n_SeatThread n__sync_event = some (n_SeatThread, m_SeatThread__sync_event) := rfl
theorem sb_mth_check_message :
    P.method? classDepth n_SeatThread n__check_message = some (n_SeatThread, m_SeatThread__check_message) := rfl
theorem sb_mth_send_q :
    P.method? classDepth n_SeatThread n_send_message_to_queue = some (n_SeatThread, m_SeatThread_send_message_to_queue) := rfl
theorem sb_mth_recv_q :
    P.method? classDepth n_SeatThread n_receive_message_from_queue
      = some (n_SeatThread, m_SeatThread_receive_message_from_queue) := rfl

theorem sb_handle_error (rest : List (Id × Val)) (m lg : Val) :
    callF (mkRec P (f+10)) m_SeatThread__handle_error
        [.obj n_SeatThread ((n__w, encWorld ins out tb tbs eof) :: rest), m, lg]
      = .ok (.none, .obj n_SeatThread ((n__w, encWorld ins (out ++ [.tuple [vstr "send", m], .tuple [vstr "close", .none]])
          tb tbs eof) :: rest)) := by
  rw [callF_def]
  simp only [m_SeatThread__handle_error, bindParams, Option.map]
  have h1 := fun out m => sb_w_send (f+2) ins out tb tbs eof m
  have h2 := fun out k a => sb_w_op (f+2) ins out tb tbs eof k a
  simp only [encWorld] at h1 h2 ⊢
  ppsimp [↓R_bind_match, sb_mth_w_send, sb_mth_w_op, h1, h2, List.append_assoc]
  rfl

theorem sb_sync_event (rest : List (Id × Val)) :
    callF (mkRec P (f+14)) m_SeatThread__sync_event [.obj n_SeatThread ((n__w, encWorld ins out tb tbs eof) :: rest)]
      = .ok (.none, .obj n_SeatThread ((n__w, encWorld ins (out ++ [.tuple [vstr "sync"]]) (tbs.headD tb) tbs.tail eof)
          :: rest)) := by
  rw [callF_def]
  simp only [m_SeatThread__sync_event, bindParams, Option.map]
  have h1 := fun out => sb_w_sync (f+2) ins out tb tbs eof
  simp only [encWorld] at h1 ⊢
  ppsimp [↓R_bind_match, sb_mth_w_sync, h1]

theorem sb_send_q (p : Seat) (extra : List (Id × Val)) (m : Val) :
    callF (mkRec P (f+10)) m_SeatThread_send_message_to_queue
        [encSeatThread p (encWorld ins out tb tbs eof) extra, m]
      = .ok (.none, encSeatThread p (encWorld ins (out ++ [.tuple [vstr "put", vstr "t2m", encSeat p, m]]) tb tbs eof)
          extra) := by
  rw [callF_def]
  simp only [m_SeatThread_send_message_to_queue, bindParams, Option.map, encSeatThread]
  have h1 := fun out q k m => sb_w_put (f+2) ins out tb tbs eof q k m
  simp only [encWorld] at h1 ⊢
  ppsimp [↓R_bind_match, sb_mth_w_put, h1]
  rfl

end

/-! ## small facts about containers -/

theorem sb_lookup_conn (p : Seat) (qv cv : Val) :
    lookupD [(qkey "m2t" p, qv), (vstr "conn", cv)] (.str ['c', 'o', 'n', 'n']) = some cv := by
  simp [lookupD, qkey, vstr, Val.beq]
theorem sb_update_conn (p : Seat) (qv cv v : Val) :
    updateD [(qkey "m2t" p, qv), (vstr "conn", cv)] (.str ['c', 'o', 'n', 'n']) v = [(qkey "m2t" p, qv), (vstr "conn", v)] := by
  simp [updateD, qkey, vstr, Val.beq]
theorem sb_lookup_m2t (p : Seat) (qv cv : Val) :
    lookupD [(qkey "m2t" p, qv), (vstr "conn", cv)] (.tuple [.str ['m', '2', 't'], encSeat p]) = some qv := by
  simp [lookupD, qkey, vstr, Val.beq, beqL, beq_encSeat]
theorem sb_update_m2t (p : Seat) (qv cv v : Val) :
    updateD [(qkey "m2t" p, qv), (vstr "conn", cv)] (.tuple [.str ['m', '2', 't'], encSeat p]) v
      = [(qkey "m2t" p, v), (vstr "conn", cv)] := by
  simp [updateD, qkey, vstr, Val.beq, beqL, beq_encSeat]

theorem sb_w_recv (f : Nat) (p : Seat) (q c : List Str) (m : Str) (out : List Val) (tb : Val) (tbs : List Val) :
    callF (mkRec P (f+8)) m__World_w_recv [encSeatWorld p q (m :: c) out tb tbs]
      = .ok (.str m, encSeatWorld p q c (out ++ [.tuple [vstr "recv"]]) tb tbs) := by
  have h := sb_w_recv_of f _ out tb tbs false _ _ (sb_lookup_conn p (vtexts q) (vtexts (m :: c)))
  rwa [sb_update_conn] at h

theorem sb_w_get (f : Nat) (p : Seat) (q c : List Str) (m : Str) (out : List Val) (tb : Val) (tbs : List Val) :
    callF (mkRec P (f+8)) m__World_w_get [encSeatWorld p (m :: q) c out tb tbs, .str ['m', '2', 't'], encSeat p]
      = .ok (.str m, encSeatWorld p q c (out ++ [.tuple [vstr "get", vstr "m2t", encSeat p]]) tb tbs) := by
  have h := sb_w_get_of f _ out tb tbs false _ _ _ _ (sb_lookup_m2t p (vtexts (m :: q)) (vtexts c))
  rwa [sb_update_m2t] at h

theorem sb_w_set_table (f : Nat) (ins : List (Val × Val)) (out : List Val) (kvs : List (Val × Val)) (tbs : List Val)
    (eof : Bool) (k v : Val) :
    callF (mkRec P (f+8)) m__World_w_set_table [encWorld ins out (.dict kvs) tbs eof, k, v]
      = .ok (.none, encWorld ins (out ++ [.tuple [vstr "table", k, v]]) (.dict (updateD kvs k v)) tbs eof) := by
  rw [callF_def]
  simp only [m__World_w_set_table, bindParams, Option.map, encWorld]
  ppsimp [↓R_bind_match]
  rfl

theorem sb_recv_q (f : Nat) (p : Seat) (q c : List Str) (m : Str) (out : List Val) (tb : Val) (tbs : List Val)
    (extra : List (Id × Val)) :
    callF (mkRec P (f+12)) m_SeatThread_receive_message_from_queue
        [encSeatThread p (encSeatWorld p (m :: q) c out tb tbs) extra]
      = .ok (.str m, encSeatThread p (encSeatWorld p q c (out ++ [.tuple [vstr "get", vstr "m2t", encSeat p]]) tb tbs)
          extra) := by
  rw [callF_def]
  simp only [m_SeatThread_receive_message_from_queue, bindParams, Option.map, encSeatThread]
  have h1 := sb_w_get (f+2) p q c m out tb tbs
  simp only [encSeatWorld, encWorld] at h1 ⊢
  ppsimp [↓R_bind_match, sb_mth_w_get, h1]

/-! ## `_check_message` -/

/-- the pattern `_check_message` builds: `expected.replace(' ', '\\s+')`, by the interpreter's `.replace` builtin -/
def checkPattern (expected : Str) : Str := replaceAll [' '] ['\\', 's', '+'] (expected.length + 1) expected

/-- the test `_check_message` performs succeeds: `re.fullmatch(pattern, msg, re.IGNORECASE)` is a match object -/
def passesCheck (expected msg : Str) : Prop := ∃ m, Re.pyFullmatch true (checkPattern expected) msg = some (some m)
/-- the test fails: `re.fullmatch` returns `None` -/
def failsCheck (expected msg : Str) : Prop := Re.pyFullmatch true (checkPattern expected) msg = some none

theorem sb_replace (r : Rec) (s : Str) :
    builtinF r P .replace [.str s, .str [' '], .str ['\\', 's', '+']] = .ok (.str (checkPattern s)) := rfl

theorem sb_fullmatch_some (r : Rec) (pat s : Str) (mc : Id) (tf : Int) (m : Re.MatchObj)
    (h : Re.pyFullmatch true pat s = some (some m)) :
    builtinF r P .reFullmatch [.str pat, .str s, .bool true, .cls mc, .int tf] = .ok (matchVal mc tf.toNat s m) := by
  simp only [builtinF, h]; rfl
theorem sb_fullmatch_none (r : Rec) (pat s : Str) (mc : Id) (tf : Int)
    (h : Re.pyFullmatch true pat s = some none) :
    builtinF r P .reFullmatch [.str pat, .str s, .bool true, .cls mc, .int tf] = .ok .none := by
  simp only [builtinF, h]; rfl
theorem sb_matchVal_beq_none (mc : Id) (tf : Nat) (s : Str) (m : Re.MatchObj) : (matchVal mc tf s m).beq .none = false := by
  simp only [matchVal, Val.beq]

theorem sb_check_pass (f : Nat) (p : Seat) (q c : List Str) (msg expected : Str) (out : List Val) (tb : Val)
    (tbs : List Val) (rest : List (Id × Val)) (h : passesCheck expected msg) :
    callF (mkRec P (f+14)) m_SeatThread__check_message
        [.obj n_SeatThread ((n__w, encSeatWorld p q (msg :: c) out tb tbs) :: rest), .str expected]
      = .ok (.bool true, .obj n_SeatThread ((n__w, encSeatWorld p q c (out ++ [.tuple [vstr "recv"]]) tb tbs) :: rest)) := by
  obtain ⟨m, hm⟩ := h
  rw [callF_def]
  simp only [m_SeatThread__check_message, bindParams, Option.map]
  have h1 := fun f => sb_w_recv f p q c msg out tb tbs
  simp only [encSeatWorld, encWorld] at h1 ⊢
  ppsimp [↓R_bind_match, sb_mth_w_recv, h1, sb_replace, sb_fullmatch_some _ _ _ _ _ _ hm, sb_matchVal_beq_none]

theorem sb_check_fail (f : Nat) (p : Seat) (q c : List Str) (msg expected : Str) (out : List Val) (tb : Val)
    (tbs : List Val) (rest : List (Id × Val)) (h : failsCheck expected msg) :
    callF (mkRec P (f+14)) m_SeatThread__check_message
        [.obj n_SeatThread ((n__w, encSeatWorld p q (msg :: c) out tb tbs) :: rest), .str expected]
      = .ok (.bool false, .obj n_SeatThread ((n__w, encSeatWorld p q c (out ++ [.tuple [vstr "recv"],
          .tuple [vstr "send", vstr "ERROR: Unexpected message received."], .tuple [vstr "close", .none]]) tb tbs)
          :: rest)) := by
  rw [callF_def]
  simp only [m_SeatThread__check_message, bindParams, Option.map]
  have h1 := fun f => sb_w_recv f p q c msg out tb tbs
  have h2 := fun f out m lg => sb_handle_error f [(qkey "m2t" p, vtexts q), (vstr "conn", vtexts c)] out tb tbs false rest m lg
  simp only [encSeatWorld, encWorld] at h1 h2 ⊢
  ppsimp [↓R_bind_match, sb_mth_w_recv, h1, sb_replace, sb_fullmatch_none _ _ _ _ _ h, sb_mth_handle_error, h2, strOfF, List.append_assoc]
  rfl

/-! ## `Player` -/
theorem sb_str_beq_none (s : Str) : (Val.str s).beq .none = false := by simp only [Val.beq]
theorem sb_str_beq (a b : Str) : (Val.str a).beq (.str b) = decide (a = b) := beq_str_decide a b

theorem sb_mth_formal : P.method? classDepth n_Player n_formal_name = some (n_Player, m_Player_formal_name) := rfl
theorem sb_formal (f : Nat) (p : Seat) :
    getAttrF (mkRec P (f+12)) P (encSeat p) n_formal_name = .ok (.str p.formal) := by
  cases p <;> with_unfolding_all rfl

theorem seatOfFormal_eq {s : Str} {a : Seat} (h : seatOfFormal? s = some a) : s = a.formal := by
  unfold seatOfFormal? at h
  split at h
  · cases h; assumption
  · split at h
    · cases h; assumption
    · split at h
      · cases h; assumption
      · split at h
        · cases h; assumption
        · cases h

theorem sb_mth_convert :
    P.method? classDepth n_Player n_convert_formal_name = some (n_Player, m_Player_convert_formal_name) := rfl

theorem sb_convert (f : Nat) (s : Str) (a : Seat) (h : seatOfFormal? s = some a) :
    callF (mkRec P (f+12)) m_Player_convert_formal_name [.cls n_Player, .str s] = .ok (encSeat a, .cls n_Player) := by
  rw [seatOfFormal_eq h]
  cases a <;> with_unfolding_all rfl

/-! ## texts -/

/-- `str(n)` in the interpreter is the model's `natStr` -/
theorem sb_intStr_nat (n : Nat) : intStr (n : Int) = natStr n := intStr_nat n

theorem sb_intStr_18 : intStr 18 = natStr PROTOCOL_VERSION := by
  have h := sb_intStr_nat 18
  have e : ((18 : Nat) : Int) = 18 := by omega
  rw [e] at h
  exact h

theorem sb_flat2 (a b : Str) : [a, b].flatten = a ++ b := by simp
theorem sb_flat3 (a b c : Str) : [a, b, c].flatten = a ++ b ++ c := by simp
theorem sb_flat5 (a b c d e : Str) : [a, b, c, d, e].flatten = a ++ b ++ c ++ d ++ e := by simp

/-- `str(None)` for a free seat, the team name otherwise (what the f-string of the `Teams` message prints) -/
def optText : Option Str → Str
  | none => "None".toList
  | some s => s

theorem sb_strOf_str (r : Rec) (s : Str) : strOfF r P (.str s) = .ok s := strOf_str r s
theorem sb_strOf_int (r : Rec) (n : Int) : strOfF r P (.int n) = .ok (intStr n) := strOf_int r n
theorem sb_strOf_opt (r : Rec) (o : Option Str) : strOfF r P (encOpt .str o) = .ok (optText o) := by
  cases o <;> rfl

/-! ## the world / thread methods on a seat world (kept folded during the symbolic execution) -/
theorem sb_methF_world (r : Rec) (p : Seat) (q c : List Str) (out : List Val) (tb : Val) (tbs : List Val) (m : Id)
    (args : List Val) :
    methF r P (encSeatWorld p q c out tb tbs) m args
      = callMethod r P n__World m (encSeatWorld p q c out tb tbs :: args) (.exc K.AttributeError) := rfl

theorem sbu_recv_q (f : Nat) (p : Seat) (q c : List Str) (m : Str) (out : List Val) (tb : Val) (tbs : List Val)
    (extra : List (Id × Val)) :
    callF (mkRec P (f+12)) m_SeatThread_receive_message_from_queue
        [.obj n_SeatThread ((n__w, encSeatWorld p (m :: q) c out tb tbs) :: (n_player, encSeat p) :: extra)]
      = .ok (.str m, .obj n_SeatThread ((n__w, encSeatWorld p q c
          (out ++ [.tuple [vstr "get", vstr "m2t", encSeat p]]) tb tbs) :: (n_player, encSeat p) :: extra)) :=
  sb_recv_q f p q c m out tb tbs extra

theorem sbu_check_pass (f : Nat) (p : Seat) (q c : List Str) (msg expected : Str) (out : List Val) (tb : Val)
    (tbs : List Val) (rest : List (Id × Val)) (h : passesCheck expected msg) :
    callF (mkRec P (f+14)) m_SeatThread__check_message
        [.obj n_SeatThread ((n__w, Val.obj n__World [(n_ins, Val.dict [(qkey "m2t" p, vtexts q), (vstr "conn", vtexts (msg :: c))]),
          (n_out, Val.tuple out), (n_table, tb), (n_tables, Val.tuple tbs), (n_eof, Val.bool false)]) :: rest), .str expected]
      = .ok (.bool true, .obj n_SeatThread ((n__w, Val.obj n__World [(n_ins, Val.dict [(qkey "m2t" p, vtexts q), (vstr "conn", vtexts c)]),
          (n_out, Val.tuple (out ++ [.tuple [vstr "recv"]])), (n_table, tb), (n_tables, Val.tuple tbs), (n_eof, Val.bool false)]) :: rest)) :=
  sb_check_pass f p q c msg expected out tb tbs rest h

section
variable (f : Nat) (p : Seat) (q c : List Str) (out : List Val) (tb : Val) (tbs : List Val)

theorem sbu_w_send (m : Val) :
    callF (mkRec P (f+6)) m__World_w_send [encSeatWorld p q c out tb tbs, m]
      = .ok (.none, encSeatWorld p q c (out ++ [.tuple [vstr "send", m]]) tb tbs) :=
  sb_w_send f _ out tb tbs false m
theorem sbu_send_q (extra : List (Id × Val)) (m : Val) :
    callF (mkRec P (f+10)) m_SeatThread_send_message_to_queue
        [.obj n_SeatThread ((n__w, encSeatWorld p q c out tb tbs) :: (n_player, encSeat p) :: extra), m]
      = .ok (.none, .obj n_SeatThread ((n__w, encSeatWorld p q c
          (out ++ [.tuple [vstr "put", vstr "t2m", encSeat p, m]]) tb tbs) :: (n_player, encSeat p) :: extra)) :=
  sb_send_q f _ out tb tbs false p extra m
theorem sbu_w_op (k a : Val) :
    callF (mkRec P (f+6)) m__World_w_op [encSeatWorld p q c out tb tbs, k, a]
      = .ok (.none, encSeatWorld p q c (out ++ [.tuple [k, a]]) tb tbs) :=
  sb_w_op f _ out tb tbs false k a
theorem sbu_handle_error (rest : List (Id × Val)) (m lg : Val) :
    callF (mkRec P (f+10)) m_SeatThread__handle_error
        [.obj n_SeatThread ((n__w, encSeatWorld p q c out tb tbs) :: rest), m, lg]
      = .ok (.none, .obj n_SeatThread ((n__w, encSeatWorld p q c
          (out ++ [.tuple [vstr "send", m], .tuple [vstr "close", .none]]) tb tbs) :: rest)) :=
  sb_handle_error f _ out tb tbs false rest m lg
theorem sbu_sync_event (rest : List (Id × Val)) :
    callF (mkRec P (f+14)) m_SeatThread__sync_event [.obj n_SeatThread ((n__w, encSeatWorld p q c out tb tbs) :: rest)]
      = .ok (.none, .obj n_SeatThread ((n__w, encSeatWorld p q c (out ++ [.tuple [vstr "sync"]]) (tbs.headD tb) tbs.tail)
          :: rest)) :=
  sb_sync_event f _ out tb tbs false rest

end

attribute [pyworld] sb_lookup_conn sb_update_conn sb_lookup_m2t sb_update_m2t sb_methF_world sb_mth_w_send sb_mth_w_recv sb_mth_w_get sb_mth_w_op sb_mth_w_put sb_mth_w_set_table
  sb_mth_w_ask sb_mth_send_q sb_mth_recv_q sb_mth_check_message sb_mth_handle_error sb_mth_sync_event sbu_w_send sbu_w_op
  sb_w_recv sb_w_get sbu_send_q sbu_recv_q sbu_handle_error sbu_sync_event sb_formal sb_strOf_opt sb_flat2 List.append_assoc
attribute [pyworld ↓] R_bind_match

end Bridge.Translated.SeatB
