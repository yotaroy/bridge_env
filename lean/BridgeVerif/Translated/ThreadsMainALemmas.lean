import BridgeVerif.Translated.ThreadsSeatBWorld
import BridgeVerif.Translated.NetHelpers
import BridgeVerif.Translated.Hands
import BridgeVerif.Translated.PbnWriterLemmasB
/-! Translated `MainThread` (`_sync_event`, `deal`, `bidding_phase`): the world object's methods on the encoded world,
small evaluation lemmas -/
namespace Bridge.Translated.MainA
open Bridge Bridge.Py Bridge.Generated.PyCore

/-! ## method tables -/
theorem mt_mth_sync_event : P.method? classDepth n_MainThread n__sync_event = some (n_MainThread, m_MainThread__sync_event) := rfl

/-- what `w_advance` does to the seat table and its later snapshots -/
def advTable (table : Val) (tables : List Val) : Val × List Val :=
  match tables with
  | [] => (table, [])
  | t :: r => (t, r)

theorem advTable_eq (table : Val) (tables : List Val) : advTable table tables = (tables.headD table, tables.tail) := by
  cases tables <;> rfl

/-! ## main's world -/
def mainIns (i : Seat → List Str) (more : List (Val × Val)) : List (Val × Val) :=
  [(qkey "t2m" .N, vtexts (i .N)), (qkey "t2m" .E, vtexts (i .E)), (qkey "t2m" .S, vtexts (i .S)),
   (qkey "t2m" .W, vtexts (i .W))] ++ more

theorem encMainWorld_eq (i : Seat → List Str) (out : List Val) (table : Val) (tables : List Val) (more : List (Val × Val)) :
    encMainWorld i out table tables more = encWorld (mainIns i more) out table tables false := rfl

theorem mt_lookup_mainIns (i : Seat → List Str) (more : List (Val × Val)) (a : Seat) :
    lookupD (mainIns i more) (.tuple [vstr "t2m", encSeat a]) = some (vtexts (i a)) := by
  cases a <;> simp [lookupD, mainIns, qkey, vstr, encSeat, Val.beq, beqL, Seat.value]

theorem mt_update_mainIns (i : Seat → List Str) (more : List (Val × Val)) (a : Seat) (r : List Str) :
    updateD (mainIns i more) (.tuple [vstr "t2m", encSeat a]) (vtexts r)
      = mainIns (fun q => if q = a then r else i q) more := by
  cases a <;> simp [updateD, mainIns, qkey, vstr, encSeat, Val.beq, beqL, Seat.value]

/-- the model's `MainIn.get` on main's world: the head of queue `t2m p` is returned and removed, `get` is recorded -/
theorem mt_get_call (f : Nat) (i i' : Seat → List Str) (p : Seat) (msg : Str) (hg : MainIn.get i p = some (msg, i'))
    (out : List Val) (table : Val) (tables : List Val) (more : List (Val × Val)) :
    callF (mkRec P (f+12)) m__World_w_get [encMainWorld i out table tables more, .str ['t', '2', 'm'], encSeat p]
      = .ok (.str msg, encMainWorld i' (out ++ [.tuple [.str ['g', 'e', 't'], .str ['t', '2', 'm'], encSeat p]])
          table tables more) := by
  unfold MainIn.get at hg
  split at hg
  · rename_i m r hip
    simp only [Option.some.injEq, Prod.mk.injEq] at hg
    obtain ⟨rfl, rfl⟩ := hg
    have h := SeatB.sb_w_get_of (f+4) (mainIns i more) out table tables false (vstr "t2m") (encSeat p) (.str m) (r.map .str)
      (by rw [mt_lookup_mainIns, hip]; rfl)
    rw [show Val.tuple (r.map .str) = vtexts r from rfl, mt_update_mainIns] at h
    exact h
  · cases hg

/-! ## `MainThread._sync_event` -/
theorem mt_sync_event_call (f : Nat) (ins : List (Val × Val)) (out : List Val) (table : Val) (tables : List Val) (eof : Bool)
    (bs pe ev : Val) :
    callF (mkRec P (f+20)) m_MainThread__sync_event [encMainThread (encWorld ins out table tables eof) bs, pe, ev]
      = .ok (.none, encMainThread (encWorld ins (out ++ [.tuple [vstr "sync"]]) (advTable table tables).1
                (advTable table tables).2 eof) bs) := by
  rw [callF_def, advTable_eq]
  simp only [m_MainThread__sync_event, bindParams, Option.map, encMainThread]
  have h := fun g o => SeatB.sb_w_sync g ins o table tables eof
  simp only [encWorld] at h ⊢
  ppsimp [SeatB.sb_mth_w_sync, h]

/-! ## small evaluation lemmas -/
theorem mt_iter_player : iterItems P (.cls n_Player) = some [encSeat .N, encSeat .E, encSeat .S, encSeat .W] := rfl
theorem mt_getAttr_name (r : Rec) (p : Seat) : getAttrF r P (encSeat p) K.name = .ok (.str p.name) := by
  cases p <;> rfl
theorem mt_mth_formal_name : P.method? classDepth n_Player n_formal_name = some (n_Player, m_Player_formal_name) := rfl
theorem mt_formal_name_call (f : Nat) (p : Seat) :
    callF (mkRec P (f+12)) m_Player_formal_name [encSeat p] = .ok (.str p.formal, encSeat p) := by
  rw [callF_def]
  simp only [m_Player_formal_name, bindParams, Option.map]
  cases p <;> ppsimp [mt_getAttr_name, beq_str] <;> rfl
/-- the property `Player.formal_name` -/
theorem mt_getAttr_formal (f : Nat) (p : Seat) :
    getAttrF (mkRec P (f+13)) P (encSeat p) n_formal_name = .ok (.str p.formal) := by
  have e : getAttrF (mkRec P (f+13)) P (encSeat p) n_formal_name
      = (callF (mkRec P (f+12)) m_Player_formal_name [encSeat p] >>= fun x => pure x.1) := rfl
  rw [e, mt_formal_name_call]; rfl

theorem mt_beq_encVul (v : Vul) (k : Nat) : (encVul v).beq (.enum n_Vul (k : Int)) = decide (v.value = k) := by
  simp only [encVul, Val.beq, beq_self_eq_true, Bool.true_and]
  rw [Bool.eq_iff_iff]; simp only [beq_iff_eq, decide_eq_true_eq, Int.natCast_inj]
theorem mt_beq_encVul1 (v : Vul) : (encVul v).beq (.enum n_Vul 1) = decide (v = .none) := by
  rw [show (1 : Int) = ((1 : Nat) : Int) from rfl, mt_beq_encVul]; cases v <;> rfl
theorem mt_beq_encVul2 (v : Vul) : (encVul v).beq (.enum n_Vul 2) = decide (v = .ns) := by
  rw [show (2 : Int) = ((2 : Nat) : Int) from rfl, mt_beq_encVul]; cases v <;> rfl
theorem mt_beq_encVul3 (v : Vul) : (encVul v).beq (.enum n_Vul 3) = decide (v = .ew) := by
  rw [show (3 : Int) = ((3 : Nat) : Int) from rfl, mt_beq_encVul]; cases v <;> rfl
theorem mt_beq_encVul4 (v : Vul) : (encVul v).beq (.enum n_Vul 4) = decide (v = .both) := by
  rw [show (4 : Int) = ((4 : Nat) : Int) from rfl, mt_beq_encVul]; cases v <;> rfl
theorem mt_mth_convert_vul : P.method? classDepth n_Server n_convert_vul = some (n_Server, m_Server_convert_vul) := rfl
/-- `Server.convert_vul` on the four values -/
theorem mt_convert_vul_call (f : Nat) (v : Vul) :
    callF (mkRec P (f+12)) m_Server_convert_vul [encVul v] = .ok (.str (convertVul v), encVul v) := by
  rw [callF_def]
  simp only [m_Server_convert_vul, bindParams, Option.map]
  cases v <;> ppsimp [mt_beq_encVul1, mt_beq_encVul2, mt_beq_encVul3, mt_beq_encVul4] <;> rfl

/-- the f-string of the board header -/
theorem mt_header_eq (k : Nat) (d : Seat) (v : Vul) :
    [['B', 'o', 'a', 'r', 'd', ' ', 'n', 'u', 'm', 'b', 'e', 'r', ' '],
      intStr ↑k, ['.', ' ', 'D', 'e', 'a', 'l', 'e', 'r', ' '], d.formal, ['.', ' '], convertVul v,
      [' ', 'v', 'u', 'l', 'n', 'e', 'r', 'a', 'b', 'l', 'e', '.']].flatten = boardHeader k d v := by
  rw [intStr_nat]
  unfold boardHeader
  simp only [List.flatten_cons, List.flatten_nil, List.append_nil, List.append_assoc]
  rfl
/-- the f-string of the cards message -/
theorem mt_cards_eq (n : List Char) (h : List Card) :
    [n, ['\'', 's', ' ', 'c', 'a', 'r', 'd', 's', ' ', ':', ' '], handToStr h].flatten = cardsMsg n h := by
  unfold cardsMsg
  simp only [List.flatten_cons, List.flatten_nil, List.append_nil, List.append_assoc]
  rfl

/-! ## rendering of the model's actions -/
theorem encMainActs_cons_some {encRec : BoardRecord → Val} {a : SAct Text LogOp} {r : MainActs} {ops : List Val}
    (h : encMainActs encRec (a :: r) = some ops) :
    ∃ x xs, encMainAct encRec a = some x ∧ encMainActs encRec r = some xs ∧ ops = x ++ xs := by
  simp only [encMainActs, Option.bind_eq_bind, Option.pure_def] at h
  cases hx : encMainAct encRec a with
  | none => simp [hx] at h
  | some x =>
    cases hr : encMainActs encRec r with
    | none => simp [hx, hr] at h
    | some xs =>
      simp only [hx, hr, Option.bind_some, Option.some.injEq] at h
      exact ⟨x, xs, rfl, rfl, h.symm⟩

theorem encMainActs_append (encRec : BoardRecord → Val) (x y : MainActs) (ox oy : List Val)
    (hx : encMainActs encRec x = some ox) (hy : encMainActs encRec y = some oy) :
    encMainActs encRec (x ++ y) = some (ox ++ oy) := by
  induction x generalizing ox with
  | nil =>
    simp only [encMainActs, Option.some.injEq] at hx
    subst hx; simpa using hy
  | cons a r ih =>
    obtain ⟨va, vr, ha, hr, rfl⟩ := encMainActs_cons_some hx
    simp only [List.cons_append, encMainActs, ha, ih vr hr, Option.bind_eq_bind, Option.bind_some, Option.pure_def,
      List.append_assoc]

end Bridge.Translated.MainA
