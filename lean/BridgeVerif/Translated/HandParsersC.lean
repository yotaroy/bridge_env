import BridgeVerif.Translated.HandParsersB
/-! Translated `Client.parse_hand` (client.py) = model, part C — the loops: the inner loop `for rank in ranks:` by induction
on the tokens of a group (`-` skipped, `Card(Card.rank_str_to_int(rank), suit)` added to `hand_set` — first occurrences
stay — and its slot of `hand_list` set), the outer loop over `zip(map(split, match.groups()), suits)` by
induction on the groups. -/
namespace Bridge.Translated.HandParsers
open Bridge Bridge.Py Bridge.Generated.PyCore Bridge.Translated Bridge.RegexHands Bridge.RegexMsgHand
open Bridge.Translated.HandsPbn

def phOuter : List Stmt := match m_Client_parse_hand.body.getD 4 .pass with
  | .for _ _ b => b
  | _ => []
def phInner : List Stmt := match phOuter.getD 0 .pass with
  | .for _ _ b => b
  | _ => []

/-- the model's reading of one token -/
def tokCard? (su : Suit) (t : List Char) : Option Card := (rankOfToken? t).bind fun r => mkCard? r su

theorem cardsOfGroup_eq (g : List Char) (su : Suit) :
    cardsOfGroup? g su = ((splitSp g).filter (· ≠ ['-'])).mapM (tokCard? su) := rfl

theorem hq_mapM_cons (f : List Char → Option Card) (t : List Char) (ts : List (List Char)) (cs : List Card)
    (h : (t :: ts).mapM f = some cs) : ∃ c cs', f t = some c ∧ ts.mapM f = some cs' ∧ cs = c :: cs' := by
  simp only [List.mapM_cons, Option.bind_eq_bind, Option.pure_def] at h
  cases hc : f t with
  | none => simp [hc] at h
  | some c =>
    cases hr : ts.mapM f with
    | none => simp [hc, hr] at h
    | some cs' =>
      simp [hc, hr] at h
      exact ⟨c, cs', rfl, rfl, h.symm⟩

theorem hq_ne_suit_rank : n_rank ≠ n_suit := by decide
theorem hq_ne_suit_card : n_card ≠ n_suit := by decide

/-- the inner loop: every token but `-` adds its card (first occurrences stay) and sets its slot -/
theorem hq_inner (f : Nat) (a b d : Val) (su : Suit) : ∀ (ts : List (List Char)) (cs : List Card),
    (ts.filter (· ≠ ['-'])).mapM (tokCard? su) = some cs →
    ∀ (acc : List Card) (hl : List Val) (tail : Env), hl.length = 52 → lookup tail n_suit = some (encSuit su) →
    ∃ tail', lookup tail' n_suit = some (encSuit su) ∧
      forF (mkRec P (f+14)) [n_rank] phInner
        ((n_content, a) :: (n_pattern, b) :: (n_match, d) :: (n_hand_list, .tuple hl)
          :: (n_hand_set, .tuple (acc.map encCard)) :: tail) (ts.map Val.str)
      = .ok ((n_content, a) :: (n_pattern, b) :: (n_match, d) :: (n_hand_list, .tuple (setBits cs hl))
          :: (n_hand_set, .tuple ((cs.foldl (fun acc c => if c ∈ acc then acc else acc ++ [c]) acc).map encCard))
          :: tail', .next) := by
  intro ts
  induction ts with
  | nil =>
    intro cs h acc hl tail _ hs
    have : cs = [] := by simpa using h.symm
    subst this
    exact ⟨tail, hs, rfl⟩
  | cons t ts ih =>
    intro cs h acc hl tail hlen hs
    by_cases ht : t = ['-']
    · subst ht
      have h' : (ts.filter (· ≠ ['-'])).mapM (tokCard? su) = some cs := by simpa using h
      obtain ⟨tail', hs', e⟩ := ih cs h' acc hl (update tail n_rank (.str ['-'])) hlen
        (by rw [lookup_update_ne _ _ _ _ hq_ne_suit_rank]; exact hs)
      refine ⟨tail', hs', ?_⟩
      simp only [phInner, phOuter, m_Client_parse_hand, List.getD_cons_succ, List.getD_cons_zero] at e ⊢
      simp only [List.map_cons, forF]
      ppsimp [beq_str_decide]
      exact e
    · have hf : (t :: ts).filter (· ≠ ['-']) = t :: ts.filter (· ≠ ['-']) := by simp [ht]
      rw [hf] at h
      obtain ⟨c, cs', hc, hr, rfl⟩ := hq_mapM_cons _ _ _ _ h
      unfold tokCard? at hc
      cases hrk : rankOfToken? t with
      | none => rw [hrk] at hc; cases hc
      | some r =>
        rw [hrk] at hc
        obtain ⟨rfl, hok⟩ := hq_card_ok r su c hc
        obtain ⟨h2, _, h52⟩ := hands_ok_card hok
        have hcon := fun k => hd_construct_card k ⟨r, su⟩ hok
        simp only at hcon
        have hcard : Val.obj n_Card [(n_rank, .int r), (n_suit, encSuit su)] = encCard ⟨r, su⟩ := rfl
        have hidx : normIndex 52 ((Card.idx ⟨r, su⟩ : Nat) : Int) = some (Card.idx ⟨r, su⟩) := hd_normIndex_nat _ _ h52
        have hs1 : lookup (update tail n_rank (.str t)) n_suit = some (encSuit su) := by
          rw [lookup_update_ne _ _ _ _ hq_ne_suit_rank]; exact hs
        obtain ⟨tail', hs', e⟩ := ih cs' hr (if (⟨r, su⟩ : Card) ∈ acc then acc else acc ++ [⟨r, su⟩])
          (replaceAt hl (Card.idx ⟨r, su⟩) (.int 1)) (update (update tail n_rank (.str t)) n_card (encCard ⟨r, su⟩))
          (by rw [hd_replaceAt_length]; exact hlen)
          (by rw [lookup_update_ne _ _ _ _ hq_ne_suit_card]; exact hs1)
        refine ⟨tail', hs', ?_⟩
        simp only [phInner, phOuter, m_Client_parse_hand, List.getD_cons_succ, List.getD_cons_zero] at e ⊢
        simp only [List.map_cons, forF, List.foldl_cons, setBits]
        ppsimp [beq_str_decide, ht, jp_mth_rank_str_to_int, hq_rank_str_to_int_call _ _ _ hrk, hs1, hcon, hcard,
          hp_add_card, hd_builtin_int_card, hd_idxZ _ h2, hlen, hidx]
        exact e

theorem hq_ne_suit_ranks : n_suit ≠ n_ranks := by decide

theorem hq_setBits_len (cs : List Card) : ∀ xs : List Val, (setBits cs xs).length = xs.length := by
  induction cs with
  | nil => intro xs; rfl
  | cons c cs ih => intro xs; simp only [setBits, List.foldl_cons] at ih ⊢; rw [ih, hd_replaceAt_length]

/-- one turn of the outer loop: the group `g` of suit `su`, already split -/
theorem hq_outer_step (f : Nat) (a b d : Val) (su : Suit) (g : List Char) (cs : List Card)
    (hcs : cardsOfGroup? g su = some cs) (acc : List Card) (hl : List Val) (tail : Env) (hlen : hl.length = 52)
    (items : List Val) :
    ∃ tail', forF (mkRec P (f+16)) [n_ranks, n_suit] phOuter
        ((n_content, a) :: (n_pattern, b) :: (n_match, d) :: (n_hand_list, .tuple hl)
          :: (n_hand_set, .tuple (acc.map encCard)) :: tail)
        (.tuple [.tuple ((splitSp g).map Val.str), encSuit su] :: items)
      = forF (mkRec P (f+16)) [n_ranks, n_suit] phOuter
        ((n_content, a) :: (n_pattern, b) :: (n_match, d) :: (n_hand_list, .tuple (setBits cs hl))
          :: (n_hand_set, .tuple ((cs.foldl (fun acc c => if c ∈ acc then acc else acc ++ [c]) acc).map encCard))
          :: tail') items := by
  obtain ⟨tail', _, e⟩ := hq_inner (f+1) a b d su (splitSp g) cs hcs acc hl
    (update (update tail n_ranks (.tuple ((splitSp g).map Val.str))) n_suit (encSuit su)) hlen (lookup_update_same ..)
  refine ⟨tail', ?_⟩
  simp only [phInner, phOuter, m_Client_parse_hand, List.getD_cons_succ, List.getD_cons_zero] at e ⊢
  conv => lhs; simp only [forF]
  ppsimp [iterItems_tuple, lookup_update_ne _ _ _ _ hq_ne_suit_ranks, e]

/-- the outer loop over any groups `(text, suit, cards read)` -/
theorem hq_outer (f : Nat) (a b d : Val) : ∀ (gs : List (List Char × Suit × List Card)),
    (∀ t ∈ gs, cardsOfGroup? t.1 t.2.1 = some t.2.2) →
    ∀ (acc : List Card) (hl : List Val) (tail : Env), hl.length = 52 →
    ∃ tail', forF (mkRec P (f+16)) [n_ranks, n_suit] phOuter
        ((n_content, a) :: (n_pattern, b) :: (n_match, d) :: (n_hand_list, .tuple hl)
          :: (n_hand_set, .tuple (acc.map encCard)) :: tail)
        (gs.map fun t => .tuple [.tuple ((splitSp t.1).map Val.str), encSuit t.2.1])
      = .ok ((n_content, a) :: (n_pattern, b) :: (n_match, d) :: (n_hand_list, .tuple (setBits (gs.flatMap (·.2.2)) hl))
          :: (n_hand_set, .tuple (((gs.flatMap (·.2.2)).foldl (fun acc c => if c ∈ acc then acc else acc ++ [c]) acc).map encCard))
          :: tail', .next) := by
  intro gs
  induction gs with
  | nil => intro _ acc hl tail _; exact ⟨tail, rfl⟩
  | cons t gs ih =>
    intro hgs acc hl tail hlen
    obtain ⟨t1, e1⟩ := hq_outer_step f a b d t.2.1 t.1 t.2.2 (hgs t (List.mem_cons_self ..)) acc hl tail hlen
      (gs.map fun t => .tuple [.tuple ((splitSp t.1).map Val.str), encSuit t.2.1])
    obtain ⟨t2, e2⟩ := ih (fun u hu => hgs u (List.mem_cons_of_mem _ hu))
      (t.2.2.foldl (fun acc c => if c ∈ acc then acc else acc ++ [c]) acc) (setBits t.2.2 hl) t1
      (by rw [hq_setBits_len]; exact hlen)
    refine ⟨t2, ?_⟩
    rw [List.map_cons, e1, e2]
    simp only [List.flatMap_cons, setBits, List.foldl_append]

end Bridge.Translated.HandParsers
