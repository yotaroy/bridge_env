import BridgeVerif.Translated.ThreadsSeatBPlayModel
/-! Translated `SeatThread._playing_phase` on a symbolic environment: one card (one turn of the inner loop) in its three
cases, the rotation and the opening of dummy; one turn of the inner loop = one card of `seatTrickR`; the inner loop = one
trick; the outer loop = `seatPlayingR.tricks`; the method -/
namespace Bridge.Translated.SeatB
open Bridge Bridge.Py Bridge.Generated.PyCore

/-- normal form of a text: literals as lists, appends to the right -/
macro "txtnorm" "[" ls:Lean.Parser.Tactic.simpLemma,* "]" "at" h:ident : tactic =>
  `(tactic| simp only [String.reduceToList, List.append_assoc, List.cons_append, List.nil_append, ne_eq,
      not_true_eq_false, not_false_eq_true, if_true, if_false, $ls,*] at $h:ident)

/-- the body of `for trick_num in range(1, 14)` -/
def ppOuterBody : List Stmt := match m_SeatThread__playing_phase.body.getD 3 .pass with
  | .for _ _ b => b
  | _ => []
/-- the body of `for i in range(4)` -/
def ppInnerBody : List Stmt := match ppOuterBody.getD 2 .pass with
  | .for _ _ b => b
  | _ => []
def ppS0 : Stmt := ppInnerBody.getD 0 .pass
def ppS1 : Stmt := ppInnerBody.getD 1 .pass
def ppS2 : Stmt := ppInnerBody.getD 2 .pass
theorem ppInnerBody_eq : ppInnerBody = [ppS0, ppS1, ppS2] := rfl

/-- what the loops rely on in the environment -/
structure PE (env : Env) (selfv : Val) (decl : Seat) (k : Nat) (active : Seat) (idx : Nat) : Prop where
  hself : lookup env K.self = some selfv
  hdecl : lookup env n_declarer = some (encSeat decl)
  hdummy : lookup env n_dummy = some (encSeat decl.partner)
  hk : lookup env n_trick_num = some (.int k)
  hact : lookup env n_active_player = some (encSeat active)
  hi : lookup env n_i = some (.int idx)

theorem sb_beq_idx0 (idx : Nat) : (Val.int (idx : Int)).beq (.int 0) = decide (idx = 0) := by
  rw [beq_int, Bool.eq_iff_iff]; simp only [beq_iff_eq, decide_eq_true_eq]; omega

attribute [pyworld] sb_beq_idx0

/-- closes `∃ env', .ok (e, fl) = .ok (env', fl) ∧ PE env' …` : the lookups through the updates -/
macro "pe_done" "[" ls:Lean.Parser.Tactic.simpLemma,* "]" : tactic =>
  `(tactic| refine ⟨_, rfl, ⟨?_, ?_, ?_, ?_, ?_, ?_⟩⟩ <;>
      simp (config := { decide := true }) only [lookup_update_same, lookup_update_ne, ne_eq, not_false_eq_true, String.reduceToList,
        List.cons_append, List.nil_append, List.append_assoc, if_true, if_false, $ls,*])

/-- own card: `p` is on turn and is not dummy -/
theorem sb_card_own (f : Nat) (p decl : Seat) (k idx : Nat) (env : Env) (q c : List Str) (card : Str) (out : List Val)
    (tb : Val) (tbs : List Val) (extra : List (Id × Val))
    (he : PE env (encSeatThread p (encSeatWorld p q (card :: c) out tb tbs) extra) decl k p idx)
    (hd : p ≠ decl.partner) :
    ∃ env', execStmtF (mkRec P (f+20)) P env ppS0 = .ok (env', .next) ∧
      PE env' (encSeatThread p (encSeatWorld p q c (out ++
        ((if idx = 0 then [Val.tuple [vstr "send", .str (p.formal ++ " to lead".toList)]] else []) ++
         [.tuple [vstr "recv"], .tuple [vstr "put", vstr "t2m", encSeat p, .str card]])) tb tbs) extra) decl k p idx := by
  obtain ⟨h1, h2, h3, h4, h5, h6⟩ := he
  simp only [ppS0, ppInnerBody, ppOuterBody, m_SeatThread__playing_phase, List.getD_cons_succ, List.getD_cons_zero]
  simp only [encSeatThread] at h1 ⊢
  by_cases h0 : idx = 0
  · ppsimp [pyworld, h1, h2, h3, h4, h5, h6, hd, h0]
    pe_done [h1, h2, h3, h4, h5, h6, h0]
  · ppsimp [pyworld, h1, h2, h3, h4, h5, h6, hd, h0]
    pe_done [h1, h2, h3, h4, h5, h6, h0]

theorem sb_ne_partner (p : Seat) : p ≠ p.partner := by cases p <;> decide
theorem sb_partner_ne (p : Seat) : p.partner ≠ p := by cases p <;> decide

/-- dummy's card, played by the declarer's client -/
theorem sb_card_dummy (f : Nat) (p : Seat) (k idx : Nat) (env : Env) (q c : List Str) (card : Str) (out : List Val)
    (tb : Val) (tbs : List Val) (extra : List (Id × Val))
    (he : PE env (encSeatThread p (encSeatWorld p q (card :: c) out tb tbs) extra) p k p.partner idx) :
    ∃ env', execStmtF (mkRec P (f+20)) P env ppS0 = .ok (env', .next) ∧
      PE env' (encSeatThread p (encSeatWorld p q c (out ++
        ((if idx = 0 then [Val.tuple [vstr "send", vstr "Dummy to lead"]] else []) ++
         [.tuple [vstr "recv"], .tuple [vstr "put", vstr "t2m", encSeat p, .str card]])) tb tbs) extra) p k p.partner idx := by
  obtain ⟨h1, h2, h3, h4, h5, h6⟩ := he
  simp only [ppS0, ppInnerBody, ppOuterBody, m_SeatThread__playing_phase, List.getD_cons_succ, List.getD_cons_zero]
  simp only [encSeatThread] at h1 ⊢
  by_cases h0 : idx = 0
  · ppsimp [pyworld, h1, h2, h3, h4, h5, h6, h0, sb_ne_partner]
    pe_done [h1, h2, h3, h4, h5, h6, h0, vstr]
  · ppsimp [pyworld, h1, h2, h3, h4, h5, h6, h0, sb_ne_partner]
    pe_done [h1, h2, h3, h4, h5, h6, h0]

/-- `x and y` when the test `x` is decided -/
theorem sb_and_ok (c : Prop) [Decidable c] (b : Bool) :
    (if c then (Except.ok (Val.bool b) : R Val) else .ok (.bool (decide c))) = .ok (.bool (decide c && b)) := by
  by_cases h : c <;> simp [h]

theorem sb_ite_ok_str (c : Prop) [Decidable c] (a b : Str) :
    (if c then (Except.ok (Val.str a) : R Val) else .ok (.str b)) = .ok (.str (if c then a else b)) := by
  split <;> rfl

/-- the `ready` text in the form the f-string of `_playing_phase` produces it -/
theorem sb_readyCardText_fstr (p declarer active : Seat) (k : Nat) : readyCardText p declarer active k =
    p.formal ++ ' ' :: 'r' :: 'e' :: 'a' :: 'd' :: 'y' :: ' ' :: 'f' :: 'o' :: 'r' :: ' ' ::
      ((if ¬active = declarer.partner then active.formal else ['d', 'u', 'm', 'm', 'y']) ++
      '\'' :: 's' :: ' ' :: 'c' :: 'a' :: 'r' :: 'd' :: ' ' :: 't' :: 'o' :: ' ' :: 't' :: 'r' :: 'i' :: 'c' :: 'k' :: ' ' ::
        intStr k) := by
  have hd : "dummy".toList = ['d', 'u', 'm', 'm', 'y'] := by decide
  simp only [readyCardText, hd, sb_intStr_nat, String.reduceToList, List.append_assoc, List.cons_append, List.nil_append,
    ne_eq]

/-- another seat's card is relayed: `<p> ready for <x>'s card to trick <k>` is awaited and checked, the card taken from
the queue and sent to the client -/
theorem sb_card_relay (f : Nat) (p decl active : Seat) (k idx : Nat) (env : Env) (q c : List Str) (m relay : Str)
    (out : List Val) (tb : Val) (tbs : List Val) (extra : List (Id × Val))
    (he : PE env (encSeatThread p (encSeatWorld p (relay :: q) (m :: c) out tb tbs) extra) decl k active idx)
    (hA : ¬(p = active ∧ p ≠ decl.partner)) (hB : ¬(p = decl ∧ active = decl.partner))
    (hm : passesCheck (readyCardText p decl active k) m) :
    ∃ env', execStmtF (mkRec P (f+24)) P env ppS0 = .ok (env', .next) ∧
      PE env' (encSeatThread p (encSeatWorld p q c (out ++
        [.tuple [vstr "recv"], .tuple [vstr "get", vstr "m2t", encSeat p], .tuple [vstr "send", .str relay]]) tb tbs)
        extra) decl k active idx := by
  obtain ⟨h1, h2, h3, h4, h5, h6⟩ := he
  simp only [ppS0, ppInnerBody, ppOuterBody, m_SeatThread__playing_phase, List.getD_cons_succ, List.getD_cons_zero]
  simp only [encSeatThread] at h1 ⊢
  -- the two tests of the statement fail; the name in the `ready` text stays the conditional expression it is
  have cA : (decide (p = active) && !decide (p = decl.partner)) = false := by simpa using hA
  have cB : (decide (p = decl) && decide (active = decl.partner)) = false := by simpa using hB
  rw [sb_readyCardText_fstr] at hm
  have hc := fun f out tb tbs rest => sb_check_pass f p (relay :: q) c m _ out tb tbs rest hm
  ppsimp [pyworld, h1, h2, h3, h4, h5, h6, sb_and_ok, cA, cB, sb_ite_ok_str, hc, List.flatten_cons, List.flatten_nil,
    List.append_nil, sb_strOf_int]
  pe_done [h1, h2, h3, h4, h5, h6]

/-! ## the second half of the loop body: rotation, opening of dummy -/
theorem sb_beq_k1 (k : Nat) : (Val.int (k : Int)).beq (.int 1) = decide (k = 1) := by
  rw [beq_int, Bool.eq_iff_iff]; simp only [beq_iff_eq, decide_eq_true_eq]; omega

theorem sb_open_none (f : Nat) (selfv : Val) (decl active : Seat) (k idx : Nat) (env : Env)
    (he : PE env selfv decl k active idx) (hn : ¬(k = 1 ∧ idx = 0)) :
    ∃ env', execF (mkRec P (f+20)) P env [ppS1, ppS2] = .ok (env', .next) ∧ PE env' selfv decl k active.left idx := by
  obtain ⟨h1, h2, h3, h4, h5, h6⟩ := he
  simp only [ppS1, ppS2, ppInnerBody, ppOuterBody, m_SeatThread__playing_phase, List.getD_cons_succ, List.getD_cons_zero]
  by_cases hk : k = 1
  · have h0 : ¬ idx = 0 := fun h => hn ⟨hk, h⟩
    subst hk
    ppsimp [pyworld, h1, h2, h3, h4, h5, h6, getAttr_next, sb_beq_k1, h0]
    pe_done [h1, h2, h3, h4, h5, h6]
  · ppsimp [pyworld, h1, h2, h3, h4, h5, h6, getAttr_next, sb_beq_k1, hk]
    pe_done [h1, h2, h3, h4, h5, h6]

/-- dummy's own thread: `continue` -/
theorem sb_open_dummy (f : Nat) (w : Val) (extra : List (Id × Val)) (decl active : Seat) (env : Env)
    (he : PE env (encSeatThread decl.partner w extra) decl 1 active 0) :
    ∃ env', execF (mkRec P (f+20)) P env [ppS1, ppS2] = .ok (env', .cont) ∧
      PE env' (encSeatThread decl.partner w extra) decl 1 active.left 0 := by
  obtain ⟨h1, h2, h3, h4, h5, h6⟩ := he
  simp only [ppS1, ppS2, ppInnerBody, ppOuterBody, m_SeatThread__playing_phase, List.getD_cons_succ, List.getD_cons_zero]
  simp only [encSeatThread] at h1 ⊢
  ppsimp [pyworld, h1, h2, h3, h4, h5, h6, getAttr_next, sb_beq_k1]
  pe_done [h1, h2, h3, h4, h5, h6]

/-- after the first card of the first trick dummy's hand is shown: `<p> ready for dummy` is awaited and checked, the hand
taken from the queue and sent -/
theorem sb_open_hand (f : Nat) (p decl active : Seat) (env : Env) (q c : List Str) (m dh : Str)
    (out : List Val) (tb : Val) (tbs : List Val) (extra : List (Id × Val))
    (he : PE env (encSeatThread p (encSeatWorld p (dh :: q) (m :: c) out tb tbs) extra) decl 1 active 0)
    (hd : p ≠ decl.partner) (hm : passesCheck (readyDummyText p) m) :
    ∃ env', execF (mkRec P (f+24)) P env [ppS1, ppS2] = .ok (env', .next) ∧
      PE env' (encSeatThread p (encSeatWorld p q c (out ++
        [.tuple [vstr "recv"], .tuple [vstr "get", vstr "m2t", encSeat p], .tuple [vstr "send", .str dh]]) tb tbs)
        extra) decl 1 active.left 0 := by
  obtain ⟨h1, h2, h3, h4, h5, h6⟩ := he
  simp only [ppS1, ppS2, ppInnerBody, ppOuterBody, m_SeatThread__playing_phase, List.getD_cons_succ, List.getD_cons_zero]
  simp only [encSeatThread] at h1 ⊢
  simp only [sb_readyDummyText, String.reduceToList] at hm
  have hc := fun f out tb tbs rest => sb_check_pass f p (dh :: q) c m _ out tb tbs rest hm
  ppsimp [pyworld, h1, h2, h3, h4, h5, h6, getAttr_next, sb_beq_k1, hd, hc]
  pe_done [h1, h2, h3, h4, h5, h6]

/-- the seat thread of `p` with streams `i` -/
def seatSelf (p : Seat) (i : SeatIn) (out : List Val) (tb : Val) (tbs : List Val) (extra : List (Id × Val)) : Val :=
  encSeatThread p (encSeatWorld p i.q i.c out tb tbs) extra

theorem sb_encActs_own (p : Seat) (pre : List (SAct Text LogOp)) (pv : List Val) (card : Str)
    (h : encSeatActs p pre = some pv) :
    encSeatActs p (pre ++ [.recv (.c2s p), .send (.t2m p) card])
      = some (pv ++ [.tuple [vstr "recv"], .tuple [vstr "put", vstr "t2m", encSeat p, .str card]]) :=
  encSeatActs_append p _ _ _ _ h (by simp [encSeatActs, encSeatAct])

/-- the first statement of the loop body is the first half of a card of `seatTrickR` -/
theorem sb_card_main (f : Nat) (p decl active : Seat) (k idx : Nat) (env : Env) (i i1 : SeatIn) (x : SeatActs)
    (out : List Val) (tb : Val) (tbs : List Val) (extra : List (Id × Val))
    (he : PE env (seatSelf p i out tb tbs extra) decl k active idx)
    (hm : cardMainR p decl idx active i = some (x, i1)) (hc : mainCheck p decl active k i) :
    ∃ env1 ops, execStmtF (mkRec P (f+24)) P env ppS0 = .ok (env1, .next) ∧ encSeatActs p x = some ops ∧
      PE env1 (seatSelf p i1 (out ++ ops) tb tbs extra) decl k active idx := by
  obtain ⟨q, c⟩ := i
  simp only [seatSelf] at he ⊢
  by_cases hA : p = active ∧ p ≠ decl.partner
  · simp only [cardMainR, if_pos hA] at hm
    obtain ⟨rfl, hd⟩ := hA
    cases c with
    | nil => simp only [SeatIn.getC, bind, Option.bind, reduceCtorEq] at hm
    | cons card c =>
      simp only [SeatIn.getC, bind, Option.bind, pure, Option.some.injEq, Prod.mk.injEq] at hm
      obtain ⟨rfl, rfl⟩ := hm
      obtain ⟨env1, h1, h2⟩ := sb_card_own (f+4) p decl k idx env q c card out tb tbs extra he hd
      refine ⟨env1, _, h1, sb_encActs_own p _ _ card ?_, h2⟩
      by_cases h0 : idx = 0 <;> simp [h0, encSeatActs, encSeatAct]
  · by_cases hB : p = decl ∧ active = decl.partner
    · simp only [cardMainR, if_neg hA, if_pos hB] at hm
      obtain ⟨rfl, rfl⟩ := hB
      cases c with
      | nil => simp only [SeatIn.getC, bind, Option.bind, reduceCtorEq] at hm
      | cons card c =>
        simp only [SeatIn.getC, bind, Option.bind, pure, Option.some.injEq, Prod.mk.injEq] at hm
        obtain ⟨rfl, rfl⟩ := hm
        obtain ⟨env1, h1, h2⟩ := sb_card_dummy (f+4) p k idx env q c card out tb tbs extra he
        refine ⟨env1, _, h1, sb_encActs_own p _ _ card ?_, h2⟩
        by_cases h0 : idx = 0 <;> simp [h0, encSeatActs, encSeatAct, vstr]
    · simp only [cardMainR, if_neg hA, if_neg hB] at hm
      cases c with
      | nil => simp only [SeatIn.getC, bind, Option.bind, reduceCtorEq] at hm
      | cons m c =>
        cases q with
        | nil => simp only [SeatIn.getC, SeatIn.getQ, bind, Option.bind, reduceCtorEq] at hm
        | cons relay q =>
          simp only [SeatIn.getC, SeatIn.getQ, bind, Option.bind, pure, Option.some.injEq, Prod.mk.injEq] at hm
          obtain ⟨rfl, rfl⟩ := hm
          have hpc : passesCheck (readyCardText p decl active k) m := by
            rcases hc with h | h | h
            · exact absurd h hA
            · exact absurd h hB
            · exact h m c rfl
          obtain ⟨env1, h1, h2⟩ := sb_card_relay f p decl active k idx env q c m relay out tb tbs extra he hA hB hpc
          exact ⟨env1, _, h1, by simp [encSeatActs, encSeatAct], h2⟩

/-- the other two statements are the second half -/
theorem sb_card_open (f : Nat) (p decl active : Seat) (k idx : Nat) (env : Env) (i i2 : SeatIn) (y : SeatActs)
    (out : List Val) (tb : Val) (tbs : List Val) (extra : List (Id × Val))
    (he : PE env (seatSelf p i out tb tbs extra) decl k active idx)
    (ho : cardOpenR p decl (decide (k = 1)) idx i = some (y, i2)) (hc : openCheck p decl k idx i) :
    ∃ env2 fl ops, execF (mkRec P (f+24)) P env [ppS1, ppS2] = .ok (env2, fl) ∧ (fl = .next ∨ fl = .cont) ∧
      encSeatActs p y = some ops ∧ PE env2 (seatSelf p i2 (out ++ ops) tb tbs extra) decl k active.left idx := by
  obtain ⟨q, c⟩ := i
  simp only [seatSelf] at he ⊢
  by_cases hO : k = 1 ∧ idx = 0
  · by_cases hd : p = decl.partner
    · have hn : ¬((decide (k = 1)) = true ∧ idx = 0 ∧ p ≠ decl.partner) := fun h => h.2.2 hd
      unfold cardOpenR at ho
      rw [if_neg hn] at ho
      obtain ⟨rfl, rfl⟩ := hO
      simp only [pure, Option.some.injEq, Prod.mk.injEq] at ho
      obtain ⟨rfl, rfl⟩ := ho
      subst hd
      obtain ⟨env2, h1, h2⟩ := sb_open_dummy (f+4) _ extra decl active env he
      exact ⟨env2, .cont, [], h1, Or.inr rfl, rfl, by simpa using h2⟩
    · have hp : (decide (k = 1)) = true ∧ idx = 0 ∧ p ≠ decl.partner := ⟨decide_eq_true hO.1, hO.2, hd⟩
      unfold cardOpenR at ho
      rw [if_pos hp] at ho
      obtain ⟨rfl, rfl⟩ := hO
      cases c with
      | nil => simp only [SeatIn.getC, bind, Option.bind, reduceCtorEq] at ho
      | cons m c =>
        cases q with
        | nil => simp only [SeatIn.getC, SeatIn.getQ, bind, Option.bind, reduceCtorEq] at ho
        | cons dh q =>
          simp only [SeatIn.getC, SeatIn.getQ, bind, Option.bind, pure, Option.some.injEq, Prod.mk.injEq] at ho
          obtain ⟨rfl, rfl⟩ := ho
          obtain ⟨env2, h1, h2⟩ := sb_open_hand f p decl active env q c m dh out tb tbs extra he hd
            (hc ⟨rfl, rfl, hd⟩ m c rfl)
          exact ⟨env2, .next, _, h1, Or.inl rfl, by simp [encSeatActs, encSeatAct], h2⟩
  · have hn : ¬((decide (k = 1)) = true ∧ idx = 0 ∧ p ≠ decl.partner) := fun h =>
      hO ⟨of_decide_eq_true h.1, h.2.1⟩
    unfold cardOpenR at ho
    rw [if_neg hn] at ho
    simp only [pure, Option.some.injEq, Prod.mk.injEq] at ho
    obtain ⟨rfl, rfl⟩ := ho
    obtain ⟨env2, h1, h2⟩ := sb_open_none (f+4) _ decl active k idx env he hO
    exact ⟨env2, .next, [], h1, Or.inl rfl, rfl, by simpa using h2⟩

/-- ONE TURN of `for i in range(4)` is one card of `seatTrickR` -/
theorem sb_card (f : Nat) (p decl active : Seat) (k idx : Nat) (env : Env) (i i1 i2 : SeatIn) (x y : SeatActs)
    (out : List Val) (tb : Val) (tbs : List Val) (extra : List (Id × Val))
    (he : PE env (seatSelf p i out tb tbs extra) decl k active idx)
    (hm : cardMainR p decl idx active i = some (x, i1)) (hcm : mainCheck p decl active k i)
    (ho : cardOpenR p decl (decide (k = 1)) idx i1 = some (y, i2)) (hco : openCheck p decl k idx i1) :
    ∃ env2 fl ops, execF (mkRec P (f+24)) P env ppInnerBody = .ok (env2, fl) ∧ (fl = .next ∨ fl = .cont) ∧
      encSeatActs p (x ++ y) = some ops ∧ PE env2 (seatSelf p i2 (out ++ ops) tb tbs extra) decl k active.left idx := by
  obtain ⟨env1, ops1, h1, e1, he1⟩ := sb_card_main f p decl active k idx env i i1 x out tb tbs extra he hm hcm
  obtain ⟨env2, fl, ops2, h2, hfl, e2, he2⟩ := sb_card_open f p decl active k idx env1 i1 i2 y _ tb tbs extra he1 ho hco
  refine ⟨env2, fl, ops1 ++ ops2, ?_, hfl, encSeatActs_append p x y _ _ e1 e2, by simpa [List.append_assoc] using he2⟩
  rw [ppInnerBody_eq]
  simp only [execF, h1, bind_ok]
  exact h2

/-- `PE` without the loop counter `i` (not yet bound before the first trick) -/
structure PE1 (env : Env) (selfv : Val) (decl : Seat) (k : Nat) (active : Seat) : Prop where
  hself : lookup env K.self = some selfv
  hdecl : lookup env n_declarer = some (encSeat decl)
  hdummy : lookup env n_dummy = some (encSeat decl.partner)
  hk : lookup env n_trick_num = some (.int k)
  hact : lookup env n_active_player = some (encSeat active)

/-- … and without `trick_num`, `active_player` (what the outer loop relies on) -/
structure PE2 (env : Env) (selfv : Val) (decl : Seat) : Prop where
  hself : lookup env K.self = some selfv
  hdecl : lookup env n_declarer = some (encSeat decl)
  hdummy : lookup env n_dummy = some (encSeat decl.partner)

theorem PE.toPE1 {env selfv decl k active idx} (h : PE env selfv decl k active idx) : PE1 env selfv decl k active :=
  ⟨h.hself, h.hdecl, h.hdummy, h.hk, h.hact⟩
theorem PE1.toPE2 {env selfv decl k active} (h : PE1 env selfv decl k active) : PE2 env selfv decl :=
  ⟨h.hself, h.hdecl, h.hdummy⟩
theorem PE1.bind_i {env selfv decl k active} (h : PE1 env selfv decl k active) (idx : Nat) :
    PE (update env n_i (.int idx)) selfv decl k active idx := by
  obtain ⟨h1, h2, h3, h4, h5⟩ := h
  refine ⟨?_, ?_, ?_, ?_, ?_, ?_⟩ <;>
    simp (config := { decide := true }) only [lookup_update_same, lookup_update_ne, ne_eq, h1, h2, h3, h4, h5]

/-- the values `a, a+1, …` (`n` of them) a `range` yields -/
def intsFrom : Nat → Nat → List Val
  | _, 0 => []
  | a, n + 1 => .int a :: intsFrom (a + 1) n

/-- THE INNER LOOP `for i in range(4)` from position `idx` is `seatTrickR … idx` -/
theorem sb_trick_loop (f : Nat) (p decl : Seat) (k : Nat) (tb : Val) (tbs : List Val) (extra : List (Id × Val)) :
    ∀ (n idx : Nat) (active : Seat) (env : Env) (i i' : SeatIn) (out : List Val) (acts : SeatActs),
      idx + n = 4 → PE1 env (seatSelf p i out tb tbs extra) decl k active →
      seatTrickR p decl (decide (k = 1)) idx active i = some (acts, i') →
      trickChecks p decl k n idx active i →
      ∃ env' ops, forF (mkRec P (f+25)) [n_i] ppInnerBody env (intsFrom idx n) = .ok (env', .next) ∧
        encSeatActs p acts = some ops ∧ PE2 env' (seatSelf p i' (out ++ ops) tb tbs extra) decl := by
  intro n
  induction n with
  | zero =>
    intro idx active env i i' out acts hn he hm _
    have : idx = 4 := by omega
    subst this
    rw [seatTrickR_four] at hm
    simp only [Option.some.injEq, Prod.mk.injEq] at hm
    obtain ⟨rfl, rfl⟩ := hm
    exact ⟨env, [], rfl, rfl, by simpa using he.toPE2⟩
  | succ n ih =>
    intro idx active env i i' out acts hn he hm hc
    rw [seatTrickR_lt _ _ _ _ (by omega)] at hm
    obtain ⟨hcm, hc2⟩ := hc
    cases h1 : cardMainR p decl idx active i with
    | none => simp only [h1, bind, Option.bind, reduceCtorEq] at hm
    | some xi =>
      obtain ⟨x, i1⟩ := xi
      obtain ⟨hco, hc3⟩ := hc2 x i1 h1
      cases h2 : cardOpenR p decl (decide (k = 1)) idx i1 with
      | none => simp only [h1, h2, bind, Option.bind, reduceCtorEq] at hm
      | some yi =>
        obtain ⟨y, i2⟩ := yi
        cases h3 : seatTrickR p decl (decide (k = 1)) (idx + 1) active.left i2 with
        | none => simp only [h1, h2, h3, bind, Option.bind, reduceCtorEq] at hm
        | some ri =>
          obtain ⟨rest, i3⟩ := ri
          simp only [h1, h2, h3, bind, Option.bind, pure, Option.some.injEq, Prod.mk.injEq] at hm
          obtain ⟨rfl, rfl⟩ := hm
          obtain ⟨env2, fl, ops, hx, hfl, eo, he2⟩ :=
            sb_card f p decl active k idx _ i i1 i2 x y out tb tbs extra (he.bind_i idx) h1 hcm h2 hco
          obtain ⟨env3, ops', hx', eo', he3⟩ :=
            ih (idx + 1) active.left env2 i2 i3 (out ++ ops) rest (by omega) (by
              obtain ⟨a1, a2, a3, a4, a5, _⟩ := he2
              exact ⟨a1, a2, a3, a4, a5⟩) h3 (hc3 y i2 h2)
          refine ⟨env3, ops ++ ops', ?_, encSeatActs_append p _ _ _ _ eo eo', by simpa [List.append_assoc] using he3⟩
          simp only [intsFrom, forF, pure_eq, bind_ok, exec_succ, hx]
          rcases hfl with rfl | rfl <;> exact hx'

/-! ## the outer loop -/
def ppT0 : Stmt := ppOuterBody.getD 0 .pass
def ppT1 : Stmt := ppOuterBody.getD 1 .pass
def ppT2 : Stmt := ppOuterBody.getD 2 .pass
theorem ppOuterBody_eq : ppOuterBody = [ppT0, ppT1] ++ [ppT2] := rfl

theorem sb_execF_append (r : Rec) (env : Env) (a b : List Stmt) (env1 : Env)
    (h : execF r P env a = .ok (env1, .next)) : execF r P env (a ++ b) = execF r P env1 b := execF_append_next b h

theorem sb_for_i (g : Nat) (env : Env) :
    execStmtF (mkRec P (g+2)) P env ppT2 = forF (mkRec P (g+2)) [n_i] ppInnerBody env (intsFrom 0 4) := rfl

/-- the leader's name is taken from the queue and converted -/
theorem sb_trick_head (f : Nat) (p decl leader : Seat) (k : Nat) (env : Env) (q c : List Str) (ln : Str) (out : List Val)
    (tb : Val) (tbs : List Val) (extra : List (Id × Val))
    (he : PE2 env (seatSelf p ⟨ln :: q, c⟩ out tb tbs extra) decl) (hk : lookup env n_trick_num = some (.int k))
    (hl : seatOfFormal? ln = some leader) :
    ∃ env1, execF (mkRec P (f+25)) P env [ppT0, ppT1] = .ok (env1, .next) ∧
      PE1 env1 (seatSelf p ⟨q, c⟩ (out ++ [.tuple [vstr "get", vstr "m2t", encSeat p]]) tb tbs extra) decl k leader := by
  obtain ⟨h1, h2, h3⟩ := he
  simp only [ppT0, ppT1, ppOuterBody, m_SeatThread__playing_phase, List.getD_cons_succ, List.getD_cons_zero]
  simp only [seatSelf, encSeatThread] at h1 ⊢
  have hcv := fun f => sb_convert f ln leader hl
  ppsimp [pyworld, h1, h2, h3, hk, sb_mth_convert, hcv]
  refine ⟨_, rfl, ⟨?_, ?_, ?_, ?_, ?_⟩⟩ <;>
    simp (config := { decide := true }) only [lookup_update_same, lookup_update_ne, ne_eq, h2, h3, hk]

/-- ONE TURN of `for trick_num in range(1, 14)` : the leader's name, then `seatTrickR … 0 leader` -/
theorem sb_trick_turn (f : Nat) (p decl leader : Seat) (k : Nat) (env : Env) (i i1 i2 : SeatIn) (ln : Str) (t : SeatActs)
    (out : List Val) (tb : Val) (tbs : List Val) (extra : List (Id × Val))
    (he : PE2 env (seatSelf p i out tb tbs extra) decl) (hk : lookup env n_trick_num = some (.int k))
    (hq : i.getQ = some (ln, i1)) (hl : seatOfFormal? ln = some leader)
    (ht : seatTrickR p decl (decide (k = 1)) 0 leader i1 = some (t, i2))
    (hc : trickChecks p decl k 4 0 leader i1) :
    ∃ env' ops, execF (mkRec P (f+25)) P env ppOuterBody = .ok (env', .next) ∧
      encSeatActs p ([.recv (.m2t p)] ++ t) = some ops ∧ PE2 env' (seatSelf p i2 (out ++ ops) tb tbs extra) decl := by
  obtain ⟨q, c⟩ := i
  cases q with
  | nil => simp only [SeatIn.getQ, reduceCtorEq] at hq
  | cons m q =>
    simp only [SeatIn.getQ, Option.some.injEq, Prod.mk.injEq] at hq
    obtain ⟨rfl, rfl⟩ := hq
    obtain ⟨env1, hx1, he1⟩ := sb_trick_head f p decl leader k env q c m out tb tbs extra he hk hl
    obtain ⟨env2, ops, hx2, eo, he2⟩ :=
      sb_trick_loop f p decl k tb tbs extra 4 0 leader env1 ⟨q, c⟩ i2 _ t rfl he1 ht hc
    refine ⟨env2, _ :: ops, ?_, ?_, by simpa [List.append_assoc] using he2⟩
    · rw [ppOuterBody_eq, sb_execF_append _ _ _ _ _ hx1]
      simp only [execF, sb_for_i, hx2, bind_ok, pure_eq]
    · simp only [List.cons_append, List.nil_append, encSeatActs, encSeatAct, if_true, eo, Option.bind_eq_bind,
        Option.bind_some, Option.pure_def]

/-- THE OUTER LOOP from trick `k` on (`n` tricks) is `seatPlayingR.tricks … n k` -/
theorem sb_tricks_loop (f : Nat) (p decl : Seat) (tb : Val) (tbs : List Val) (extra : List (Id × Val)) :
    ∀ (n k : Nat) (env : Env) (i i' : SeatIn) (out : List Val) (acts : SeatActs),
      PE2 env (seatSelf p i out tb tbs extra) decl →
      seatPlayingR.tricks p decl n k i = some (acts, i') → tricksChecks p decl n k i →
      ∃ env' ops, forF (mkRec P (f+26)) [n_trick_num] ppOuterBody env (intsFrom k n) = .ok (env', .next) ∧
        encSeatActs p acts = some ops ∧ PE2 env' (seatSelf p i' (out ++ ops) tb tbs extra) decl := by
  intro n
  induction n with
  | zero =>
    intro k env i i' out acts he hm _
    simp only [seatPlayingR.tricks, Option.some.injEq, Prod.mk.injEq] at hm
    obtain ⟨rfl, rfl⟩ := hm
    exact ⟨env, [], rfl, rfl, by simpa using he⟩
  | succ n ih =>
    intro k env i i' out acts he hm hc
    simp only [seatPlayingR.tricks] at hm
    cases h1 : i.getQ with
    | none => simp only [h1, bind, Option.bind, reduceCtorEq] at hm
    | some li =>
      obtain ⟨ln, i1⟩ := li
      cases h2 : seatOfFormal? ln with
      | none => simp only [h1, h2, bind, Option.bind, reduceCtorEq] at hm
      | some leader =>
        obtain ⟨hc1, hc2⟩ := hc ln i1 leader h1 h2
        cases h3 : seatTrickR p decl (decide (k = 1)) 0 leader i1 with
        | none => simp only [h1, h2, h3, bind, Option.bind, reduceCtorEq] at hm
        | some ti =>
          obtain ⟨t, i2⟩ := ti
          cases h4 : seatPlayingR.tricks p decl n (k + 1) i2 with
          | none => simp only [h1, h2, h3, h4, bind, Option.bind, reduceCtorEq] at hm
          | some ri =>
            obtain ⟨rest, i3⟩ := ri
            simp only [h1, h2, h3, h4, bind, Option.bind, pure, Option.some.injEq, Prod.mk.injEq] at hm
            obtain ⟨rfl, rfl⟩ := hm
            have he0 : PE2 (update env n_trick_num (.int k)) (seatSelf p i out tb tbs extra) decl := by
              obtain ⟨a1, a2, a3⟩ := he
              refine ⟨?_, ?_, ?_⟩ <;>
                simp (config := { decide := true }) only [lookup_update_ne, ne_eq, a1, a2, a3]
            obtain ⟨env1, ops, hx, eo, he1⟩ := sb_trick_turn f p decl leader k _ i i1 i2 ln t out tb tbs extra he0
              (lookup_update_same _ _ _) h1 h2 h3 hc1
            obtain ⟨env2, ops', hx', eo', he2⟩ := ih (k + 1) env1 i2 i3 (out ++ ops) rest he1 h4 (hc2 t i2 h3)
            refine ⟨env2, ops ++ ops', ?_, ?_, by simpa [List.append_assoc] using he2⟩
            · simp only [intsFrom, forF, pure_eq, bind_ok, exec_succ, hx]
              exact hx'
            · have := encSeatActs_append p _ _ _ _ eo eo'
              simpa [List.append_assoc] using this

theorem sb_range_1_14 (r : Rec) : builtinF r P .range [.int 1, .int 14] = .ok (.tuple (intsFrom 1 13)) := rfl

/-- `_playing_phase` at fuel `f + 27` -/
theorem sb_playing_call (f : Nat) (p : Seat) (i i' : SeatIn) (acts : SeatActs) (out : List Val) (tb : Val)
    (tbs : List Val) (extra : List (Id × Val))
    (hm : seatPlayingR p i = some (acts, i')) (hc : playingChecks p i) :
    ∃ ops, encSeatActs p acts = some ops ∧
      callF (mkRec P (f+27)) m_SeatThread__playing_phase [seatSelf p i out tb tbs extra]
        = .ok (.bool true, seatSelf p i' (out ++ ops) tb tbs extra) := by
  simp only [seatPlayingR] at hm
  cases h1 : i.getQ with
  | none => simp only [h1, bind, Option.bind, reduceCtorEq] at hm
  | some di =>
    obtain ⟨dn, i1⟩ := di
    cases h2 : seatOfFormal? dn with
    | none => simp only [h1, h2, bind, Option.bind, reduceCtorEq] at hm
    | some decl =>
      cases h3 : seatPlayingR.tricks p decl 13 1 i1 with
      | none => simp only [h1, h2, h3, bind, Option.bind, reduceCtorEq] at hm
      | some ti =>
        obtain ⟨ts, i2⟩ := ti
        simp only [h1, h2, h3, bind, Option.bind, pure, Option.some.injEq, Prod.mk.injEq] at hm
        obtain ⟨rfl, rfl⟩ := hm
        obtain ⟨q, c⟩ := i
        cases q with
        | nil => simp only [SeatIn.getQ, reduceCtorEq] at h1
        | cons m q =>
          simp only [SeatIn.getQ, Option.some.injEq, Prod.mk.injEq] at h1
          obtain ⟨rfl, rfl⟩ := h1
          have hcv := fun f => sb_convert f m decl h2
          have hc' := hc m ⟨q, c⟩ decl rfl h2
          have he0 : PE2 [(K.self, seatSelf p ⟨q, c⟩ (out ++ [.tuple [vstr "get", vstr "m2t", encSeat p]]) tb tbs extra),
              (n__t1, .str m), (n_declarer, encSeat decl), (n_dummy, encSeat decl.partner)]
              (seatSelf p ⟨q, c⟩ (out ++ [.tuple [vstr "get", vstr "m2t", encSeat p]]) tb tbs extra) decl :=
            ⟨rfl, rfl, rfl⟩
          obtain ⟨env', ops, hx, eo, he'⟩ := sb_tricks_loop f p decl tb tbs extra 13 1 _ ⟨q, c⟩ i2 _ ts he0 h3 hc'
          refine ⟨.tuple [vstr "get", vstr "m2t", encSeat p] :: ops, ?_, ?_⟩
          · simp only [List.cons_append, List.nil_append, encSeatActs, encSeatAct, if_true, eo, Option.bind_eq_bind,
              Option.bind_some, Option.pure_def]
          · rw [callF_def]
            simp only [m_SeatThread__playing_phase, bindParams, Option.map]
            simp only [ppOuterBody, m_SeatThread__playing_phase, List.getD_cons_succ, List.getD_cons_zero] at hx
            simp only [seatSelf, encSeatThread] at hx he' ⊢
            ppsimp [pyworld, sb_mth_convert, hcv, getAttr_partner, sb_range_1_14, iterItems_tuple]
            rw [hx]
            have hs := he'.hself
            simp only [List.append_assoc, List.cons_append, List.nil_append] at hs
            simp only [hs, Option.getD_some]

end Bridge.Translated.SeatB
