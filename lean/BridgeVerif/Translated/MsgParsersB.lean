import BridgeVerif.Translated.MsgParsersA
import BridgeVerif.Lemmas.RegexMsgBidC
/-! Translated `Server.remove_alert_word` (server.py) = model: for EVERY text of the class `RegexMsgBid.agreeWs` (every ASCII
text without U+001C..U+001F) and every fuel ≥ 4 the generated method returns `removeAlert` of `Model/Msg.lean`. -/
namespace Bridge.Translated.MsgParsers
open Bridge Bridge.Py Bridge.Generated.PyCore Bridge.Translated Bridge.RegexHands Bridge.RegexMsgBid

theorem mp_reSub (r : Rec) (pat repl s t : List Char) (h : Re.pySub true pat repl s = some t) :
    builtinF r P .reSub [.str pat, .str repl, .str s, .bool true] = .ok (.str t) := by
  simp only [builtinF, h]; rfl

theorem mp_remove_alert_call (f : Nat) (msg : List Char) (hs : ∀ x ∈ msg, agreeWs x = true) :
    callF (mkRec P (f+3)) m_Server_remove_alert_word [.str msg] = .ok (.str (removeAlert msg), .str msg) := by
  have hsub := sub_alert msg hs
  rw [show ALERT_PATTERN = _ from String.toList_ofList] at hsub
  rw [callF_def]
  simp only [m_Server_remove_alert_word, bindParams, Option.map]
  ppsimp [mapR, mp_reSub _ _ _ _ _ hsub]

/-- TRANSLATED `remove_alert_word` = MODEL on every text of the class, at every fuel ≥ 4 -/
theorem remove_alert_word_translated (msg : List Char) (hs : ∀ x ∈ msg, agreeWs x = true) :
    ∀ f, 4 ≤ f → callFn P f m_Server_remove_alert_word [.str msg] = .ok (.str (removeAlert msg), .str msg) := by
  intro f hf
  obtain ⟨g, rfl⟩ : ∃ g, f = g + 4 := ⟨f - 4, by omega⟩
  exact mp_remove_alert_call g msg hs

theorem remove_alert_word_translated_ascii (msg : List Char)
    (hs : ∀ x ∈ msg, x.toNat < 128 ∧ ¬ (0x1C ≤ x.toNat ∧ x.toNat ≤ 0x1F)) :
    ∀ f, 4 ≤ f → callFn P f m_Server_remove_alert_word [.str msg] = .ok (.str (removeAlert msg), .str msg) :=
  remove_alert_word_translated msg fun x hx => agreeWs_ascii x (hs x hx).1 (hs x hx).2

end Bridge.Translated.MsgParsers
