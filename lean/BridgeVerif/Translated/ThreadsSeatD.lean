import BridgeVerif.Translated.ThreadsSeatDLemmasE
/-!
# The CAPSTONE for the seat thread: the TRANSLATED `SeatThread.run` performs EXACTLY the session program

`SeatC.seat_run_translated` (the generated `m_SeatThread_run` in the whole translated program `P` = admission +
`seatReactive`) composed with `C09.seat_thread_follows_its_queue` (`seatReactive` on the session's streams =
`sessionProg sc (.seat p)`), the `ready …` checks discharged for the texts the session model's clients send.

* Translated/ThreadsSeatDLemmasB.lean — the finite families of `ready` texts, decided in the kernel; (1)
  `session_ready_messages_pass` and the lemmas per shape;
* Translated/ThreadsSeatDLemmasC.lean — the checks of the deal, the auction, one card on the session's streams;
* Translated/ThreadsSeatDLemmasD.lean — one trick, the thirteen tricks, the play of a board;
* Translated/ThreadsSeatDLemmasE.lean — one board, all the boards (`boards_checks`), their number (`boards_num`);
* here: (2) `session_boards_checks`, (3) `translated_seat_thread_is_session_program`.
-/
namespace Bridge.Translated.SeatD
open Bridge Bridge.Py Bridge.Generated.PyCore
open Bridge.Translated.SeatB (encSeatThread0 encTable threadName optText)
open Bridge.Translated.SeatC (boardsChecks boardsTables seatingOps seat_run_translated advBoards)

/-- the queue stream of seat `p` in a session: what main sends on `m2t p` -/
theorem session_q_eq (sc : Scenario) (p : Seat) :
    sendsOn (Chan.m2t p) (sessionProg sc .main) = (boardsPhases sc 1 sc.boards).flatMap (qOf p) := by
  unfold sessionProg sessionPhases
  rw [sendsOn_progOfPhases, List.flatMap_cons]
  show qOf p _ ++ List.flatMap (qOf p) _ = _
  rw [qOf_seating]; rfl

/-- the connection stream of seat `p` in a session: `<p> ready to start`, then the boards -/
theorem session_c_eq (sc : Scenario) (p : Seat) :
    sendsOn (Chan.c2s p) (sessionProg sc (.client p)) =
      (p.formal ++ " ready to start".toList) :: (boardsPhases sc 1 sc.boards).flatMap (cOf p) := by
  unfold sessionProg sessionPhases
  rw [sendsOn_progOfPhases, List.flatMap_cons]
  show cOf p _ ++ List.flatMap (cOf p) _ = _
  rw [cOf_seating]; rfl

/-- (2) THE SESSION'S STREAMS PASS EVERY CHECK: for a playable scenario with at least one board, every `ready …` message
the translated seat thread of `p` consumes from its client during the boards passes `_check_message`, the queue being
what main sends on `m2t p` and the connection what the client sends on `c2s p` after `<p> ready to start` -/
theorem session_boards_checks (sc : Scenario) (h : sc.boards ≠ []) (hw : ScenarioPlayable sc) (p : Seat) :
    boardsChecks p ((sendsOn (Chan.m2t p) (sessionProg sc .main)).length + 1)
      ⟨sendsOn (Chan.m2t p) (sessionProg sc .main), (sendsOn (Chan.c2s p) (sessionProg sc (.client p))).tail⟩ := by
  rw [session_q_eq, session_c_eq, List.tail_cons]
  have hb := boards_checks sc p [] [] sc.boards 1 (((boardsPhases sc 1 sc.boards).flatMap (qOf p)).length + 1) h
    (fun bd hbd => hw bd.1 bd.2 hbd)
  simp only [List.append_nil] at hb
  exact hb

/-- the boards consume the session's streams entirely -/
theorem session_boards_run (sc : Scenario) (h : sc.boards ≠ []) (hw : ScenarioPlayable sc) (p : Seat) :
    ∃ bs, seatBoardsR p ((sendsOn (Chan.m2t p) (sessionProg sc .main)).length + 1)
      ⟨sendsOn (Chan.m2t p) (sessionProg sc .main), (sendsOn (Chan.c2s p) (sessionProg sc (.client p))).tail⟩
        = some (bs, ⟨[], []⟩) := by
  rw [session_q_eq, session_c_eq, List.tail_cons]
  have hrun := seatBoardsR_boards sc p [] [] sc.boards 1
    (((boardsPhases sc 1 sc.boards).flatMap (qOf p)).length + 1) h (fun bd hbd => hw bd.1 bd.2 hbd)
    (by have := boardsPhases_q_length sc p sc.boards 1; omega)
  simp only [List.append_nil] at hrun
  exact ⟨_, hrun⟩

/-- two barrier waits per board of the scenario -/
theorem session_boards_tables (sc : Scenario) (h : sc.boards ≠ []) (hw : ScenarioPlayable sc) (p : Seat)
    (tt : Val × List Val) :
    boardsTables p ((sendsOn (Chan.m2t p) (sessionProg sc .main)).length + 1)
      ⟨sendsOn (Chan.m2t p) (sessionProg sc .main), (sendsOn (Chan.c2s p) (sessionProg sc (.client p))).tail⟩ tt
      = advBoards sc.boards.length tt := by
  rw [SeatC.boardsTables_eq_iterate, session_q_eq, session_c_eq, List.tail_cons]
  have hb := boards_num sc p [] [] sc.boards 1 (((boardsPhases sc 1 sc.boards).flatMap (qOf p)).length + 1) h
    (fun bd hbd => hw bd.1 bd.2 hbd) (by have := boardsPhases_q_length sc p sc.boards 1; omega)
  simp only [List.append_nil] at hb
  rw [hb]

/-- (3, relative to the checks) the capstone with `boardsChecks` of the session streams as a hypothesis -/
theorem translated_seat_thread_is_session_program_of_checks (sc : Scenario) (h : sc.boards ≠ [])
    (hw : ScenarioPlayable sc) (p : Seat) (N f : Nat) (req ready : Str) (out : List Val) (t : Table)
    (tables : List Table) (team : Str) (s' : Val)
    (hf : N + (sendsOn (Chan.m2t p) (sessionProg sc .main)).length + 113 ≤ f)
    (hparse : ∀ g, N ≤ g → callFn P g m_PlayerThread_parse_connection_info [.str req]
      = .ok (.tuple [.str team, encSeat p, .int 18], s'))
    (hv : (admitReq t ⟨team, p, 18⟩).2 = .seated)
    (hr : SeatB.passesCheck (p.formal ++ " ready for teams".toList) ready)
    (hN : optText ((tables.headD (admitReq t ⟨team, p, 18⟩).1) .N) = sc.nsName)
    (hE : optText ((tables.headD (admitReq t ⟨team, p, 18⟩).1) .E) = sc.ewName)
    (hck : boardsChecks p ((sendsOn (Chan.m2t p) (sessionProg sc .main)).length + 1)
      ⟨sendsOn (Chan.m2t p) (sessionProg sc .main), (sendsOn (Chan.c2s p) (sessionProg sc (.client p))).tail⟩) :
    ∃ ops q' c', encSeatActs p (sessionProg sc (.seat p)) = some ops ∧
      callFn P f m_SeatThread_run
          [encSeatThread0 (encSeatWorld p (sendsOn (Chan.m2t p) (sessionProg sc .main))
            (req :: ready :: sendsOn (Chan.c2s p) (sessionProg sc (.client p))) out (encTable t) (tables.map encTable))]
        = .ok (.none, encSeatThread p (encSeatWorld p q' c'
            (out ++ seatingOps p team (replyText ⟨team, p, 18⟩ t .seated) ++ ops)
            (boardsTables p ((sendsOn (Chan.m2t p) (sessionProg sc .main)).length + 1)
              ⟨sendsOn (Chan.m2t p) (sessionProg sc .main), (sendsOn (Chan.c2s p) (sessionProg sc (.client p))).tail⟩
              (encTable (tables.headD (admitReq t ⟨team, p, 18⟩).1), tables.tail.map encTable)).1
            (boardsTables p ((sendsOn (Chan.m2t p) (sessionProg sc .main)).length + 1)
              ⟨sendsOn (Chan.m2t p) (sessionProg sc .main), (sendsOn (Chan.c2s p) (sessionProg sc (.client p))).tail⟩
              (encTable (tables.headD (admitReq t ⟨team, p, 18⟩).1), tables.tail.map encTable)).2)
            [(K.name, .str (threadName p team))]) := by
  have hm := C09.seat_thread_follows_its_queue sc h hw p
  have hc := session_c_eq sc p
  generalize sendsOn (Chan.m2t p) (sessionProg sc .main) = q at *
  generalize sendsOn (Chan.c2s p) (sessionProg sc (.client p)) = c at *
  subst hc
  rw [← hN, ← hE] at hm
  obtain ⟨ops, bs, q', c', ho, _, hx⟩ := seat_run_translated N f q _ req ready _ out t tables team p 18 s' _ hf hparse hv hr
    (ready_start_passes p) hck hm
  exact ⟨ops, q', c', ho, hx⟩

/-- (3) THE CAPSTONE.  A playable scenario `sc` with at least one board, a seat `p`; the connection delivers a request
`req` the translated `parse_connection_info` reads as `(team, p, 18)`, then `ready` (any text passing the check against
`<p> ready for teams`), then EXACTLY what the session model's client of `p` sends; the queue delivers EXACTLY what the
session model's main thread sends to `p`; `admitReq` seats the request on `t`; the table after the seating barrier has
`sc.nsName` at North and `sc.ewName` at East.  Then the generated `SeatThread.run` returns `None`, has consumed both
streams entirely, and the world has recorded, after the five admission operations `seatingOps`, EXACTLY the rendering of
the session program `sessionProg sc (.seat p)` — the program the completion theorems of Props/C09.lean are about.  The
table has advanced twice per board.  No check hypothesis is left. -/
theorem translated_seat_thread_is_session_program_of_ready (sc : Scenario) (h : sc.boards ≠ [])
    (hw : ScenarioPlayable sc) (p : Seat) (N f : Nat) (req ready : Str) (out : List Val) (t : Table)
    (tables : List Table) (team : Str) (s' : Val)
    (hf : N + (sendsOn (Chan.m2t p) (sessionProg sc .main)).length + 113 ≤ f)
    (hparse : ∀ g, N ≤ g → callFn P g m_PlayerThread_parse_connection_info [.str req]
      = .ok (.tuple [.str team, encSeat p, .int 18], s'))
    (hv : (admitReq t ⟨team, p, 18⟩).2 = .seated)
    (hr : SeatB.passesCheck (p.formal ++ " ready for teams".toList) ready)
    (hN : optText ((tables.headD (admitReq t ⟨team, p, 18⟩).1) .N) = sc.nsName)
    (hE : optText ((tables.headD (admitReq t ⟨team, p, 18⟩).1) .E) = sc.ewName) :
    ∃ ops, encSeatActs p (sessionProg sc (.seat p)) = some ops ∧
      callFn P f m_SeatThread_run
          [encSeatThread0 (encSeatWorld p (sendsOn (Chan.m2t p) (sessionProg sc .main))
            (req :: ready :: sendsOn (Chan.c2s p) (sessionProg sc (.client p))) out (encTable t) (tables.map encTable))]
        = .ok (.none, encSeatThread p (encSeatWorld p [] []
            (out ++ seatingOps p team (replyText ⟨team, p, 18⟩ t .seated) ++ ops)
            (advBoards sc.boards.length
              (encTable (tables.headD (admitReq t ⟨team, p, 18⟩).1), tables.tail.map encTable)).1
            (advBoards sc.boards.length
              (encTable (tables.headD (admitReq t ⟨team, p, 18⟩).1), tables.tail.map encTable)).2)
            [(K.name, .str (threadName p team))]) := by
  have hm := C09.seat_thread_follows_its_queue sc h hw p
  have hck := session_boards_checks sc h hw p
  obtain ⟨bs0, hrun⟩ := session_boards_run sc h hw p
  have htab := session_boards_tables sc h hw p
    (encTable (tables.headD (admitReq t ⟨team, p, 18⟩).1), tables.tail.map encTable)
  have hc := session_c_eq sc p
  generalize sendsOn (Chan.m2t p) (sessionProg sc .main) = q at *
  generalize sendsOn (Chan.c2s p) (sessionProg sc (.client p)) = c at *
  subst hc
  rw [← hN, ← hE] at hm
  simp only [List.tail_cons] at hck hrun htab
  obtain ⟨ops, bs, q', c', ho, hbs, hx⟩ := seat_run_translated N f q _ req ready _ out t tables team p 18 s' _ hf hparse
    hv hr (ready_start_passes p) hck hm
  rw [hrun] at hbs
  simp only [Option.some.injEq, Prod.mk.injEq, SeatIn.mk.injEq] at hbs
  obtain ⟨_, rfl, rfl⟩ := hbs
  rw [htab] at hx
  exact ⟨ops, ho, hx⟩

/-- (3) the capstone with the conforming admission text `<p> ready for teams` itself -/
theorem translated_seat_thread_is_session_program (sc : Scenario) (h : sc.boards ≠ [])
    (hw : ScenarioPlayable sc) (p : Seat) (N f : Nat) (req : Str) (out : List Val) (t : Table)
    (tables : List Table) (team : Str) (s' : Val)
    (hf : N + (sendsOn (Chan.m2t p) (sessionProg sc .main)).length + 113 ≤ f)
    (hparse : ∀ g, N ≤ g → callFn P g m_PlayerThread_parse_connection_info [.str req]
      = .ok (.tuple [.str team, encSeat p, .int 18], s'))
    (hv : (admitReq t ⟨team, p, 18⟩).2 = .seated)
    (hN : optText ((tables.headD (admitReq t ⟨team, p, 18⟩).1) .N) = sc.nsName)
    (hE : optText ((tables.headD (admitReq t ⟨team, p, 18⟩).1) .E) = sc.ewName) :
    ∃ ops, encSeatActs p (sessionProg sc (.seat p)) = some ops ∧
      callFn P f m_SeatThread_run
          [encSeatThread0 (encSeatWorld p (sendsOn (Chan.m2t p) (sessionProg sc .main))
            (req :: (p.formal ++ " ready for teams".toList) :: sendsOn (Chan.c2s p) (sessionProg sc (.client p)))
            out (encTable t) (tables.map encTable))]
        = .ok (.none, encSeatThread p (encSeatWorld p [] []
            (out ++ seatingOps p team (replyText ⟨team, p, 18⟩ t .seated) ++ ops)
            (advBoards sc.boards.length
              (encTable (tables.headD (admitReq t ⟨team, p, 18⟩).1), tables.tail.map encTable)).1
            (advBoards sc.boards.length
              (encTable (tables.headD (admitReq t ⟨team, p, 18⟩).1), tables.tail.map encTable)).2)
            [(K.name, .str (threadName p team))]) :=
  translated_seat_thread_is_session_program_of_ready sc h hw p N f req _ out t tables team s' hf hparse hv
    (ready_teams_passes p) hN hE

end Bridge.Translated.SeatD

namespace Bridge.Translated.SeatD
open Bridge Bridge.Py Bridge.Generated.PyCore
open Bridge.Translated.SeatB (encSeatThread0 encTable threadName optText)
open Bridge.Translated.SeatC (seatingOps advBoards)

/-! ## non-vacuity: one board, passed out; teams Alpha (N/S) and Beta (E/W); North's thread -/

def exBoard : BoardSetting := { boardId := "1".toList, dealer := .N, vul := .none, deal := fun _ => [] }
def exDecisions : Decisions :=
  { calls := [(.pass, "North passes".toList), (.pass, "East passes".toList), (.pass, "South passes".toList),
      (.pass, "West passes".toList)], cards := [] }
def exSc : Scenario := { nsName := "Alpha".toList, ewName := "Beta".toList, boards := [(exBoard, exDecisions)] }

theorem exSc_playable : ScenarioPlayable exSc := by
  intro b d hm c hc hpo
  simp only [exSc, List.mem_singleton, Prod.mk.injEq] at hm
  obtain ⟨rfl, rfl⟩ := hm
  have h : (contractOfCalls exBoard (exDecisions.calls.map (·.1))).map Contract.isPassedOut = some true := by
    decide +kernel
  rw [hc] at h
  simp only [Option.map_some, Option.some.injEq] at h
  rw [h] at hpo
  cases hpo

theorem exSc_boards : exSc.boards ≠ [] := List.cons_ne_nil _ _

/-- (1) on concrete texts: West awaits dummy's (South's, North declaring) card to trick 13 -/
example : SeatB.passesCheck (SeatB.readyCardText .W .N .S 13)
    (readyFor .W ((if Seat.S = Seat.N.partner then "dummy".toList else Seat.S.formal) ++ "'s card to trick ".toList ++
      natStr 13)) :=
  ready_card_passes .W .N .S 13 (by omega) (by omega)
example : readyFor .W ((if Seat.S = Seat.N.partner then "dummy".toList else Seat.S.formal) ++ "'s card to trick ".toList ++
    natStr 13) = "West ready for dummy's card to trick 13".toList := by decide +kernel

/-- (2) on the example scenario -/
example : SeatC.boardsChecks .N ((sendsOn (Chan.m2t .N) (sessionProg exSc .main)).length + 1)
    ⟨sendsOn (Chan.m2t .N) (sessionProg exSc .main), (sendsOn (Chan.c2s .N) (sessionProg exSc (.client .N))).tail⟩ :=
  session_boards_checks exSc exSc_boards exSc_playable .N

/-- (3) North connects to the table where South (Alpha) and East (Beta) sit (`SeatB.exTable`), the table after the
barrier is `SeatB.exFull`: the translated `run()` performs the five admission operations and then exactly the session
program of `Tid.seat .N` for the passed-out board -/
example : ∀ f, 40 + (sendsOn (Chan.m2t .N) (sessionProg exSc .main)).length + 113 ≤ f →
    ∃ ops, encSeatActs .N (sessionProg exSc (.seat .N)) = some ops ∧
      callFn P f m_SeatThread_run
          [encSeatThread0 (encSeatWorld .N (sendsOn (Chan.m2t .N) (sessionProg exSc .main))
            (SeatB.exReq :: "North ready for teams".toList :: sendsOn (Chan.c2s .N) (sessionProg exSc (.client .N)))
            [] (encTable SeatB.exTable) ([SeatB.exFull].map encTable))]
        = .ok (.none, encSeatThread .N (encSeatWorld .N [] []
            ([] ++ seatingOps .N "Alpha".toList (replyText ⟨"Alpha".toList, .N, 18⟩ SeatB.exTable .seated) ++ ops)
            (advBoards 1 (encTable ([SeatB.exFull].headD (admitReq SeatB.exTable ⟨"Alpha".toList, .N, 18⟩).1),
              [SeatB.exFull].tail.map encTable)).1
            (advBoards 1 (encTable ([SeatB.exFull].headD (admitReq SeatB.exTable ⟨"Alpha".toList, .N, 18⟩).1),
              [SeatB.exFull].tail.map encTable)).2)
            [(K.name, .str (threadName .N "Alpha".toList))]) := by
  obtain ⟨s', hp⟩ := SeatB.exReq_parses
  intro f hf
  have h := translated_seat_thread_is_session_program exSc exSc_boards exSc_playable .N 40 f SeatB.exReq [] SeatB.exTable
    [SeatB.exFull] "Alpha".toList s' hf hp (by decide +kernel) rfl rfl
  exact h

/-- the session program of North's seat thread on this scenario is not trivial: 34 actions -/
example : (sessionProg exSc (.seat .N)).length = 34 := by decide +kernel

end Bridge.Translated.SeatD
