import BridgeVerif.Translated.HandParsersA
/-! Translated `Client.parse_hand` (client.py) = model, part B — what does not run the loops: `str.split(' ')` of the
interpreter is `splitSp`, `Card.rank_str_to_int` on a token of ANY length is `rankOfToken?` (whenever the model reads a rank),
`_Match.groups()` on a match object with five texts, a card built by `mkCard?` is on the deck. -/
namespace Bridge.Translated.HandParsers
open Bridge Bridge.Py Bridge.Generated.PyCore Bridge.Translated Bridge.RegexHands Bridge.RegexMsgHand
open Bridge.Translated.HandsPbn

/-! ## `s.split(' ')` -/
def headApp (p : List Char) : List (List Char) → List (List Char)
  | [] => [p]
  | a :: r => (p ++ a) :: r

theorem hq_splitSp_cons (c : Char) (s : List Char) :
    splitSp (c :: s) = if c = ' ' then [] :: splitSp s else headApp [c] (splitSp s) := by
  simp only [splitSp, List.foldr_cons]
  split
  · rfl
  · cases List.foldr _ _ s <;> rfl

theorem hq_headApp_headApp (p q : List Char) (l : List (List Char)) : headApp p (headApp q l) = headApp (p ++ q) l := by
  cases l <;> simp [headApp]

theorem hq_splitSp_ne_nil (s : List Char) : splitSp s ≠ [] := by
  cases s with
  | nil => simp [splitSp]
  | cons c s =>
    rw [hq_splitSp_cons]
    split
    · simp
    · cases splitSp s <;> simp [headApp]

theorem hq_splitOn (s : List Char) : ∀ (n : Nat) (acc : List Char), s.length < n →
    splitOn [' '] n acc s = headApp acc.reverse (splitSp s) := by
  induction s with
  | nil =>
    intro n acc h
    obtain ⟨n, rfl⟩ : ∃ m, n = m + 1 := ⟨n - 1, by simp at h; omega⟩
    simp [splitOn, splitSp, headApp]
  | cons c s ih =>
    intro n acc h
    obtain ⟨n, rfl⟩ : ∃ m, n = m + 1 := ⟨n - 1, by simp at h; omega⟩
    have hn : s.length < n := by simp at h; omega
    rw [hq_splitSp_cons]
    by_cases hc : c = ' '
    · subst hc
      simp only [splitOn, isPrefixC, beq_self_eq_true, Bool.and_true, if_true, List.length_cons, List.length_nil,
        List.drop_succ_cons, List.drop_zero]
      rw [ih n [] hn]
      have : headApp ([] : List Char).reverse (splitSp s) = splitSp s := by
        cases h : splitSp s with
        | nil => exact absurd h (hq_splitSp_ne_nil s)
        | cons a r => rfl
      rw [this]
      simp [headApp]
    · have hb : ((' ' : Char) == c) = false := by
        rw [beq_eq_false_iff_ne]; exact fun e => hc e.symm
      simp only [splitOn, isPrefixC, hb, Bool.false_and, Bool.false_eq_true, if_false, hc]
      rw [ih n (c :: acc) hn, hq_headApp_headApp]
      simp

theorem hq_builtin_split (r : Rec) (g : List Char) :
    builtinF r P .split [.str g, .str [' ']] = .ok (.tuple ((splitSp g).map Val.str)) := by
  have e : builtinF r P .split [.str g, .str [' ']] = .ok (.tuple ((splitOn [' '] (g.length + 1) [] g).map Val.str)) := rfl
  rw [e, hq_splitOn g _ [] (by omega)]
  have : headApp ([] : List Char).reverse (splitSp g) = splitSp g := by
    cases h : splitSp g with
    | nil => exact absurd h (hq_splitSp_ne_nil g)
    | cons a r => rfl
  rw [this]

/-! ## `Card.rank_str_to_int` on a token -/
theorem hq_parseNat_fold (t : List Char) (ht : t.all Bridge.isDigit = true) : ∀ a : Nat,
    t.foldl (fun acc c => acc.bind fun a => if c.isDigit then some (a * 10 + (c.toNat - 48)) else none) (some a)
      = some (t.foldl (fun n c => n * 10 + (c.toNat - '0'.toNat)) a) := by
  induction t with
  | nil => intro a; rfl
  | cons c t ih =>
    intro a
    simp only [List.all_cons, Bool.and_eq_true] at ht
    have hd : c.isDigit = true := by
      have := ht.1
      simp only [Bridge.isDigit, decide_eq_true_eq] at this
      simp only [Char.isDigit, Bool.and_eq_true, decide_eq_true_eq]
      exact ⟨this.1, this.2⟩
    simp only [List.foldl_cons, Option.bind_some, hd, if_true]
    exact ih ht.2 _

theorem hq_parseInt_decimal (t : List Char) (n : Nat) (h : decimal? t = some n) : parseInt? t = some (n : Int) := by
  unfold decimal? at h
  split at h
  · cases h
  · rename_i hc
    have hne : t ≠ [] := fun e => hc (Or.inl e)
    have hall : t.all Bridge.isDigit = true := by
      cases ha : t.all Bridge.isDigit with
      | true => rfl
      | false => exact absurd (Or.inr (by simp [ha])) hc
    cases h
    cases t with
    | nil => exact absurd rfl hne
    | cons c r =>
      have hcd : Bridge.isDigit c = true := by simp only [List.all_cons, Bool.and_eq_true] at hall; exact hall.1
      have h1 : c ≠ '-' := by rintro rfl; exact absurd hcd (by decide)
      have h2 : c ≠ '+' := by rintro rfl; exact absurd hcd (by decide)
      have e : parseInt? (c :: r) = (parseNat? (c :: r)).map fun n => (n : Int) := by
        unfold parseInt?
        split
        · rename_i heq; cases heq; exact absurd rfl h1
        · rename_i heq; cases heq; exact absurd rfl h2
        · rfl
      rw [e]
      have e2 : parseNat? (c :: r) = some ((c :: r).foldl (fun n c => n * 10 + (c.toNat - '0'.toNat)) 0) := by
        unfold parseNat?
        exact hq_parseNat_fold (c :: r) hall 0
      rw [e2]; rfl

theorem hq_builtin_int_str (r : Rec) (s : List Char) (n : Int) (h : parseInt? s = some n) :
    builtinF r P .int [.str s] = .ok (.int n) := by
  simp only [builtinF, h]; rfl

theorem hq_rank_str_to_int_call (f : Nat) (t : List Char) (r : Nat) (h : rankOfToken? t = some r) :
    callF (mkRec P (f+10)) m_Card_rank_str_to_int [.cls n_Card, .str t] = .ok (.int r, .cls n_Card) := by
  match t, h with
  | [c], h => exact jp_rank_str_to_int_call f c r h
  | [], h => simp [rankOfToken?, decimal?] at h
  | a :: b :: t', h =>
    have hd : decimal? (a :: b :: t') = some r := h
    rw [callF_def]
    simp only [m_Card_rank_str_to_int, bindParams, Option.map]
    ppsimp [beq_str_decide, List.cons.injEq, reduceCtorEq, and_false, false_and, hq_builtin_int_str _ _ _ (hq_parseInt_decimal _ _ hd)]

/-! ## `match.groups()` -/
theorem hq_mth_groups : P.method? classDepth n__Match n_groups = some (n__Match, m__Match_groups) := rfl

theorem hq_groups_call (f : Nat) (x0 x1 x2 x3 x4 : Val) :
    callF (mkRec P (f+6)) m__Match_groups [.obj n__Match [(n_texts, .tuple [x0, x1, x2, x3, x4])]]
      = .ok (.tuple [x1, x2, x3, x4], .obj n__Match [(n_texts, .tuple [x0, x1, x2, x3, x4])]) := by
  rw [callF_def]
  simp only [m__Match_groups, bindParams, Option.map]
  ppsimp [sliceList_tail, builtin_tuple_tuple]

/-! ## cards -/
theorem hq_card_ok (rk : Nat) (su : Suit) (c : Card) (h : mkCard? rk su = some c) : c = ⟨rk, su⟩ ∧ c.ok = true := by
  unfold mkCard? at h
  split at h
  · cases h
  · split at h
    · cases h
    · rename_i h1 h2
      cases h
      refine ⟨rfl, ?_⟩
      simp only [Card.ok, Bool.and_eq_true, decide_eq_true_eq]
      exact ⟨by omega, h2⟩

end Bridge.Translated.HandParsers
