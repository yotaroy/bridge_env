-- the whole development: importing every property module makes `lake build BridgeVerif` check that all of them are
-- consistent with each other (no clashing declarations) and pre-builds what the checks need
import BridgeVerif.Props.C01
import BridgeVerif.Props.C01t
import BridgeVerif.Props.C02
import BridgeVerif.Props.C02t
import BridgeVerif.Props.C03
import BridgeVerif.Props.C03t
import BridgeVerif.Props.C04
import BridgeVerif.Props.C05
import BridgeVerif.Props.C06
import BridgeVerif.Props.C07
import BridgeVerif.Props.C07t
import BridgeVerif.Props.C08
import BridgeVerif.Props.C09
import BridgeVerif.Props.C10
import BridgeVerif.Props.C11
import BridgeVerif.Props.C11a
import BridgeVerif.Props.C12
import BridgeVerif.Props.C13
import BridgeVerif.Props.C14
import BridgeVerif.Props.C15
import BridgeVerif.Props.C15t
import BridgeVerif.Props.C16
import BridgeVerif.Props.C16t
import BridgeVerif.Props.C17
import BridgeVerif.Props.C18
import BridgeVerif.Props.C19
import BridgeVerif.Props.C20
import BridgeVerif.Props.Source
import BridgeVerif.Props.Regex
import BridgeVerif.Lemmas.RegexPbn
import BridgeVerif.Lemmas.RegexHands
import BridgeVerif.Translated.PbnParser
import BridgeVerif.Translated.PbnParserClosed
import BridgeVerif.Translated.PbnParserWide
import BridgeVerif.Translated.HandsPbn
import BridgeVerif.Translated.HandsPbnClosed
import BridgeVerif.Translated.PbnSettings
import BridgeVerif.Translated.PbnExport
import BridgeVerif.Translated.PbnPct
import BridgeVerif.Translated.PbnExportClosed
import BridgeVerif.Lemmas.RegexConnect
import BridgeVerif.Lemmas.RegexConnectB
import BridgeVerif.Translated.ConnectInfo
import BridgeVerif.Translated.ThreadsSeatE
import BridgeVerif.Translated.ThreadsClientF
import BridgeVerif.Translated.ThreadsMainE
import BridgeVerif.Translated.MsgParsersE
import BridgeVerif.Translated.MsgParsersF
import BridgeVerif.Translated.ThreadsMainF
import BridgeVerif.Translated.ThreadsMainG
import BridgeVerif.Translated.ThreadsMainH
import BridgeVerif.Translated.ThreadsClientHands
import BridgeVerif.Translated.ThreadsClientG
import BridgeVerif.Translated.JsonRoundTrip
import BridgeVerif.Lemmas.MiniPyFuel
import BridgeVerif.Lemmas.MiniPyTable
import BridgeVerif.Translated.Play
import BridgeVerif.Translated.CalcScore
import BridgeVerif.Translated.Hands
import BridgeVerif.Translated.JsonWriter
import BridgeVerif.Translated.JsonParser
import BridgeVerif.Translated.PbnWriter
import BridgeVerif.Translated.NetHelpers
import BridgeVerif.Translated.Messages
import BridgeVerif.Translated.ThreadsEnc
import BridgeVerif.Translated.ThreadsFraming
import BridgeVerif.Translated.ThreadsSeatA
import BridgeVerif.Translated.ThreadsMainA
import BridgeVerif.Translated.ThreadsSeatB
import BridgeVerif.Translated.ThreadsMainB
import BridgeVerif.Translated.ThreadsClientA
import BridgeVerif.Translated.ThreadsSeatC
import BridgeVerif.Translated.ThreadsClientB
import BridgeVerif.Translated.ThreadsMainC
import BridgeVerif.Translated.ThreadsSeatD
import BridgeVerif.Translated.ThreadsClientC
import BridgeVerif.Translated.ThreadsClientD
import BridgeVerif.Translated.ThreadsMainD
